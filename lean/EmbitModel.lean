-- Root of the library: everything `lake build` must check. One line per module family.
import EmbitModel.Basic.Bytes
import EmbitModel.Basic.Compact
import EmbitModel.Basic.Parse
import EmbitModel.Crypto.Sha256
import EmbitModel.Crypto.Sha512
import EmbitModel.Crypto.Hmac
import EmbitModel.Crypto.Ripemd160
import EmbitModel.Crypto.Secp256k1
import EmbitModel.Model.Tx
import EmbitModel.Spec.Wire
import EmbitModel.Props.C03
import EmbitModel.Model.Sighash
import EmbitModel.Spec.Consensus
import EmbitModel.Props.C01
import EmbitModel.Generated.Networks
import EmbitModel.Model.Psbt
import EmbitModel.Props.C04
import EmbitModel.Model.Bip39
import EmbitModel.Spec.Bip39Spec
import EmbitModel.Props.C15
import EmbitModel.Basic.Ms
import EmbitModel.Generated.MiniscriptTable
import EmbitModel.Model.Miniscript
import EmbitModel.Spec.MiniscriptSpec
import EmbitModel.Props.C13
import EmbitModel.Model.ReadVout
import EmbitModel.Props.C06
import EmbitModel.Model.View
import EmbitModel.Props.C05
import EmbitModel.Crypto.Verify
import EmbitModel.Model.Sign
import EmbitModel.Props.C02
import EmbitModel.Model.Base58
import EmbitModel.Model.Bech32
import EmbitModel.Model.Address
import EmbitModel.Spec.Base58Check
import EmbitModel.Spec.Bech32
import EmbitModel.Spec.Address
import EmbitModel.Generated.AddrFacts
import EmbitModel.Props.C11
import EmbitModel.Props.C11Detect
import EmbitModel.Crypto.SecpOps
import EmbitModel.Model.EcOps
import EmbitModel.Model.Der
import EmbitModel.Model.PySecp
import EmbitModel.Spec.Der
import EmbitModel.Spec.Rfc6979
import EmbitModel.Spec.Ecdsa
import EmbitModel.Spec.Bip340
import EmbitModel.Spec.LibsecpContract
import EmbitModel.Proofs.DerInt
import EmbitModel.Proofs.Der
import EmbitModel.Proofs.EcLaws
import EmbitModel.Proofs.Ecdsa
import EmbitModel.Proofs.Schnorr
import EmbitModel.Proofs.Sign
import EmbitModel.Proofs.Contract
import EmbitModel.Proofs.ContractDer
import EmbitModel.Proofs.ContractCurve
import EmbitModel.Proofs.ContractSchnorr
import EmbitModel.Proofs.Flip
import EmbitModel.Proofs.ToyCurve
import EmbitModel.Props.C07
import EmbitModel.Props.C08
import EmbitModel.Props.C17
import EmbitModel.Model.Slip39
import EmbitModel.Spec.Slip39Spec
import EmbitModel.Props.C16
import EmbitModel.Proofs.ViewCompose
import EmbitModel.Props.C05X
import EmbitModel.Model.Heap
import EmbitModel.Generated.AliasFacts
import EmbitModel.Proofs.Heap
import EmbitModel.Props.C19
import EmbitModel.Props.C19Facts
import EmbitModel.Generated.BindingFacts
import EmbitModel.Model.Lock
import EmbitModel.Props.C20
import EmbitModel.Props.C20Facts
import EmbitModel.Crypto.SecpJac
import EmbitModel.Generated.KeyVersions
import EmbitModel.Model.KeyCurve
import EmbitModel.Model.Keys
import EmbitModel.Model.Bip32
import EmbitModel.Model.Base58Check
import EmbitModel.Spec.Bip32
import EmbitModel.Spec.Bip341Tweak
import EmbitModel.Spec.KeyEncodings
import EmbitModel.Props.C09
import EmbitModel.Props.C10
import EmbitModel.Model.DescText
import EmbitModel.Model.DescChecksum
import EmbitModel.Model.Descriptor
import EmbitModel.Model.DescKeys
import EmbitModel.Model.Owns
import EmbitModel.Spec.DescriptorSpec
import EmbitModel.Props.C12
import EmbitModel.Props.C14
import EmbitModel.Proofs.Owns
import EmbitModel.Proofs.DescDerive
import EmbitModel.Proofs.DescChecksum
import EmbitModel.Proofs.DescScripts
import EmbitModel.Proofs.DescTop
import EmbitModel.Proofs.DescCommute
import EmbitModel.Proofs.DescText
import EmbitModel.Proofs.DescMs
import EmbitModel.Model.Liquid
import EmbitModel.Spec.LiquidWire
import EmbitModel.Proofs.Blech32
import EmbitModel.Proofs.LiquidTxRoundtrip
import EmbitModel.Props.C18
import EmbitModel.Proofs.LiquidBlind
import EmbitModel.Proofs.LiquidBalance
import EmbitModel.Proofs.PsetScope
import EmbitModel.Proofs.LiquidAddr
import EmbitModel.Spec.Bip32Path
import EmbitModel.Proofs.Bip32Path
import EmbitModel.Props.C09X
import EmbitModel.Proofs.KeysSound
import EmbitModel.Proofs.KeysB58Canon
import EmbitModel.Props.C10X
import EmbitModel.Proofs.Recover
import EmbitModel.Proofs.SignRecoverable
import EmbitModel.Props.C08X
import EmbitModel.Spec.Bip370
import EmbitModel.Proofs.PsbtWF
import EmbitModel.Proofs.PsbtSerScope
import EmbitModel.Proofs.PsbtSerParse
import EmbitModel.Proofs.PsbtParseWF
import EmbitModel.Proofs.PsbtReject
import EmbitModel.Proofs.PsbtBip370
import EmbitModel.Props.C04X
import EmbitModel.Driver.PsbtX
import EmbitModel.Props.C11X
import EmbitModel.Spec.Slip39Groups
import EmbitModel.Props.C16X
import EmbitModel.Model.ViewSighash
import EmbitModel.Model.ViewWrite
import EmbitModel.Proofs.ViewSighash
import EmbitModel.Proofs.ViewFrame
import EmbitModel.Proofs.ViewWrite
import EmbitModel.Proofs.ScopeCanon
import EmbitModel.Proofs.ScopeRoundtrip
import EmbitModel.Proofs.ViewWriteParse
import EmbitModel.Props.C01X
import EmbitModel.Props.C05Y
import EmbitModel.Model.SignWith
import EmbitModel.Model.SignWithView
import EmbitModel.Driver.SignWith
import EmbitModel.Model.ViewSignBytes
import EmbitModel.Driver.SignWithViewBytes
import EmbitModel.Proofs.SignWithDefs
import EmbitModel.Proofs.SignWithTrace
import EmbitModel.Proofs.SignWithDigest
import EmbitModel.Proofs.SignWithJust
import EmbitModel.Proofs.SignWithFrame
import EmbitModel.Proofs.SignWithComplete
import EmbitModel.Proofs.SignWithRun
import EmbitModel.Proofs.SignWithCount
import EmbitModel.Proofs.SignWithValid
import EmbitModel.Proofs.SignWithSound
import EmbitModel.Proofs.SignWithView
import EmbitModel.Proofs.SignWithViewEq
import EmbitModel.Proofs.SignWithKeys
import EmbitModel.Proofs.SighashLink
import EmbitModel.Proofs.ViewSignBytes
import EmbitModel.Proofs.SignWithOneSighash
import EmbitModel.Props.C02X
import EmbitModel.Props.C02V
import EmbitModel.Model.Cost
import EmbitModel.Proofs.CostDesc
import EmbitModel.Proofs.CostB58
import EmbitModel.Proofs.CostBech32
import EmbitModel.Proofs.CostMnemonic
import EmbitModel.Proofs.CostLiquid
import EmbitModel.Proofs.CostKeys
import EmbitModel.Props.C17X
import EmbitModel.Model.CostBin
import EmbitModel.Proofs.CostBin
import EmbitModel.Props.C17Y
import EmbitModel.Model.Desc3
import EmbitModel.Proofs.Desc3
import EmbitModel.Props.C17Z
import EmbitModel.Model.ViewCost
import EmbitModel.Proofs.ViewCost
import EmbitModel.Model.ViewCost2
import EmbitModel.Proofs.ViewCost2
import EmbitModel.Props.C17V
import EmbitModel.Model.MiniscriptX
import EmbitModel.Proofs.MiniscriptX
import EmbitModel.Props.C13X
import EmbitModel.Model.HeapAlias
import EmbitModel.Proofs.HeapAlias
import EmbitModel.Props.C19X
import EmbitModel.Model.LockCtx
import EmbitModel.Proofs.LockFair
import EmbitModel.Proofs.LockCtx
import EmbitModel.Props.C20X
import EmbitModel.Props.C20XFacts
import EmbitModel.Props.C20Complete
import EmbitModel.Proofs.PsetTop
import EmbitModel.Proofs.PsetEmit
import EmbitModel.Model.LiquidAddrB58
import EmbitModel.Proofs.LiquidAddrB58
import EmbitModel.Props.C18X
import EmbitModel.Driver.LiquidX
import EmbitModel.Proofs.DescParseNormal
import EmbitModel.Props.C12X
import EmbitModel.Proofs.DescMsArgs
import EmbitModel.Props.C13Y
import EmbitModel.Props.C12Y
import EmbitModel.Proofs.PsetSerParse
import EmbitModel.Proofs.PsetParseWF
import EmbitModel.Proofs.PsetSerParseV0
import EmbitModel.Proofs.PsetV0ParseWF
import EmbitModel.Proofs.PsetOwnIssuance
import EmbitModel.Proofs.PsbtDupUtxo
import EmbitModel.Model.SignWithOps
import EmbitModel.Proofs.EcBridge
import EmbitModel.Proofs.SigLawsConcrete
import EmbitModel.Proofs.SigLawsSpec
import EmbitModel.Props.C02Y
import EmbitModel.Model.PyCurve
import EmbitModel.Driver.PyCurve
import EmbitModel.Proofs.PyCurveField
import EmbitModel.Proofs.PyCurveGroup
import EmbitModel.Proofs.PyCurveMul
import EmbitModel.Proofs.PyCurveJacobi
import EmbitModel.Proofs.PyCurvePoints
import EmbitModel.Proofs.PyCurveOps
import EmbitModel.Proofs.PyCurveCount
import EmbitModel.Proofs.Pratt
import EmbitModel.Proofs.SecpPrimes
import EmbitModel.Props.C08Y
import EmbitModel.Model.HeapShared
import EmbitModel.Proofs.HeapShared
import EmbitModel.Props.C19Y
import EmbitModel.Props.C19Complete
import EmbitModel.Model.HeapDeep
import EmbitModel.Proofs.HeapDeep
import EmbitModel.Props.C19Z
import EmbitModel.Proofs.SecpCardBound
import EmbitModel.Proofs.SecpCardSecp
import EmbitModel.Proofs.SecpCardBridge
import EmbitModel.Props.C08Z
import EmbitModel.Model.Bip39Str
import EmbitModel.Props.C15X
import EmbitModel.Props.C07X
import EmbitModel.Props.C10Y
import EmbitModel.Proofs.OwnsParsed
import EmbitModel.Props.C14X
import EmbitModel.Proofs.Slip39Generate
import EmbitModel.Props.C16Y
import EmbitModel.Spec.Slip77
import EmbitModel.Proofs.LiquidBalanceLink
import EmbitModel.Proofs.LiquidToyZkp
import EmbitModel.Proofs.LiquidSpecLink
import EmbitModel.Props.C18Y
import EmbitModel.Props.C18Z
import EmbitModel.Props.C18W
import EmbitModel.Model.PyCurveOps
import EmbitModel.Crypto.SecpLawful
import EmbitModel.Proofs.PyCurveLawful
import EmbitModel.Props.C08W
import EmbitModel.Props.C08V
import EmbitModel.Props.C02Z
import EmbitModel.Props.C07Z
import EmbitModel.Model.PsbtVerify
import EmbitModel.Proofs.PsbtVerify
import EmbitModel.Props.C06X
import EmbitModel.Driver.PsbtVerify
