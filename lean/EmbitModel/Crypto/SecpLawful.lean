import EmbitModel.Model.PyCurveOps
import EmbitModel.Crypto.Secp256k1
/-
  `Crypto.secpLawful`: the secp256k1 record the native driver evaluates (ops `py.*`, `contract.*`, `sig.*`,
  `sigcheck.*`, `sign.*`, and — through `toKeys` — the key ops of C09 / C10 and everything built on them).

  Why it replaced `Crypto.secpOps` (second audit, finding A-1): `secpOps` has `Pt := Option (Nat × Nat)` and
  `xy := id`, so its carrier contains junk values such as `some (0, 0)`; `EcLaws Crypto.secpOps → False` is provable
  (`Props/C02Z.old_driver_record_unlawful`) and every theorem instantiated at it was vacuous. The carrier here is
  `{ q // okPt secp256k1 q = true }` — infinity or reduced on-curve coordinates — and the operations are the modelled
  arithmetic of `embit/util/key.py` (Model/PyCurve.lean, corresponded with the real functions on every run of
  `./check C08`). `EcLaws Crypto.secpLawful` and `InfUnique Crypto.secpLawful` are THEOREMS with no hypothesis
  (Props/C08W.lean over Proofs/PyCurveLawful.lean: isomorphism with `pyEcOps secp256k1 secp256k1N secpG`, laws of Props/C08Z transported).
  Executable, Mathlib-free; a scalar multiplication costs ≈ 2 ms in the native driver.
-/
namespace Embit.Crypto
open Embit.Model.PyCurve

set_option maxRecDepth 100000 in
/-- the generator: `(Gx, Gy)` is a reduced pair that `on_curve` accepts (kernel evaluation of the model) -/
def secpLawfulG : CPt secp256k1 := ⟨some (Secp.gx, Secp.gy), by decide +kernel⟩

/-- secp256k1 over canonical points with key.py's arithmetic -/
def secpLawful : EcOps := lawfulOps secp256k1 secp256k1N secpLawfulG

namespace SecpLawful

/-- a protocol-level affine value (`Secp.Pt`) as a point of the record; `none` for a non-canonical value -/
def ofPt (q : Secp.Pt) : Option secpLawful.Pt := CPt.ofOption secp256k1 q

/-- the protocol-level value of a point -/
def toPt (P : secpLawful.Pt) : Secp.Pt := P.1

/-- strict SEC decoding INTO the record: `02/03 ‖ X` through `liftX` (and `neg` for the odd root), `04 ‖ X ‖ Y` through
    `ofXY` (both are the branches of `ECPubKey.set`, which make the range and curve checks) -/
def secParse (b : Bytes) : Option secpLawful.Pt :=
  match b with
  | 0x02 :: r => if r.length = 32 then secpLawful.liftX (ofBe r) else none
  | 0x03 :: r => if r.length = 32 then (secpLawful.liftX (ofBe r)).map secpLawful.neg else none
  | 0x04 :: r => if r.length = 64 then secpLawful.ofXY (ofBe (r.take 32)) (ofBe (r.drop 32)) else none
  | _ => none

end SecpLawful

end Embit.Crypto
