import EmbitModel.Proofs.KeysSound
import EmbitModel.Proofs.Taproot
import EmbitModel.Proofs.KeyTables
import EmbitModel.Proofs.KeyToyCurve
import EmbitModel.Spec.Bip32
/-
  C10 — Key encodings (SEC, x-only, WIF, xpub/xprv) round-trip and validate strictly.

  Property theorems only. `Embit.Keys.*` is the model of embit (`ec.py`, `bip32.py`, `base.py`; tied to /repo by
  the correspondence check of harness/props/c10.py), `Spec.KeyEnc` / `Spec.Bip32` the encodings as the standards
  define them. The curve, the hashes and the Base58Check text layer are arbitrary (`EcOps`, `Env`); `EcLaws E`
  and the codec law `dec (enc b) = b` are explicit hypotheses where needed (C11 proves the codec law for the real
  Base58Check). The NETWORKS table is the generated one (`Generated/KeyVersions.lean`, re-extracted on every run).
  The model follows the code after fixes k01, k03, k04.
-/
namespace Embit.Props.C10
open Embit Embit.Keys Embit.Spec

variable {E : EcOps}

/-- `sec()` is the SEC1 encoding, compressed or not -/
theorem sec_eq_spec (k : PublicKey E) : k.sec = KeyEnc.sec E k.point k.compressed :=
  pubkeySerialize_eq_spec k.point k.compressed

/-- encode then decode: the same point and the same compression flag -/
theorem sec_roundtrip (L : EcLaws E) (k : PublicKey E) (hP : E.isInf k.point = false) :
    PublicKey.parse E k.sec = some k := parse_sec L k hP

/-- the parser is exactly the strict SEC decoder (02/03 + X on the curve, 04 + X + Y on the curve, nothing else),
    on EVERY byte string -/
theorem sec_parse_eq_spec (b : Bytes) :
    PublicKey.parse E b = (KeyEnc.secDecode E b).map (fun pc => ⟨pc.1, pc.2⟩) := parse_eq_secDecode b

/-- whatever the parser accepts is a finite point and re-encodes to exactly the same bytes: a key has one accepted
    compressed and one accepted uncompressed encoding, no more -/
theorem sec_parse_sound (L : EcLaws E) (b : Bytes) (k : PublicKey E) (h : PublicKey.parse E b = some k) :
    k.sec = b ∧ E.isInf k.point = false := parse_sec_sound L b k h

/-- reading from a stream consumes exactly the encoding -/
theorem sec_read_from (L : EcLaws E) (k : PublicKey E) (hP : E.isInf k.point = false) (rest : Bytes) :
    PublicKey.readFrom E (k.sec ++ rest) = some (k, rest) := readFrom_sec L k hP rest

/-- an x-only key is the 32-byte X coordinate: public keys, whatever the compression flag … -/
theorem xonly_is_32_bytes (k : PublicKey E) : k.xonly = KeyEnc.xonly E k.point ∧ k.xonly.length = 32 := by
  have : k.xonly = beN 32 (E.x k.point) := xslice_serialize k.point k.compressed
  exact ⟨this, by rw [this]; simp⟩

/-- … and private keys, whatever the compression flag (after fix k01) -/
theorem xonly_private_is_32_bytes (k : PrivateKey) (hv : seckeyValid E k.secret = true) :
    k.xonly E = some (KeyEnc.xonly E (E.mulG k.secret)) ∧ ∀ x, k.xonly E = some x → x.length = 32 := by
  have h : k.xonly E = some (beN 32 (E.x (E.mulG k.secret))) := by
    simp only [PrivateKey.xonly, PrivateKey.sec, PrivateKey.getPublicKey, pubkeyCreate, hv, if_true,
      Option.map_some, PublicKey.sec, xslice_serialize]
  refine ⟨h, ?_⟩
  intro x hx
  rw [h] at hx
  rw [← Option.some.inj hx]; simp

/-- D13 (repaired by fix k01): the old `sec()[1:]` was 64 bytes (X ‖ Y) for an uncompressed private key -/
theorem old_xonly_uncompressed_is_64_bytes (k : PrivateKey) (hv : seckeyValid E k.secret = true)
    (hu : k.compressed = false) : ∃ x, k.xonlyOld E = some x ∧ x.length = 64 := by
  refine ⟨beN 32 (E.x (E.mulG k.secret)) ++ beN 32 (E.y (E.mulG k.secret)), ?_, by simp⟩
  simp [PrivateKey.xonlyOld, PrivateKey.sec, PrivateKey.getPublicKey, pubkeyCreate, hv, PublicKey.sec,
    pubkeySerialize, hu]

/-- `from_xonly` is `lift_x`: the even-Y point -/
theorem from_xonly_spec (v : Nat) (hv : v < 2 ^ 256) :
    PublicKey.fromXonly E (beN 32 v) = (E.liftX v).map (fun P => ⟨P, true⟩) := fromXonly_beN v hv

/-- `wif()` is Base58Check(version ‖ secret ‖ [01 if compressed]) -/
theorem wif_eq_spec (env : Env) (k : PrivateKey) (pre : Bytes) (h : netWif k.network = some pre) :
    k.wif env = some (KeyEnc.wif env.b58enc pre k.secret k.compressed) := Keys.wif_eq_spec env k pre h

/-- encode then decode: secret, compression flag and network come back — the network as far as the version byte
    tells (`netWif net' = netWif k.network`; test / regtest / signet share 0xef and decode as the last of them) -/
theorem wif_roundtrip (L : EcLaws E) (env : Env) (hcodec : ∀ b, env.b58dec (env.b58enc b) = some b)
    (k : PrivateKey) (hv : seckeyValid E k.secret = true) (hnet : k.network < Generated.keyNets.length) :
    ∃ t net', k.wif env = some t ∧ PrivateKey.fromWif E env t = some ⟨k.secret, k.compressed, net'⟩
      ∧ netWif net' = netWif k.network := by
  have hpre : ∃ pre, netWif k.network = some pre := by
    unfold netWif
    rw [List.getElem?_eq_getElem hnet]
    exact ⟨_, rfl⟩
  obtain ⟨pre, hpre⟩ := hpre
  obtain ⟨hl, j, hj, hjn⟩ := wif_table k.network pre hpre
  refine ⟨_, j, Keys.wif_eq_spec env k pre hpre, ?_, by rw [hjn, hpre]⟩
  exact fromWif_payload L env _ pre k.secret k.compressed j (hcodec _) hl hj hv

/-- on the generated table the decoded network is exact for mainnet (its version byte is unique) -/
theorem wif_network_main : wifNetwork [0x80] = some 0 ∧ netWif 0 = some [0x80] := by decide

/-- `serialize()` is the BIP32 serialization format -/
theorem xkey_eq_spec_priv (k : HDKey E) (pk : PrivateKey) (hk : k.key = .priv pk) (hd : k.depth < 256)
    (hcn : k.childNumber < 2 ^ 32) :
    k.serialize = some (Bip32.serializePrv k.version k.depth k.fingerprint k.childNumber ⟨pk.secret, k.chainCode⟩) := by
  simp [HDKey.serialize, hd, hcn, hk, KeyObj.isPrivate, KeyObj.serialize, PrivateKey.serialize, Bip32.serializePrv]

theorem xkey_eq_spec_pub (k : HDKey E) (pb : PublicKey E) (hk : k.key = .pub pb) (hc : pb.compressed = true)
    (hd : k.depth < 256) (hcn : k.childNumber < 2 ^ 32) :
    k.serialize = some (Bip32.serializePub E k.version k.depth k.fingerprint k.childNumber ⟨pb.point, k.chainCode⟩) := by
  simp [HDKey.serialize, hd, hcn, hk, KeyObj.isPrivate, KeyObj.serialize, PublicKey.sec, hc, Bip32.serializePub,
    serP_eq]

/-- encode then decode of a constructed HD key: version, depth, parent fingerprint, child number, chain code and
    key all come back (the inner private key with the default network, which is all the 78 bytes carry) -/
theorem xkey_roundtrip (L : EcLaws E) (env : Env) (k : HDKey E)
    (hinit : HDKey.init env k.key k.chainCode (some k.version) k.depth k.fingerprint k.childNumber = some k)
    (hkey : k.key.Valid E) (hver : k.version.length = 4) (hcc : k.chainCode.length = 32)
    (hfp : k.fingerprint.length = 4)
    (h0 : k.depth = 0 → k.childNumber = 0 ∧ k.fingerprint = [0, 0, 0, 0]) :
    ∃ b, k.serialize = some b ∧ b.length = 78 ∧ HDKey.parse E env b = some k.normNet := by
  have hr := (xkey_exact L env).roundtrip (XValid.normNet env k hinit hkey hver hcc hfp h0)
  rw [HDKey.normNet_serialize] at hr
  obtain ⟨b, hb, hp⟩ := Option.bind_eq_some_iff.mp hr
  exact ⟨b, hb, (parse_hd_sound L env b _ hp).2.1, hp⟩

/-- … and through the text form -/
theorem xkey_text_roundtrip (L : EcLaws E) (env : Env) (hcodec : ∀ b, env.b58dec (env.b58enc b) = some b)
    (k : HDKey E)
    (hinit : HDKey.init env k.key k.chainCode (some k.version) k.depth k.fingerprint k.childNumber = some k)
    (hkey : k.key.Valid E) (hver : k.version.length = 4) (hcc : k.chainCode.length = 32)
    (hfp : k.fingerprint.length = 4)
    (h0 : k.depth = 0 → k.childNumber = 0 ∧ k.fingerprint = [0, 0, 0, 0]) :
    ∃ t, k.toBase58 env = some t ∧ HDKey.fromBase58 E env t = some k.normNet := by
  obtain ⟨b, hb, _, hp⟩ := xkey_roundtrip L env k hinit hkey hver hcc hfp h0
  obtain ⟨_, _, hkeq, b', hb', htext⟩ := (init_iff env _ _ _ _ _ _ k).mp hinit
  rw [← hkeq, hb] at hb'
  have hbb := Option.some.inj hb'
  subst hbb
  exact ⟨env.b58enc b, toBase58_of_kind env k b hb htext, by simp [HDKey.fromBase58, hcodec, hp]⟩

/-- over the GENERATED table and the real Base58Check codec (any 4-byte checksum function): for every network and
    each of its ten version prefixes, every valid key of the matching kind, every depth, fingerprint and child number
    is accepted by the constructor, serialises to 78 bytes and parses back unchanged -/
theorem xkey_roundtrip_table (L : EcLaws E) (env : Env) (dsha : Bytes → Bytes) (hd : ∀ b, 4 ≤ (dsha b).length)
    (henc : env.b58enc = B58.encodeCheck dsha)
    (net : Generated.KeyNet) (hn : net ∈ Generated.keyNets) (e : String × Bytes × Bool) (he : e ∈ net.versions)
    (key : KeyObj E) (hkey : key.Valid E) (hkind : key.isPrivate = e.2.2)
    (cc fp : Bytes) (depth cn : Nat) (hcc : cc.length = 32) (hfp : fp.length = 4) (hdep : depth < 256)
    (hcn : cn < 2 ^ 32) (h0 : depth = 0 → cn = 0 ∧ fp = [0, 0, 0, 0]) :
    ∃ k b, HDKey.init env key cc (some e.2.1) depth fp cn = some k ∧ k.serialize = some b ∧ b.length = 78 ∧
      HDKey.parse E env b = some k.normNet ∧ k.version = e.2.1 ∧ k.depth = depth ∧ k.fingerprint = fp ∧
      k.childNumber = cn ∧ k.chainCode = cc := by
  have hsays := B58.table_versionSays env dsha hd henc net hn e he
  have hcanon : key.Canon := by
    cases key with
    | priv k => exact hkey.2
    | pub k => exact hkey.2
  have hinit := init_some env key cc e.2.1 fp depth cn hcanon hcc hfp hdep hcn (by rw [hkind]; exact hsays)
  have hlen4 : e.2.1.length = 4 := (B58.table_entry net hn e he).1
  obtain ⟨b, hb, hbl, hp⟩ := xkey_roundtrip L env
    { key := key, chainCode := cc, version := e.2.1, depth := depth, fingerprint := fp, childNumber := cn }
    hinit hkey hlen4 hcc hfp h0
  exact ⟨_, b, hinit, hb, hbl, hp, rfl, rfl, rfl, rfl, rfl⟩

/-- there are ten version prefixes per network in the generated table, five private and five public -/
theorem ten_prefixes_per_network :
    (Generated.keyNets.all fun net => net.versions.length == 10 && (net.versions.filter (·.2.2)).length == 5) = true :=
  ten_versions_per_network

/-! ### decoders reject — one theorem per class; every input of the class is refused -/

/-- SEC: wrong length (every truncation and extension of a valid encoding lands here or in the next class) -/
theorem reject_sec_wrong_length (b : Bytes) (h : b.length ≠ 33 ∧ b.length ≠ 65) : PublicKey.parse E b = none :=
  sec_wrong_length b h

/-- SEC: prefix byte other than 02 / 03 / 04 — in particular the hybrid forms 06 / 07 -/
theorem reject_sec_bad_prefix (f : UInt8) (r : Bytes) (h : f ≠ 0x02 ∧ f ≠ 0x03 ∧ f ≠ 0x04) :
    PublicKey.parse E (f :: r) = none := sec_bad_prefix f r h

/-- SEC: prefix of the wrong kind for the length (04 with 32 more bytes, 02 / 03 with 64) -/
theorem reject_sec_prefix_length_mismatch (f : UInt8) (r : Bytes)
    (h : (f = 0x04 ∧ r.length ≠ 64) ∨ ((f = 0x02 ∨ f = 0x03) ∧ r.length ≠ 32)) :
    PublicKey.parse E (f :: r) = none := sec_prefix_length_mismatch f r h

/-- SEC: off-curve X in the compressed form (no finite point has this abscissa; X ≥ p is a special case) -/
theorem reject_sec_off_curve_x (L : EcLaws E) (f : UInt8) (r : Bytes) (hf : f = 0x02 ∨ f = 0x03)
    (h : ∀ P, E.isInf P = false → E.x P ≠ ofBe r) : PublicKey.parse E (f :: r) = none :=
  sec_off_curve_x f r hf (liftX_none_of_no_point L _ h)

/-- SEC: uncompressed form whose (X, Y) is not a point (off-curve X, substituted Y, coordinates ≥ p) -/
theorem reject_sec_off_curve_xy (L : EcLaws E) (r : Bytes)
    (h : ∀ P, E.isInf P = false → ¬ (E.x P = ofBe (r.take 32) ∧ E.y P = ofBe (r.drop 32))) :
    PublicKey.parse E (0x04 :: r) = none :=
  sec_off_curve_xy r (ofXY_none_of_no_point L _ _ h)

/-- private key: wrong length -/
theorem reject_priv_wrong_length (secret : Bytes) (c : Bool) (net : Nat) (h : secret.length ≠ 32) :
    PrivateKey.init E secret c net = none := priv_wrong_length secret c net h

/-- private key: scalar 0 or ≥ n -/
theorem reject_priv_bad_scalar (secret : Bytes) (c : Bool) (net : Nat) (h : ofBe secret = 0 ∨ ofBe secret ≥ E.n) :
    PrivateKey.init E secret c net = none := priv_bad_scalar secret c net h

/-- WIF: bad checksum / not Base58 (whatever `decode_check` refuses) -/
theorem reject_wif_bad_checksum (env : Env) (s : Text) (h : env.b58dec s = none) : PrivateKey.fromWif E env s = none :=
  wif_bad_checksum env s h

/-- the real `decode_check` refuses every string whose last four decoded bytes are not the checksum of the rest -/
theorem decode_check_rejects (dsha : Bytes → Bytes) (s : Text) (b : Bytes) (hb : B58.decode s = some b)
    (h : b.drop (b.length - 4) ≠ (dsha (b.take (b.length - 4))).take 4) : B58.decodeCheck dsha s = none := by
  simp [B58.decodeCheck, hb, h]

/-- WIF: payload length other than 33 / 34 (truncation, extension) -/
theorem reject_wif_wrong_length (env : Env) (s : Text) (b : Bytes) (h : env.b58dec s = some b)
    (hl : b.length ≠ 33 ∧ b.length ≠ 34) : PrivateKey.fromWif E env s = none := wif_wrong_length env s b h hl

/-- WIF: compression flag byte other than 01 -/
theorem reject_wif_bad_flag (env : Env) (s : Text) (b : Bytes) (h : env.b58dec s = some b) (hl : b.length = 34)
    (hf : b.getLast? ≠ some 0x01) : PrivateKey.fromWif E env s = none := wif_bad_flag env s b h hl hf

/-- WIF: scalar 0 or ≥ n -/
theorem reject_wif_bad_scalar (env : Env) (s : Text) (b : Bytes) (h : env.b58dec s = some b)
    (hs : ofBe ((b.drop 1).take 32) = 0 ∨ ofBe ((b.drop 1).take 32) ≥ E.n) : PrivateKey.fromWif E env s = none :=
  wif_bad_scalar env s b h hs

/-- WIF: version byte of no network (after fix k03) -/
theorem reject_wif_unknown_version (env : Env) (s : Text) (b : Bytes) (h : env.b58dec s = some b)
    (hv : wifNetwork (b.take 1) = none) : PrivateKey.fromWif E env s = none := wif_unknown_version env s b h hv

/-- extended key: fewer than 78 bytes -/
theorem reject_xkey_truncated (env : Env) (b : Bytes) (h : b.length < 78) : HDKey.parse E env b = none :=
  xkey_too_short env b h

/-- extended key: more than 78 bytes -/
theorem reject_xkey_extended (env : Env) (b : Bytes) (h : 78 < b.length) : HDKey.parse E env b = none :=
  xkey_too_long env b h

/-- extended key: bad checksum of the text form -/
theorem reject_xkey_bad_checksum (env : Env) (s : Text) (h : env.b58dec s = none) : HDKey.fromBase58 E env s = none :=
  xkey_bad_checksum env s h

/-- extended key: version bytes of the wrong kind — a version that renders `?pub…` over a private key field
    (key byte 00), or one that renders `?prv…` over a public key field -/
theorem reject_xkey_wrong_kind (env : Env) (b : Bytes) (d k0 : UInt8) (s2 kr : Bytes) (hs : b.drop 4 = d :: s2)
    (hk : (s2.drop 40).take 33 = k0 :: kr) (t : Text) (hv : VersionSays env (b.take 4) t)
    (hwrong : (k0 = 0 ∧ t = tPub) ∨ (k0 ≠ 0 ∧ t = tPrv)) : HDKey.parse E env b = none :=
  xkey_wrong_kind env b d k0 s2 kr hs hk t hv hwrong

/-- extended key: depth 0 with a non-zero child number -/
theorem reject_xkey_depth0_index (env : Env) (b : Bytes) (s2 : Bytes) (hs : b.drop 4 = 0 :: s2)
    (hi : ofBe ((s2.drop 4).take 4) ≠ 0) : HDKey.parse E env b = none :=
  xkey_depth0_index env b 0 s2 hs rfl hi

/-- extended key: depth 0 with a non-zero parent fingerprint -/
theorem reject_xkey_depth0_parent (env : Env) (b : Bytes) (s2 : Bytes) (hs : b.drop 4 = 0 :: s2)
    (hf : s2.take 4 ≠ [0, 0, 0, 0]) : HDKey.parse E env b = none :=
  xkey_depth0_parent env b 0 s2 hs rfl hf

/-- extended key: private scalar 0 or ≥ n -/
theorem reject_xkey_bad_scalar (env : Env) (b : Bytes) (d : UInt8) (s2 kr : Bytes) (hs : b.drop 4 = d :: s2)
    (hk : (s2.drop 40).take 33 = 0x00 :: kr) (h : ofBe (kr.take 32) = 0 ∨ ofBe (kr.take 32) ≥ E.n) :
    HDKey.parse E env b = none :=
  xkey_bad_key env b d 0x00 s2 kr hs hk (readKeyField_bad_scalar kr h)

/-- extended key: a public key field that is not a valid compressed SEC key (bad prefix incl. 04, off-curve X) -/
theorem reject_xkey_bad_pubkey (env : Env) (b : Bytes) (d k0 : UInt8) (s2 kr : Bytes) (hs : b.drop 4 = d :: s2)
    (hk : (s2.drop 40).take 33 = k0 :: kr) (h0 : k0 ≠ 0) (h : PublicKey.parse E (k0 :: kr) = none) :
    HDKey.parse E env b = none :=
  xkey_bad_key env b d k0 s2 kr hs hk (by simp [readKeyField, h0, h])

/-- the constructor refuses uncompressed keys: public ones always did, private ones after fix k04 -/
theorem reject_hdkey_uncompressed (env : Env) (key : KeyObj E) (cc : Bytes) (ver : Option Bytes) (depth : Nat)
    (fp : Bytes) (cn : Nat)
    (h : (∃ k, key = .priv k ∧ k.compressed = false) ∨ (∃ k, key = .pub k ∧ k.compressed = false)) :
    HDKey.init env key cc ver depth fp cn = none := by
  unfold HDKey.init
  rcases h with ⟨k, rfl, hk⟩ | ⟨k, rfl, hk⟩
  · split
    · rfl
    · simp [KeyObj.privUncompressed, hk]
  · rw [if_pos]
    simp [KeyObj.serialize, PublicKey.sec, pubkeySerialize_length, hk]

-- (decoder soundness — accepted ⇒ re-encodes to itself — for WIF, extended keys, stream reads, x-only and private keys is in Props/C10X.lean)

/-! ### non-vacuity -/

def exEnv : Env where
  hmac512 := fun _ _ => List.replicate 64 1
  hash160 := fun _ => List.replicate 20 5
  tagged := fun _ _ => List.replicate 32 0
  b58enc := fun b => 0x78 :: (if b.take 4 = [0x04, 0x88, 0xad, 0xe4] then tPrv else tPub) ++ b
  b58dec := fun t => some (t.drop 4)

def exPub : PublicKey toy := ⟨3, false⟩
def exPriv : PrivateKey := ⟨5, false, 1⟩
def exHd : HDKey toy :=
  { key := .pub ⟨4, true⟩, chainCode := List.replicate 32 7, version := [0x04, 0x88, 0xb2, 0x1e], depth := 3,
    fingerprint := [1, 2, 3, 4], childNumber := 2147483649 }

example : EcLaws toy := toy_laws
example : toy.isInf exPub.point = false := by decide
example : exPub.sec.length = 65 ∧ PublicKey.parse toy exPub.sec = some exPub := ⟨by decide, sec_roundtrip toy_laws exPub (by decide)⟩
example : ∀ b, exEnv.b58dec (exEnv.b58enc b) = some b := by intro b; simp [exEnv]; split <;> rfl
example : seckeyValid toy exPriv.secret = true ∧ exPriv.network < Generated.keyNets.length := by decide
example : (exPriv.xonly toy).map List.length = some 32 ∧ (exPriv.xonlyOld toy).map List.length = some 64 := by decide
example : HDKey.init exEnv exHd.key exHd.chainCode (some exHd.version) exHd.depth exHd.fingerprint exHd.childNumber
    = some exHd := by
  rw [init_iff]; exact ⟨by decide, by decide, rfl, _, rfl, by decide⟩
example : exHd.key.Valid toy := ⟨by decide, rfl⟩
example : (HDKey.parse toy exEnv ((exHd.serialize).getD [])).isSome = true := by decide
/-- rejection classes are inhabited: a hybrid key, a truncated one, a wrong-kind version -/
example : PublicKey.parse toy (0x06 :: List.replicate 64 0) = none := reject_sec_bad_prefix _ _ (by decide)
example : PublicKey.parse toy (exPub.sec.take 64) = none := reject_sec_wrong_length _ (by decide)
example : HDKey.parse toy exEnv (((exHd.serialize).getD []).take 77) = none := reject_xkey_truncated _ _ (by decide)

end Embit.Props.C10
