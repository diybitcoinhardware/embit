import EmbitModel.Proofs.PsbtReject
import EmbitModel.Proofs.PsbtBip370
import EmbitModel.Proofs.PsbtDupUtxo
import EmbitModel.Props.C04
/-
  C04X — deepening of C04 (PSBT parse/serialise is lossless): the serialise-then-parse direction, the
  well-formedness of everything the parser returns, and the rejection rules as standalone theorems.

  `Model.Psbt.*` is the model of embit's psbt.py (tied to /repo by the correspondence check of C04); statements
  are about arbitrary key validators `ko`, arbitrary hash `sha`, KEEP_ALL mode (`compress = 0`) unless a theorem
  quantifies over the mode `c`.

  Well-formedness (`InWF`, `OutWF`, `PsbtWF` in Proofs/PsbtWF.lean) is explicit and decidable: size bounds of the
  wire format (every key / value fits a CompactSize prefix, 32-bit / 64-bit integers), the validity checks
  `read_value` performs on keys (`ko`), absence of duplicate keys, unknown keys that do not collide with a typed
  key, the streamed-parse fields (`_utxo`, `_txhash`, `verified`) unset, and for version 0 what comes from the
  global transaction (every scope carries its transaction fields, at least one input, tx version / locktime set).
-/
set_option linter.unusedSimpArgs false
set_option linter.unusedVariables false
namespace Embit.Props.C04X
open Embit Model Spec.Wire

/-! ### 1. serialise-then-parse: scopes -/

/-- an input scope: the pairs `write_to` emits are read back as exactly those pairs, and folding `read_value`
    over them (from the seed `read_from` starts with: empty for PSBTv2, the transaction fields for PSBTv0)
    gives the scope back -/
theorem input_scope_ser_parse (ko : KeyOps) (sha : Bytes → Bytes) (version : Option Nat) (s : InScope) (r : Bytes)
    (h : InWF ko s) :
    readKVs (writeKVs (s.pairs version) ++ r) = some (s.pairs version, r)
    ∧ InScope.addPairs ko sha 0 (InScope.seedOf version s) (s.pairs version) = some s :=
  ⟨readKVs_write _ r (InScope.pairs_wf ko version s h), InScope.addPairs_pairs ko sha version s h⟩

theorem output_scope_ser_parse (ko : KeyOps) (version : Option Nat) (s : OutScope) (r : Bytes) (h : OutWF ko s) :
    readKVs (writeKVs (s.pairs version) ++ r) = some (s.pairs version, r)
    ∧ OutScope.addPairs ko (OutScope.seedOf version s) (s.pairs version) = some s :=
  ⟨readKVs_write _ r (OutScope.pairs_wf ko version s h), OutScope.addPairs_pairs ko version s h⟩

/-- the same as `PSBT.read_from` sees it: scope number `i` read from the stream, followed by anything -/
theorem input_scope_read_ser (ko : KeyOps) (sha : Bytes → Bytes) (tx : Option Tx) (version : Option Nat)
    (s : InScope) (i : Nat) (r : Bytes) (h : InWF ko s) (hseed : seedIn tx i = InScope.seedOf version s) :
    readIns ko sha 0 tx 1 i (writeKVs (s.pairs version) ++ r) = some ([s], r) := by
  have := readIns_write ko sha tx version [s] i r (by simpa using h) (by
    intro j x hx
    cases j with
    | zero => simp at hx; subst hx; simpa using hseed
    | succ j => simp at hx)
  simpa using this

theorem output_scope_read_ser (ko : KeyOps) (tx : Option Tx) (version : Option Nat)
    (s : OutScope) (i : Nat) (r : Bytes) (h : OutWF ko s) (hseed : seedOut tx i = OutScope.seedOf version s) :
    readOuts ko tx 1 i (writeKVs (s.pairs version) ++ r) = some ([s], r) := by
  have := readOuts_write ko tx version [s] i r (by simpa using h) (by
    intro j x hx
    cases j with
    | zero => simp at hx; subst hx; simpa using hseed
    | succ j => simp at hx)
  simpa using this

/-! ### 1. serialise-then-parse: whole PSBT -/

/-- serialise-then-parse is the identity on well-formed PSBT objects, version 0 and version 2:
    `write_to` succeeds and `parse` of its output is the object, field for field -/
theorem ser_parse (ko : KeyOps) (sha : Bytes → Bytes) (p : Psbt) (h : PsbtWF ko p) :
    ∃ b, Psbt.ser p = some b ∧ Psbt.parse ko sha 0 b = some p := Psbt.parse_ser ko sha p h

/-- everything `PSBT.parse` returns is well-formed (so `ser_parse` applies to it) -/
theorem parse_wf (ko : KeyOps) (sha : Bytes → Bytes) (b : Bytes) (p : Psbt)
    (h : Psbt.parse ko sha 0 b = some p) : PsbtWF ko p := Psbt.parse_wf ko sha b p h

/-- the round trip starting from bytes: what was parsed can be written, and parsing that gives the same object
    (with `C04.parse_lossless` — nothing of `b` is missing in the object — both directions are covered) -/
theorem parse_ser_parse (ko : KeyOps) (sha : Bytes → Bytes) (b : Bytes) (p : Psbt)
    (h : Psbt.parse ko sha 0 b = some p) : ∃ b', Psbt.ser p = some b' ∧ Psbt.parse ko sha 0 b' = some p :=
  ser_parse ko sha p (parse_wf ko sha b p h)

/-- serialisation is injective on well-formed objects: two different PSBT objects never serialise alike -/
theorem ser_injective (ko : KeyOps) (p q : Psbt) (hp : PsbtWF ko p) (hq : PsbtWF ko q)
    (h : Psbt.ser p = Psbt.ser q) : p = q := by
  obtain ⟨b, e1, e2⟩ := ser_parse ko id p hp
  obtain ⟨b', e1', e2'⟩ := ser_parse ko id q hq
  rw [e1, e1'] at h
  obtain rfl := Option.some.inj h
  rw [e2] at e2'
  exact Option.some.inj e2'

/-! ### 3. rejection rules -/

/-- PSBTv2 must not carry the global unsigned transaction (any mode; `rest` = everything after the global scope) -/
theorem tx_in_v2_rejected (ko : KeyOps) (sha : Bytes → Bytes) (c : Nat) (g : List KV) (rest v w : Bytes)
    (hg : ∀ kv ∈ g, KVWF kv) (htx : ([0x00], v) ∈ g) (hver : ([0xfb], w) ∈ g) (h2 : ofLe w = 2) :
    Psbt.parse ko sha c (psbtMagic ++ (writeKVs g ++ rest)) = none := by
  apply parse_global_none ko sha c g rest hg
  intro tx ver unk hgf
  left
  obtain ⟨t, ht⟩ : ∃ t, tx = some t := by
    rcases (globalFold_spec g _ _ _ _ _ _ hgf).2.2.2.2 _ htx with ⟨_, t, ht, _⟩ | ⟨e, _⟩ | ⟨_, e, _⟩
    · exact ⟨t, ht⟩
    · simp at e
    · simp at e
  have hv := (globalFold_ver g _ _ _ _ _ _ hgf).1 _ hver rfl
  simp [ht, hv, h2]

/-- a PSBT that is not version 2 must carry the global unsigned transaction (any mode) -/
theorem missing_tx_v0_rejected (ko : KeyOps) (sha : Bytes → Bytes) (c : Nat) (g : List KV) (rest : Bytes)
    (hg : ∀ kv ∈ g, KVWF kv) (hno : ∀ kv ∈ g, kv.1 ≠ [0x00]) (hver : ∀ w, ([0xfb], w) ∈ g → ofLe w ≠ 2) :
    Psbt.parse ko sha c (psbtMagic ++ (writeKVs g ++ rest)) = none := by
  apply parse_global_none ko sha c g rest hg
  intro tx ver unk hgf
  right
  have ht : tx = none := globalFold_tx_absent g _ _ _ _ _ _ hgf hno
  have hv : ver ≠ some 2 := by
    obtain ⟨r1, r2⟩ := globalFold_ver g _ _ _ _ _ _ hgf
    by_cases hfb : ∃ kv ∈ g, kv.1 = [0xfb]
    · obtain ⟨kv, hkv, hk⟩ := hfb
      rw [r1 kv hkv hk]
      intro e
      obtain ⟨k, w⟩ := kv
      simp at hk; subst hk
      exact hver w hkv (Option.some.inj e)
    · rw [r2 (fun kv hkv e => hfb ⟨kv, hkv, e⟩)]; simp
  simp [ht, hv]

/-- a key that occurs twice in the global scope is refused (any mode) -/
theorem global_duplicate_key_rejected (ko : KeyOps) (sha : Bytes → Bytes) (c : Nat) (g : List KV) (rest : Bytes)
    (hg : ∀ kv ∈ g, KVWF kv) (hd : ¬ (g.map Prod.fst).Nodup) :
    Psbt.parse ko sha c (psbtMagic ++ (writeKVs g ++ rest)) = none := by
  apply parse_global_none ko sha c g rest hg
  intro tx ver unk hgf
  exact absurd (globalFold_keys_nodup g _ _ _ _ _ _ hgf (by simp)).1 hd

/-- a key that occurs twice in any input or output scope is refused (KEEP_ALL) -/
theorem scope_duplicate_key_rejected (ko : KeyOps) (sha : Bytes → Bytes) (g : List KV) (scopes : List (List KV))
    (hg : ∀ kv ∈ g, KVWF kv) (hs : ∀ kvs ∈ scopes, ∀ kv ∈ kvs, KVWF kv)
    (hd : ∃ kvs ∈ scopes, ¬ (kvs.map Prod.fst).Nodup) :
    Psbt.parse ko sha 0 (framePsbt g scopes) = none := by
  cases hp : Psbt.parse ko sha 0 (framePsbt g scopes) with
  | none => rfl
  | some p =>
    exfalso
    obtain ⟨tx, unk, gs, _, _, _, _, _, _, _, hl, _, _, fi, fo, _⟩ := parse_framed_decomp ko sha g scopes p hg hs hp
    obtain ⟨kvs, hk, hdup⟩ := hd
    obtain ⟨j, hj⟩ := List.mem_iff_getElem?.mp hk
    have hjl : j < scopes.length := (List.getElem?_eq_some_iff.mp hj).1
    have hne : ∀ kv ∈ kvs, kv.1 ≠ [] := fun kv hkv => (hs kvs hk kv hkv).1
    by_cases hin : j < p.inputs.length
    · obtain ⟨kvs', s, a1, _, a3⟩ := fi j hin
      rw [hj] at a1; obtain rfl := Option.some.inj a1
      exact hdup (InScope.addPairs_nodup ko sha kvs _ s hne a3)
    · obtain ⟨kvs', s, a1, _, a3⟩ := fo (j - p.inputs.length) (by omega)
      rw [show p.inputs.length + (j - p.inputs.length) = j by omega, hj] at a1
      obtain rfl := Option.some.inj a1
      exact hdup (OutScope.addPairs_nodup ko kvs _ s hne a3)

/-- EVERY reader mode `c` (KEEP_ALL and the two memory-saving ones), every scope object `s` the reader may start from
    (empty for PSBTv2, seeded with the transaction fields for PSBTv0): the pairs of an input scope in which key `00`
    (PSBT_IN_NON_WITNESS_UTXO) occurs twice are refused — `read_value` raises at the second pair at the latest.
    (Before `fixes/fix-compress-dup-utxo.diff` the memory-saving modes accepted them, the last one won: audit B3.) -/
theorem utxo_duplicate_rejected_all_modes (ko : KeyOps) (sha : Bytes → Bytes) (c : Nat) (s : InScope)
    (a b d : List KV) (v1 v2 : Bytes) :
    InScope.addPairs ko sha c s (a ++ ([0x00], v1) :: (b ++ ([0x00], v2) :: d)) = none :=
  InScope.addPairs_dup_utxo_none ko sha c s a b d v1 v2

/-- the same at the level of `PSBT.parse`, version 0, every mode: input scope number `j` (below the number of inputs
    of the global transaction) carries key `00` twice -/
theorem utxo_duplicate_parse_rejected_v0 (ko : KeyOps) (sha : Bytes → Bytes) (c : Nat) (g : List KV)
    (scopes : List (List KV)) (hg : ∀ kv ∈ g, KVWF kv) (hs : ∀ kvs ∈ scopes, ∀ kv ∈ kvs, KVWF kv)
    (v : Bytes) (t : Tx) (htx : ([0x00], v) ∈ g) (ht : Tx.parse v = some t)
    (j : Nat) (hj : j < t.vin.length) (a b d : List KV) (v1 v2 : Bytes)
    (hsc : scopes[j]? = some (a ++ ([0x00], v1) :: (b ++ ([0x00], v2) :: d))) :
    Psbt.parse ko sha c (framePsbt g scopes) = none := by
  apply parse_input_scope_none ko sha c g scopes hg hs j _ hsc
    (fun s => InScope.addPairs_dup_utxo_none ko sha c s a b d v1 v2)
  intro tx ver unk gs hgf c1 _ hpu
  obtain ⟨t', e1, e2⟩ := globalFold_tx_of_mem g tx ver unk v hgf htx
  rw [ht] at e2; obtain rfl := Option.some.inj e2
  subst e1
  have hv : (ver == some 2) = false := by simpa using c1
  rw [hv] at hpu
  have hnd := globalFold_nodup g none none [] _ ver unk hgf (by simp)
  have := ((parseUnknowns_spec ko false unk _ gs hnd hpu).2.2.2.2.2.2.1 rfl).2.2.1
  rw [this]
  simpa [gstate0] using hj

/-- … and version 2, every mode: input scope number `j` below the input count (key `04`) carries key `00` twice -/
theorem utxo_duplicate_parse_rejected_v2 (ko : KeyOps) (sha : Bytes → Bytes) (c : Nat) (g : List KV)
    (scopes : List (List KV)) (hg : ∀ kv ∈ g, KVWF kv) (hs : ∀ kvs ∈ scopes, ∀ kv ∈ kvs, KVWF kv)
    (w wi : Bytes) (n : Nat) (hver : ([0xfb], w) ∈ g) (h2 : ofLe w = 2)
    (hi : ([0x04], wi) ∈ g) (hn : parseAll Compact.read wi = some n)
    (j : Nat) (hj : j < n) (a b d : List KV) (v1 v2 : Bytes)
    (hsc : scopes[j]? = some (a ++ ([0x00], v1) :: (b ++ ([0x00], v2) :: d))) :
    Psbt.parse ko sha c (framePsbt g scopes) = none := by
  apply parse_input_scope_none ko sha c g scopes hg hs j _ hsc
    (fun s => InScope.addPairs_dup_utxo_none ko sha c s a b d v1 v2)
  intro tx ver unk gs hgf c1 _ hpu
  have hpv : ver = some 2 := by
    rw [(globalFold_ver g _ _ _ _ _ _ hgf).1 _ hver rfl, h2]
  subst hpv
  have htx : tx = none := by cases tx <;> simp_all
  subst htx
  obtain ⟨c1', _⟩ := parse_v2_counts ko g unk _ gs hgf (by simpa using hpu)
  rw [c1' wi hi, hn]
  simpa using hj

/-- what is accepted has exactly as many scopes as inputs plus outputs (KEEP_ALL) -/
theorem accepted_scope_count (ko : KeyOps) (sha : Bytes → Bytes) (g : List KV) (scopes : List (List KV)) (p : Psbt)
    (hg : ∀ kv ∈ g, KVWF kv) (hs : ∀ kvs ∈ scopes, ∀ kv ∈ kvs, KVWF kv)
    (h : Psbt.parse ko sha 0 (framePsbt g scopes) = some p) :
    scopes.length = p.inputs.length + p.outputs.length := by
  obtain ⟨_, _, _, _, _, _, _, _, _, _, hl, _⟩ := parse_framed_decomp ko sha g scopes p hg hs h
  exact hl

/-- version 0: the number of scopes must be the number of inputs plus outputs of the global transaction -/
theorem count_mismatch_rejected_v0 (ko : KeyOps) (sha : Bytes → Bytes) (g : List KV) (scopes : List (List KV))
    (hg : ∀ kv ∈ g, KVWF kv) (hs : ∀ kvs ∈ scopes, ∀ kv ∈ kvs, KVWF kv)
    (v : Bytes) (t : Tx) (htx : ([0x00], v) ∈ g) (ht : Tx.parse v = some t)
    (hc : scopes.length ≠ t.vin.length + t.vout.length) :
    Psbt.parse ko sha 0 (framePsbt g scopes) = none := by
  cases hp : Psbt.parse ko sha 0 (framePsbt g scopes) with
  | none => rfl
  | some p =>
    exfalso
    obtain ⟨tx, unk, gs, hgf, _, _, _, _, _, _, hl, _, _, _, _, ft⟩ := parse_framed_decomp ko sha g scopes p hg hs hp
    obtain ⟨t', e1, e2⟩ := globalFold_tx_of_mem g tx _ unk v hgf htx
    rw [ht] at e2; obtain rfl := Option.some.inj e2
    obtain ⟨_, l1, l2⟩ := ft t e1
    omega

/-- version 2: the number of scopes must be the sum of the two count fields -/
theorem count_mismatch_rejected_v2 (ko : KeyOps) (sha : Bytes → Bytes) (g : List KV) (scopes : List (List KV))
    (hg : ∀ kv ∈ g, KVWF kv) (hs : ∀ kvs ∈ scopes, ∀ kv ∈ kvs, KVWF kv)
    (w wi wo : Bytes) (a b : Nat) (hver : ([0xfb], w) ∈ g) (h2 : ofLe w = 2)
    (hi : ([0x04], wi) ∈ g) (ha : parseAll Compact.read wi = some a)
    (ho : ([0x05], wo) ∈ g) (hb : parseAll Compact.read wo = some b)
    (hc : scopes.length ≠ a + b) :
    Psbt.parse ko sha 0 (framePsbt g scopes) = none := by
  cases hp : Psbt.parse ko sha 0 (framePsbt g scopes) with
  | none => rfl
  | some p =>
    exfalso
    obtain ⟨tx, unk, gs, hgf, hpu, hv, _, _, _, _, hl, l3, l4, _, _, _⟩ :=
      parse_framed_decomp ko sha g scopes p hg hs hp
    have hpv : p.version = some 2 := by
      rw [(globalFold_ver g _ _ _ _ _ _ hgf).1 _ hver rfl, h2]
    rcases hv with ⟨_, rfl⟩ | ⟨hn, _⟩
    · rw [hpv] at hpu
      obtain ⟨c1, c2⟩ := parse_v2_counts ko g unk _ gs hgf (by simpa using hpu)
      rw [c1 wi hi, ha] at l3
      rw [c2 wo ho, hb] at l4
      simp at l3 l4
      omega
    · exact hn hpv

/-- version 0: a scope must not carry the PSBTv2 transaction fields — keys 0e / 0f / 10 in an input scope,
    03 / 04 in an output scope (they would contradict the global transaction; embit reports a duplicate) -/
theorem v2_scope_fields_in_v0_rejected (ko : KeyOps) (sha : Bytes → Bytes) (g : List KV) (scopes : List (List KV))
    (hg : ∀ kv ∈ g, KVWF kv) (hs : ∀ kvs ∈ scopes, ∀ kv ∈ kvs, KVWF kv)
    (v : Bytes) (t : Tx) (htx : ([0x00], v) ∈ g) (ht : Tx.parse v = some t)
    (j : Nat) (kvs : List KV) (hj : scopes[j]? = some kvs)
    (hbad : (j < t.vin.length ∧ ∃ kv ∈ kvs, txFieldKey kv.1 = true)
          ∨ (t.vin.length ≤ j ∧ ∃ kv ∈ kvs, txFieldKeyOut kv.1 = true)) :
    Psbt.parse ko sha 0 (framePsbt g scopes) = none := by
  cases hp : Psbt.parse ko sha 0 (framePsbt g scopes) with
  | none => rfl
  | some p =>
    exfalso
    obtain ⟨tx, unk, gs, hgf, _, _, _, _, _, _, hl, _, _, fi, fo, ft⟩ := parse_framed_decomp ko sha g scopes p hg hs hp
    obtain ⟨t', e1, e2⟩ := globalFold_tx_of_mem g tx _ unk v hgf htx
    rw [ht] at e2; obtain rfl := Option.some.inj e2
    subst e1
    obtain ⟨_, l1, l2⟩ := ft t rfl
    have hjl : j < scopes.length := (List.getElem?_eq_some_iff.mp hj).1
    rcases hbad with ⟨hlt, kv, hkv, hk⟩ | ⟨hge, kv, hkv, hk⟩
    · obtain ⟨kvs', s, a1, _, a3⟩ := fi j (by omega)
      rw [hj] at a1; obtain rfl := Option.some.inj a1
      have hseed : InSeeded (seedIn (some t) j) := by simp [seedIn, List.getElem?_eq_getElem hlt, InSeeded]
      have := InScope.addPairs_seeded_keys ko sha 0 kvs _ s hseed a3 kv hkv
      rw [hk] at this; simp at this
    · obtain ⟨kvs', s, a1, _, a3⟩ := fo (j - p.inputs.length) (by omega)
      rw [show p.inputs.length + (j - p.inputs.length) = j by omega, hj] at a1
      obtain rfl := Option.some.inj a1
      have hlt : j - p.inputs.length < t.vout.length := by omega
      have hseed : OutSeeded (seedOut (some t) (j - p.inputs.length)) := by
        simp [seedOut, List.getElem?_eq_getElem hlt, OutSeeded]
      have := OutScope.addPairs_seeded_keys ko kvs _ s hseed a3 kv hkv
      rw [hk] at this; simp at this

/-! ### 2. the PSBTv2 transaction is the BIP370 transaction -/

/-- Version 2: the transaction `PSBT.tx` reconstructs from the per-scope fields is the transaction BIP370
    (Spec/Bip370.lean: tx version, lock-time rule, input i = (previous txid, output index, sequence or 0xffffffff),
    output j = (amount, script)) assigns to the RAW maps `g`, `ins`, `outs` of the byte string — as `Option`s: a
    required field is missing on one side iff on the other.

    `_partial`: two explicit, decidable hypotheses exclude the regions where embit deviates from BIP370
    * `hreq` — no input carries PSBT_IN_REQUIRED_TIME_LOCKTIME (11) / PSBT_IN_REQUIRED_HEIGHT_LOCKTIME (12).
      Of BIP370's "Determining Lock Time" embit implements exactly the first case (fallback lock time, 0 when
      absent); the required lock times are carried as unknown keys and ignored: `required_locktime_ignored`.
    * `htv` — PSBT_GLOBAL_TX_VERSION (02) is present. BIP370 requires it; embit substitutes 2:
      `missing_tx_version_defaults_to_2`.
    `hcnt` says which of the scopes are the inputs (`p.inputs.length` is the value of the count field 04, see
    `count_mismatch_rejected_v2`). -/
theorem v2_tx_eq_bip370_partial (ko : KeyOps) (sha : Bytes → Bytes) (g : List KV) (ins outs : List (List KV))
    (p : Psbt) (hg : ∀ kv ∈ g, KVWF kv) (hs : ∀ kvs ∈ ins ++ outs, ∀ kv ∈ kvs, KVWF kv)
    (h : Psbt.parse ko sha 0 (framePsbt g (ins ++ outs)) = some p)
    (hv : p.version = some 2) (hcnt : p.inputs.length = ins.length)
    (htv : (Spec.Bip370.get g Spec.Bip370.GLOBAL_TX_VERSION).isSome = true)
    (hreq : ∀ m ∈ ins, Spec.Bip370.get m Spec.Bip370.IN_REQUIRED_TIME_LOCKTIME = none
                      ∧ Spec.Bip370.get m Spec.Bip370.IN_REQUIRED_HEIGHT_LOCKTIME = none) :
    p.tx = Spec.Bip370.unsignedTx g ins outs :=
  Psbt.tx_eq_bip370 ko sha g ins outs p hg hs h hv hcnt htv hreq

/-- on the wire: the serialised transactions are the same bytes -/
theorem v2_tx_wire_eq_bip370_partial (ko : KeyOps) (sha : Bytes → Bytes) (g : List KV) (ins outs : List (List KV))
    (p : Psbt) (hg : ∀ kv ∈ g, KVWF kv) (hs : ∀ kvs ∈ ins ++ outs, ∀ kv ∈ kvs, KVWF kv)
    (h : Psbt.parse ko sha 0 (framePsbt g (ins ++ outs)) = some p)
    (hv : p.version = some 2) (hcnt : p.inputs.length = ins.length)
    (htv : (Spec.Bip370.get g Spec.Bip370.GLOBAL_TX_VERSION).isSome = true)
    (hreq : ∀ m ∈ ins, Spec.Bip370.get m Spec.Bip370.IN_REQUIRED_TIME_LOCKTIME = none
                      ∧ Spec.Bip370.get m Spec.Bip370.IN_REQUIRED_HEIGHT_LOCKTIME = none) :
    p.tx.map Tx.ser = (Spec.Bip370.unsignedTx g ins outs).map Spec.Wire.encode := by
  rw [v2_tx_eq_bip370_partial ko sha g ins outs p hg hs h hv hcnt htv hreq]
  cases Spec.Bip370.unsignedTx g ins outs with
  | none => rfl
  | some t => simp [C03.ser_eq_wire]

/-! ### non-vacuity and witnesses -/

def exIn : InScope :=
  { txid := some (List.replicate 32 7), vout := some 1, sequence := some 0xfffffffe,
    witnessUtxo := some { value := 5000, spk := [0x00, 0x14] ++ List.replicate 20 1 },
    partialSigs := [(2 :: List.replicate 32 3, [0x30, 0x01])], sighashType := some 1,
    bip32 := [(2 :: List.replicate 32 3, { fingerprint := [1, 2, 3, 4], path := [0x80000054, 0, 5] })],
    tapBip32 := [(List.replicate 32 4, ([List.replicate 32 8], { fingerprint := [1, 2, 3, 4], path := [1] }))],
    finalWitness := some [[1, 2], []],
    unknown := [([0xf0, 0x01], [0xaa])] }

def exOut : OutScope :=
  { value := some 4000, spk := some [0x51], tapInternalKey := some (List.replicate 32 9), unknown := [([0xfc, 1], [])] }

/-- a version-2 object with every kind of field -/
def exV2 : Psbt :=
  { version := some 2, txVersion := some 2, locktime := some 0, inputs := [exIn], outputs := [exOut],
    xpubs := [(List.replicate 78 5, { fingerprint := [0, 0, 0, 0], path := [] })], unknown := [([0xfc, 0x05], [1])] }

/-- a version-0 object (no version field; a global key 02 is an unknown key there) -/
def exV0 : Psbt := { exV2 with version := none, unknown := [([0x02], [9])] }

set_option maxRecDepth 100000 in
example : InWF C04.trivialKo exIn ∧ OutWF C04.trivialKo exOut := by decide +kernel
set_option maxRecDepth 100000 in
example : PsbtWF C04.trivialKo exV2 := by decide +kernel
set_option maxRecDepth 100000 in
example : PsbtWF C04.trivialKo exV0 := by decide +kernel
set_option maxRecDepth 100000 in
example : ((Psbt.ser exV2).bind (Psbt.parse C04.trivialKo id 0)).isSome = true
    ∧ ((Psbt.ser exV0).bind (Psbt.parse C04.trivialKo id 0)).isSome = true := by decide +kernel
set_option maxRecDepth 100000 in
/-- … and re-serialising what was parsed gives the same bytes (kernel computation on the examples) -/
example : ((Psbt.ser exV2).bind (Psbt.parse C04.trivialKo id 0)).bind Psbt.ser = Psbt.ser exV2
    ∧ ((Psbt.ser exV0).bind (Psbt.parse C04.trivialKo id 0)).bind Psbt.ser = Psbt.ser exV0 := by decide +kernel
/-- well-formedness is not vacuous the other way either: a scope with a duplicate key is not well-formed -/
example : ¬ InWF C04.trivialKo { exIn with unknown := [([0xf0], [1]), ([0xf0], [2])] } := by decide

/-- raw maps of a small version-2 PSBT: tx version 2, fallback lock time 7, one input (sequence absent), one output -/
def exG : List KV :=
  [([0xfb], [2, 0, 0, 0]), ([0x02], [2, 0, 0, 0]), ([0x03], [7, 0, 0, 0]), ([0x04], [1]), ([0x05], [1])]
def exInKV : List KV := [([0x0e], List.replicate 32 7), ([0x0f], [1, 0, 0, 0])]
def exOutKV : List KV := [([0x03], [0x88, 0x13, 0, 0, 0, 0, 0, 0]), ([0x04], [0x51])]

set_option maxRecDepth 100000 in
/-- the hypotheses of `v2_tx_eq_bip370_partial` hold for it, and the common value is a transaction -/
example : (∀ kv ∈ exG, KVWF kv) ∧ (∀ kvs ∈ [exInKV] ++ [exOutKV], ∀ kv ∈ kvs, KVWF kv)
    ∧ ((Psbt.parse C04.trivialKo id 0 (framePsbt exG ([exInKV] ++ [exOutKV]))).map
        (fun p => (p.version, p.inputs.length))) = some (some 2, 1)
    ∧ Spec.Bip370.unsignedTx exG [exInKV] [exOutKV]
      = some { version := 2, locktime := 7,
               vin := [{ txid := List.replicate 32 7, vout := 1, scriptSig := [], sequence := 0xffffffff, witness := [] }],
               vout := [{ value := 5000, spk := [0x51] }] } := by decide

set_option maxRecDepth 100000 in
/-- witness for `hreq`: an input that requires the height lock time 200000 — BIP370 assigns lock time 200000,
    embit's `PSBT.tx` uses the fallback lock time 7 -/
theorem required_locktime_ignored :
    let ins := [exInKV ++ [([0x12], [0x40, 0x0d, 0x03, 0x00])]]
    ((Psbt.parse C04.trivialKo id 0 (framePsbt exG (ins ++ [exOutKV]))).bind Psbt.tx).map (·.locktime) = some 7
    ∧ (Spec.Bip370.unsignedTx exG ins [exOutKV]).map (·.locktime) = some 200000 := by decide

set_option maxRecDepth 100000 in
/-- witness for `htv`: without PSBT_GLOBAL_TX_VERSION BIP370 assigns no transaction, embit builds one of version 2 -/
theorem missing_tx_version_defaults_to_2 :
    let g := exG.filter (fun kv => kv.1 != [0x02])
    ((Psbt.parse C04.trivialKo id 0 (framePsbt g ([exInKV] ++ [exOutKV]))).bind Psbt.tx).map (·.version) = some 2
    ∧ Spec.Bip370.unsignedTx g [exInKV] [exOutKV] = none := by decide

/-- a global scope with the unsigned transaction AND version 2 (hypotheses of `tx_in_v2_rejected`) -/
example : let g : List KV := [([0x00], Tx.ser C03.exLegacy), ([0xfb], [2, 0, 0, 0])]
    (∀ kv ∈ g, KVWF kv) ∧ ([0x00], Tx.ser C03.exLegacy) ∈ g ∧ ([0xfb], [2, 0, 0, 0]) ∈ g ∧ ofLe [2, 0, 0, 0] = 2 := by
  decide

/-- a global scope without transaction and with version 0 (hypotheses of `missing_tx_v0_rejected`) -/
example : let g : List KV := [([0xfb], [0, 0, 0, 0]), ([0xf0], [1])]
    (∀ kv ∈ g, KVWF kv) ∧ (∀ kv ∈ g, kv.1 ≠ [0x00]) ∧ (∀ w, ([0xfb], w) ∈ g → ofLe w ≠ 2) := by
  refine ⟨by decide, by decide, ?_⟩
  intro w hw
  simp at hw
  subst hw; decide

/-- duplicate key in a scope / count mismatch / v2 field in a v0 scope: the hypotheses are satisfiable -/
example : (∃ kvs ∈ [exInKV ++ [([0x0f], [2, 0, 0, 0])], exOutKV], ¬ (kvs.map Prod.fst).Nodup) := by decide
example : ([0x04], [1]) ∈ exG ∧ parseAll Compact.read [1] = some 1 ∧ ([0x05], [1]) ∈ exG
    ∧ [exInKV].length ≠ 1 + 1 := by decide
def exUnsigned : Tx :=
  { C03.exLegacy with vin := [{ txid := List.replicate 32 7, vout := 1, scriptSig := [], sequence := 0, witness := [] }] }
example : Tx.parse (Tx.ser exUnsigned) ≠ none ∧ txFieldKey [0x0e] = true ∧ txFieldKeyOut [0x03] = true := by decide

/-- a previous transaction with two outputs, and the input scope of `exG`'s PSBT carrying it once / twice -/
def exPrev : Tx := { C03.exLegacy with vout := [{ value := 1, spk := [0x51] }, { value := 5000, spk := [0x6a] }] }
def exInOnce : List KV := exInKV ++ [([0x00], Tx.ser exPrev)]
def exInDup : List KV := exInKV ++ ([0x00], Tx.ser exPrev) :: ([] ++ ([0x00], Tx.ser exPrev) :: [])

set_option maxRecDepth 100000 in
/-- `utxo_duplicate_rejected_all_modes` / `utxo_duplicate_parse_rejected_v2` are not vacuous: the hypotheses hold for
    `exG`, `[exInDup, exOutKV]` (scope 0 of 1 input), and with the key ONCE the memory-saving modes accept the PSBT and
    keep only the hash and the spent output (`_txhash`, `_utxo`) — the very state the repaired check looks at -/
example : (∀ kv ∈ exG, KVWF kv) ∧ (∀ kvs ∈ [exInDup, exOutKV], ∀ kv ∈ kvs, KVWF kv)
    ∧ ([0xfb], [2, 0, 0, 0]) ∈ exG ∧ ofLe [2, 0, 0, 0] = 2 ∧ ([0x04], [1]) ∈ exG ∧ parseAll Compact.read [1] = some 1
    ∧ [exInDup, exOutKV][0]? = some exInDup
    ∧ (Psbt.parse C04.trivialKo id 1 (framePsbt exG [exInOnce, exOutKV])).map
        (fun p => p.inputs.map fun s => (s.txhash.isSome, s.nonWitnessUtxo.isSome, s.utxoS))
        = some [(true, false, some { value := 5000, spk := [0x6a] })]
    ∧ (Psbt.parse C04.trivialKo id 2 (framePsbt exG [exInOnce, exOutKV])).isSome = true := by decide
example : ∀ c, Psbt.parse C04.trivialKo id c (framePsbt exG [exInDup, exOutKV]) = none := fun c =>
  utxo_duplicate_parse_rejected_v2 C04.trivialKo id c exG [exInDup, exOutKV] (by decide) (by decide)
    [2, 0, 0, 0] [1] 1 (by decide) (by decide) (by decide) (by decide) 0 (by decide) exInKV [] [] _ _ rfl

/-- embit does NOT refuse the PSBTv2-only GLOBAL keys (02–05) in a version-0 PSBT: they stay in `unknown`
    (and are written back), as for any unknown key -/
theorem v2_global_keys_in_v0_kept :
    (Psbt.parse C04.trivialKo id 0 (psbtMagic ++ writeKVs [([0x00], Tx.ser exUnsigned), ([0x02], [9, 0, 0, 0])]
      ++ writeKVs [] ++ writeKVs [])).map (·.unknown) = some [([0x02], [9, 0, 0, 0])] := by decide

end Embit.Props.C04X
