import EmbitModel.Props.C07
import EmbitModel.Props.C08W
import EmbitModel.Proofs.SigLawsSpec
import EmbitModel.Driver.Secp
import EmbitModel.Driver.SigCheck
/-
  C07Z — the sign-then-verify theorems of C07 AT THE RECORD THE DRIVER EVALUATES, with no curve hypothesis
  (second audit, finding A-1).

  Props/C07 proves "whatever the signer returns the verifier accepts" relative to `EcLaws E` for an abstract curve record.
  `Crypto.secpOps` does not satisfy `EcLaws` (junk points), so those theorems say nothing about it. The driver's ops
  `py.*` / `contract.*` / `priv.sign` / `ecdsa.verify` / `schnorr.*` (Driver/Secp.lean, record `Driver.E`) and `sig.*` /
  `sigcheck.*` (Driver/SigCheck.lean, record `Driver.sigE`) run over `Crypto.secpLawful`, for which `EcLaws` is a theorem
  (Props/C08W), and that record is the object compared with embit. Below: C07's correctness theorems
  instantiated at exactly these records, hashes (`Driver.Hs` = the executable SHA-256 / HMAC-SHA256) and RFC 6979 fuel — the
  functions the ops evaluate — and the link from the signer models to the verification functions of the `sig.*` /
  `sigcheck.*` ops (`Spec.Ecdsa.verify Driver.sigE`, `Driver.sigSchnorr`).
-/
set_option linter.unusedVariables false
namespace Embit.Props.C07Z
open Embit Embit.Model Embit.Model.Der Embit.Model.PySecp Embit.Props.C08W

/-! ### the bindings: what `py.ecdsa_sign` returns, `py.ecdsa_verify` accepts -/

/-- **C07 `ecdsa_correct` at the driver's record**: whatever the op `py.ecdsa_sign msg secret extra` answers verifies with
    `py.ecdsa_verify` under what `py.ec_pubkey_create secret` answers — every message, key, extra data; no hypothesis -/
theorem driver_ecdsa_correct (msg secret : Bytes) (extra : Option Bytes) (sig pub : Bytes)
    (hs : ecdsaSign Driver.E Driver.Hs Driver.fuel msg secret extra = some sig)
    (hpub : ecPubkeyCreate Driver.E secret = some pub) :
    ecdsaVerify Driver.E sig msg pub = some true :=
  C07.ecdsa_correct Driver.E Driver.Hs secpLawful_ec_laws secpLawful_n_le secpLawful_p_le Driver.fuel msg secret extra sig
    pub hs hpub

/-- … in particular for the result of `PrivateKey.sign` with or without grinding (op `priv.sign`) -/
theorem driver_private_key_sign_verifies (msg secret : Bytes) (grind : Bool) (res pub : Bytes) (c : Nat)
    (h : privateKeySign (fun ex => ecdsaSign Driver.E Driver.Hs Driver.fuel msg secret ex) grind = some (res, c))
    (hpub : ecPubkeyCreate Driver.E secret = some pub) : ecdsaVerify Driver.E res msg pub = some true :=
  C07.private_key_sign_verifies Driver.E Driver.Hs secpLawful_ec_laws secpLawful_n_le secpLawful_p_le Driver.fuel msg secret
    grind res pub c h hpub

/-- **C07 `schnorr_correct` (BIP340) at the driver's record**: `sign_schnorr` passes `verify_schnorr` under the x-only
    key of `key·G` -/
theorem driver_schnorr_correct (key msg : Bytes) (aux : Option Bytes) (sig : Bytes)
    (h : signSchnorr Driver.E Driver.Hs key msg aux = some sig) :
    ∃ px py, Driver.E.xy (Driver.E.mul (ofBe key) Driver.E.g) = some (px, py) ∧
      verifySchnorr Driver.E Driver.Hs (beN 32 px) sig msg = some true :=
  C07.schnorr_correct Driver.E Driver.Hs secpLawful_ec_laws secpLawful_p_le secpLawful_n_le key msg aux sig h

/-- C07 `schnorr_correct_binding` at the driver's record: what `py.schnorrsig_sign` answers, `py.schnorrsig_verify`
    accepts under `py.xonly_pubkey_from_pubkey (py.ec_pubkey_create secret)` -/
theorem driver_schnorr_correct_binding (msg secret : Bytes) (aux : Option Bytes) (sig pub xo : Bytes) (par : Bool)
    (hlen : secret.length = 32) (hs : schnorrsigSign Driver.E Driver.Hs msg secret aux = some sig)
    (hpub : ecPubkeyCreate Driver.E secret = some pub) (hxo : xonlyPubkeyFromPubkey Driver.E pub = some (xo, par)) :
    schnorrsigVerify Driver.E Driver.Hs sig msg xo = some true :=
  C07.schnorr_correct_binding Driver.E Driver.Hs secpLawful_ec_laws secpLawful_p_le secpLawful_n_le msg secret aux sig pub xo
    par hlen hs hpub hxo

/-! ### the verifier ops `sig.*` / `sigcheck.*` / `ecdsa.verify` / `schnorr.verify` -/

/-- **what the ECDSA signer returns, the verification function of `sig.ecdsa` / `sigcheck.legacy` / `sigcheck.segwit` /
    `ecdsa.verify` accepts**: the 64-byte structure `py.ecdsa_sign` answers is `(r, s)` with low `s`, its DER form is
    `serRS r s`, which the strict parser maps back to `(r, s)`, and SEC 1 §4.1.4 verification over the SAME record
    (`Spec.Ecdsa.verify Driver.sigE`, the function those ops evaluate) says yes under the point `secret·G`.
    (The ops' own key / DER decoders `SecpLawful.secParse`, `Crypto.parseDerStrict` are outside this statement.) -/
theorem driver_ecdsa_verifier_accepts (msg secret : Bytes) (extra : Option Bytes) (sig : Bytes)
    (h : ecdsaSign Driver.E Driver.Hs Driver.fuel msg secret extra = some sig) :
    ∃ r s, sig = leN 32 r ++ leN 32 s ∧ s ≤ Driver.E.n / 2 ∧
      Der.parse Driver.E.n true (serRS r s) = some (r, s) ∧
      Spec.Ecdsa.verify Driver.sigE (Driver.E.mul (ofBe secret) Driver.E.g) (ofBe msg) r s = true := by
  obtain ⟨_, _, _, k, r, s, hk, hrs, hok, rfl⟩ :=
    ecdsaSign_inv Driver.E Driver.Hs secpLawful_n_le Driver.fuel msg secret extra sig h
  have hr := (rangeOk_iff Driver.E.n true r s).mp hok
  have hkr := C07.nonce_range Driver.Hs Driver.fuel Driver.E.n (ofBe secret) (ofBe msg) extra k hk
  have hp := parse_serRS Driver.E.n true r s secpLawful_n_le hok
  have hv := C07.ecdsa_correct_key Driver.E secpLawful_ec_laws secpLawful_n_le (ofBe secret) (ofBe msg) k r s
    ⟨by omega, hkr.2⟩ hrs (by omega) (by omega) msg rfl
  rw [SignWith.verifyEcdsaKey_eq_spec, hp] at hv
  exact ⟨r, s, rfl, hr.2.2.2.2 rfl, hp, hv⟩

/-- **what the BIP340 signer returns, the function of `sig.schnorr` / `sigcheck.taproot` accepts**: `Driver.sigSchnorr`
    (length checks + `Spec.Bip340.verify` over the same record and SHA-256) says yes under the x-only key of `key·G` -/
theorem driver_schnorr_verifier_accepts (key msg : Bytes) (aux : Option Bytes) (sig : Bytes)
    (h : signSchnorr Driver.E Driver.Hs key msg aux = some sig) :
    ∃ px py, Driver.E.xy (Driver.E.mul (ofBe key) Driver.E.g) = some (px, py) ∧
      Driver.sigSchnorr (beN 32 px) msg sig = true := by
  obtain ⟨px, py, hxy, hv⟩ := driver_schnorr_correct key msg aux sig h
  refine ⟨px, py, hxy, ?_⟩
  have h1 : SignWith.schnorrVerifyX Driver.E Driver.Hs (beN 32 px) msg sig = true := by
    unfold SignWith.schnorrVerifyX; rw [hv]; rfl
  rw [SignWith.schnorrVerifyX_eq_spec (E := Driver.E) secpLawful_ec_laws] at h1
  simp only [Bool.and_eq_true, decide_eq_true_eq] at h1
  unfold Driver.sigSchnorr
  simp only [Bool.and_eq_true, decide_eq_true_eq]
  exact ⟨⟨⟨h1.1.1, h1.1.2.1⟩, h1.1.2.2⟩, h1.2⟩

/-! ### non-vacuity -/

/-- the record of both handler families is the lawful record, whose laws are theorems -/
example : Driver.E = Crypto.secpLawful ∧ Driver.sigE = Crypto.secpLawful ∧ EcLaws Driver.E :=
  ⟨rfl, rfl, secpLawful_ec_laws⟩

end Embit.Props.C07Z
