import EmbitModel.Proofs.View
/-
  C05 — the streaming PSBTView is observationally equal to the in-memory PSBT.
  Statements about `Model.View` (psbtview.py) against the encodings it walks over, for every transaction,
  every list of pairs, every stream prefix `pre` (the stream offset) and suffix `post`.
-/
set_option linter.unusedSimpArgs false
set_option linter.unusedVariables false
namespace Embit.Props.C05
open Embit Model Spec.Wire

/-! ### GlobalTransactionView: 41-byte strides and output skipping are exact -/

/-- counts and offsets computed by the view for an unsigned transaction embedded at any stream offset,
    with 1-, 3-, 5- or 9-byte count prefixes -/
theorem gtx_layout (pre post : Bytes) (t : Tx) (hwf : WF t) (hu : Unsigned t) :
    ∃ g, GTx.open (pre ++ (Tx.ser t ++ post)) pre.length = some g
      ∧ g.numVin = t.vin.length ∧ g.numVout = t.vout.length :=
  GTx.open_counts t hwf hu List.drop_left

/-- `tx.vin(i)` read through the view equals input `i` of the transaction (and is refused out of range) -/
theorem gtx_vin (pre post : Bytes) (t : Tx) (hwf : WF t) (hu : Unsigned t) (g : GTx)
    (hg : GTx.open (pre ++ (Tx.ser t ++ post)) pre.length = some g) (i : Nat) :
    GTx.vin (pre ++ (Tx.ser t ++ post)) g i = t.vin[i]? := GTx.vin_spec t hwf hu List.drop_left g hg i

theorem gtx_vout (pre post : Bytes) (t : Tx) (hwf : WF t) (hu : Unsigned t) (g : GTx)
    (hg : GTx.open (pre ++ (Tx.ser t ++ post)) pre.length = some g) (j : Nat) :
    GTx.vout (pre ++ (Tx.ser t ++ post)) g j = t.vout[j]? := GTx.vout_spec t hwf hu List.drop_left g hg j

theorem gtx_locktime_version (pre post : Bytes) (t : Tx) (hwf : WF t) (hu : Unsigned t) (g : GTx)
    (hg : GTx.open (pre ++ (Tx.ser t ++ post)) pre.length = some g) :
    GTx.locktime (pre ++ (Tx.ser t ++ post)) g = some t.locktime
    ∧ GTx.version (pre ++ (Tx.ser t ++ post)) g = t.version := GTx.locktime_spec t hwf hu List.drop_left g hg

/-! ### scopes -/

/-- `_skip_scope` moves exactly over one scope, whatever its pairs -/
theorem skip_scope_len (pre post : Bytes) (kvs : List KV) (h : ∀ kv ∈ kvs, KVWF kv) :
    skipScopeAt (pre ++ (writeKVs kvs ++ post)) ((pre ++ (writeKVs kvs ++ post)).length + 1) pre.length
      = some (pre.length + (writeKVs kvs).length) := by
  apply skipScopeAt_spec kvs _ _ post h List.drop_left
  have := writeKVs_length kvs
  simp; omega

/-- a value lookup inside a scope returns what is stored under exactly that key (none when absent);
    keys that merely start with the same bytes are other fields -/
theorem value_lookup (pre post key : Bytes) (hkey : key ≠ []) (kvs : List KV) (h : ∀ kv ∈ kvs, KVWF kv) :
    View.getValue (pre ++ (writeKVs kvs ++ post)) key pre.length = some (lookup key kvs) := by
  exact getValue_spec key hkey kvs h List.drop_left

/-! ### merging extra streams never drops a field -/

theorem lookup_setKey {β : Type} (p k : Bytes) (v : β) (l : List (Bytes × β))
    (h : (lookup p l).isSome) : (lookup p (setKey k v l)).isSome := by
  induction l with
  | nil => simp [lookup] at h
  | cons x xs ih =>
    obtain ⟨k', v'⟩ := x
    by_cases hk : k = k'
    · subst hk
      by_cases hp : p = k
      · simp [setKey, lookup, hp]
      · simp [setKey, lookup, hp] at h ⊢; exact h
    · by_cases hp : p = k'
      · simp [setKey, hk, lookup, hp]
      · simp [setKey, hk, lookup, hp] at h ⊢; exact ih h

theorem lookup_dictUpdate {β : Type} (p : Bytes) (a b : List (Bytes × β))
    (h : (lookup p a).isSome) : (lookup p (dictUpdate a b)).isSome := by
  unfold dictUpdate
  induction b generalizing a with
  | nil => simpa using h
  | cons x xs ih => exact ih _ (lookup_setKey p x.1 x.2 a h)

theorem orOpt_keeps {α : Type} (t : α → Bool) (a b : Option α) (h : b.isSome) : (orOpt t a b).isSome := by
  unfold orOpt; cases a with
  | none => exact h
  | some x => by_cases hx : t x <;> simp [hx, h]

theorem notNoneOr_keeps {α : Type} (a b : Option α) (h : b.isSome) : (notNoneOr a b).isSome := by
  unfold notNoneOr; cases a <;> simp [h]

/-- after `update` every field the scope had is still there (this is what failed for the taproot internal
    key before the `fix:` commit) -/
theorem update_keeps_fields (s o : InScope) : InScope.le s (s.update o) := by
  constructor <;> intros <;> simp only [InScope.update] <;>
    first
    | (apply orOpt_keeps; assumption)
    | (apply notNoneOr_keeps; assumption)
    | (apply lookup_dictUpdate; assumption)
    | assumption

theorem update_keeps_fields_out (s o : OutScope) : OutScope.le s (s.update o) := by
  constructor <;> intros <;> simp only [OutScope.update] <;>
    first
    | (apply orOpt_keeps; assumption)
    | (apply notNoneOr_keeps; assumption)
    | (apply lookup_dictUpdate; assumption)
    | assumption

/-- an extra scope that carries nothing changes nothing -/
theorem update_empty (s : InScope) : s.update {} = s := by
  simp [InScope.update, orOpt, notNoneOr, dictUpdate]

/-- per mode, `clear_metadata` never touches signatures, final scripts or the transaction fields;
    KEEP_ALL is the identity -/
theorem clear_metadata_spec (s : InScope) (c : Nat) :
    (s.clearMetadata c).partialSigs = s.partialSigs ∧ (s.clearMetadata c).tapSigs = s.tapSigs
    ∧ (s.clearMetadata c).finalScriptSig = s.finalScriptSig ∧ (s.clearMetadata c).finalWitness = s.finalWitness
    ∧ (s.clearMetadata c).txid = s.txid ∧ (s.clearMetadata c).vout = s.vout
    ∧ (s.clearMetadata c).sequence = s.sequence ∧ (c = 0 → s.clearMetadata c = s)
    ∧ (c = 2 → (s.clearMetadata c).witnessUtxo = s.witnessUtxo ∧ (s.clearMetadata c).sighashType = s.sighashType
              ∧ (s.clearMetadata c).redeemScript = s.redeemScript ∧ (s.clearMetadata c).witnessScript = s.witnessScript
              ∧ (s.witnessUtxo = none → (s.clearMetadata c).nonWitnessUtxo = s.nonWitnessUtxo)) := by
  unfold InScope.clearMetadata
  by_cases h0 : c = 0
  · simp [h0]
  · by_cases h1 : c = 1
    · simp [h0, h1]
    · simp [h0, h1]
      intro _ hw; simp [hw]

-- view_refines_parse — the composition of the lemmas above with the decomposition `PSBT.parse` performs — is proved
--   in Props/C05X.lean (`view_refines_parse_v0_partial`, `view_refines_parse_v2_partial`).
-- write_to_eq_memory — what `View.writeTo` / `View.writeToL` write, and that it parses to merge-then-compress in memory —
--   is proved in Props/C05Y.lean (`write_to_eq_memory_v0/v2_partial`, `write_to_parses_to_memory_v0/v2_partial`).

/-! ### non-vacuity -/
example : WF { C03.exLegacy with vin := [{ txid := List.replicate 32 7, vout := 1, scriptSig := [], sequence := 0, witness := [] }] }
    ∧ Unsigned { C03.exLegacy with vin := [{ txid := List.replicate 32 7, vout := 1, scriptSig := [], sequence := 0, witness := [] }] } := by
  refine ⟨⟨by decide, by decide, by decide, by decide, by decide, ?_, ?_⟩, ?_⟩
  · intro i hi; simp at hi; subst hi
    exact ⟨by decide, by decide, by decide, by decide, by decide, by simp⟩
  · intro o ho; simp [C03.exLegacy] at ho; subst ho; exact ⟨by decide, by decide⟩
  · intro i hi; simp at hi; subst hi; simp

end Embit.Props.C05
