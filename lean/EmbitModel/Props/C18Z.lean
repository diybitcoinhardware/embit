import EmbitModel.Props.C18X
import EmbitModel.Proofs.PsetV0ParseWF
/-
  C18 (round 5, audit2 items B-4, A-4, D-1/D53): version-0 PSETs after the repairs `fixes/d53.diff` (the scopes keep the
  peg-in flag, the issuance and the output nonce of the global transaction they are created from) and `fixes/b4.diff`
  (a global transaction that carries any witness is refused). The statements below need NO `D53Free`: the only
  remaining side condition on an input scope is that it does not carry PSETv2 issuance fields of its own
  (`pset 00` / `pset 01`), which by design take precedence over the transaction's issuance.
-/
set_option linter.unusedSimpArgs false
set_option linter.unusedVariables false
namespace Embit.Props.C18Z
open Embit Embit.Model Embit.Spec.LWire Embit.Props.C18X

/-- B-4: a global transaction that carries a witness (proofs, script or peg-in witness of an input, proofs of an
    output) is refused by the global scope of `PSET.read_from`, whatever follows -/
theorem pset_v0_signed_refused (t : LTx) (hwf : WF t) (hw : LTx.hasWitness t = true)
    (ver : Option Nat) (unk rest : List KV) :
    lglobalFold none ver unk (([0x00], LTx.ser t) :: rest) = none := by
  have h1 := LTx.parse_ser t hwf
  simp [lglobalFold, h1, hw]

/-- D53 repaired, input scope: whatever the input of the global transaction carries (issuance, peg-in flag), the input
    rebuilt from the scope read on top of its seed IS that input — provided it is unsigned (which `read_from` checks)
    and the scope has no issuance fields of its own -/
theorem pset_v0_input_kept (ko : KeyOps) (t : LTx) (j : Nat) (hj : j < t.vin.length) (kvs : List KV) (s : LInScope)
    (h : LInScope.addPairs ko (lseedIn (some t) j) kvs = some s)
    (hu : t.vin[j].scriptSig = []) (hw : t.vin[j].witness = {})
    (hk : ∀ kv ∈ kvs, kv.1 ≠ LInField.key .issueValue ∧ kv.1 ≠ LInField.key .issueCommitment) :
    s.vin = some t.vin[j] :=
  LInScope.vin_of_seed_obj ko t j hj kvs s h hu hw (LInScope.assetIssuance_of_seed ko _ j kvs s h
    (by simp [lseedIn, List.getElem?_eq_getElem hj, InSeeded]) hk)

/-- D53 repaired, output scope: the output rebuilt from the scope IS the output of the global transaction, nonce
    included (no condition on the nonce any more) -/
theorem pset_v0_output_kept (ko : KeyOps) (t : LTx) (j : Nat) (hj : j < t.vout.length) (kvs : List KV) (s : LOutScope)
    (h : LOutScope.addPairs ko (lseedOut (some t) j) kvs = some s)
    (hne : ∀ kv ∈ kvs, kv.1 ≠ [])
    (hwa : WFAsset t.vout[j].asset) (hw : t.vout[j].witness = {}) :
    s.vout = some t.vout[j] :=
  LOutScope.vout_of_seed_kept ko t j hj kvs s h hne hwa hw

/-! the former D53 witness, now positive: the peg-in PSET of C18X, and a PSET whose global transaction has an issuance
    and a confidential output with a nonce — the transaction rebuilt from the scopes IS the global transaction and the
    PSET re-serialises to the same bytes -/

set_option maxRecDepth 100000 in
theorem pset_v0_pegin_kept :
    (LPset.parse trivialKo peginPset).bind LPset.tx = some peginTx
    ∧ (LPset.parse trivialKo peginPset).bind LPset.ser = some peginPset := by
  decide +kernel

def issuanceTx : LTx :=
  { version := 2, locktime := 0,
    vin := [{ txid := List.replicate 32 7, vout := 1, scriptSig := [], sequence := 0xfffffffd, isPegin := true,
              issuance := some { nonce := List.replicate 32 0, entropy := List.replicate 32 5,
                                 amount := .explicit 5000, token := .null } }],
    vout := [{ asset := 0x0a :: List.replicate 32 4, value := .conf (0x08 :: List.replicate 32 3),
               nonce := some (0x02 :: List.replicate 32 9), spk := [0x51] }] }

def issuancePset : Bytes := psetMagic ++ writeKVs [([0x00], LTx.ser issuanceTx)] ++ writeKVs [] ++ writeKVs []

set_option maxRecDepth 100000 in
theorem pset_v0_issuance_nonce_kept :
    (LPset.parse trivialKo issuancePset).bind LPset.tx = some issuanceTx
    ∧ (LPset.parse trivialKo issuancePset).bind LPset.ser = some issuancePset
    ∧ D53Free issuanceTx [[]] = false := by
  decide +kernel

/-- B-4, concrete: the same PSET with a script witness on the input is refused -/
def signedTx : LTx :=
  { peginTx with vin := [{ txid := List.replicate 32 7, vout := 1, scriptSig := [], sequence := 0xfffffffd,
                           witness := { scriptWitness := [[1, 2]] } }] }

set_option maxRecDepth 100000 in
theorem pset_v0_signed_refused_example :
    LPset.parse trivialKo (psetMagic ++ writeKVs [([0x00], LTx.ser signedTx)] ++ writeKVs [] ++ writeKVs []) = none
    ∧ LTx.hasWitness signedTx = true := by
  decide +kernel

/-! ## whole version-0 PSETs (round 6): the statements of C18X that carried `D53Free`, without it -/

/-- MAIN (replaces the version-0 clause of `C18X.pset_parse_lossless`). Whatever `PSET.parse` accepts is the canonical
    framing of a global scope `g`, input scopes `ins`, output scopes `outs`; counts are kept; every scope writes back a
    permutation of the pairs read for it (as in `C18X.pset_parse_lossless`); version 2: every global pair is written
    back; version 0: the global scope contains the pair of a well-formed transaction `t` that is unsigned (empty
    scriptSigs) and carries no witness (fix `b4`), there is one scope per input / output of `t`, every global pair but
    the transaction is written back whenever the global scope can be written, and — if no input scope holds the PSETv2
    issuance fields `pset 00/01` (`NoOwnIssuance`, decidable; these take precedence by design) — the transaction rebuilt
    from the scopes IS `t`, WHATEVER issuance, peg-in flag or output nonce `t` carries (fix `d53`), it serialises, and all
    global pairs including the transaction are written back bit-identically. -/
theorem pset_v0_parse_lossless_full (ko : KeyOps) (b : Bytes) (p : LPset) (h : LPset.parse ko b = some p) :
    ∃ (g : List KV) (ins outs : List (List KV)),
      b = psetMagic ++ writeKVs g ++ ins.flatMap writeKVs ++ outs.flatMap writeKVs
      ∧ (∀ kv ∈ g, KVWF kv) ∧ (∀ kvs ∈ ins, ∀ kv ∈ kvs, KVWF kv) ∧ (∀ kvs ∈ outs, ∀ kv ∈ kvs, KVWF kv)
      ∧ ins.length = p.inputs.length ∧ outs.length = p.outputs.length
      ∧ (∀ (j : Nat) (kvs : List KV) (s : LInScope), ins[j]? = some kvs → p.inputs[j]? = some s →
            (∀ kv ∈ kvs, kv ∈ s.pairs p.version) ∧ kvs.Perm (s.pairs p.version)
            ∧ ((s.pairs p.version).map Prod.fst).Nodup)
      ∧ (∀ (j : Nat) (kvs : List KV) (s : LOutScope), outs[j]? = some kvs → p.outputs[j]? = some s →
            s.pairs p.version = some (s.pairsL p.version)
            ∧ (∀ kv ∈ kvs, (LOutField.canonKey p.version kv.1, kv.2) ∈ s.pairsL p.version)
            ∧ (kvs.map (fun kv => (LOutField.canonKey p.version kv.1, kv.2))).Perm (s.pairsL p.version)
            ∧ ((s.pairsL p.version).map Prod.fst).Nodup)
      ∧ (p.version = some 2 → (∀ kv ∈ g, kv.1 ≠ [0x00]) ∧ ∃ gp, p.globalPairs = some gp ∧ ∀ kv ∈ g, kv ∈ gp)
      ∧ (p.version ≠ some 2 → ∃ t, ([0x00], LTx.ser t) ∈ g ∧ WF t ∧ LUnsigned t ∧ LTx.hasWitness t = false
            ∧ p.inputs.length = t.vin.length ∧ p.outputs.length = t.vout.length
            ∧ (∀ gp, p.globalPairs = some gp → ∀ kv ∈ g, kv.1 ≠ [0x00] → kv ∈ gp)
            ∧ (NoOwnIssuance ins = true → p.tx = some t ∧ LTx.serOpt t = some (LTx.ser t)
                 ∧ ∃ gp, p.globalPairs = some gp ∧ ∀ kv ∈ g, kv ∈ gp)) :=
  LPset.parse_lossless_kept ko b p h

/-- consequence (replaces `C18X.pset_v0_reserialise_partial`): a parsed version-0 PSET whose input scopes hold no
    `pset 00/01` field rebuilds its global transaction and re-serialises: global scope with every original pair (the
    transaction pair bit-identical), then one written scope per original scope -/
theorem pset_v0_reserialise (ko : KeyOps) (b : Bytes) (p : LPset) (h : LPset.parse ko b = some p)
    (hv : p.version ≠ some 2) :
    ∃ (g : List KV) (ins outs : List (List KV)) (t : LTx),
      b = psetMagic ++ writeKVs g ++ ins.flatMap writeKVs ++ outs.flatMap writeKVs
      ∧ ([0x00], LTx.ser t) ∈ g ∧ LTx.hasWitness t = false
      ∧ ins.length = p.inputs.length ∧ outs.length = p.outputs.length
      ∧ (NoOwnIssuance ins = true → p.tx = some t ∧ ∃ gp,
          LPset.ser p = some (psetMagic ++ writeKVs gp
            ++ p.inputs.flatMap (fun s => writeKVs (s.pairs p.version))
            ++ p.outputs.flatMap (fun s => writeKVs (s.pairsL p.version)))
          ∧ (∀ kv ∈ g, kv ∈ gp)) := by
  obtain ⟨g, ins, outs, eb, _, _, _, l1, l2, _, fo, _, g0⟩ := pset_v0_parse_lossless_full ko b p h
  obtain ⟨t, hm, _, _, hnw, _, _, _, hfree⟩ := g0 hv
  refine ⟨g, ins, outs, t, eb, hm, hnw, l1, l2, ?_⟩
  intro hf
  obtain ⟨htx, _, gp, hgp, hall⟩ := hfree hf
  refine ⟨htx, gp, LPset.ser_of_globalPairs p gp hgp ?_, hall⟩
  intro s hs
  obtain ⟨j, hj⟩ := List.mem_iff_getElem?.mp hs
  have hjl : j < outs.length := by rw [l2]; exact (List.getElem?_eq_some_iff.mp hj).1
  exact (fo j outs[j] s (List.getElem?_eq_getElem hjl) hj).1

/-- the new side condition is strictly weaker than the old one -/
theorem noOwnIssuance_of_D53Free (t : LTx) (ins : List (List KV)) (h : D53Free t ins = true) :
    NoOwnIssuance ins = true := by
  simp only [D53Free, Bool.and_eq_true] at h
  exact h.2

/-! non-vacuity: the issuance / peg-in / nonce transaction above with NON-EMPTY scopes (a liquid value and an unknown
    proprietary key on the input, a blinding key on the output): parsed, the transaction is kept, the bytes come back,
    `NoOwnIssuance` holds and `D53Free` does not -/

def issuanceIn : List KV := [(psetTag ++ [0x7f], [1]), (LInField.key .value, leN 8 7)]
def issuanceOut : List KV := [(LOutField.key false .blindingPubkey, [2, 3])]

def issuancePsetFull : Bytes :=
  psetMagic ++ writeKVs [([0x00], LTx.ser issuanceTx)] ++ writeKVs issuanceIn ++ writeKVs issuanceOut

set_option maxRecDepth 100000 in
theorem pset_v0_issuance_scopes_kept :
    (LPset.parse trivialKo issuancePsetFull).bind LPset.tx = some issuanceTx
    ∧ (LPset.parse trivialKo issuancePsetFull).bind LPset.ser = some issuancePsetFull
    ∧ (LPset.parse trivialKo issuancePsetFull).map (·.version) = some none
    ∧ NoOwnIssuance [issuanceIn] = true ∧ D53Free issuanceTx [issuanceIn] = false := by
  decide +kernel

/-- and the side condition is needed: an input scope that holds `pset 00` (issuance value 9) overrides the issuance of
    the global transaction — the rebuilt transaction differs from it (by design precedence, tallied by the harness) -/
def ownIssuancePset : Bytes :=
  psetMagic ++ writeKVs [([0x00], LTx.ser issuanceTx)] ++ writeKVs [(LInField.key .issueValue, leN 8 9)] ++ writeKVs []

set_option maxRecDepth 100000 in
theorem pset_v0_own_issuance_overrides :
    ((LPset.parse trivialKo ownIssuancePset).bind LPset.tx).isSome = true
    ∧ (LPset.parse trivialKo ownIssuancePset).bind LPset.tx ≠ some issuanceTx
    ∧ NoOwnIssuance [[(LInField.key .issueValue, leN 8 9)]] = false := by
  decide +kernel

/-! ## serialise-then-parse and well-formedness of version-0 objects that keep transaction parts (round 6) -/

/-- input scope with kept parts (peg-in flag, issuance of the global transaction): for a scope that is well-formed once
    these parts are cleared (`LInWF ko s.clr` — `LInWF` itself demands empty kept parts) the pairs written fold back
    to the scope from the seed `read_from` really starts with, kept parts included (`seedOfK`); generalises
    `C18X.input_scope_ser_parse` -/
theorem input_scope_ser_parse_kept (ko : KeyOps) (ver : Option Nat) (s : LInScope) (h : LInWF ko s.clr) (r : Bytes) :
    readKVs (writeKVs (s.pairs ver) ++ r) = some (s.pairs ver, r)
    ∧ LInScope.addPairs ko (LInScope.seedOfK ver s) (s.pairs ver) = some s.norm :=
  ⟨readKVs_write _ r (LInScope.pairs_wf ko ver s.clr h), LInScope.addPairs_pairsK ko ver s h⟩

/-- version-0 output scope that keeps the nonce of the global transaction's output; generalises
    `C18X.output_scope_ser_parse_v0` -/
theorem output_scope_ser_parse_v0_kept (ko : KeyOps) (ver : Option Nat) (hv : ver ≠ some 2) (s : LOutScope)
    (h : LOutWF0 ko s.clr) (r : Bytes) :
    s.pairs ver = some (s.pairsL ver)
    ∧ readKVs (writeKVs (s.pairsL ver) ++ r) = some (s.pairsL ver, r)
    ∧ LOutScope.addPairs ko s.seedOf0K (s.pairsL ver) = some s.norm :=
  ⟨by simp [LOutScope.pairs_eq, hv], readKVs_write _ r (LOutScope.pairsL_wf ko ver s.clr h.typed h.unknown h.lf),
   LOutScope.addPairs_pairs0K ko ver hv s h⟩

/-- MAIN, version 0 with kept parts (generalises `C18X.pset_v0_ser_parse`, whose `LPsetWF0` admits only scopes WITHOUT
    kept transaction parts): a well-formed version-0 object — `LPsetWF0K`: it carries its transaction, its scopes are
    well-formed once the kept parts are cleared, and the seeds derived from its transaction (kept parts included) are
    the seeds of its scopes — serialises, and parsing the bytes gives the object back -/
theorem pset_v0_ser_parse_kept (ko : KeyOps) (p : LPset) (h : LPsetWF0K ko p) :
    ∃ b, LPset.ser p = some b ∧ LPset.parse ko b = some p.norm :=
  LPset.parse_ser_v0K ko p h

/-- the old well-formedness is the special case "no kept parts" -/
theorem psetWF0K_of_WF0 (ko : KeyOps) (p : LPset) (h : LPsetWF0 ko p) : LPsetWF0K ko p :=
  h.toK

/-- MAIN (the former GOAL `pset_v0_parse_wf`): every version-0 PSET that `PSET.parse` returns and whose input scopes build
    no issuance from fields of their own (`LPset.noOwnIssuance`, decidable on the object: `LInputScope.asset_issuance`
    computed from the scope's `pset` fields alone is None — in particular every PSET without `pset 00/01` input fields)
    is well-formed in the sense `LPsetWF0K`. The condition cannot be dropped (a scope's own, now always well-formed, issuance replaces that of the global
    transaction: `pset_v0_own_issuance_overrides`). -/
theorem pset_v0_parse_wf (ko : KeyOps) (b : Bytes) (p : LPset) (h : LPset.parse ko b = some p)
    (hv : p.version ≠ some 2) (hfree : p.noOwnIssuance = true) : LPsetWF0K ko p :=
  LPset.parse_wf_v0 ko b p h hv hfree

/-- hence parse ∘ serialise ∘ parse = norm ∘ parse on such version-0 PSETs, whatever issuance / peg-in flag / nonce the
    global transaction carries: what was accepted re-serialises, the bytes parse to the same object (liquid tables in
    `write_to` order), and the bytes written are a fixed point -/
theorem pset_v0_parse_ser_parse (ko : KeyOps) (b : Bytes) (p : LPset) (h : LPset.parse ko b = some p)
    (hv : p.version ≠ some 2) (hfree : p.noOwnIssuance = true) :
    ∃ b', LPset.ser p = some b' ∧ LPset.parse ko b' = some p.norm :=
  LPset.parse_ser_parse_v0 ko b p h hv hfree

set_option maxRecDepth 100000 in
/-- non-vacuity: the issuance / peg-in / nonce PSET with non-empty scopes above satisfies the hypotheses -/
example : (LPset.parse trivialKo issuancePsetFull).map (fun p => (p.noOwnIssuance, decide (p.version ≠ some 2)))
    = some (true, true) := by decide +kernel

/-- finding C18-KF1 (FIXED by `fixes/c18-kf1.diff`), on the model: with `pset 01` (own issuance commitment) and a token
    commitment of 5 bytes in an input scope. Before the fix the PSET was accepted and serialised, and the bytes written
    were refused (theorem `pset_v0_own_issuance_unparseable` of round 6, no longer true of the fixed code and replaced by
    the statement below: the input is refused at parse time). General statements: `Props/C18W.lean`. -/
def malformedOwnPset : Bytes :=
  psetMagic ++ writeKVs [([0x00], LTx.ser peginTx)]
    ++ writeKVs [(LInField.key .issueCommitment, 0x08 :: List.replicate 32 6), (LInField.key .tokenCommitment, [1, 2, 3, 4, 5])]
    ++ writeKVs []

set_option maxRecDepth 100000 in
theorem pset_v0_own_issuance_malformed_refused : LPset.parse trivialKo malformedOwnPset = none := by
  decide +kernel

end Embit.Props.C18Z
