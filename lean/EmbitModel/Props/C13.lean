import EmbitModel.Proofs.MiniscriptLen
/-
  C13 — Accepted miniscript is well-typed and compiles to the specified script.
  Property theorems only. `Model.Miniscript.*` is the model of embit's `descriptor/miniscript.py` after the C13
  fixes (tied to the repo by the correspondence check and by `Generated/MiniscriptTable.lean`);
  `Spec.Miniscript.*` is the published type table and translation table, stated for core fragments with the
  sugar (`pk pkh and_n t: l: u: sortedmulti*`) removed by `desugar`.
  All statements are for EVERY expression tree (structural induction), both contexts, no depth bound.
-/
namespace Embit.Props.C13
open Embit Embit.Miniscript

/-- the class structure the hand-written model assumes (operator / wrapper lists, NARGS, argument classes, and
    for every class which class's `__init__ verify type properties inner_compile compile __len__ len_args
    read_arguments` runs) is the one extracted from the loaded module -/
theorem structure_as_modelled :
    Gen.Ms.classTable = Model.Miniscript.modelledClassTable
    ∧ Gen.Ms.operators = ["pk_k", "pk_h", "older", "after", "sha256", "hash256", "ripemd160", "hash160", "andor",
        "and_v", "and_b", "and_n", "or_b", "or_c", "or_d", "or_i", "thresh", "multi", "sortedmulti", "multi_a",
        "sortedmulti_a", "pk", "pkh"]
    ∧ Gen.Ms.wrappers = ["a", "s", "c", "t", "d", "v", "j", "n", "l", "u"] := by
  refine ⟨rfl, rfl, rfl⟩

/-- at every base type: the objects can be built and `verify()` passes exactly when the specification assigns
    a type, and then `.type` / `.properties` are that type -/
theorem typing_agrees (ctx : Ctx) (e : Ms) :
    Spec.Miniscript.typeOf ctx (Spec.Miniscript.desugar e) =
      if Model.Miniscript.constructible ctx e && Model.Miniscript.verify ctx e
      then some (Model.Miniscript.type e, Model.Miniscript.props ctx e) else none :=
  typeOf_desugar ctx e

/-- embit accepts an expression inside `wsh(…)` / as a `tr(…)` leaf exactly when it is well-typed with top-level B -/
theorem accepts_eq_wellTyped (ctx : Ctx) (e : Ms) :
    Model.Miniscript.accepts ctx e = Spec.Miniscript.wellTyped ctx e := by
  unfold Model.Miniscript.accepts Spec.Miniscript.wellTyped
  rw [typing_agrees]
  by_cases c1 : Model.Miniscript.constructible ctx e = true <;>
    by_cases c2 : Model.Miniscript.verify ctx e = true <;> simp [c1, c2]
  cases Model.Miniscript.type e <;> simp

/-- every well-typed expression over the supported fragments and wrappers is accepted -/
theorem complete (ctx : Ctx) (e : Ms) (h : Spec.Miniscript.wellTyped ctx e = true) :
    Model.Miniscript.accepts ctx e = true := by
  rw [accepts_eq_wellTyped]; exact h

/-- every accepted expression is well-typed (base types, properties, argument ranges, context rules, top level B) -/
theorem sound (ctx : Ctx) (e : Ms) (h : Model.Miniscript.accepts ctx e = true) :
    Spec.Miniscript.wellTyped ctx e = true := by
  rw [← accepts_eq_wellTyped]; exact h

theorem types_agree (ctx : Ctx) (e : Ms) (tp : Spec.Miniscript.TP)
    (h : Spec.Miniscript.typeOf ctx (Spec.Miniscript.desugar e) = some tp) : Model.Miniscript.type e = tp.1 := by
  rw [typing_agrees] at h
  split at h
  · simp at h; rw [← h]
  · simp at h

theorem props_agree (ctx : Ctx) (e : Ms) (tp : Spec.Miniscript.TP)
    (h : Spec.Miniscript.typeOf ctx (Spec.Miniscript.desugar e) = some tp) : Model.Miniscript.props ctx e = tp.2 := by
  rw [typing_agrees] at h
  split at h
  · simp at h; rw [← h]
  · simp at h

/-- context rules: `multi`/`sortedmulti` are never accepted in tapscript, `multi_a`/`sortedmulti_a` never in P2WSH
    (at the top level; inside an expression they make `constructible` fail) -/
theorem multi_context (k : Nat) (keys : List Bytes) :
    Model.Miniscript.accepts .tap (.multi .multi k keys) = false
    ∧ Model.Miniscript.accepts .tap (.multi .sortedmulti k keys) = false
    ∧ Model.Miniscript.accepts .wsh (.multi .multi_a k keys) = false
    ∧ Model.Miniscript.accepts .wsh (.multi .sortedmulti_a k keys) = false := by
  simp [Model.Miniscript.accepts, Model.Miniscript.constructible, Gen.Ms.multiTaproot]

/-- `compile()` emits exactly the script the specification assigns — for every expression whose `verify()`
    passes (any base type), in particular for every accepted one -/
theorem compile_eq_template (ctx : Ctx) (e : Ms) (ha : e.argsOk = true)
    (hv : Model.Miniscript.verify ctx e = true) :
    Model.Miniscript.compile e = Spec.Miniscript.scriptBytes e :=
  compile_eq ctx e ha hv

theorem compile_eq_template_of_wellTyped (ctx : Ctx) (e : Ms) (ha : e.argsOk = true)
    (hw : Spec.Miniscript.wellTyped ctx e = true) :
    Model.Miniscript.compile e = Spec.Miniscript.scriptBytes e := by
  have h := complete ctx e hw
  simp only [Model.Miniscript.accepts, Bool.and_eq_true] at h
  exact compile_eq ctx e ha h.1.2

/-- the reported length equals the length of the compiled script — every expression, typed or not -/
theorem len_eq_compiled (e : Ms) (h : e.lensOk = true) :
    Model.Miniscript.len e = (Model.Miniscript.compile e).length :=
  len_eq_compile e h

/-- … and therefore the length of the script the specification assigns -/
theorem len_eq_template_length (ctx : Ctx) (e : Ms) (ha : e.argsOk = true) (hl : e.lensOk = true)
    (hw : Spec.Miniscript.wellTyped ctx e = true) :
    Model.Miniscript.len e = (Spec.Miniscript.scriptBytes e).length := by
  rw [len_eq_compiled e hl, compile_eq_template_of_wellTyped ctx e ha hw]

/-! ### the defects that were repaired (theorems about the old rules; fixes/*.diff) -/

/-- D17: `andor`/`and_n` with X having only `u` (n:older(1): Bzu) or only `d` passed the old check; the table
    demands `Bdu` -/
theorem old_andor_accepted_without_d :
    Model.Miniscript.andorVerifyOld .B { z := true, u := true } .B .B = true
    ∧ Model.Miniscript.andorVerifyOld .B { o := true, n := true, d := true } .B .B = true
    ∧ Spec.Miniscript.andorRule (.B, { z := true, u := true }) (.B, {}) (.B, {}) = none
    ∧ Spec.Miniscript.andorRule (.B, { o := true, n := true, d := true }) (.B, {}) (.B, {}) = none := by
  decide

/-- D18: `t:X` was accepted for X of any type (t:pk(K) with pk(K) : B); `t:X = and_v(X,1)` needs X : V -/
theorem old_t_accepted_non_V :
    Model.Miniscript.wrapVerifyTOld .B {} = true
    ∧ Spec.Miniscript.binRule .and_v (.B, {}) (.B, { z := true, u := true }) = none := by
  decide

/-- D19: `multi` with 21 keys passed; the table has n ≤ 20 -/
theorem old_multi_accepted_21_keys :
    Model.Miniscript.multiVerifyOld 1 21 = true ∧ Spec.Miniscript.multiRule .wsh 1 21 = none := by
  decide

/-- D20: `multi_a` claimed property n (so `j:multi_a(…)` was accepted); the table gives it only d, u -/
theorem old_multi_a_claimed_n :
    Model.Miniscript.multiAPropsOld.n = true
    ∧ Spec.Miniscript.multiARule .tap 1 1 = some (.B, { d := true, u := true })
    ∧ Spec.Miniscript.wrapRule .tap .j (.B, { d := true, u := true }) = none := by
  decide

set_option maxRecDepth 100000 in
/-- D22: `len(multi(…))` was one short from 17 keys on, and `len(key)` was 34 for a 65-byte key -/
theorem old_len_wrong :
    Model.Miniscript.multiLenOld 1 (List.replicate 17 (List.replicate 33 2)) + 1
      = (Model.Miniscript.compile (.multi .multi 1 (List.replicate 17 (List.replicate 33 2)))).length
    ∧ Model.Miniscript.keyLenOld false = 34
    ∧ (Model.Miniscript.pushCompact (List.replicate 65 4)).length = 66 := by
  decide

/-! ### non-vacuity -/

set_option maxRecDepth 100000

def kA : Bytes := List.replicate 33 2
def kB : Bytes := 3 :: List.replicate 32 7
def kC : Bytes := 2 :: List.replicate 32 9
def xA : Bytes := List.replicate 32 2
def xB : Bytes := List.replicate 32 7
def xC : Bytes := List.replicate 32 9

/-- wsh(andor(pk(A),older(1008),pk(B))) — from embit's test-suite -/
def ex1 : Ms := .andor (.key .pk kA) (.time .older 1008) (.key .pk kB)
/-- wsh(and_v(v:pk(A),or_d(pk(B),older(12960)))) -/
def ex2 : Ms := .bin .and_v (.wrap .v (.key .pk kA)) (.bin .or_d (.key .pk kB) (.time .older 12960))
/-- thresh(3,pk(A),s:pk(B),s:pk(C),sdv:older(12960)): valid in tapscript, invalid in P2WSH (d: has u only there) -/
def ex3 (a b c : Bytes) : Ms :=
  .thresh 3 [.key .pk a, .wrap .s (.key .pk b), .wrap .s (.key .pk c),
             .wrap .s (.wrap .d (.wrap .v (.time .older 12960)))]
/-- sortedmulti(2,C,B,A) -/
def ex4 : Ms := .multi .sortedmulti 2 [kB, kC, kA]
/-- t:or_c(pk(A),and_v(v:pk(B),or_c(pk(C),v:hash160(H)))) — from embit's test-suite -/
def ex5 : Ms :=
  .wrap .t (.bin .or_c (.key .pk kA) (.bin .and_v (.wrap .v (.key .pk kB))
    (.bin .or_c (.key .pk kC) (.wrap .v (.hash .hash160 (List.replicate 20 5))))))

example : Spec.Miniscript.wellTyped .wsh ex1 = true ∧ ex1.argsOk = true ∧ ex1.lensOk = true := by decide
example : Spec.Miniscript.wellTyped .wsh ex2 = true ∧ Spec.Miniscript.wellTyped .tap ex2 = true := by decide
example : Spec.Miniscript.wellTyped .tap (ex3 xA xB xC) = true ∧ Spec.Miniscript.wellTyped .wsh (ex3 kA kB kC) = false
    ∧ Model.Miniscript.accepts .tap (ex3 xA xB xC) = true ∧ Model.Miniscript.accepts .wsh (ex3 kA kB kC) = false := by
  decide
example : Spec.Miniscript.wellTyped .wsh ex4 = true ∧ ex4.argsOk = true ∧ ex4.lensOk = true := by decide
example : Spec.Miniscript.wellTyped .wsh ex5 = true ∧ ex5.argsOk = true ∧ ex5.lensOk = true := by decide
/-- the `v:` folding is exercised: CHECKSIG → CHECKSIGVERIFY, EQUAL → EQUALVERIFY -/
example : Model.Miniscript.compile (.wrap .v (.key .pk [1, 2])) = [2, 1, 2, 0xad]
    ∧ Spec.Miniscript.scriptBytes (.wrap .v (.hash .hash160 [9])) = [0x82, 0x01, 0x20, 0x88, 0xa9, 1, 9, 0x88] := by
  decide
/-- an ill-typed expression is rejected by both: s: needs property o, pkh has none -/
example : Model.Miniscript.accepts .wsh (.bin .or_b (.key .pk kA) (.wrap .s (.key .pkh (List.replicate 20 1)))) = false
    ∧ Spec.Miniscript.wellTyped .wsh (.bin .or_b (.key .pk kA) (.wrap .s (.key .pkh (List.replicate 20 1)))) = false := by
  decide

end Embit.Props.C13
