import EmbitModel.Props.C19Facts
import EmbitModel.Proofs.HeapAlias
/-
  C19, deepened — the exclusion behind `facts_safe_partial` made exact, and its witness.

  `facts_safe_partial` says: every extracted site outside the excluded names is safe. Here:
  * the exclusion is EXACTLY the unsafe sites (`unsafe_sites_exactly`): a site of the loaded embit modules is unsafe if
    and only if its name is in `contractMutators` (in-place by documented contract, outside the property) — so no name
    can be dropped from the list, nothing else hides behind it (each name denotes exactly one site:
    `excluded_names_denote_one_site_each`), and NO site is excused as a recorded defect (`knownUnsafe = []`);
  * with the contract mutators removed by name the environment is safe and no history changes an argument
    (`embit_safe`: Part 1 of Props/C19.lean instantiated).

  The library once had such a defect (finding D31: `Descriptor(...)` and `TapTree(...)` assigned `k.taproot` on the caller's
  key objects; repaired by fixes/d31.diff), and the regenerated table has no such site. `d31Regression` are the two records
  the translator emitted for the defective constructors; put back into the table they break `unsafe_sites_exactly` and make
  the environment unsafe, with the history that changes the caller's key (`returning_d31_sites_would_be_caught`).

  Second part — a pattern `Model/Heap.lean` does not cover: THE CALLER EDITS ITS OWN ARGUMENT OBJECT IN PLACE between two
  calls (`Model/HeapAlias.lean`). A keyed memo whose key COPIES the argument's contents answers `f(receiver, argument)`
  after every history, in-place edits included (`copying_keys_safe`); a key that ALIASES the caller's object answers
  from the past after an in-place edit (`aliasing_key_is_stale_after_in_place_edit`) — and only then
  (`aliasing_keys_safe_without_in_place_edits`). The key kinds of embit's keyed memos are extracted
  (`Gen.Alias.memoKeys`: AST of the key expression + a probe that edits the caller's list and its elements in place):
  all copy (`embit_memo_keys_copy`), so `embit_keyed_memos_survive_in_place_edits`.
-/
namespace Embit.Props.C19
open Embit Embit.Heap

set_option maxRecDepth 100000

/-- EXACT: a site is unsafe iff it is a contract mutator (stronger than `facts_safe_partial`, which is the direction
    "outside the list ⇒ safe") -/
theorem unsafe_sites_exactly :
    (Gen.Alias.sites.all fun s => (!s.safe) == contractMutators.contains s.name) = true := by
  decide +kernel

/-- every excluded name denotes exactly one extracted site (no name is stale, none matches several sites), and no name
    is excluded as a recorded defect -/
theorem excluded_names_denote_one_site_each :
    (contractMutators.all fun n => (Gen.Alias.sites.filter (·.name == n)).length == 1) = true
    ∧ knownUnsafe = [] := by
  refine ⟨List.all_eq_true.2 fun n hn => ?_, rfl⟩
  -- a row with an excluded name is unsafe (`unsafe_sites_exactly`): only the unsafe rows are searched
  rw [filter_name_eq unsafe_sites_exactly hn]
  have h : (contractMutators.all fun n =>
      ((Gen.Alias.sites.filter fun s => !s.safe).filter (·.name == n)).length == 1) = true := by decide +kernel
  exact List.all_eq_true.1 h n hn

/-- the records `harness/aliasfacts.py` emitted for the two constructors before the repair of D31 (AST rule: a constructor
    assigning an attribute of objects reached from its arguments; a site of this kind is unsafe whatever the probe says) -/
def d31Regression : List Site := [
  { name := "descriptor.descriptor.Descriptor.__init__[k]", kind := .ctorWritesArgObjects, probe := .notProbed,
    evidence := "k.taproot = ... where k ranges over objects reached from the constructor's arguments" },
  { name := "descriptor.taptree.TapTree.__init__[k]", kind := .ctorWritesArgObjects, probe := .notProbed,
    evidence := "k.taproot = ... where k ranges over objects reached from the constructor's arguments" }]

/-- the library as it would be extracted if the records `extra` came back (contract mutators left out by name) -/
def embitEnvWith (extra : List Site) (f : Nat → List (List Val) → List Val → Val) : Env :=
  { classes := ((Gen.Alias.sites ++ extra).filter inScope).filterMap classOfSite,
    methods := ((Gen.Alias.sites ++ extra).filter inScope).filterMap methodOfSite,
    defaultRef := fun c p => c + p, f := f }

/-- position of a site's method in that environment -/
def methodIndexWith (extra : List Site) (name : String) : Nat :=
  ((((Gen.Alias.sites ++ extra).filter inScope).filter fun s => (methodOfSite s).isSome).map (·.name)).idxOf name

/-- a digest that sees every cell of the argument (`fHash` sums, and the model's in-place write appends a 0) -/
def fSees : Nat → List (List Val) → List Val → Val := fun _ recv a => recv.flatten.sum + 100 * a.length

/-- nothing extra = the extracted environment -/
theorem embitEnvWith_nil (f : Nat → List (List Val) → List Val → Val) : embitEnvWith [] f = embitEnv f := by
  simp [embitEnvWith, embitEnv]

/-- REGRESSION WITNESS (D31 in the heap model): the repaired table has no constructor writing into argument objects;
    if the two D31 records came back, (1) `unsafe_sites_exactly` would be false of the table — the build of the check
    stops —, (2) the environment would not be safe, and (3) the history
    `k = Key(pub)  [newArg]; Descriptor(key=k, taproot=True)  [the constructor as a call on k]` changes the caller's object
    `k`: a call that answered `f … [0]` on `k` before answers `f … [0, 0]` afterwards (different for a digest that reads all
    of `k`) — for both constructors -/
theorem returning_d31_sites_would_be_caught :
    (Gen.Alias.sites.all fun s => match s.kind with | .ctorWritesArgObjects => false | _ => true) = true
    ∧ ((Gen.Alias.sites ++ d31Regression).all fun s => (!s.safe) == contractMutators.contains s.name) = false
    ∧ (embitEnvWith d31Regression fSees).noArgMutation = false
    ∧ (d31Regression.all fun site =>
        let env := embitEnvWith d31Regression fSees
        let m := methodIndexWith d31Regression site.name
        let st := run env (init 64 fun _ => []) [.construct 0 [], .newArg [0]]
        let st' := step env st (.query 0 m 0)
        m < env.methods.length && argObs st 0 == [0] && argObs st' 0 == [0, 0]
          && answer env st 0 0 0 != answer env st' 0 0 0) = true := by
  -- names are compared for the two extra rows only: what is kept of the table itself is known (`unsafe_sites_exactly`)
  have hsites : Gen.Alias.sites.filter inScope = Gen.Alias.sites.filter Site.safe :=
    filter_eq_filter_safe knownUnsafe_is_empty.2 unsafe_sites_exactly
  have hextra : d31Regression.filter inScope = d31Regression :=
    List.filter_eq_self.2 (List.all_eq_true.1 (by decide +kernel))
  refine ⟨by decide +kernel, ?_, ?_, ?_⟩
  · rw [List.all_append, unsafe_sites_exactly]
    decide +kernel
  · simp only [embitEnvWith, List.filter_append, hsites, hextra]
    decide +kernel
  · simp only [embitEnvWith, methodIndexWith, List.filter_append, hsites, hextra]
    decide +kernel

/-- SAFE (no exemption for a recorded defect): in every history over the extracted constructors and methods other than the
    contract mutators no argument object the caller holds is ever changed, objects are independent, and — `embitEnv`
    excludes nothing else — the methods are those of every site that is not a contract mutator -/
theorem embit_safe (f : Nat → List (List Val) → List Val → Val) (d : Nat) (dflt : Nat → List Val)
    (h : List Op) :
    (∀ k, k < (run (embitEnv f) (init d dflt) h).pool.length → ∀ ops,
        argObs (run (embitEnv f) (run (embitEnv f) (init d dflt) h) ops) k = argObs (run (embitEnv f) (init d dflt) h) k)
    ∧ (∀ i j fld v, i ≠ j → j < (run (embitEnv f) (init d dflt) h).objs.length →
        obs (step (embitEnv f) (run (embitEnv f) (init d dflt) h) (.mutate i fld v)) j
          = obs (run (embitEnv f) (init d dflt) h) j)
    ∧ (embitEnv f).methods
        = (Gen.Alias.sites.filter fun s => !contractMutators.contains s.name).filterMap methodOfSite := by
  have hsafe := embit_descriptors_safe f
  have hr : Reachable (embitEnv f) (run (embitEnv f) (init d dflt) h) := ⟨d, dflt, h, rfl⟩
  refine ⟨fun k hk ops => no_arg_mutation (embitEnv f) hsafe.1 hsafe.2.2 _ hr k hk ops,
    fun i j fld v hij hj => (independence (embitEnv f) hsafe.1 _ hr i j fld v hij hj).1, ?_⟩
  show (Gen.Alias.sites.filter inScope).filterMap methodOfSite = _
  have hf : Gen.Alias.sites.filter inScope = Gen.Alias.sites.filter fun s => !contractMutators.contains s.name :=
    List.filter_congr fun s _ => knownUnsafe_is_empty.2 s
  rw [hf]

/-- non-vacuity: the safe environment has classes and methods, none of them mutating; with the D31 records back there
    would be two more methods, the only mutating ones -/
example : 0 < (embitEnv fHash).classes.length ∧ 0 < (embitEnv fHash).methods.length
    ∧ ((embitEnv fHash).methods.filter (·.mutatesArg)).length = 0
    ∧ (embitEnvWith d31Regression fHash).methods.length = (embitEnv fHash).methods.length + 2
    ∧ ((embitEnvWith d31Regression fHash).methods.filter (·.mutatesArg)).length = 2 := by
  have hsites : Gen.Alias.sites.filter inScope = Gen.Alias.sites.filter Site.safe :=
    filter_eq_filter_safe knownUnsafe_is_empty.2 unsafe_sites_exactly
  have hextra : d31Regression.filter inScope = d31Regression :=
    List.filter_eq_self.2 (List.all_eq_true.1 (by decide +kernel))
  simp only [embitEnv, embitEnvWith, List.filter_append, hsites, hextra]
  decide +kernel

/-! ### keyed memos and in-place edits of the caller's argument objects -/

section alias
open Embit.HeapAlias

/-- COPYING KEYS ARE SAFE: if every keyed memo builds its key from a copy of the argument's contents, then after ANY
    history — the caller may edit its argument objects in place at any time and hand the same object in again — every
    query answers `f m (contents of the receiver) (present contents of the argument)` -/
theorem copying_keys_safe (env : HeapAlias.Env) (hc : env.keysCopy = true) (h : List HeapAlias.Op) (i m k : Nat) :
    HeapAlias.answer env (HeapAlias.run env HeapAlias.init h) i m k
      = env.f m ((HeapAlias.run env HeapAlias.init h).recv i) ((HeapAlias.run env HeapAlias.init h).args k) :=
  answer_of_memoOk env _ (run_memoOk env h _ (Or.inl hc) (memoOk_init env)) i m k

/-- aliasing keys are harmless exactly as long as the caller never edits an argument object in place -/
theorem aliasing_keys_safe_without_in_place_edits (env : HeapAlias.Env) (h : List HeapAlias.Op)
    (hne : (h.all fun o => !o.isEdit) = true) (i m k : Nat) :
    HeapAlias.answer env (HeapAlias.run env HeapAlias.init h) i m k
      = env.f m ((HeapAlias.run env HeapAlias.init h).recv i) ((HeapAlias.run env HeapAlias.init h).args k) :=
  answer_of_memoOk env _ (run_memoOk env h _ (Or.inr hne) (memoOk_init env)) i m k

def fSum : Nat → List HeapAlias.Val → List HeapAlias.Val → HeapAlias.Val := fun _ recv a => recv.sum + 100 * a.sum

/-- WITNESS: `key = amounts` (the list itself). `t.digest(vals)`, then `vals[1] = 45` in place, then `t.digest(vals)`
    with the same list object: the stored key is that object, it compares equal to itself, and the answer is the one
    for the OLD contents (302) instead of the present ones (4602); with a copying key the second answer is right -/
theorem aliasing_key_is_stale_after_in_place_edit :
    let hist : List HeapAlias.Op := [.newObj [2], .newArg [1, 2], .query 0 0 0, .editArg 0 [1, 45]]
    let alias : HeapAlias.Env := { methods := [.aliases], f := fSum }
    let copy : HeapAlias.Env := { methods := [.copies], f := fSum }
    HeapAlias.answer alias (HeapAlias.run alias HeapAlias.init hist) 0 0 0 = 302
    ∧ alias.f 0 ((HeapAlias.run alias HeapAlias.init hist).recv 0) ((HeapAlias.run alias HeapAlias.init hist).args 0) = 4602
    ∧ HeapAlias.answer copy (HeapAlias.run copy HeapAlias.init hist) 0 0 0 = 4602
    ∧ alias.keysCopy = false ∧ copy.keysCopy = true := by
  decide

/-- a second way the aliasing key goes wrong: ANOTHER argument object with the old contents — the stored reference now
    compares as the edited contents, so the memo misses where it should hit and (worse) hits where it should miss -/
theorem aliasing_key_hits_for_a_different_argument :
    let alias : HeapAlias.Env := { methods := [.aliases], f := fSum }
    let hist : List HeapAlias.Op := [.newObj [2], .newArg [1, 2], .newArg [7, 7], .query 0 0 0, .editArg 0 [7, 7]]
    HeapAlias.answer alias (HeapAlias.run alias HeapAlias.init hist) 0 0 1 = 302
    ∧ alias.f 0 ((HeapAlias.run alias HeapAlias.init hist).recv 0) ((HeapAlias.run alias HeapAlias.init hist).args 1) = 1402 := by
  decide

/-- the keyed memos of the loaded embit modules, as extracted: one method per row of `Gen.Alias.memoKeys` -/
def embitMemoEnv (f : Nat → List HeapAlias.Val → List HeapAlias.Val → HeapAlias.Val) : HeapAlias.Env :=
  { methods := Gen.Alias.memoKeys.map fun r => if r.2 then .copies else .aliases, f := f }

/-- every keyed memo of embit stores a COPY of the argument's contents as its key (AST of the key expression and the
    in-place probe, harness/aliasfacts.py), and the table covers exactly the `memoKeyed` sites -/
theorem embit_memo_keys_copy :
    (Gen.Alias.memoKeys.all fun r => r.2) = true
    ∧ Gen.Alias.memoKeys.map (·.1) = (Gen.Alias.sites.filter fun s => s.kind == .memoKeyed).map (·.name)
    ∧ 0 < Gen.Alias.memoKeys.length := by
  refine ⟨?_, ?_, ?_⟩ <;> decide +kernel

/-- … hence embit's keyed memos answer from the present contents of receiver and argument after every history, whatever
    the caller does to its own argument lists between the calls -/
theorem embit_keyed_memos_survive_in_place_edits (f : Nat → List HeapAlias.Val → List HeapAlias.Val → HeapAlias.Val)
    (h : List HeapAlias.Op) (i m k : Nat) :
    HeapAlias.answer (embitMemoEnv f) (HeapAlias.run (embitMemoEnv f) HeapAlias.init h) i m k
      = f m ((HeapAlias.run (embitMemoEnv f) HeapAlias.init h).recv i) ((HeapAlias.run (embitMemoEnv f) HeapAlias.init h).args k) := by
  have hc : (embitMemoEnv f).keysCopy = true := by
    have h1 := embit_memo_keys_copy.1
    simp only [List.all_eq_true] at h1
    simp only [HeapAlias.Env.keysCopy, embitMemoEnv, List.all_eq_true, List.mem_map]
    rintro x ⟨r, hr, rfl⟩
    simp [h1 r hr]
  exact copying_keys_safe (embitMemoEnv f) hc h i m k

/-- non-vacuity: a history over the extracted methods with in-place edits, distinct objects and arguments -/
example :
    let env := embitMemoEnv fSum
    let st := HeapAlias.run env HeapAlias.init
      [.newObj [2], .newObj [3], .newArg [1, 2], .query 0 0 0, .editArg 0 [1, 45], .query 0 0 0, .mutate 0 5, .query 1 2 0]
    HeapAlias.answer env st 0 0 0 = 4607 ∧ HeapAlias.answer env st 1 2 0 = 4603 ∧ st.nobjs = 2 ∧ st.nargs = 1 := by
  decide +kernel

end alias

end Embit.Props.C19
