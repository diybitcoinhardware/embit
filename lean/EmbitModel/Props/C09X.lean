import EmbitModel.Proofs.Bip32Path
import EmbitModel.Proofs.KeyTables
import EmbitModel.Proofs.KeyToyCurve
import EmbitModel.Props.C09
/-
  C09X — path-level statements for C09 (HD derivation follows BIP32 and commutes with neutering).

  `Props/C09.lean` proves the single step (`child` = CKDpriv / CKDpub with bookkeeping) and `derive` = fold of
  `child`. Here the two are composed, by induction over paths of ANY length:

  * `derive k p` IS the BIP32 fold `CKDpriv(CKDpriv(…(m, a), b) …)` resp. `CKDpub(…)` along `p`: key, chain code,
    depth, parent fingerprint, child number, version (`Spec/Bip32Path.lean` = `derivePriv` / `derivePub` of the
    spec plus the "Serialization format" bookkeeping), failure cases included;
  * a path that is not representable (an element outside [0, 2^32), or leading beyond depth 255) is refused;
  * neutering commutes with derivation along every non-hardened path (model level, and BIP32's own
    `N(CKDpriv(…)) = CKDpub(N(…))` at spec level).

  Same conventions as C09: arbitrary curve / HMAC / HASH160 / text layer; `EcLaws E`, the hash output lengths and
  `VersionSays` (discharged for the generated NETWORKS table by `C09.version_table_says`) are explicit hypotheses.
-/
namespace Embit.Props.C09X
open Embit Embit.Keys Embit.Spec

variable {E : EcOps}

/-- the extended private key (k, c) held by an HD key object -/
def xprvOf (k : HDKey E) : Option Bip32.XPrv :=
  match k.key with
  | .priv pk => some ⟨pk.secret, k.chainCode⟩
  | .pub _ => none

/-- the extended public key (K, c) held by an HD key object -/
def xpubOf (k : HDKey E) : Option (Bip32.XPub E) :=
  match k.key with
  | .pub pb => some ⟨pb.point, k.chainCode⟩
  | .priv _ => none

/-- private start key: for every path of indices in [0, 2^32) that stays within depth 255, `derive` is the BIP32
    fold of CKDpriv with the serialization bookkeeping — it fails exactly when the fold hits an invalid key
    (I_L ≥ n or k_i = 0), and otherwise returns the object holding k_i, c_i, depth + |p|, the fingerprint of the
    last parent and the last index (for the empty path: the start key itself, with its own network attribute) -/
theorem derive_eq_spec_priv (L : EcLaws E) (env : Env) (hlen : ∀ key msg, (env.hmac512 key msg).length = 64)
    (hh160 : ∀ msg, 4 ≤ (env.hash160 msg).length)
    (k : HDKey E) (pk : PrivateKey) (hk : k.key = .priv pk) (hc : pk.compressed = true)
    (hv : seckeyValid E pk.secret = true) (hA : VersionSays env k.version tPrv)
    (p : List Int) (hp : PathInRange p) (hd : k.depth + p.length ≤ 255) :
    k.derive env p =
      (Bip32.deriveNodePrv E env.hmac512 env.hash160
          ⟨⟨pk.secret, k.chainCode⟩, k.depth, k.fingerprint, k.childNumber⟩ (p.map Int.toNat)).map
        (hdOfPrv k.version (if p = [] then pk.network else Generated.privDefaultNet)) :=
  derive_spec_priv L env hlen hh160 p k pk hk hc hv hA hp hd

/-- public start key: the same with CKDpub (a hardened element makes both sides fail) -/
theorem derive_eq_spec_pub (L : EcLaws E) (env : Env) (hlen : ∀ key msg, (env.hmac512 key msg).length = 64)
    (hh160 : ∀ msg, 4 ≤ (env.hash160 msg).length)
    (k : HDKey E) (pb : PublicKey E) (hk : k.key = .pub pb) (hc : pb.compressed = true)
    (hA : VersionSays env k.version tPub)
    (p : List Int) (hp : PathInRange p) (hd : k.depth + p.length ≤ 255) :
    k.derive env p =
      (Bip32.deriveNodePub E env.hmac512 env.hash160
          ⟨⟨pb.point, k.chainCode⟩, k.depth, k.fingerprint, k.childNumber⟩ (p.map Int.toNat)).map
        (hdOfPub k.version) :=
  derive_spec_pub L env hlen hh160 p k pb hk hc hA hp hd

/-- the key component of the fold with bookkeeping is `Spec.Bip32.derivePriv`, and the depth it records is the
    start depth plus the path length -/
theorem spec_node_key_priv (hmac : Bytes → Bytes → Bytes) (h160 : Bytes → Bytes) (nd : Bip32.NodePrv) (p : List Nat) :
    (Bip32.deriveNodePrv E hmac h160 nd p).map (·.x) = Bip32.derivePriv E hmac nd.x p :=
  deriveNodePrv_x hmac h160 p nd

theorem spec_node_key_pub (hmac : Bytes → Bytes → Bytes) (h160 : Bytes → Bytes) (nd : Bip32.NodePub E) (p : List Nat) :
    (Bip32.deriveNodePub E hmac h160 nd p).map (·.x) = Bip32.derivePub E hmac nd.x p :=
  deriveNodePub_x hmac h160 p nd

theorem spec_node_depth_priv (hmac : Bytes → Bytes → Bytes) (h160 : Bytes → Bytes) (nd r : Bip32.NodePrv)
    (p : List Nat) (h : Bip32.deriveNodePrv E hmac h160 nd p = some r) : r.depth = nd.depth + p.length :=
  deriveNodePrv_depth hmac h160 p nd r h

theorem spec_node_depth_pub (hmac : Bytes → Bytes → Bytes) (h160 : Bytes → Bytes) (nd r : Bip32.NodePub E)
    (p : List Nat) (h : Bip32.deriveNodePub E hmac h160 nd p = some r) : r.depth = nd.depth + p.length :=
  deriveNodePub_depth hmac h160 p nd r h

/-- without the bookkeeping, private half: key and chain code of `derive k p` are
    `Spec.Bip32.derivePriv` along `p` (failure ⇔ failure) -/
theorem derive_eq_spec (L : EcLaws E) (env : Env) (hlen : ∀ key msg, (env.hmac512 key msg).length = 64)
    (hh160 : ∀ msg, 4 ≤ (env.hash160 msg).length)
    (k : HDKey E) (pk : PrivateKey) (hk : k.key = .priv pk) (hc : pk.compressed = true)
    (hv : seckeyValid E pk.secret = true) (hA : VersionSays env k.version tPrv)
    (p : List Int) (hp : PathInRange p) (hd : k.depth + p.length ≤ 255) :
    (k.derive env p).bind xprvOf = Bip32.derivePriv E env.hmac512 ⟨pk.secret, k.chainCode⟩ (p.map Int.toNat) := by
  have hx := deriveNodePrv_x (E := E) env.hmac512 env.hash160 (p.map Int.toNat)
    ⟨⟨pk.secret, k.chainCode⟩, k.depth, k.fingerprint, k.childNumber⟩
  rw [derive_spec_priv L env hlen hh160 p k pk hk hc hv hA hp hd, ← hx]
  cases Bip32.deriveNodePrv E env.hmac512 env.hash160
      ⟨⟨pk.secret, k.chainCode⟩, k.depth, k.fingerprint, k.childNumber⟩ (p.map Int.toNat) <;> rfl

/-- … and the public half: `Spec.Bip32.derivePub` -/
theorem derive_eq_spec_pubkey (L : EcLaws E) (env : Env) (hlen : ∀ key msg, (env.hmac512 key msg).length = 64)
    (hh160 : ∀ msg, 4 ≤ (env.hash160 msg).length)
    (k : HDKey E) (pb : PublicKey E) (hk : k.key = .pub pb) (hc : pb.compressed = true)
    (hA : VersionSays env k.version tPub)
    (p : List Int) (hp : PathInRange p) (hd : k.depth + p.length ≤ 255) :
    (k.derive env p).bind xpubOf = Bip32.derivePub E env.hmac512 ⟨pb.point, k.chainCode⟩ (p.map Int.toNat) := by
  have hx := deriveNodePub_x (E := E) env.hmac512 env.hash160 (p.map Int.toNat)
    ⟨⟨pb.point, k.chainCode⟩, k.depth, k.fingerprint, k.childNumber⟩
  rw [derive_spec_pub L env hlen hh160 p k pb hk hc hA hp hd, ← hx]
  cases Bip32.deriveNodePub E env.hmac512 env.hash160
      ⟨⟨pb.point, k.chainCode⟩, k.depth, k.fingerprint, k.childNumber⟩ (p.map Int.toNat) <;> rfl

/-! ### paths that cannot be represented are refused (the two hypotheses above are sharp) -/

/-- an element outside [0, 2^32) anywhere in the path: refused, for every key -/
theorem derive_index_range (env : Env) (k : HDKey E) (p : List Int) (h : ∃ i ∈ p, i < 0 ∨ 2 ^ 32 ≤ i) :
    k.derive env p = none :=
  derive_out_of_range env p k h

/-- a non-empty path leading beyond depth 255: refused, for every key -/
theorem derive_depth_overflow (env : Env) (k : HDKey E) (p : List Int) (hp : p ≠ []) (h : 255 < k.depth + p.length) :
    k.derive env p = none :=
  derive_too_deep env p k h hp

/-- BIP32 itself: `N(CKDpriv(…CKDpriv(m, a)…, z)) = CKDpub(…CKDpub(N(m), a)…, z)` for non-hardened indices,
    invalid cases included — a consequence of the group laws -/
theorem spec_neuter_commutes (L : EcLaws E) (hmac : Bytes → Bytes → Bytes) (m : Bip32.XPrv) (p : List Nat)
    (hp : ∀ i ∈ p, i < 2 ^ 31) :
    (Bip32.derivePriv E hmac m p).map (Bip32.N E) = Bip32.derivePub E hmac (Bip32.N E m) p :=
  N_derive L hmac p hp m

/-- … and the bookkeeping of the two folds coincides (depth, parent fingerprint, child number) -/
theorem spec_neuter_commutes_node (L : EcLaws E) (hmac : Bytes → Bytes → Bytes) (h160 : Bytes → Bytes)
    (nd : Bip32.NodePrv) (p : List Nat) (hp : ∀ i ∈ p, i < 2 ^ 31) :
    (Bip32.deriveNodePrv E hmac h160 nd p).map (Bip32.NodePrv.neuter E)
      = Bip32.deriveNodePub E hmac h160 (nd.neuter E) p :=
  neuter_deriveNode L hmac h160 p hp nd

/-- the model: `derive(p).to_public() = to_public().derive(p)` for every path of non-hardened indices, of any
    length — key, chain code, depth, parent fingerprint, child number, version, and the failure cases (invalid
    child, depth 255, version without public counterpart) coincide -/
theorem neuter_commutes_path (L : EcLaws E) (env : Env) (hlen : ∀ key msg, (env.hmac512 key msg).length = 64)
    (hh160 : ∀ msg, 4 ≤ (env.hash160 msg).length)
    (k : HDKey E) (pk : PrivateKey) (hk : k.key = .priv pk) (hc : pk.compressed = true)
    (hv : seckeyValid E pk.secret = true)
    (hcc : k.chainCode.length = 32) (hfp : k.fingerprint.length = 4) (hcn : k.childNumber < 2 ^ 32)
    (hA : VersionSays env k.version tPrv)
    (hB : ∀ pv, detectPubVersion k.version = some pv → VersionSays env pv tPub)
    (p : List Int) (hp : PathSoft p) :
    (k.derive env p).bind (fun c => c.toPublic env) = (k.toPublic env).bind (fun K => K.derive env p) :=
  neuter_commutes_path_gen L env hlen hh160 k.version hA hB p k pk hk hc hv hcc hfp hcn rfl hp

/-- the same for the real Base58Check codec (any 4-byte checksum function) and every private SLIP-132 version of
    the generated NETWORKS table: no hypothesis about the text layer is left -/
theorem neuter_commutes_path_table (L : EcLaws E) (env : Env) (dsha : Bytes → Bytes) (hd : ∀ b, 4 ≤ (dsha b).length)
    (henc : env.b58enc = B58.encodeCheck dsha) (hlen : ∀ key msg, (env.hmac512 key msg).length = 64)
    (hh160 : ∀ msg, 4 ≤ (env.hash160 msg).length)
    (k : HDKey E) (pk : PrivateKey) (hk : k.key = .priv pk) (hc : pk.compressed = true)
    (hv : seckeyValid E pk.secret = true)
    (hcc : k.chainCode.length = 32) (hfp : k.fingerprint.length = 4) (hcn : k.childNumber < 2 ^ 32)
    (net : Generated.KeyNet) (hn : net ∈ Generated.keyNets) (e : String × Bytes × Bool) (he : e ∈ net.versions)
    (hprv : e.2.2 = true) (hver : k.version = e.2.1) (p : List Int) (hp : PathSoft p) :
    (k.derive env p).bind (fun c => c.toPublic env) = (k.toPublic env).bind (fun K => K.derive env p) := by
  obtain ⟨hA, hB⟩ := table_pub_says env dsha hd henc net hn e he hprv
  rw [← hver] at hA hB
  exact neuter_commutes_path_gen L env hlen hh160 k.version hA hB p k pk hk hc hv hcc hfp hcn rfl hp

/-! ### non-vacuity (toy curve Z/7 and the toy environment of C09) -/

open Embit.Props.C09 in
/-- the hypotheses hold for the toy key; the path [0] succeeds (k = 5) and the spec fold agrees -/
example : PathInRange [0] ∧ exKey.depth + [(0:Int)].length ≤ 255 := by
  refine ⟨?_, by decide⟩
  intro i hi; simp at hi; subst hi; decide
open Embit.Props.C09 in
example : ((exKey.derive exEnv [0]).bind xprvOf).map (·.k) = some 5 := by decide
open Embit.Props.C09 in
example : (Bip32.derivePriv toy exEnv.hmac512 ⟨3, exKey.chainCode⟩ [0]).map (·.k) = some 5 := by decide
open Embit.Props.C09 in
/-- the next step is BIP32's invalid case k_i = 0: both sides fail -/
example : (exKey.derive exEnv [0, 1]).isSome = false ∧
    (Bip32.derivePriv toy exEnv.hmac512 ⟨3, exKey.chainCode⟩ [0, 1]).isSome = false := by decide
open Embit.Props.C09 in
/-- a two-step path from 1: 1 → 3 → 5; derive-then-neuter = neuter-then-derive, and both exist -/
example : let k1 : HDKey toy := { exKey with key := .priv ⟨1, true, 0⟩ }
    ((k1.derive exEnv [0, 7]).bind (fun c => c.toPublic exEnv)).isSome = true ∧
    ((k1.toPublic exEnv).bind (fun K => K.derive exEnv [0, 7])).isSome = true := by decide
example : PathSoft [0, 7] := by
  intro i hi; simp at hi; rcases hi with rfl | rfl <;> decide
open Embit.Props.C09 in
/-- a public start key derives along a public path -/
example : let K : HDKey toy := { exKey with key := .pub ⟨toy.mulG 1, true⟩, version := [0x04, 0x88, 0xb2, 0x1e] }
    ((K.derive exEnv [0, 7]).bind xpubOf).isSome = true := by decide
open Embit.Props.C09 in
/-- the two refusal theorems have instances -/
example : exKey.derive exEnv [0, -1] = none := derive_index_range _ _ _ ⟨-1, by simp, Or.inl (by decide)⟩
open Embit.Props.C09 in
example : ({ exKey with depth := 255 } : HDKey toy).derive exEnv [0] = none :=
  derive_depth_overflow _ _ _ (by simp) (by decide)

end Embit.Props.C09X
