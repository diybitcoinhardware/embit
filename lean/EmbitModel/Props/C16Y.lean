import EmbitModel.Props.C16
import EmbitModel.Proofs.Slip39Generate
import EmbitModel.Proofs.Slip39Eval
/-
  C16 (audit item A11, issues I-16.1 / I-16.2) — the hypotheses that were never discharged.

  1. `generate_shares` SUCCEEDS for every valid parameter set and every sufficiently long tape of random bytes; the
     exact number of `randint` draws is stated (`generate_draws`) and the success condition is an equivalence
     (`generate_succeeds_iff`), so `C16.generate_then_recover` / `C16.n_distinct_shares` are no longer conditional on an
     unexplained success hypothesis (`generate_then_recover_total`, `n_distinct_shares_total`).
  2. One kernel-evaluated run generate → recover (2-of-3, 16-byte secret, toy primitives).
  3. What `C16.mixed_sets_refused` does NOT say: at threshold 1 SLIP-0039 has no digest share, so two header-identical
     shares of DIFFERENT secrets are accepted and one of the two secrets is returned
     (`mixed_threshold_one_returns_first`, `mixed_threshold_one_generated`). This is the behaviour of the standard, not
     a defect of embit; the only mixes refused at threshold 1 are those the header / index checks catch
     (`mixed_threshold_one_same_index_refused`, `C16.mixed_sets_refused`).

  No secrecy statement is made anywhere in C16: "fewer shares never yield a secret" is proved as REFUSAL
  (`C16.fewer_refused`), not as independence of k − 1 shares from the secret.
-/
namespace Embit.Props.C16Y
open Embit Embit.Model.Slip39

/-! ### the tape -/

/-- **exact number of `randint` draws of `generate_shares`** for a secret of `L` bytes and threshold `k`:
    one draw for the identifier (`randint(0, 32767)`); for k ≥ 2 then `L − 4` bytes for the digest share's random part
    and `L` bytes for each of the `k − 2` random shares; nothing more for k = 1 (every share is the encrypted secret).
    k = 1: 1;  k = 2: L − 3;  k ≥ 2 in general: 1 + (L − 4) + (k − 2)·L.  `n` does not matter. -/
theorem generate_draws (L k : Nat) :
    generateDraws L k = 1 + splitDraws L k ∧
    splitDraws L k = (if k = 1 then 0 else (L - 4) + (k - 2) * L) ∧
    generateDraws L 1 = 1 ∧ generateDraws 16 2 = 13 ∧ generateDraws 32 2 = 29 ∧ generateDraws 16 3 = 29 ∧
    generateDraws 32 16 = 477 :=
  ⟨rfl, rfl, rfl, rfl, rfl, rfl, rfl⟩

/-- **`generate_shares` succeeds** for every 16- or 32-byte secret, every 1 ≤ k ≤ n ≤ 16, every passphrase and
    exponent, whenever the tape starts with an identifier below 2^15 followed by at least `splitDraws` entries, the
    first `splitDraws` of them bytes (< 256; later entries are never looked at) — for every PBKDF2 returning the
    requested length and every HMAC with ≥ 4 output bytes (the hypotheses of `C16.generate_then_recover`) -/
theorem generate_succeeds (P : Prims) (hF : ∀ pw s it n, (P.pbkdf2 pw s it n).length = n)
    (hH : ∀ key msg, 4 ≤ (P.hmac key msg).length)
    (secret : Bytes) (k n : Nat) (pass : Bytes) (e id : Nat) (rest : List Nat)
    (hsz : secret.length = 16 ∨ secret.length = 32) (hk : 1 ≤ k) (hkn : k ≤ n) (hn : n ≤ 16) (hid : id < 2 ^ 15)
    (hlen : (if k = 1 then 0 else (secret.length - 4) + (k - 2) * secret.length) ≤ rest.length)
    (hbytes : ∀ t ∈ rest.take (if k = 1 then 0 else (secret.length - 4) + (k - 2) * secret.length), t < 256) :
    ∃ ms, generateShares P secret k n pass e (id :: rest) = some ms :=
  Option.isSome_iff_exists.mp
    ((generateShares_isSome_iff P hF hH secret k n pass e (id :: rest)).mpr
      ⟨hsz, hk, hkn, hn, id, rest, rfl, by omega, hlen, hbytes⟩)

/-- … and ONLY then: the model of `generate_shares` returns shares if and only if the secret has 16 or 32 bytes,
    1 ≤ k ≤ n ≤ 16, the first draw is below 65 536 (`id.to_bytes(2, "big")`; the caller's `randint(0, 32767)` gives
    < 2^15) and the next `splitDraws` draws exist and are bytes.  In particular a tape one entry short fails, so the
    count of `generate_draws` is exact; the exponent is not constrained by the model (CPython's PBKDF2 refuses
    iteration counts ≥ 2^31, i.e. exponents ≥ 20 — the primitives are parameters here). -/
theorem generate_succeeds_iff (P : Prims) (hF : ∀ pw s it n, (P.pbkdf2 pw s it n).length = n)
    (hH : ∀ key msg, 4 ≤ (P.hmac key msg).length)
    (secret : Bytes) (k n : Nat) (pass : Bytes) (e : Nat) (tape : List Nat) :
    (generateShares P secret k n pass e tape).isSome ↔
      ((secret.length = 16 ∨ secret.length = 32) ∧ 1 ≤ k ∧ k ≤ n ∧ n ≤ 16 ∧
       ∃ id rest, tape = id :: rest ∧ id < 65536 ∧ splitDraws secret.length k ≤ rest.length ∧
         ∀ t ∈ rest.take (splitDraws secret.length k), t < 256) :=
  generateShares_isSome_iff P hF hH secret k n pass e tape

/-- a tape shorter than `generateDraws` makes `generate_shares` fail (the injected `randint` runs dry) -/
theorem generate_short_tape_fails (P : Prims) (hF : ∀ pw s it n, (P.pbkdf2 pw s it n).length = n)
    (hH : ∀ key msg, 4 ≤ (P.hmac key msg).length)
    (secret : Bytes) (k n : Nat) (pass : Bytes) (e : Nat) (tape : List Nat)
    (hshort : tape.length < generateDraws secret.length k) : generateShares P secret k n pass e tape = none := by
  cases h : generateShares P secret k n pass e tape with
  | none => rfl
  | some ms =>
    obtain ⟨_, _, _, _, id, rest, rfl, _, hl, _⟩ :=
      (generateShares_isSome_iff P hF hH secret k n pass e tape).mp (by rw [h]; rfl)
    simp only [generateDraws, List.length_cons] at hshort
    omega

/-- the same for the raw `split_secret` (no hypothesis on the primitives) -/
theorem split_succeeds_iff (P : Prims) (secret : Bytes) (k n : Nat) (tape : List Nat) :
    (splitSecret P secret k n tape).isSome ↔
      (1 ≤ k ∧ k ≤ n ∧ n ≤ 16 ∧ (secret.length = 16 ∨ secret.length = 32) ∧
       splitDraws secret.length k ≤ tape.length ∧ ∀ t ∈ tape.take (splitDraws secret.length k), t < 256) :=
  splitSecret_isSome_iff P secret k n tape

/-! ### the pipeline theorems of `Props/C16.lean` without the success hypothesis -/

/-- **generate, then recover — unconditional**: for valid parameters and a sufficient tape `generate_shares` returns
    n pairwise distinct mnemonics, and `recover_mnemonic` on ANY ≥ k distinct ones of them returns the secret -/
theorem generate_then_recover_total (P : Prims) (hF : ∀ pw s it n, (P.pbkdf2 pw s it n).length = n)
    (hH : ∀ key msg, 4 ≤ (P.hmac key msg).length)
    (secret : Bytes) (k n : Nat) (pass : Bytes) (e id : Nat) (rest : List Nat)
    (hsz : secret.length = 16 ∨ secret.length = 32) (hk : 1 ≤ k) (hkn : k ≤ n) (hn : n ≤ 16) (hid : id < 2 ^ 15)
    (he : e < 32)
    (hlen : (if k = 1 then 0 else (secret.length - 4) + (k - 2) * secret.length) ≤ rest.length)
    (hbytes : ∀ t ∈ rest.take (if k = 1 then 0 else (secret.length - 4) + (k - 2) * secret.length), t < 256) :
    ∃ ms, generateShares P secret k n pass e (id :: rest) = some ms ∧ ms.length = n ∧ ms.Nodup ∧
      ∀ sub : List (List Nat), (∀ m ∈ sub, m ∈ ms) → sub.Nodup → k ≤ sub.length →
        recoverShares P sub pass = some secret := by
  obtain ⟨ms, hms⟩ := generate_succeeds P hF hH secret k n pass e id rest hsz hk hkn hn hid hlen hbytes
  have hid' : ∀ id' rest', id :: rest = id' :: rest' → id' < 2 ^ 15 := by
    intro id' rest' h; rw [← (List.cons.inj h).1]; exact hid
  obtain ⟨h1, h2⟩ := C16.n_distinct_shares P hH secret k n pass e _ ms hms hid' he
  exact ⟨ms, hms, h1, h2, fun sub hsub hnd hks =>
    C16.generate_then_recover P hF hH secret k n pass e _ ms hms hid' he sub hsub hnd hks⟩

/-- **splitting yields exactly n pairwise distinct share mnemonics — unconditional** -/
theorem n_distinct_shares_total (P : Prims) (hF : ∀ pw s it n, (P.pbkdf2 pw s it n).length = n)
    (hH : ∀ key msg, 4 ≤ (P.hmac key msg).length)
    (secret : Bytes) (k n : Nat) (pass : Bytes) (e id : Nat) (rest : List Nat)
    (hsz : secret.length = 16 ∨ secret.length = 32) (hk : 1 ≤ k) (hkn : k ≤ n) (hn : n ≤ 16) (hid : id < 2 ^ 15)
    (he : e < 32)
    (hlen : (if k = 1 then 0 else (secret.length - 4) + (k - 2) * secret.length) ≤ rest.length)
    (hbytes : ∀ t ∈ rest.take (if k = 1 then 0 else (secret.length - 4) + (k - 2) * secret.length), t < 256) :
    ∃ ms, generateShares P secret k n pass e (id :: rest) = some ms ∧ ms.length = n ∧ ms.Nodup := by
  obtain ⟨ms, h, h1, h2, _⟩ :=
    generate_then_recover_total P hF hH secret k n pass e id rest hsz hk hkn hn hid he hlen hbytes
  exact ⟨ms, h, h1, h2⟩

/-! ### threshold 1: what "mixed sets are refused" cannot cover -/

/-- **mixed sets at threshold 1 return the first secret — by design of the standard.**  SLIP-0039 adds the digest
    share only for thresholds ≥ 2; at threshold 1 every share carries the (encrypted) secret itself and there is
    nothing to check it against: no implementation can detect a foreign share by a digest there (a single foreign
    share with a known header is simply a valid 1-of-n share of another secret).  Model of
    `ShareSet([s1, s2]).recover(passphrase)` (slip39.py: `share_data.append((i, group[0].bytes))`,
    `return self.decrypt(share_data[0][1], passphrase)`): two shares with the same identifier, exponent, group
    threshold 1, group count, length and member threshold 1, whose VALUES ARE ARBITRARY (in particular different,
    i.e. belonging to different secrets), are accepted as long as their (group index, member index) differ, and the
    result is the decryption of ONE of them: the first share in group order — the one with the smaller group index,
    the first in the list when both are in the same group.  The other share is never looked at.
    This delimits `C16.mixed_sets_refused` (header consistency only) and `C16.bad_digest_refused` (threshold ≥ 2).
    The standard itself calls such a pair invalid for its SIZE (more shares than the threshold,
    `mixed_threshold_one_invalid_for_standard`); embit accepts supersets (`C16X.two_level_sufficient_set_recovers`),
    which is why the pair reaches `recover` at all. -/
theorem mixed_threshold_one_returns_first (P : Prims) (s1 s2 : Share) (pass : Bytes)
    (hid : s2.id = s1.id) (he : s2.exponent = s1.exponent)
    (hgt1 : s1.groupThreshold = 1) (hgt2 : s2.groupThreshold = 1) (hgc : s2.groupCount = s1.groupCount)
    (hsbl : s2.shareBitLength = s1.shareBitLength) (hm1 : s1.memberThreshold = 1) (hm2 : s2.memberThreshold = 1)
    (hg1 : s1.groupIndex < s1.groupCount) (hg2 : s2.groupIndex < s1.groupCount)
    (hx : (s1.groupIndex, s1.memberIndex) ≠ (s2.groupIndex, s2.memberIndex)) :
    (ShareSet.new? [s1, s2]).bind (fun ss => ss.recover P pass) =
      decrypt P (if s2.groupIndex < s1.groupIndex then s2 else s1).bytes s1.id s1.exponent pass :=
  recover_pair_threshold_one P s1 s2 pass hid he hgt1 hgt2 hgc hsbl hm1 hm2 hg1 hg2 hx

/-- the same pair for the standard: NOT a valid set (a valid set holds exactly `group_threshold` groups and exactly
    `member_threshold` members per group, `Spec/Slip39Groups.lean`), so the standard's combination refuses it — by
    counting, not by a digest; embit accepts more shares than needed and therefore answers -/
theorem mixed_threshold_one_invalid_for_standard (P : Spec.Slip39.Prims) (s1 s2 : Share) (pass : Bytes)
    (hgt1 : s1.groupThreshold = 1) (hm1 : s1.memberThreshold = 1) (hgc16 : s1.groupCount ≤ 16)
    (hg1 : s1.groupIndex < s1.groupCount) (hg2 : s2.groupIndex < s1.groupCount) :
    Spec.Slip39.validSet ([s1, s2].map Share.toFields) = false ∧
    Spec.Slip39.combineShares P ([s1, s2].map Share.toFields) pass = none :=
  ⟨pair_threshold_one_invalid s1 s2 hgt1 hm1 hgc16 hg1 hg2,
   combine_invalid_none P _ pass (pair_threshold_one_invalid s1 s2 hgt1 hm1 hgc16 hg1 hg2)⟩

/-- the general form: a share set with group threshold 1 whose shares all have member threshold 1 (any number of
    shares, any values) is answered with the decryption of the first given share among those with the smallest group
    index — no digest is involved -/
theorem threshold_one_no_digest (P : Prims) (ss : ShareSet) (pass : Bytes) (hgt : ss.groupThreshold = 1)
    (hmt : ∀ s ∈ ss.shares, s.memberThreshold = 1) (hgi : ∀ s ∈ ss.shares, s.groupIndex < ss.groupCount)
    (s0 : Share) (hmin : ∀ s ∈ ss.shares, s0.groupIndex ≤ s.groupIndex)
    (hfirst : (ss.shares.filter fun s => s.groupIndex == s0.groupIndex).head? = some s0) :
    ss.recover P pass = decrypt P s0.bytes ss.id ss.exponent pass :=
  recover_threshold_one P ss pass hgt hmt hgi s0 hmin hfirst

/-- … through the whole pipeline: `generate_shares(secret1, 1, n)` and `generate_shares(secret2, 1, n)` with the same
    identifier, exponent and passphrase (secrets of the same size, otherwise the length check refuses); mnemonic
    number i of the first and number j ≠ i of the second set, in this order, are accepted by `recover_mnemonic`, which
    returns `secret1` when i < j and `secret2` when j < i — whatever the other secret is -/
theorem mixed_threshold_one_generated (P : Prims) (hF : ∀ pw s it n, (P.pbkdf2 pw s it n).length = n)
    (sec1 sec2 : Bytes) (n : Nat) (pass : Bytes) (e id : Nat) (tape1 tape2 : List Nat) (ms1 ms2 : List (List Nat))
    (h1 : generateShares P sec1 1 n pass e (id :: tape1) = some ms1)
    (h2 : generateShares P sec2 1 n pass e (id :: tape2) = some ms2)
    (hsize : sec1.length = sec2.length) (hid : id < 2 ^ 15) (he : e < 32)
    (i j : Nat) (hi : i < n) (hj : j < n) (hij : i ≠ j) (m1 m2 : List Nat)
    (hm1 : ms1[i]? = some m1) (hm2 : ms2[j]? = some m2) :
    recoverShares P [m1, m2] pass = some (if j < i then sec2 else sec1) := by
  obtain ⟨enc1, _, hdec1, _, _, hn1, hp1, hb1⟩ := generate_one_nth P hF sec1 n pass e id tape1 ms1 h1 hid he i hi
  obtain ⟨enc2, _, hdec2, _, _, hn2, hp2, hb2⟩ := generate_one_nth P hF sec2 n pass e id tape2 ms2 h2 hid he j hj
  rw [hm1, Option.some.injEq] at hn1
  rw [hm2, Option.some.injEq] at hn2
  subst hn1 hn2
  have hparse : [(shareOf (sec1.length * 8) id e 1 n (i, enc1)).mnemonic,
      (shareOf (sec2.length * 8) id e 1 n (j, enc2)).mnemonic].mapM Share.parse =
      some [shareOf (sec1.length * 8) id e 1 n (i, enc1), shareOf (sec2.length * 8) id e 1 n (j, enc2)] := by
    simp only [List.mapM_cons, List.mapM_nil, hp1, hp2]; rfl
  have hpair := recover_pair_threshold_one P (shareOf (sec1.length * 8) id e 1 n (i, enc1))
    (shareOf (sec2.length * 8) id e 1 n (j, enc2)) pass rfl rfl rfl rfl rfl (by simp only [shareOf, hsize]) rfl rfl
    hi hj (by simp only [shareOf, ne_eq, Prod.mk.injEq, and_true]; exact hij)
  unfold recoverShares
  rw [hparse]
  show (match ShareSet.new? _ with
    | none => none
    | some ss => ss.recover P pass) = _
  have hbind : ∀ (o : Option ShareSet), (match o with
      | none => none
      | some ss => ss.recover P pass) = o.bind (fun ss => ss.recover P pass) := by
    intro o; cases o <;> rfl
  rw [hbind, hpair]
  by_cases hlt : j < i
  · have : (shareOf (sec2.length * 8) id e 1 n (j, enc2)).groupIndex <
        (shareOf (sec1.length * 8) id e 1 n (i, enc1)).groupIndex := hlt
    rw [if_pos this, if_pos hlt, hb2]; exact hdec2
  · have : ¬ (shareOf (sec2.length * 8) id e 1 n (j, enc2)).groupIndex <
        (shareOf (sec1.length * 8) id e 1 n (i, enc1)).groupIndex := hlt
    rw [if_neg this, if_neg hlt, hb1]; exact hdec1

/-- the only thing that protects a threshold-1 set against a foreign share with the same header: the index check.
    Two shares with the same (group index, member index) are refused by `ShareSet(...)`, whatever they hold — e.g.
    mnemonic number i of both sets above -/
theorem mixed_threshold_one_same_index_refused (s1 s2 : Share) (hg : s2.groupIndex = s1.groupIndex)
    (hm : s2.memberIndex = s1.memberIndex) : ShareSet.new? [s1, s2] = none :=
  pair_same_index_refused s1 s2 hg hm

/-! ### non-vacuity -/

open C16 (toyPrims exSecret)

/-- a second secret for the mixed sets -/
def exSecret2 : Bytes := [0xff, 0x01, 0x02, 0x03, 0x04, 0x05, 0x06, 0x07, 0x08, 0x09, 0x0a, 0x0b, 0x0c, 0x0d, 0x0e, 0x0f]

/-- identifier 12345, then exactly the 12 bytes a 2-of-n split of a 16-byte secret draws -/
def exTape23 : List Nat := [12345, 7, 200, 13, 0, 255, 91, 18, 33, 1, 2, 3, 4]

example : exTape23.length = generateDraws exSecret.length 2 := by decide

set_option maxRecDepth 100000 in
/-- **kernel-evaluated generate → recover** (2-of-3, 16-byte secret, passphrase "ab", exponent 1, toy primitives):
    three distinct 20-word mnemonics; any two of them (any order) and all three return the secret, one alone is
    refused, a tape one draw short makes generation fail -/
theorem generate_recover_example :
    ∃ m0 m1 m2, generateShares toyPrims exSecret 2 3 [97, 98] 1 exTape23 = some [m0, m1, m2] ∧
      m0.length = 20 ∧ [m0, m1, m2].Nodup ∧
      recoverShares toyPrims [m2, m0] [97, 98] = some exSecret ∧
      recoverShares toyPrims [m1, m2] [97, 98] = some exSecret ∧
      recoverShares toyPrims [m0, m1, m2] [97, 98] = some exSecret ∧
      recoverShares toyPrims [m1] [97, 98] = none ∧
      generateShares toyPrims exSecret 2 3 [97, 98] 1 exTape23.dropLast = none := by
  refine ⟨((generateShares toyPrims exSecret 2 3 [97, 98] 1 exTape23).getD []).getD 0 [],
    ((generateShares toyPrims exSecret 2 3 [97, 98] 1 exTape23).getD []).getD 1 [],
    ((generateShares toyPrims exSecret 2 3 [97, 98] 1 exTape23).getD []).getD 2 [], ?_⟩
  rw [generateShares_eq, recoverShares_eq]
  decide +kernel

/-- the hypotheses of `generate_succeeds` / `generate_then_recover_total` hold for this run -/
example : (exSecret.length = 16 ∨ exSecret.length = 32) ∧ 1 ≤ 2 ∧ 2 ≤ 3 ∧ 3 ≤ 16 ∧ 12345 < 2 ^ 15 ∧ 1 < 32 ∧
    (if 2 = 1 then 0 else (exSecret.length - 4) + (2 - 2) * exSecret.length) ≤ exTape23.tail.length ∧
    ∀ t ∈ exTape23.tail.take (if 2 = 1 then 0 else (exSecret.length - 4) + (2 - 2) * exSecret.length), t < 256 := by
  decide

set_option maxRecDepth 100000 in
/-- **mixed sets at threshold 1, kernel-evaluated**: 1-of-2 shares of two different secrets with the same identifier;
    share 0 of the first with share 1 of the second returns the FIRST secret in either list order (group order
    decides), share 0 of the second with share 1 of the first returns the SECOND secret, the two shares number 0
    together are refused (duplicate index); the standard calls the two-share set invalid, a single share valid -/
theorem mixed_threshold_one_example :
    ∃ a0 a1 b0 b1, generateShares toyPrims exSecret 1 2 [] 0 [77] = some [a0, a1] ∧
      generateShares toyPrims exSecret2 1 2 [] 0 [77] = some [b0, b1] ∧ exSecret ≠ exSecret2 ∧
      recoverShares toyPrims [a0, b1] [] = some exSecret ∧
      recoverShares toyPrims [b1, a0] [] = some exSecret ∧
      recoverShares toyPrims [a1, b0] [] = some exSecret2 ∧
      recoverShares toyPrims [a0, b0] [] = none ∧
      Spec.Slip39.validSet (([a0, b1].filterMap Share.parse).map Share.toFields) = false ∧
      Spec.Slip39.validSet (([a0].filterMap Share.parse).map Share.toFields) = true := by
  refine ⟨((generateShares toyPrims exSecret 1 2 [] 0 [77]).getD []).getD 0 [],
    ((generateShares toyPrims exSecret 1 2 [] 0 [77]).getD []).getD 1 [],
    ((generateShares toyPrims exSecret2 1 2 [] 0 [77]).getD []).getD 0 [],
    ((generateShares toyPrims exSecret2 1 2 [] 0 [77]).getD []).getD 1 [], ?_⟩
  rw [generateShares_eq, recoverShares_eq]
  decide +kernel

/-- the hypotheses of `mixed_threshold_one_returns_first` are satisfiable by two shares with different values -/
example : let s1 : Share := ⟨128, 77, 0, 0, 1, 2, 0, 1, 5⟩; let s2 : Share := ⟨128, 77, 0, 1, 1, 2, 0, 1, 6⟩
    s1.initOk = true ∧ s2.initOk = true ∧ s1.value ≠ s2.value ∧ s2.id = s1.id ∧ s2.exponent = s1.exponent ∧
    s1.groupThreshold = 1 ∧ s2.groupThreshold = 1 ∧ s2.groupCount = s1.groupCount ∧
    s2.shareBitLength = s1.shareBitLength ∧ s1.memberThreshold = 1 ∧ s2.memberThreshold = 1 ∧
    s1.groupIndex < s1.groupCount ∧ s2.groupIndex < s1.groupCount ∧
    (s1.groupIndex, s1.memberIndex) ≠ (s2.groupIndex, s2.memberIndex) := by
  decide +kernel

end Embit.Props.C16Y
