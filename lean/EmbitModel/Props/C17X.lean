import EmbitModel.Props.C17
import EmbitModel.Proofs.CostDesc
import EmbitModel.Proofs.Desc3
import EmbitModel.Proofs.CostB58
import EmbitModel.Proofs.CostBech32
import EmbitModel.Proofs.CostMnemonic
import EmbitModel.Proofs.CostLiquid
import EmbitModel.Proofs.CostKeys
import EmbitModel.Model.DescKeys
import EmbitModel.Proofs.KeyToyCurve
/-
  C17, second part — the text parsers, the Liquid parsers and the key parsers.

  1. Descriptor / miniscript / taptree (`Model/Descriptor.lean`, the character-level model that C12 ties to embit):
     the VALUE does not depend on the fuel above `|text|` (`*_total` — by itself NOT a termination statement: a parser
     spinning until the fuel is gone satisfies it too; what excludes spinning is the step bound below, which holds for
     EVERY fuel, and `Props/C17Z.lean`, where the three-valued parsers are proved never to answer "out of fuel"),
     steps ≤ 8·|text| + 22 and recursion depth ≤ |text| + 1, where steps / depth are the cost
     companions of `Model/Cost.lean` (stream method calls + calls of the recursive `read_from`s; checked on every run
     against a counting `BytesIO` and wrapped `read_from`s on the real code, op `c17.desc`).
     Hypothesis `NoEmptyKey ops`: the key decoder refuses the empty text — without it the argument loop of `multi(…)`
     does not end (witness `multi_loop_needs_key_check`).
  2. Base58: decode ≤ (|s|+1)² steps and ≤ |s| bytes; encode ≤ 2(|b|+2)² steps and ≤ 2|b| characters (one step per
     byte of the big integer touched). bech32 / blech32 `convertbits`: output·tobits ≤ input·frombits + tobits (the
     inner `while` appends one element per round); `bech32_decode` sizes; `address_to_scriptpubkey` ≤ 34 bytes.
  3. BIP39: the bit-packing loop ends by itself, result ≤ 11 bits per word. SLIP39: exponent < 32, value ≤ 10 bits
     per word, `_crypt` calls PBKDF2 with `2500·2^e` iterations and nothing else, `interpolate` ≤ share length.
  4. Liquid: every element reader consumes ≥ 1 byte (so `C17.steps_le_input` / `output_le_input` apply),
     inputs + outputs ≤ |bytes|, PSET scopes ≤ |bytes|.
  5. Keys: SEC 33/65, secret 32, extended key 78 bytes, WIF payload 33/34: fixed sizes.
-/
set_option linter.unusedSimpArgs false
set_option linter.unusedVariables false
namespace Embit.Props.C17X
open Embit Embit.Model Embit.Model.Descriptor Embit.Model.Cost

variable {K : Type}

/-! ## 1. descriptor / miniscript / taptree -/

/-- **`Miniscript.read_from`: with more fuel than characters left, the fuel does not matter for the value** (that it
    is never used up: `C17Z.miniscript_never_out_of_fuel`) -/
theorem miniscript_read_total (ops : KeyOps K) (hW : NoEmptyKey ops) (tap : Bool) (f1 f2 : Nat) (s : Stream)
    (h1 : s.rest.length < f1) (h2 : s.rest.length < f2) : readMs ops tap f1 s = readMs ops tap f2 s :=
  readMs_fuel ops hW tap f1 f2 s h1 h2

/-- **`TapTree.read_from`: the same** (never used up: `C17Z.taptree_never_out_of_fuel`) -/
theorem taptree_read_total (ops : KeyOps K) (hW : NoEmptyKey ops) (f1 f2 : Nat) (s : Stream)
    (h1 : s.rest.length < f1) (h2 : s.rest.length < f2) : readTapTree ops f1 s = readTapTree ops f2 s :=
  readTapTree_fuel ops hW f1 f2 s h1 h2

/-- **`Descriptor.from_string`: the result does not depend on the fuel** once it exceeds `|text|` (the model,
    `Desc.parse`, uses `|text| + 1`). This is fuel-INDEPENDENCE of the value, not termination (audit2 A-3); that the
    fuel is never used up is `C17Z.descriptor_parse3_never_out_of_fuel` / `descriptor_rejection_is_not_fuel` -/
theorem descriptor_parse_total (ops : KeyOps K) (hW : NoEmptyKey ops) (text : Str) (fuel : Nat)
    (hf : text.length < fuel) :
    Desc.readFrom ops fuel (Stream.ofStr text) = Desc.readFrom ops (text.length + 1) (Stream.ofStr text) :=
  readFrom_fuel ops hW fuel (text.length + 1) (Stream.ofStr text) rfl hf (Nat.lt_succ_self _)

/-- **`Miniscript.read_from`: steps ≤ 8·|rest| + 8**; an accepted expression costs at most 8 steps per character it
    consumes, and consumes at least one -/
theorem miniscript_steps_linear (ops : KeyOps K) (hW : NoEmptyKey ops) (tap : Bool) (fuel : Nat) (s : Stream) :
    readMsCost stepsAlg ops tap fuel s ≤ 8 * s.rest.length + 8 ∧
    ∀ e s', readMs ops tap fuel s = some (e, s') →
      s'.rest.length + 1 ≤ s.rest.length ∧
      readMsCost stepsAlg ops tap fuel s + 8 * s'.rest.length ≤ 8 * s.rest.length :=
  ⟨(readMs_cost ops hW tap fuel s).1, (readMs_cost ops hW tap fuel s).2.2⟩

/-- **`TapTree.read_from`: steps ≤ 8·|rest| + 12** -/
theorem taptree_steps_linear (ops : KeyOps K) (hW : NoEmptyKey ops) (fuel : Nat) (s : Stream) :
    readTapTreeCost stepsAlg ops fuel s ≤ 8 * s.rest.length + 12 :=
  (readTapTree_cost ops hW fuel s).1

/-- **`Descriptor.from_string`: stream calls + calls of the recursive readers ≤ 8·|text| + 22** -/
theorem descriptor_steps_linear (ops : KeyOps K) (hW : NoEmptyKey ops) (text : Str) :
    parseCost stepsAlg ops text ≤ 8 * text.length + 22 :=
  (parse_cost ops hW text).1

/-- **recursion depth of `Miniscript.read_from` ≤ |rest| + 1** -/
theorem miniscript_depth (ops : KeyOps K) (hW : NoEmptyKey ops) (tap : Bool) (fuel : Nat) (s : Stream) :
    readMsCost depthAlg ops tap fuel s ≤ s.rest.length + 1 :=
  (readMs_cost ops hW tap fuel s).2.1

/-- **recursion depth of `TapTree.read_from` ≤ |rest| + 2** -/
theorem taptree_depth (ops : KeyOps K) (hW : NoEmptyKey ops) (fuel : Nat) (s : Stream) :
    readTapTreeCost depthAlg ops fuel s ≤ s.rest.length + 2 :=
  (readTapTree_cost ops hW fuel s).2.1

/-- **recursion depth of `Descriptor.from_string` ≤ |text| + 1** -/
theorem descriptor_depth (ops : KeyOps K) (hW : NoEmptyKey ops) (text : Str) :
    parseCost depthAlg ops text ≤ text.length + 1 :=
  (parse_cost ops hW text).2

/-- `Key.read_from`: at most |rest| + 5 stream calls, and it never leaves more text than it found -/
theorem key_read_linear (ops : KeyOps K) (hW : NoEmptyKey ops) (tap hash : Bool) (s : Stream) :
    readKeyOps s ≤ s.rest.length + 5 ∧
    ∀ k s', readKey ops tap hash s = some (k, s') → s'.rest.length ≤ s.rest.length :=
  ⟨(readKey_cost ops hW tap hash s).1, fun k s' h => ((readKey_cost ops hW tap hash s).2 k s' h).1⟩

/-- a key decoder that accepts the empty text (everything else as liberal as possible) -/
def laxOps : KeyOps Unit where
  kind := fun _ => .priv
  parseSec := fun _ => some ()
  parseXkey := fun _ => some ()
  parseWif := fun _ => some ()
  text := fun _ => some []
  sec := fun _ => []
  isPrivate := fun _ => true
  derive := fun _ _ => some ()
  toPublic := fun _ => some ()
  tweak := fun _ _ => some []

/-- **the hypothesis is needed**: if `from_wif("")` did not raise, the argument loop of `multi(1,` would spin at the
    end of the text — 5 steps per round, for as long as there is fuel (in Python: for ever, appending to `args`) -/
theorem multi_loop_needs_key_check (b : Str) : ∀ n : Nat,
    readMore (readKey laxOps false false) n ⟨b, [',']⟩ = none ∧
    readMoreCost stepsAlg (readKey laxOps false false) (fun s => readKeyOps s) n ⟨b, [',']⟩ = 5 * n := by
  have hk : readKey laxOps false false ⟨',' :: b, []⟩ = some (⟨none, .obj (), none, false⟩, ⟨b, [',']⟩) := by
    simp [readKey, Stream.read1, Stream.unread, readKeyBody, readUntil, readUntilAux, parseKeyText, laxOps,
      parseAllowed, KeyVal.allowHardened, KeyVal.hasDerive]
  have ho : readKeyOps ⟨',' :: b, []⟩ = 4 := by
    simp [readKeyOps, Stream.read1, Stream.unread, readKeyBodyOps, readUntil, readUntilAux, untilOps, seekIf]
  intro n
  induction n with
  | zero => simp [readMore, readMoreCost]
  | succ n ih =>
    obtain ⟨i1, i2⟩ := ih
    refine ⟨?_, ?_⟩
    · simp [readMore, Stream.read1, hk, i1]
    · simp only [readMoreCost, Stream.read1, hk, i2, ho, steps_seq, steps_ops]
      omega

/-- the key decoders of the driver's instance (Base58Check: fewer than 4 bytes is refused) satisfy the hypothesis -/
theorem concrete_ops_no_empty_key : NoEmptyKey Concrete.ops := by
  simp [NoEmptyKey, Concrete.ops, Concrete.parseWif, Concrete.b58decodeCheck, Concrete.b58decode]

/-! ## 2. Base58, bech32, blech32, addresses -/

/-- **`base58.decode`: at most (|s| + 1)² steps** (one step per loop round and per byte of `n` it touches) -/
theorem base58_decode_steps (s : List Char) : b58DecodeSteps s ≤ (s.length + 1) * (s.length + 1) :=
  b58DecodeSteps_le s

/-- **`base58.decode`: at most as many bytes as characters** -/
theorem base58_decode_size (s : List Char) (b : Bytes) (h : Base58.decode s = some b) : b.length ≤ s.length :=
  b58Decode_length s b h

/-- `base58.decode_check`: the payload is shorter still -/
theorem base58_decode_check_size (dsha : Bytes → Bytes) (s : List Char) (p : Bytes)
    (h : Base58.decodeCheck dsha s = some p) : p.length ≤ s.length := by
  unfold Base58.decodeCheck at h
  cases hd : Base58.decode s with
  | none => simp [hd] at h
  | some b =>
    simp [hd] at h
    have := b58Decode_length s b hd
    obtain ⟨_, rfl⟩ := h
    simp; omega

/-- **`base58.encode`: at most 2·(|b| + 2)² steps** -/
theorem base58_encode_steps (b : Bytes) : b58EncodeSteps b ≤ 2 * ((b.length + 2) * (b.length + 2)) :=
  b58EncodeSteps_le b

/-- **`base58.encode`: at most two characters per byte** -/
theorem base58_encode_size (b : Bytes) : (Base58.encode b).length ≤ 2 * b.length :=
  b58Encode_length b

/-- **`convertbits` (bech32)**: the inner `while bits >= tobits` loop appends one element per round, and what has
    been appended is bounded by the bits that went in: |out|·tobits ≤ |data|·frombits + tobits -/
theorem convertbits_size (data : List Nat) (frombits tobits : Nat) (pad : Bool) (out : List Nat)
    (h : Bech32.convertbits data frombits tobits pad = some out) :
    out.length * tobits ≤ data.length * frombits + tobits :=
  Cost.convertbits_size data frombits tobits pad out h

/-- **`bech32_decode`**: prefix + data + 7 = |text| ≤ 90 -/
theorem bech32_decode_size (bech : List Char) (enc : Bech32.Encoding) (hrp : List Char) (data : List Nat)
    (h : Bech32.bech32Decode bech = some (enc, hrp, data)) :
    hrp.length + data.length + 7 = bech.length ∧ bech.length ≤ 90 :=
  bech32Decode_size bech enc hrp data h

/-- **segwit address decoding**: ≤ 40 bytes of witness program, ≤ 90 characters of text -/
theorem segwit_decode_size (hrp addr : List Char) (ver : Nat) (prog : List Nat)
    (h : Bech32.decode hrp addr = some (ver, prog)) :
    prog.length ≤ 40 ∧ addr.length ≤ 90 ∧ prog.length ≤ addr.length :=
  segwitDecode_size hrp addr ver prog h

/-- **`address_to_scriptpubkey`**: Base58Check first, bech32 second (costs: the two above), result ≤ 34 bytes -/
theorem address_script_size (dsha : Bytes → Bytes) (nets : List Network) (addr : List Char) (spk : Bytes)
    (h : Address.toScript dsha nets addr = some (some spk)) : spk.length ≤ 34 :=
  toScript_size dsha nets addr spk h

/-- **Liquid `convertbits`**: same bound -/
theorem blech32_convertbits_size (data : List Nat) (frombits tobits : Nat) (pad : Bool) (out : List Nat)
    (h : Blech32.convertBits data frombits tobits pad = some out) :
    out.length * tobits ≤ data.length * frombits + tobits :=
  blechConvertBits_size data frombits tobits pad out h

/-- **the fuel of the Liquid inner loop is never used up** (`tobits ≥ 1`; for `tobits = 0` Python would not end:
    the callers pass 5 and 8) -/
theorem blech32_inner_loop_total (tobits maxv acc : Nat) (ht : 1 ≤ tobits) (f1 f2 bits : Nat) (ret : List Nat)
    (h1 : bits < f1) (h2 : bits < f2) :
    Blech32.cbWhile tobits maxv acc f1 bits ret = Blech32.cbWhile tobits maxv acc f2 bits ret :=
  cbWhile_fuel tobits maxv acc ht f1 f2 bits ret h1 h2

/-- **blech32 `bech32_decode`**: prefix + data < |text| -/
theorem blech32_decode_size (bech hrp data : List Nat) (h : Blech32.bech32Decode bech = some (hrp, data)) :
    hrp.length + data.length + 1 ≤ bech.length :=
  blechDecode_size bech hrp data h

/-! ## 3. mnemonics and shares -/

/-- **BIP39: the bit-packing loop `while remaining > 0` ends by itself** — at most `remaining` (11) rounds -/
theorem bip39_pack_loop_total (f1 f2 : Nat) (seed : Bytes) (off index remaining : Nat) (ho : off < 8)
    (h1 : remaining ≤ f1) (h2 : remaining ≤ f2) :
    Bip39.packLoop f1 ⟨seed, off⟩ index remaining = Bip39.packLoop f2 ⟨seed, off⟩ index remaining :=
  packLoop_fuel f1 f2 seed off index remaining ho h1 h2

/-- **`mnemonic_to_bytes`: at most 11 bits of result per word**, for every word list and hash function -/
theorem bip39_to_bytes_size {W : Type} [DecidableEq W] (sha256 : Bytes → Bytes) (wl : List W) (ign : Bool)
    (ws : List W) (data : Bytes) (h : Bip39.toBytes sha256 wl ign ws = some data) :
    8 * data.length ≤ 11 * ws.length :=
  toBytes_bits sha256 wl ign ws data h

/-- **SLIP39 `Share.parse`**: exponent < 32, at least 7 words, ≤ 10 bits of share value per word after the header -/
theorem slip39_share_bounds (indices : List Nat) (s : Slip39.Share) (h : Slip39.Share.parse indices = some s) :
    s.exponent < 32 ∧ 7 ≤ indices.length ∧ s.shareBitLength ≤ 10 * (indices.length - 7) ∧
    s.value < 2 ^ s.shareBitLength ∧ s.bytes.length * 8 ≤ 10 * indices.length :=
  shareParse_bounds indices s h

/-- **SLIP39 `_crypt`: the only PBKDF2 parameters used are `iterations = 2500·2^e`, `dklen = len(payload)/2`**
    (one call per Feistel round, 4 rounds): replacing PBKDF2 by anything that agrees on these changes nothing -/
theorem slip39_crypt_pbkdf2_param (P P' : Slip39.Prims) (payload : Bytes) (id exponent : Nat) (passphrase : Bytes)
    (indices : List UInt8)
    (hagree : ∀ pw salt, P.pbkdf2 pw salt (2500 * 2 ^ exponent) (payload.length / 2)
        = P'.pbkdf2 pw salt (2500 * 2 ^ exponent) (payload.length / 2)) :
    Slip39.crypt P payload id exponent passphrase indices = Slip39.crypt P' payload id exponent passphrase indices :=
  crypt_pbkdf2_param P P' payload id exponent passphrase indices (by simpa [iterations_eq] using hagree)

/-- **the PBKDF2 work a parsed share can ask for is bounded — by an input-chosen factor**: 2500·2^e, e ≤ 31 -/
theorem slip39_iterations_bounded (indices : List Nat) (s : Slip39.Share) (h : Slip39.Share.parse indices = some s) :
    2500 * 2 ^ s.exponent ≤ 2500 * 2 ^ 31 := by
  have := (shareParse_bounds indices s h).1
  exact Nat.mul_le_mul_left _ (Nat.pow_le_pow_right (by decide) (by omega))

/-- SLIP39 `interpolate`: the result is never longer than the first share (work: shares × share length) -/
theorem slip39_interpolate_size (x : Nat) (sd : List (Nat × Bytes)) :
    (Slip39.interpolate x sd).length ≤ (match sd with | [] => 0 | s :: _ => s.2.length) :=
  interpolate_length x sd

/-! ## 4. Liquid -/

theorem ltxin_consuming : C17.Consuming LTxIn.read := Cost.ltxin_consuming
theorem ltxout_consuming : C17.Consuming LTxOut.read := Cost.ltxout_consuming
theorem linwitness_consuming : C17.Consuming LInWitness.read := Cost.linwitness_consuming
theorem loutwitness_consuming : C17.Consuming LOutWitness.read := Cost.loutwitness_consuming

/-- **Liquid: no count-driven loop** — the four counted loops of `LTransaction.read_from` run at most |input| + 1 times -/
theorem ltx_loops_le_input (n : Nat) (b : Bytes) :
    C17.readManySteps LTxIn.read n b ≤ b.length + 1 ∧ C17.readManySteps LTxOut.read n b ≤ b.length + 1 ∧
    C17.readManySteps LInWitness.read n b ≤ b.length + 1 ∧ C17.readManySteps LOutWitness.read n b ≤ b.length + 1 :=
  ⟨C17.steps_le_input _ ltxin_consuming n b, C17.steps_le_input _ ltxout_consuming n b,
   C17.steps_le_input _ linwitness_consuming n b, C17.steps_le_input _ loutwitness_consuming n b⟩

/-- a parsed Liquid transaction has at most as many inputs + outputs as its encoding has bytes -/
theorem ltx_size_le_input (b : Bytes) (t : LTx) (r : Bytes) (h : LTx.read b = some (t, r)) :
    t.vin.length + t.vout.length ≤ b.length :=
  Cost.ltx_size_le_input b t r h

/-- **PSET (also version 2, where the counts are attacker-chosen fields)**: an accepted PSET has at most as many
    input + output scopes as the byte string has bytes -/
theorem pset_scopes_le_input (ko : KeyOps) (b : Bytes) (p : LPset) (h : LPset.parse ko b = some p) :
    p.inputs.length + p.outputs.length ≤ b.length :=
  Cost.pset_scopes_le_input ko b p h

/-! ## 5. keys: fixed sizes -/

/-- `PublicKey.read_from` takes 33 or 65 bytes -/
theorem pubkey_read_fixed {E : Keys.EcOps} {s r : Bytes} {k : Keys.PublicKey E}
    (h : Keys.PublicKey.readFrom E s = some (k, r)) : s.length = r.length + 33 ∨ s.length = r.length + 65 :=
  Keys.pubkey_read_fixed h

/-- `PrivateKey.parse` accepts 32 bytes -/
theorem privkey_parse_fixed {E : Keys.EcOps} {b : Bytes} {k : Keys.PrivateKey}
    (h : Keys.PrivateKey.parse E b = some k) : b.length = 32 :=
  Keys.privkey_parse_fixed h

/-- `HDKey.read_from` takes 78 bytes -/
theorem hdkey_read_fixed {E : Keys.EcOps} {env : Keys.Env} {s r : Bytes} {k : Keys.HDKey E}
    (h : Keys.HDKey.readFrom E env s = some (k, r)) : s.length = r.length + 78 :=
  Keys.hdkey_read_fixed h

/-- `PrivateKey.from_wif`: a Base58Check payload of 33 or 34 bytes -/
theorem wif_payload_fixed {E : Keys.EcOps} {env : Keys.Env} {s : Keys.Text} {k : Keys.PrivateKey}
    (h : Keys.PrivateKey.fromWif E env s = some k) :
    ∃ b, env.b58dec s = some b ∧ (b.length = 33 ∨ b.length = 34) :=
  Keys.wif_payload_fixed h

-- GOAL (not proved): the work done on a token after it has been read (`KeyOrigin.from_string`, `parse_path`,
--   `AllowedDerivation.from_string`, `int()`, `unhexlify`; `Miniscript.verify` / type check of the finished tree) is
--   linear in the token / tree — these are structural recursions in the model, no step companion is stated.
-- GOAL (not proved): Python big-integer cost inside `Number.read_from` (`num = 10*num + d`: quadratic in the number of
--   digits) and `Share.parse` (`value = (value << 10) | index`: quadratic in the number of words); `bytes +=` in
--   `read_until`. Covered by the monitor only (the budget tolerates quadratic work below 64 KiB).
-- GOAL (not proved): step companions for the single-pass loops of `bech32_decode` / `rs1024_polymod` /
--   `mnemonic.split()` and for the word-list lookups (`wordlist.index`: ≤ 2048 / 1024 comparisons per word).
-- GOAL (not proved): CPython's actual time and memory; monitored (harness/props/c17.py), partial by nature.

/-! ### non-vacuity -/

/-- a small key decoder that refuses the empty text and accepts everything else -/
def toyOps : KeyOps Str where
  kind := fun _ => .pub
  parseSec := fun _ => none
  parseXkey := fun _ => none
  parseWif := fun s => if s.isEmpty then none else some s
  text := fun k => some k
  sec := fun _ => []
  isPrivate := fun _ => false
  derive := fun k _ => some k
  toPublic := fun k => some k
  tweak := fun _ _ => none

example : NoEmptyKey toyOps := rfl
example : NoEmptyKey Concrete.ops := concrete_ops_no_empty_key
-- accepted and rejected texts: steps, depth, verdict (|text| = 29, 12, 28)
example : parseCost stepsAlg toyOps "wsh(and_v(v:pk(A),after(10)))".toList = 37 ∧
    parseCost depthAlg toyOps "wsh(and_v(v:pk(A),after(10)))".toList = 2 ∧
    (Desc.parse toyOps "wsh(and_v(v:pk(A),after(10)))".toList).isSome = true := by decide +kernel
example : parseCost stepsAlg toyOps "wsh(multi(1,".toList = 17 ∧
    (Desc.parse toyOps "wsh(multi(1,".toList).isSome = false := by decide +kernel
example : parseCost depthAlg toyOps "wsh(and_v(and_v(and_v(and_v(".toList = 5 := by decide +kernel
-- with the lax decoder the same text costs whatever fuel there is: 5 per unit of fuel
example : readFromCost stepsAlg laxOps 40 (Stream.ofStr "wsh(multi(1,".toList) = 207 ∧
    readFromCost stepsAlg laxOps 80 (Stream.ofStr "wsh(multi(1,".toList) = 407 := by decide +kernel
example : b58DecodeSteps "1111".toList = 9 ∧ b58DecodeSteps "zzzzzzzz".toList = 47 := by decide +kernel
example : Base58.decode "zzzz".toList = some [0xac, 0xad, 0x0f] := by decide +kernel
example : b58EncodeSteps [0xff, 0xff, 0xff] = 28 := by decide +kernel
example : Bech32.convertbits [31, 31, 31] 5 8 true = some [255, 254] := by decide +kernel
example : Blech32.convertBits [31, 31, 31] 5 8 true = some [255, 254] := by decide +kernel
example : Bip39.packLoop 11 ⟨[0xff], 3⟩ 2047 11 = Bip39.packLoop 3 ⟨[0xff], 3⟩ 2047 11 := by decide
example : Bip39.toBytes (fun _ => List.replicate 32 0) (List.range 2048) false (List.replicate 12 0)
    = some (List.replicate 16 0) := by decide +kernel
example : C17.readManySteps LTxIn.read 1000000 [1, 2, 3] = 1 := by decide
/-- a stand-in for Base58Check that always says `xprv` -/
def toyEnv : Keys.Env := ⟨fun _ _ => [], fun _ => [], fun _ _ => [], fun _ => Keys.ascii "xprv", fun _ => none⟩
example : (Keys.PrivateKey.parse Keys.toy (List.replicate 31 0 ++ [1])).isSome = true := by decide +kernel
example : (Keys.PublicKey.readFrom Keys.toy (2 :: List.replicate 31 0 ++ [1, 9, 9])).map (·.2) = some [9, 9] := by
  decide +kernel
example : (Keys.HDKey.readFrom Keys.toy toyEnv ([4, 0x88, 0xad, 0xe4, 1, 7, 7, 7, 7, 0, 0, 0, 5] ++ List.replicate 32 3
    ++ [0] ++ List.replicate 31 0 ++ [1] ++ [9])).map (·.2) = some [9] := by decide +kernel

end Embit.Props.C17X
