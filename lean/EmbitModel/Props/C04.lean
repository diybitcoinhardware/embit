import EmbitModel.Proofs.PsbtTop
import EmbitModel.Props.C03
/-
  C04 — PSBT parse/serialise is lossless for every field, known or unknown.
  `Model.Psbt.*` is the model of embit's psbt.py (tied to /repo by the correspondence check); the statements
  below are about arbitrary byte strings and arbitrary key validators `ko` / hash `sha`, KEEP_ALL mode.
-/
set_option linter.unusedSimpArgs false
set_option linter.unusedVariables false
namespace Embit.Props.C04
open Embit Model

/-! ### key-value layer -/

/-- writing a scope's pairs and reading them back is the identity (any pairs with non-empty keys) -/
theorem kv_roundtrip (kvs : List KV) (r : Bytes) (h : ∀ kv ∈ kvs, KVWF kv) :
    readKVs (writeKVs kvs ++ r) = some (kvs, r) := readKVs_write kvs r h

/-- a scope that parses is exactly the canonical framing of the pairs returned: nothing skipped, merged or
    re-interpreted; in particular truncated scopes and scopes without separator are refused -/
theorem kv_sound (b : Bytes) (kvs : List KV) (r : Bytes) (h : readKVs b = some (kvs, r)) :
    b = writeKVs kvs ++ r ∧ ∀ kv ∈ kvs, KVWF kv := readKVs_sound h

/-! ### scopes -/

/-- every pair of an input scope is present with identical bytes in what `write_to` emits, and no key occurs twice -/
theorem input_scope_lossless (ko : KeyOps) (sha : Bytes → Bytes) (ver : Option Nat) (kvs : List KV)
    (s0 s : InScope) (hv : ver = some 2 ∨ InSeeded s0) (hne : ∀ kv ∈ kvs, kv.1 ≠ [])
    (h : InScope.addPairs ko sha 0 s0 kvs = some s) :
    (∀ kv ∈ kvs, kv ∈ s.pairs ver) ∧ (kvs.map Prod.fst).Nodup :=
  ⟨(InScope.addPairs_lossless ko sha ver kvs s0 s hv hne h).1, InScope.addPairs_nodup ko sha kvs s0 s hne h⟩

theorem output_scope_lossless (ko : KeyOps) (ver : Option Nat) (kvs : List KV)
    (s0 s : OutScope) (hv : ver = some 2 ∨ OutSeeded s0) (hne : ∀ kv ∈ kvs, kv.1 ≠ [])
    (h : OutScope.addPairs ko s0 kvs = some s) :
    (∀ kv ∈ kvs, kv ∈ s.pairs ver) ∧ (kvs.map Prod.fst).Nodup :=
  ⟨(OutScope.addPairs_lossless ko ver kvs s0 s hv hne h).1, OutScope.addPairs_nodup ko kvs s0 s hne h⟩

/-- a duplicated key inside an input scope is always refused -/
theorem input_duplicate_key_rejected (ko : KeyOps) (sha : Bytes → Bytes) (kvs : List KV) (s0 : InScope)
    (hne : ∀ kv ∈ kvs, kv.1 ≠ []) (hd : ¬ (kvs.map Prod.fst).Nodup) :
    InScope.addPairs ko sha 0 s0 kvs = none := by
  cases h : InScope.addPairs ko sha 0 s0 kvs with
  | none => rfl
  | some s => exact absurd (InScope.addPairs_nodup ko sha kvs s0 s hne h) hd

theorem output_duplicate_key_rejected (ko : KeyOps) (kvs : List KV) (s0 : OutScope)
    (hne : ∀ kv ∈ kvs, kv.1 ≠ []) (hd : ¬ (kvs.map Prod.fst).Nodup) :
    OutScope.addPairs ko s0 kvs = none := by
  cases h : OutScope.addPairs ko s0 kvs with
  | none => rfl
  | some s => exact absurd (OutScope.addPairs_nodup ko kvs s0 s hne h) hd

/-! ### whole PSBT -/

theorem optAll_map_eq {α β : Type} (f : α → Option β) : ∀ (l : List α) (l' : List β), l.length = l'.length →
    (∀ (j : Nat) (a : α), l[j]? = some a → ∃ b, l'[j]? = some b ∧ f a = some b) → optAll (l.map f) = some l' :=
  optAll_map_of_getElem f

/-- the decomposition `PSBT.parse` performs, with everything the property needs about it -/
theorem parse_lossless (ko : KeyOps) (sha : Bytes → Bytes) (b : Bytes) (p : Psbt)
    (h : Psbt.parse ko sha 0 b = some p) :
    ∃ (g : List KV) (ins outs : List (List KV)),
      -- the byte string is the canonical framing of these pairs (so "the pairs of the original" are g, ins, outs)
      b = psbtMagic ++ writeKVs g ++ ins.flatMap writeKVs ++ outs.flatMap writeKVs
      ∧ ins.length = p.inputs.length ∧ outs.length = p.outputs.length
      -- per-input and per-output: nothing lost, no duplicate keys
      ∧ (∀ (j : Nat) (kvs : List KV) (s : InScope), ins[j]? = some kvs → p.inputs[j]? = some s →
            (∀ kv ∈ kvs, kv ∈ s.pairs p.version) ∧ (kvs.map Prod.fst).Nodup)
      ∧ (∀ (j : Nat) (kvs : List KV) (s : OutScope), outs[j]? = some kvs → p.outputs[j]? = some s →
            (∀ kv ∈ kvs, kv ∈ s.pairs p.version) ∧ (kvs.map Prod.fst).Nodup)
      -- global scope: nothing lost
      ∧ (∃ gp, p.globalPairs = some gp ∧ ∀ kv ∈ g, kv ∈ gp)
      -- version 0: the unsigned transaction of the PSBT object is bit-identical to the global one
      ∧ (∀ v, ([0x00], v) ∈ g → ∃ t, p.tx = some t ∧ Tx.ser t = v) := by
  obtain ⟨g, kin, kout, tx, unk, gs, eb, wg, ws, hgf, hpu, hver, e1, e2, e3, e4, l1, l2, l3, l4, fi, fo, ft⟩ :=
    parse_decomp ko sha b p h
  obtain ⟨_, _, _, _, f4⟩ := globalFold_spec g none none [] tx p.version unk hgf
  have hnd := globalFold_nodup g none none [] tx p.version unk hgf (by simp)
  obtain ⟨_, _, _, _, _, _, _, u8⟩ := parseUnknowns_spec ko (p.version == some 2) unk _ gs hnd hpu
  refine ⟨g, kin, kout, by simp [eb, List.append_assoc], l1, l2, ?_, ?_, ?_, ?_⟩
  · intro j kvs s hk hs
    have hj : j < p.inputs.length := (List.getElem?_eq_some_iff.mp hs).1
    obtain ⟨kvs', s', a1, a2, a3⟩ := fi j hj
    obtain rfl := Option.some.inj (hk.symm.trans a1)
    obtain rfl := Option.some.inj (hs.symm.trans a2)
    refine input_scope_lossless ko sha p.version kvs _ s ?_
      (fun kv hkv => (ws kvs (List.mem_append_left _ (List.mem_of_getElem? hk)) kv hkv).1) a3
    rcases hver with ⟨hv, _⟩ | ⟨_, t, rfl⟩
    · exact Or.inl hv
    · have hjt : j < t.vin.length := (ft t rfl).2.1 ▸ hj
      exact Or.inr (by simp [seedIn, List.getElem?_eq_getElem hjt, InSeeded])
  · intro j kvs s hk hs
    have hj : j < p.outputs.length := (List.getElem?_eq_some_iff.mp hs).1
    obtain ⟨kvs', s', a1, a2, a3⟩ := fo j hj
    obtain rfl := Option.some.inj (hk.symm.trans a1)
    obtain rfl := Option.some.inj (hs.symm.trans a2)
    refine output_scope_lossless ko p.version kvs _ s ?_
      (fun kv hkv => (ws kvs (List.mem_append_right _ (List.mem_of_getElem? hk)) kv hkv).1) a3
    rcases hver with ⟨hv, _⟩ | ⟨_, t, rfl⟩
    · exact Or.inl hv
    · have hjt : j < t.vout.length := (ft t rfl).2.2 ▸ hj
      exact Or.inr (by simp [seedOut, List.getElem?_eq_getElem hjt, OutSeeded])
  · -- every pair of the global scope other than the transaction is written back, whatever the version
    have hglob : ∀ txp : List KV, ∀ kv ∈ g, kv.1 ≠ [0x00] → kv ∈
        txp ++ p.xpubs.map (fun (x, d) => (0x01 :: x, Deriv.ser d))
        ++ (if (p.version == some 2) = true then
              optKV [0x02] (p.txVersion.map (leN 4)) ++ optKV [0x03] (p.locktime.map (leN 4))
              ++ [([0x04], Compact.enc p.inputs.length), ([0x05], Compact.enc p.outputs.length)]
            else [])
        ++ optKV [0xfb] (p.version.map (leN 4)) ++ p.unknown := by
      intro txp kv hkv hk0
      rcases f4 kv hkv with ⟨e, _⟩ | ⟨e, n, hn, hl⟩ | ⟨hu, _, _⟩
      · exact absurd e hk0
      · obtain ⟨k, v⟩ := kv; simp at e hl; subst e; subst hl
        simp [optKV, hn]
      · obtain ⟨k, v⟩ := kv
        rcases u8 (k, v) hu with ⟨x, d, c1, c2, c3⟩ | ⟨c, c1, n, c2, c3⟩ | ⟨c, c1, n, c2, c3⟩
            | ⟨c, c1, n, c2, c3⟩ | ⟨c, c1, n, c2, c3⟩ | c1
        · simp at c1 c3; subst c1; subst c3
          refine List.mem_append_left _ (List.mem_append_left _ (List.mem_append_left _ (List.mem_append_right _ ?_)))
          rw [e3]; exact List.mem_map.mpr ⟨(x, d), c2, rfl⟩
        · simp at c1 c3; subst c1; subst c3; simp [optKV, e1, c2, c]
        · simp at c1 c3; subst c1; subst c3; simp [optKV, e2, c2, c]
        · simp at c1 c3; subst c1; subst c3
          rw [c2] at l3; simp at l3
          simp [c, l3]
        · simp at c1 c3; subst c1; subst c3
          rw [c2] at l4; simp at l4
          simp [c, l4]
        · simp [e4, c1]
    rcases hver with ⟨hv, rfl⟩ | ⟨hv, t, rfl⟩
    · have hb : (p.version == some 2) = true := by simp [hv]
      refine ⟨_, by simp only [Psbt.globalPairs, hb]; rfl, fun kv hkv => ?_⟩
      have hk0 : kv.1 ≠ [0x00] := by
        intro e
        rcases f4 kv hkv with ⟨_, t, ht, _⟩ | ⟨e', _⟩ | ⟨_, e', _⟩
        · cases ht
        · rw [e] at e'; simp at e'
        · exact e' e
      simpa [hb] using hglob [] kv hkv hk0
    · have hb : (p.version == some 2) = false := by simp [hv]
      refine ⟨_, by simp only [Psbt.globalPairs, hb, (ft t rfl).1]; rfl, fun kv hkv => ?_⟩
      by_cases hk0 : kv.1 = [0x00]
      · -- the only pair under key 00 is the transaction's
        rcases f4 kv hkv with ⟨_, t', ht', hs, _⟩ | ⟨e', _⟩ | ⟨_, e', _⟩
        · cases ht'
          obtain ⟨k, v⟩ := kv
          simp only at hk0 hs; subst hk0; subst hs
          simp
        · rw [hk0] at e'; simp at e'
        · exact absurd hk0 e'
      · simpa [hb, List.append_assoc] using hglob [([0x00], Tx.ser t)] kv hkv hk0
  · intro v hv0
    rcases f4 ([0x00], v) hv0 with ⟨_, t, ht, hs, _⟩ | ⟨e, _⟩ | ⟨_, e, _⟩
    · exact ⟨t, (ft t ht).1, hs⟩
    · simp at e
    · simp at e

/-- wrong magic bytes are refused -/
theorem bad_magic_rejected (ko : KeyOps) (sha : Bytes → Bytes) (c : Nat) (b : Bytes) (h : b.take 5 ≠ psbtMagic) :
    Psbt.parse ko sha c b = none := by
  unfold Psbt.parse
  split
  · rfl
  · rename_i m r hm
    have := (takeN_sound hm)
    unfold takeN at hm
    split at hm
    · simp at hm; simp [hm.1.symm ▸ h]
    · simp at hm

-- The serialise-then-parse direction (`ser_parse`, `parse_wf`), the PSBTv2 transaction versus BIP370
-- (`v2_tx_eq_bip370_partial`) and the rejection rules (`tx_in_v2_rejected`, `missing_tx_v0_rejected`, duplicate keys,
-- count mismatch, PSBTv2 scope fields in version 0) are proved in Props/C04X.lean.

/-! ### non-vacuity -/

def trivialKo : KeyOps := { validSec := fun _ => true, validX := fun _ => true, validXpub := fun _ => true }

/-- a small version-0 PSBT: one input (with a sighash-type field and an unknown key), one output -/
def exPsbtBytes : Bytes :=
  psbtMagic ++ writeKVs [([0x00], Tx.ser { C03.exLegacy with vin := [{ txid := List.replicate 32 7, vout := 1, scriptSig := [], sequence := 0, witness := [] }] })]
    ++ writeKVs [([0x03], [1, 0, 0, 0]), ([0xf0, 0x01], [0xaa])] ++ writeKVs []

example : (Psbt.parse trivialKo id 0 exPsbtBytes).isSome = true := by decide
example : InSeeded (seedIn (some C03.exLegacy) 0) := by simp [InSeeded, seedIn, C03.exLegacy]

end Embit.Props.C04
