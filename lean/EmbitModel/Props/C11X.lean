import EmbitModel.Proofs.AddressComplete
import EmbitModel.Proofs.Bech32CrossStr
import EmbitModel.Generated.AddrFacts
/-
  C11, deepened — (A) completeness: exactly which strings `bech32.decode` and `address_to_scriptpubkey`
  accept (non-canonical spellings included); (B) the cross-variant (BECH32 ↔ BECH32M) neighbours of an address
  within four substitutions, characterised exactly.
  Property theorems only; `Model.*` follows embit, `Spec.*` is BIP173/BIP350 / the standard templates;
  hash functions are parameters.
-/
namespace Embit.Props.C11X
open Embit Model Spec.Address

/-! ### A — completeness on non-canonical spellings -/

/-- `bech32.decode(hrp, s)` returns `(ver, prog)` **iff** `s` is a valid BIP173/BIP350 segwit address for `hrp`
    with that version and program — any spelling the BIPs allow: all lower case or all upper case, never mixed.
    (`IsSegwitAddress` is stated "for the lower-case `hrp`": its equation `toLower s = hrp ++ "1" ++ …` is
    unsatisfiable for an `hrp` with an upper-case letter, and `decode` compares the lower-cased prefix of `s`
    with `hrp`, so both sides are false for such an `hrp` and no side condition is needed.) -/
theorem segwit_decode_iff (hrp s : List Char) (ver : Nat) (prog : List Nat) :
    Bech32.decode hrp s = some (ver, prog) ↔
      ∃ pb : Bytes, prog = pb.map UInt8.toNat ∧ Spec.Bech32.IsSegwitAddress hrp s ver pb :=
  Bech32.decode_iff_spec hrp s ver prog

/-- `address_to_scriptpubkey` yields the script `sc` for the string `s` **iff**
    (a) `s` is exactly the Base58Check address of a p2pkh / p2sh script `sc` on a network of the table, or
    (b) `s` is, up to whole-string case, the BIP173/BIP350 address of a p2wpkh / p2wsh / p2tr script `sc` on a
        network of the table, is not mixed case, and its part before the first `1` equals the table's
        human-readable part literally (embit computes `addr.split("1")[0]` and tests membership in the table
        case-sensitively before it calls `bech32.decode`).
    Everything else — wrong checksum or variant, witness versions 2–16 (valid per BIP350), v1 programs that are
    not 32 bytes, unknown prefixes, mixed case — yields no script. Well-formed table, every hash function with
    at least four output bytes. -/
theorem to_script_iff (sha : Bytes → Bytes) (h4 : ∀ x, 4 ≤ (sha x).length) (nets : List Network)
    (ht : Address.TableOk nets) (s : List Char) (sc : Bytes) :
    Address.toScript (fun x => sha (sha x)) nets s = some (some sc) ↔
      (∃ net ∈ nets, ∃ std : Std, std.WF ∧ Address.isSegwit std = false ∧ sc = std.script
          ∧ s = addressOf sha (Address.paramsOf net) std)
      ∨ (∃ net ∈ nets, ∃ std : Std, std.WF ∧ Address.isSegwit std = true ∧ sc = std.script
          ∧ Bech32.lower s = addressOf sha (Address.paramsOf net) std
          ∧ Spec.Bech32.mixedCase s = false ∧ Address.splitOne s = net.bech32) := by
  constructor
  · intro h
    rcases Address.toScript_yields _ nets s sc h with ⟨data, h1, h2, h3⟩ | hb
    · left
      obtain ⟨net, hn, hk⟩ := Address.matchPrefix_yields data nets sc h3
      have hs := Base58.decodeCheck_sound _ s data h1
      have hsplit : data = data.take 1 ++ data.drop 1 := (List.take_append_drop 1 data).symm
      have hl : (data.drop 1).length = 20 := by simp [h2]
      rcases hk with ⟨hp, hsc⟩ | ⟨hp, hsc⟩
      · refine ⟨net, hn, .p2pkh (data.drop 1), hl, rfl, by simpa [Std.script] using hsc, ?_⟩
        rw [← Address.textOf_eq_spec sha net (ht.each net hn)]
        simp only [Address.textOf]
        rw [← hp, ← hsplit]; exact hs
      · refine ⟨net, hn, .p2sh (data.drop 1), hl, rfl, by simpa [Std.script] using hsc, ?_⟩
        rw [← Address.textOf_eq_spec sha net (ht.each net hn)]
        simp only [Address.textOf]
        rw [← hp, ← hsplit]; exact hs
    · right
      obtain ⟨net, hn, ver, hh, hv, hsc, hlow, hmix, hsp⟩ := Address.bech32Branch_sound nets s sc hb
      obtain ⟨std, hw, hseg, hscr, htext⟩ := Address.std_of_segwit ver hh hv
      refine ⟨net, hn, std, hw, hseg, by rw [hsc, hscr], ?_, hmix, hsp⟩
      rw [hlow, ← htext (fun x => sha (sha x)) net, Address.textOf_eq_spec sha net (ht.each net hn)]
  · rintro (⟨net, hn, std, hw, hseg, rfl, rfl⟩ | ⟨net, hn, std, hw, hseg, rfl, hlow, hmix, hsp⟩)
    · rw [← Address.textOf_eq_spec sha net (ht.each net hn)]
      exact Address.toScript_address _ (fun x => h4 (sha x)) nets ht net hn std hw
    · obtain ⟨ver, hh, hv, hl, h1, htext, hscr⟩ := Address.segwit_std_cases std hseg hw
      rw [← Address.textOf_eq_spec sha net (ht.each net hn), htext] at hlow
      obtain ⟨hbr, hlong⟩ :=
        Address.bech32Branch_complete nets net (ht.each net hn) hn ver hh hv hl h1 s hlow hmix hsp
      rw [Address.toScript_long _ nets s hlong, hbr, hscr]; rfl

/-- embit's table: every human-readable part contains an ASCII lower-case letter -/
theorem generated_hrps_have_lower : Address.hrpsHaveLower Generated.addrNetworks = true := by decide +kernel

/-- … hence, for a table all of whose human-readable parts contain a lower-case letter (embit's own table does:
    `generated_hrps_have_lower`), `address_to_scriptpubkey` accepts **exactly** the canonical address texts of
    the five standard script types on the networks of the table, and nothing else. (Observation, not a defect:
    C11 does not forbid rejecting more than the BIPs require.) -/
theorem to_script_iff_exact (sha : Bytes → Bytes) (h4 : ∀ x, 4 ≤ (sha x).length) (nets : List Network)
    (ht : Address.TableOk nets) (hL : Address.hrpsHaveLower nets = true) (s : List Char) (sc : Bytes) :
    Address.toScript (fun x => sha (sha x)) nets s = some (some sc) ↔
      ∃ net ∈ nets, ∃ std : Std, std.WF ∧ sc = std.script ∧ s = addressOf sha (Address.paramsOf net) std := by
  rw [to_script_iff sha h4 nets ht s sc]
  constructor
  · rintro (⟨net, hn, std, hw, _, hsc, hs⟩ | ⟨net, hn, std, hw, hseg, hsc, hlow, hmix, hsp⟩)
    · exact ⟨net, hn, std, hw, hsc, hs⟩
    · refine ⟨net, hn, std, hw, hsc, ?_⟩
      rw [← hlow, Address.lower_of_hrp_lower s net.bech32 hsp (Address.hrpsHaveLower_mem hL hn) hmix]
  · rintro ⟨net, hn, std, hw, hsc, hs⟩
    cases hseg : Address.isSegwit std with
    | false => exact Or.inl ⟨net, hn, std, hw, hseg, hsc, hs⟩
    | true =>
      right
      have hnet := ht.each net hn
      obtain ⟨ver, hh, hv, _, _, htext, _⟩ := Address.segwit_std_address sha net hnet std hseg hw
      have hlow : Bech32.lower s = s := by
        rw [hs, htext]; exact Address.segwitText_convOf_lower net hnet ver hh hv
      refine ⟨net, hn, std, hw, hseg, hsc, by rw [hlow, hs], ?_, ?_⟩
      · exact Bool.eq_false_iff.mpr (mt (Bech32.mixedCase_iff s).mp fun hm => hm.1 hlow)
      · rw [hs, htext]; exact Address.splitOne_segwitText _ _ _ hnet.noSep

/-- … for embit's table -/
theorem to_script_iff_exact_embit (sha : Bytes → Bytes) (h4 : ∀ x, 4 ≤ (sha x).length) (s : List Char) (sc : Bytes) :
    Address.toScript (fun x => sha (sha x)) Generated.addrNetworks s = some (some sc) ↔
      ∃ net ∈ Generated.addrNetworks, ∃ std : Std, std.WF ∧ sc = std.script
        ∧ s = addressOf sha (Address.paramsOf net) std :=
  to_script_iff_exact sha h4 _ (Address.tableOk_of_B _ (by decide +kernel)) generated_hrps_have_lower s sc

/-- a non-canonical spelling of a segwit address — all upper case (valid per BIP173) or mixed case (invalid) —
    raises, for such a table and every hash function -/
theorem noncanonical_spelling_rejected (dsha sha : Bytes → Bytes) (nets : List Network) (ht : Address.TableOk nets)
    (hL : Address.hrpsHaveLower nets = true) (net : Network) (hn : net ∈ nets) (std : Std) (hw : std.WF)
    (hseg : Address.isSegwit std = true) (s : List Char)
    (hlow : Bech32.lower s = addressOf sha (Address.paramsOf net) std)
    (hne : s ≠ addressOf sha (Address.paramsOf net) std) : Address.toScript dsha nets s = none := by
  obtain ⟨ver, hh, _, hl, _, htext, _⟩ := Address.segwit_std_address sha net (ht.each net hn) std hseg hw
  have hlong : 35 < s.length := by
    rw [← Bech32.lower_length s, hlow, htext]; exact Address.segwitText_long net ver hh hl
  rw [Address.toScript_long dsha nets s hlong]
  cases hb : Address.bech32Branch true nets s with
  | none => rfl
  | some sc =>
    obtain ⟨net', hn', _, _, _, _, _, hmix, hsp⟩ := Address.bech32Branch_sound nets s sc hb
    have := Address.lower_of_hrp_lower s net'.bech32 hsp (Address.hrpsHaveLower_mem hL hn') hmix
    exact absurd (by rw [← hlow, this]) hne

/-- the all-upper-case spelling of a segwit address: `bech32.decode` accepts it (as BIP173 demands),
    `address_to_scriptpubkey` raises (for a table whose human-readable parts contain a lower-case letter) -/
theorem upper_case_spelling (dsha sha : Bytes → Bytes) (nets : List Network) (ht : Address.TableOk nets)
    (hL : Address.hrpsHaveLower nets = true) (net : Network) (hn : net ∈ nets) (std : Std) (hw : std.WF)
    (hseg : Address.isSegwit std = true) :
    let a := addressOf sha (Address.paramsOf net) std
    Address.toScript dsha nets (Bech32.upper a) = none
    ∧ Bech32.decode net.bech32 (Bech32.upper a) = Bech32.decode net.bech32 a
    ∧ (Bech32.decode net.bech32 a).isSome = true := by
  intro a
  have hnet := ht.each net hn
  obtain ⟨ver, hh, hv, hl, _, htext, _⟩ := Address.segwit_std_address sha net hnet std hseg hw
  have ha : a = Bech32.segwitText net.bech32 ver (Address.convOf hh) := htext
  have hlo : Bech32.lower a = a := by
    rw [ha]; exact Address.segwitText_convOf_lower net hnet ver hh hv
  have hany : a.any Spec.Bech32.isLower = true := by
    obtain ⟨c, hc, hcl⟩ := List.any_eq_true.mp (Address.hrpsHaveLower_mem hL hn)
    exact List.any_eq_true.mpr ⟨c, by rw [ha, Bech32.segwitText_eq]; simp [hc], hcl⟩
  refine ⟨?_, Address.decode_upper net.bech32 a hlo, ?_⟩
  · exact noncanonical_spelling_rejected dsha sha nets ht hL net hn std hw hseg _
      (Bech32.lower_upper hlo) (Address.upper_ne a hany)
  · rw [ha, (Address.encode_convOf net hnet ver hh hv hl).2]; rfl

/-! non-vacuity (A) -/

def exNet : Network := { p2pkh := [0x00], p2sh := [0x05], bech32 := "bc".toList }
/-- a table whose human-readable part has no letter: there the upper-case spelling IS accepted (case (b) of
    `to_script_iff` is strictly larger than the canonical texts) -/
def digitNet : Network := { p2pkh := [0x00], p2sh := [0x05], bech32 := "42".toList }

example : exNet ∈ Generated.addrNetworks := by decide +kernel
example : Address.TableOk [digitNet] := Address.tableOk_of_B _ (by decide +kernel)
example : Address.hrpsHaveLower [digitNet] = false := by decide +kernel
/-- the BIP173 example, upper case: its lower-casing is the address of the p2wpkh script, it is not mixed case,
    but the part before the first `1` is `BC`, not `bc` -/
example :
    let s := "BC1QW508D6QEJXTDG4Y5R3ZARVARY0C5XW7KV8F3T4".toList
    let std := Std.p2wpkh [0x75, 0x1e, 0x76, 0xe8, 0x19, 0x91, 0x96, 0xd4, 0x54, 0x94, 0x1c, 0x45, 0xd1, 0xb3, 0xa3, 0x23,
                           0xf1, 0x43, 0x3b, 0xd6]
    std.WF ∧ Address.isSegwit std = true
    ∧ Bech32.lower s = addressOf (fun _ => []) (Address.paramsOf exNet) std
    ∧ s ≠ addressOf (fun _ => []) (Address.paramsOf exNet) std
    ∧ Spec.Bech32.mixedCase s = false ∧ Address.splitOne s = "BC".toList := by
  -- the kernel is slow on `String.toList` of a literal; the literal is `String.ofList _` by `rfl`
  rw [String.toList_ofList, String.toList_ofList]
  decide +kernel
/-- with the letter-free human-readable part `42` the upper-case spelling yields the script -/
example :
    let std := Std.p2wsh (List.replicate 32 7)
    let a := addressOf (fun _ => []) (Address.paramsOf digitNet) std
    Bech32.upper a ≠ a
    ∧ Address.toScript (fun _ => []) [digitNet] (Bech32.upper a) = some (some std.script) := by decide +kernel
example : Spec.Bech32.IsSegwitAddress "bc".toList "BC1QW508D6QEJXTDG4Y5R3ZARVARY0C5XW7KV8F3T4".toList 0
    [0x75, 0x1e, 0x76, 0xe8, 0x19, 0x91, 0x96, 0xd4, 0x54, 0x94, 0x1c, 0x45, 0xd1, 0xb3, 0xa3, 0x23,
     0xf1, 0x43, 0x3b, 0xd6] :=
  by
  have hd : Bech32.decode "bc".toList "BC1QW508D6QEJXTDG4Y5R3ZARVARY0C5XW7KV8F3T4".toList
      = some (0, ([0x75, 0x1e, 0x76, 0xe8, 0x19, 0x91, 0x96, 0xd4, 0x54, 0x94, 0x1c, 0x45, 0xd1, 0xb3, 0xa3, 0x23,
          0xf1, 0x43, 0x3b, 0xd6] : Bytes).map UInt8.toNat) := by
    rw [String.toList_ofList, String.toList_ofList]
    decide +kernel
  obtain ⟨pb, hpb, h⟩ := (segwit_decode_iff _ _ _ _).mp hd
  rw [← map_ofNat_toNat pb, ← hpb, map_ofNat_toNat] at h
  exact h

/-! ### B — the cross-variant (BECH32 ↔ BECH32M) neighbours, characterised

  `Props/C11Detect.lean` shows that 1–4 substituted data-part characters are never accepted under the *same*
  checksum variant and that a 4-substitution neighbour under the *other* variant exists. Here: which ones exist.
  The kernel-checked part (`Proofs/CrossTable.lean`: the tables, and six `decide +kernel` rank computations over all
  C(58,3) = 30 856 placements of three further error positions next to the version symbol) is not shift-invariant,
  unlike the same-variant case, so it is specific to data parts of 59 symbols = 32-byte programs. -/

open Bech32 Detect Cross

/-- the pattern: witness-version symbol XOR 1, and the symbols 45, 36 and 16 places before the last one XOR
    22 (`k`), 31 (`l`), 25 (`e`); its syndrome is BECH32 xor BECH32M -/
theorem cross_pattern :
    crossPattern = [1, 0, 0, 0, 0, 0, 0, 0, 0, 0, 0, 0, 0, 22, 0, 0, 0, 0, 0, 0, 0, 0, 31, 0, 0, 0, 0, 0, 0, 0, 0, 0, 0, 0,
      0, 0, 0, 0, 0, 0, 0, 0, 25, 0, 0, 0, 0, 0, 0, 0, 0, 0, 0, 0, 0, 0, 0, 0, 0]
    ∧ polymodFrom 0 crossPattern = bech32Const ^^^ bech32mConst :=
  ⟨crossPattern_eq, crossPattern_syndrome⟩

/-- words (the reusable core): two words of 59 five-bit symbols whose polymods — from any start state, after any
    common prefix, e.g. the expanded human-readable part — differ by BECH32 xor BECH32M, whose first symbols
    differ by XOR 1 and which differ in at most four positions, differ exactly by `crossPattern` -/
theorem cross_variant_words (s : Nat) (p u u' : List Nat) (hl : u.length = 59) (hl' : u'.length = 59)
    (hu : ∀ x ∈ u, x < 32) (hu' : ∀ x ∈ u', x < 32) (hham : hamming u u' ≤ 4)
    (hhead : (xorW u u').head? = some 1)
    (hx : polymodFrom s (p ++ u) ^^^ polymodFrom s (p ++ u') = bech32Const ^^^ bech32mConst) :
    xorW u u' = crossPattern :=
  cross_words s p u u' hl hl' hu hu' hham hhead hx

/-- strings: two strings of the same length with a 59-character data part that `bech32_decode` accepts with the
    same human-readable part and *different* variants, whose first data symbols differ by XOR 1, and that differ
    in at most four characters: the second is, up to case, `neighbour` of the first -/
theorem cross_variant_strings (s s' : List Char) (e e' : Encoding) (h : List Char) (v v' : Nat) (d d' : List Nat)
    (hd : bech32Decode s = some (e, h, v :: d)) (hd' : bech32Decode s' = some (e', h, v' :: d'))
    (he : e ≠ e') (hvv : v ^^^ v' = 1) (hlen : s.length = s'.length) (hN : s.length = h.length + 60)
    (hham : charHamming s s' ≤ 4) : lower s' = neighbour (lower s) :=
  cross_strings s s' e e' h v v' d d' hd hd' he hvv hlen hN hham

/-- (i) p2wpkh: NO string of the same length within four substitutions of a p2wpkh address, with the
    human-readable part untouched and not equal to the address up to case, is accepted by
    `address_to_scriptpubkey` — the same-variant case is excluded by the detection theorem, the other variant
    would be a 20-byte v1 program, which embit refuses. Every hash function, well-formed table. -/
theorem cross_variant_p2wpkh_none (dsha sha : Bytes → Bytes) (nets : List Network) (ht : Address.TableOk nets)
    (net : Network) (hmem : net ∈ nets) (h : Bytes) (hl : h.length = 20) (s' : List Char)
    (hlen : (addressOf sha (Address.paramsOf net) (.p2wpkh h)).length = s'.length)
    (hham : charHamming (addressOf sha (Address.paramsOf net) (.p2wpkh h)) s' ≤ 4)
    (hne : lower (addressOf sha (Address.paramsOf net) (.p2wpkh h)) ≠ lower s')
    (hsplit : Address.splitOne s' = net.bech32) : Address.toScript dsha nets s' = none := by
  have ha : addressOf sha (Address.paramsOf net) (.p2wpkh h) = segwitText net.bech32 0 (Address.convOf h) :=
    (segwitText_eq_spec _ 0 h (by decide)).symm
  rw [ha] at hlen hham hne
  rw [Address.toScript_long dsha nets s' (hlen ▸ Address.segwitText_long net 0 h (Or.inl hl)),
    Address.le4_p2wpkh_none nets net (ht.each net hmem) h hl s' hlen hham hne hsplit]
  rfl

/-- (ii, only-if) p2wsh / p2tr: let `a` be the address of a 32-byte v0/v1 program on a network of a well-formed
    table and `s'` a string of the same length within four substitutions of it, human-readable part untouched,
    not equal to `a` up to case. If `address_to_scriptpubkey` yields a script for `s'` at all, then `s'` is
    (up to case) exactly `neighbour a`: version character `q`↔`p` and the characters 45, 36, 16 places before
    the last one changed by XOR 22, 31, 25 of their symbol values. Every hash function. -/
theorem cross_variant_characterised (dsha sha : Bytes → Bytes) (nets : List Network) (ht : Address.TableOk nets)
    (net : Network) (hmem : net ∈ nets) (ver : Nat) (h : Bytes) (hv : ver ≤ 1) (hl : h.length = 32)
    (s' : List Char) (sc : Bytes)
    (hlen : (addressOf sha (Address.paramsOf net) (Address.std32 ver h)).length = s'.length)
    (hham : charHamming (addressOf sha (Address.paramsOf net) (Address.std32 ver h)) s' ≤ 4)
    (hne : lower (addressOf sha (Address.paramsOf net) (Address.std32 ver h)) ≠ lower s')
    (hsplit : Address.splitOne s' = net.bech32)
    (hy : Address.toScript dsha nets s' = some (some sc)) :
    lower s' = neighbour (addressOf sha (Address.paramsOf net) (Address.std32 ver h)) := by
  rw [Address.std32_text sha net ver h hv] at hlen hham hne ⊢
  exact Address.le4_cross_only nets net (ht.each net hmem) ver h hv hl s' sc hlen hham hne hsplit
    (Address.toScript_long_some dsha nets s' sc (hlen ▸ Address.segwitText_long net ver h (Or.inr hl)) hy)

/-- (ii, if) conversely `neighbour a` IS accepted: it is the canonical address of a 32-byte program `h'` of the
    other type (p2wsh ↔ p2tr) on the same network, at the same length and exactly four substitutions away, and
    `address_to_scriptpubkey` yields that script for it -/
theorem cross_variant_neighbour_accepted (dsha sha : Bytes → Bytes) (nets : List Network)
    (ht : Address.TableOk nets) (net : Network) (hmem : net ∈ nets) (ver : Nat) (h : Bytes) (hv : ver ≤ 1)
    (hl : h.length = 32) :
    let a := addressOf sha (Address.paramsOf net) (Address.std32 ver h)
    ∃ h' : Bytes, h'.length = 32
      ∧ neighbour a = addressOf sha (Address.paramsOf net) (Address.std32 (1 - ver) h')
      ∧ (neighbour a).length = a.length ∧ charHamming a (neighbour a) = 4
      ∧ Address.splitOne (neighbour a) = net.bech32
      ∧ Address.toScript dsha nets (neighbour a) = some (some (Address.std32 (1 - ver) h').script) := by
  intro a
  have hn := ht.each net hmem
  have ha : a = segwitText net.bech32 ver (Address.convOf h) := Address.std32_text sha net ver h hv
  obtain ⟨h', hl', ht', hs'⟩ := Address.neighbour_accepted dsha nets net hn hmem ver h hv hl
  have hvalsl : ((ver :: Address.convOf h)
      ++ createChecksum (encOf ver) net.bech32 (ver :: Address.convOf h)).length = 59 := by
    simp [convOf_length, hl, createChecksum_length]
  obtain ⟨hh1, hh2⟩ := neighbour_hamming net.bech32 _ hvalsl (segwitVals_lt net.bech32 (by omega) (convOf_lt h))
  rw [← segwitText_eq, ← ha] at hh1 hh2
  refine ⟨h', hl', ?_, hh1, hh2, ?_, ?_⟩
  · rw [ha, ht', Address.std32_text sha net (1 - ver) h' (by omega)]
  · rw [ha, ht']; exact Address.splitOne_segwitText _ _ _ hn.noSep
  · rw [ha, hs', Address.std32_script (1 - ver) h' (by omega) hl']

/-- (ii) for a table whose human-readable parts contain a lower-case letter (embit's: `generated_hrps_have_lower`),
    as one equivalence: among the strings of the same length within four substitutions of the address `a` of a
    32-byte v0/v1 program, with the human-readable part untouched and different from `a`, `address_to_scriptpubkey`
    yields a script for exactly one, `neighbour a`, and the script is that of the other type for the program `h'`
    whose canonical address `neighbour a` is. -/
theorem cross_variant_iff (dsha sha : Bytes → Bytes) (nets : List Network) (ht : Address.TableOk nets)
    (hL : Address.hrpsHaveLower nets = true) (net : Network) (hmem : net ∈ nets) (ver : Nat) (h : Bytes)
    (hv : ver ≤ 1) (hl : h.length = 32) :
    let a := addressOf sha (Address.paramsOf net) (Address.std32 ver h)
    ∃ h' : Bytes, h'.length = 32 ∧ neighbour a = addressOf sha (Address.paramsOf net) (Address.std32 (1 - ver) h')
      ∧ ∀ (s' : List Char) (sc : Bytes), a.length = s'.length → charHamming a s' ≤ 4 → s' ≠ a
          → Address.splitOne s' = net.bech32
          → (Address.toScript dsha nets s' = some (some sc)
              ↔ s' = neighbour a ∧ sc = (Address.std32 (1 - ver) h').script) := by
  intro a
  have hn := ht.each net hmem
  obtain ⟨h', hl', hnb, _, _, _, hacc⟩ := cross_variant_neighbour_accepted dsha sha nets ht net hmem ver h hv hl
  refine ⟨h', hl', hnb, ?_⟩
  intro s' sc hlen hham hne hsplit
  have ha : a = segwitText net.bech32 ver (Address.convOf h) := Address.std32_text sha net ver h hv
  have halow : lower a = a := by
    rw [ha]; exact Address.segwitText_convOf_lower net hn ver h hv
  constructor
  · intro hy
    -- an accepted `s'` is lower case, because its human-readable part contains a lower-case letter
    have hslow : lower s' = s' := by
      have hb := Address.toScript_long_some dsha nets s' sc
        (hlen ▸ ha ▸ Address.segwitText_long net ver h (Or.inr hl)) hy
      obtain ⟨net', hn', _, _, _, _, _, hmix, hsp'⟩ := Address.bech32Branch_sound nets s' sc hb
      exact Address.lower_of_hrp_lower s' net'.bech32 hsp' (Address.hrpsHaveLower_mem hL hn') hmix
    have hne' : lower a ≠ lower s' := by
      rw [halow, hslow]; exact fun e => hne e.symm
    have hch := cross_variant_characterised dsha sha nets ht net hmem ver h hv hl s' sc hlen hham hne' hsplit hy
    rw [hslow] at hch
    refine ⟨hch, ?_⟩
    rw [hch] at hy
    exact (Option.some.inj (Option.some.inj (hy.symm.trans hacc))).symm ▸ rfl
  · rintro ⟨rfl, rfl⟩
    exact hacc

/-! non-vacuity (B) -/

/-- the Appendix-D pair is an instance: `neighbour` maps one onto the other and back -/
example :
    neighbour "bc1qqqqqqqqqqqqqqqqqqqqqqqqqqqqqqqqqqqqqqqqqqqqqqqqqqqqqthqst8".toList
      = "bc1pqqqqqqqqqqqqkqqqqqqqqlqqqqqqqqqqqqqqqqqqqeqqqqqqqqqqthqst8".toList
    ∧ neighbour "bc1pqqqqqqqqqqqqkqqqqqqqqlqqqqqqqqqqqqqqqqqqqeqqqqqqqqqqthqst8".toList
      = "bc1qqqqqqqqqqqqqqqqqqqqqqqqqqqqqqqqqqqqqqqqqqqqqqqqqqqqqthqst8".toList := by
  rw [String.toList_ofList, String.toList_ofList]
  decide +kernel
/-- the hypotheses of `cross_variant_characterised` / `cross_variant_iff` hold for it -/
example :
    let a := addressOf (fun _ => []) (Address.paramsOf exNet) (Address.std32 0 (List.replicate 32 0))
    let s' := "bc1pqqqqqqqqqqqqkqqqqqqqqlqqqqqqqqqqqqqqqqqqqeqqqqqqqqqqthqst8".toList
    a = "bc1qqqqqqqqqqqqqqqqqqqqqqqqqqqqqqqqqqqqqqqqqqqqqqqqqqqqqthqst8".toList
    ∧ a.length = s'.length ∧ charHamming a s' = 4 ∧ lower a ≠ lower s' ∧ Address.splitOne s' = exNet.bech32
    ∧ Address.toScript (fun _ => []) Generated.addrNetworks s'
        = some (some (Address.std32 1 [0, 0, 0, 0, 0, 0, 0, 0x0b, 0, 0, 0, 0, 0, 0x7c, 0, 0, 0, 0, 0, 0, 0, 0, 0, 0, 0,
            0x06, 0x40, 0, 0, 0, 0, 0]).script) := by
  rw [String.toList_ofList, String.toList_ofList]
  decide +kernel
/-- the hypotheses of `cross_variant_p2wpkh_none` hold for a string that `bech32.decode` itself accepts (a valid
    v1 address with a 20-byte program, four substitutions away from the p2wpkh address): the 39-symbol pattern
    exists as well, only `address_to_scriptpubkey` refuses its result -/
example :
    let a := addressOf (fun _ => []) (Address.paramsOf exNet) (.p2wpkh (List.replicate 20 0))
    let s' := "bc1pqqqqaqqqq9qqqqqqqqqqqqqqqqqqqq6q9e75rs".toList
    a = "bc1qqqqqqqqqqqqqqqqqqqqqqqqqqqqqqqqq9e75rs".toList
    ∧ a.length = s'.length ∧ charHamming a s' = 4 ∧ lower a ≠ lower s' ∧ Address.splitOne s' = exNet.bech32
    ∧ (decode "bc".toList s').map Prod.fst = some 1
    ∧ Address.toScript (fun _ => []) Generated.addrNetworks s' = none := by
  rw [String.toList_ofList, String.toList_ofList, String.toList_ofList]
  decide +kernel
example : hamming crossPattern (List.replicate 59 0) = 4 := by decide

-- GOAL (not proved): at the level of `bech32.decode` alone (which also accepts witness versions 2–16 and v1 programs of every length 2–40): which strings within four data-part substitutions of a valid segwit address decode under the other checksum variant when the data part does not have 59 symbols or the version symbol changes otherwise than 0 ↔ 1 (0 ↔ 2…16) — `cross_variant_words` covers 59 symbols with first symbols differing by XOR 1, which is all that `address_to_scriptpubkey` can yield (39-symbol data parts are closed by `cross_variant_p2wpkh_none`); the syndrome target is not shift-invariant, so every length and version pair needs its own rank computation

end Embit.Props.C11X
