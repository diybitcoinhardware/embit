import EmbitModel.Proofs.KeysSound
import EmbitModel.Proofs.KeysB58Canon
import EmbitModel.Proofs.KeyToyCurve
import EmbitModel.Props.C10
/-
  C10X — decoder soundness for C10 (key encodings validate strictly): whatever a decoder ACCEPTS re-encodes to
  exactly the input, so no key has a second accepted spelling. `Props/C10.lean` proves this for the SEC parser
  (`sec_parse_sound`) and proves the encode-then-decode direction plus 24 rejection classes for the others; here
  the "accepted ⇒ re-encodes to itself" direction is proved for every remaining decoder of the model:

    PrivateKey(secret) / PrivateKey.parse · PrivateKey.from_wif · PublicKey.read_from (stream) ·
    PublicKey.from_xonly · HDKey.read_from (stream) · HDKey.parse · HDKey.from_base58.

  Same conventions as C10: arbitrary curve (`EcLaws E` where a point is re-encoded), arbitrary text codec; for the
  two text decoders the codec law is used in the decoding direction, `DecodeCanonical env`:
  `dec t = some b → enc b = t` (Base58Check has one spelling per payload). The law is PROVED here for the concrete
  Base58Check text layer of the key models (`Model/Base58Check.lean`, the one the driver runs and every check
  corresponds with `embit.base58`), for any checksum function, by reading it as C11's Base58 model through the
  character codes (`base58check_decode_canonical`); the `_b58` theorems have no text-layer hypothesis left.
-/
namespace Embit.Props.C10X
open Embit Embit.Keys Embit.Spec

variable {E : EcOps}

/-- the constructor accepts exactly a 32-byte string with a valid scalar, and the key serialises to that string -/
theorem priv_init_sound (secret : Bytes) (c : Bool) (net : Nat) (k : PrivateKey)
    (h : PrivateKey.init E secret c net = some k) :
    k.serialize = secret ∧ secret.length = 32 ∧ k.compressed = c ∧ k.network = net
      ∧ seckeyValid E k.secret = true :=
  privInit_sound secret c net k h

theorem priv_parse_sound (b : Bytes) (k : PrivateKey) (h : PrivateKey.parse E b = some k) :
    k.serialize = b ∧ b.length = 32 ∧ k.compressed = true ∧ k.network = Generated.privDefaultNet
      ∧ seckeyValid E k.secret = true :=
  privParse_sound b k h

/-- the network chosen by `from_wif` carries exactly the version byte of the text (for every NETWORKS table) -/
theorem wif_network_sound (pre : Bytes) (j : Nat) (h : wifNetwork pre = some j) : netWif j = some pre :=
  wifNetwork_sound pre j h

/-- an accepted WIF text re-encodes to itself — version byte, secret and
    compression flag are all determined by the text, and nothing else is accepted for this key and network
    version; the key it holds is a valid scalar -/
theorem wif_parse_sound (env : Env) (hcanon : DecodeCanonical env) (t : Text) (k : PrivateKey)
    (h : PrivateKey.fromWif E env t = some k) :
    k.wif env = some t ∧ seckeyValid E k.secret = true :=
  let ⟨h1, h2, _⟩ := fromWif_sound env hcanon t k h
  ⟨h1, h2⟩

/-- two accepted WIF texts holding the same key, flag and network are the same text -/
theorem wif_parse_injective (env : Env) (hcanon : DecodeCanonical env) (t t' : Text) (k : PrivateKey)
    (h : PrivateKey.fromWif E env t = some k) (h' : PrivateKey.fromWif E env t' = some k) : t = t' := by
  have a := (fromWif_sound env hcanon t k h).1
  have b := (fromWif_sound env hcanon t' k h').1
  rw [a] at b
  exact Option.some.inj b

/-- whatever `PublicKey.read_from` accepts: the encoding of the key followed by the unread rest is the stream -/
theorem sec_read_from_sound (L : EcLaws E) (s : Bytes) (k : PublicKey E) (rest : Bytes)
    (h : PublicKey.readFrom E s = some (k, rest)) : k.sec ++ rest = s ∧ E.isInf k.point = false :=
  readFrom_sec_sound L s k rest h

/-- whatever `from_xonly` accepts is the even-Y key whose x-only encoding is the input -/
theorem from_xonly_sound (L : EcLaws E) (data : Bytes) (k : PublicKey E)
    (h : PublicKey.fromXonly E data = some k) :
    k.xonly = data ∧ k.compressed = true ∧ E.yOdd k.point = false ∧ E.isInf k.point = false :=
  fromXonly_sound L data k h

/-- whatever `HDKey.parse` accepts serialises to exactly the input bytes
    (78 of them), and the text of these bytes says the kind of the key held -/
theorem xkey_parse_sound (L : EcLaws E) (env : Env) (b : Bytes) (k : HDKey E)
    (h : HDKey.parse E env b = some k) :
    k.serialize = some b ∧ b.length = 78 ∧ sub14 (env.b58enc b) = kindText k.key.isPrivate :=
  parse_hd_sound L env b k h

/-- stream form: the serialization followed by the unread rest is the stream -/
theorem xkey_read_from_sound (L : EcLaws E) (env : Env) (s : Bytes) (k : HDKey E) (rest : Bytes)
    (h : HDKey.readFrom E env s = some (k, rest)) :
    ∃ b, k.serialize = some b ∧ b ++ rest = s ∧ b.length = 78 :=
  let ⟨b, h1, h2, h3, _⟩ := readFrom_hd_sound L env s k rest h
  ⟨b, h1, h2, h3⟩

/-- `parse` is injective on what it accepts: two byte strings parsed to the same key are equal -/
theorem xkey_parse_injective (L : EcLaws E) (env : Env) (b b' : Bytes) (k : HDKey E)
    (h : HDKey.parse E env b = some k) (h' : HDKey.parse E env b' = some k) : b = b' :=
  Option.some.inj ((xkey_exact L env).spelling_unique (b := some b) (b' := some b') h h')

/-- whatever `HDKey.parse` accepts prints as the Base58Check text of the input bytes -/
theorem xkey_parse_to_base58 (L : EcLaws E) (env : Env) (b : Bytes) (k : HDKey E)
    (h : HDKey.parse E env b = some k) : k.toBase58 env = some (env.b58enc b) :=
  parse_hd_toBase58 L env b k h

/-- text form: an accepted xprv / xpub text re-encodes to itself -/
theorem xkey_text_parse_sound (L : EcLaws E) (env : Env) (hcanon : DecodeCanonical env) (t : Text) (k : HDKey E)
    (h : HDKey.fromBase58 E env t = some k) : k.toBase58 env = some t :=
  fromBase58_sound L env hcanon t k h

/-- `base58.decode` accepts one spelling per byte string: `decode s = b → encode b = s` (embit's `decode` with its
    `s[:-1]` padding loop and `encode` are mutually inverse also in this direction) -/
theorem base58_decode_canonical (s : Text) (b : Bytes) (h : B58.decode s = some b) : B58.encode b = s :=
  B58.encode_decode s b h

/-- … hence whatever `decode_check` accepts is the `encode_check` of its result, for any checksum function -/
theorem base58check_decode_canonical (env : Env) (dsha : Bytes → Bytes) (henc : env.b58enc = B58.encodeCheck dsha)
    (hdec : env.b58dec = B58.decodeCheck dsha) : DecodeCanonical env :=
  B58.decodeCanonical env dsha henc hdec

/-- WIF over the real text layer: no hypothesis about the codec is left -/
theorem wif_parse_sound_b58 (env : Env) (dsha : Bytes → Bytes) (henc : env.b58enc = B58.encodeCheck dsha)
    (hdec : env.b58dec = B58.decodeCheck dsha) (t : Text) (k : PrivateKey)
    (h : PrivateKey.fromWif E env t = some k) : k.wif env = some t ∧ seckeyValid E k.secret = true :=
  wif_parse_sound env (B58.decodeCanonical env dsha henc hdec) t k h

/-- xprv / xpub text over the real text layer -/
theorem xkey_text_parse_sound_b58 (L : EcLaws E) (env : Env) (dsha : Bytes → Bytes)
    (henc : env.b58enc = B58.encodeCheck dsha) (hdec : env.b58dec = B58.decodeCheck dsha) (t : Text) (k : HDKey E)
    (h : HDKey.fromBase58 E env t = some k) : k.toBase58 env = some t :=
  xkey_text_parse_sound L env (B58.decodeCanonical env dsha henc hdec) t k h

/-! ### non-vacuity (toy curve, the toy environment of C10) -/

open Embit.Props.C10 in
/-- C10's toy codec satisfies `dec (enc b) = b` but not the decoding-direction law (it ignores the first four
    characters of a text); an environment with the law: texts are the payloads themselves -/
def idEnv : Env := { exEnv with b58enc := fun b => b, b58dec := fun t => some t }

example : DecodeCanonical idEnv := by intro t b h; cases h; rfl

/-- an accepted WIF (mainnet version 0x80, secret 5, compressed) and its re-encoding -/
example : (PrivateKey.fromWif toy idEnv ([0x80] ++ beN 32 5 ++ [0x01])).isSome = true := by decide
example : ∀ k, PrivateKey.fromWif toy idEnv ([0x80] ++ beN 32 5 ++ [0x01]) = some k →
    k.wif idEnv = some ([0x80] ++ beN 32 5 ++ [0x01]) :=
  fun k h => (wif_parse_sound idEnv (by intro t b h; cases h; rfl) _ k h).1

open Embit.Props.C10 in
/-- an accepted extended key: the serialization of the C10 example key parses, and re-serialises to itself -/
example : (HDKey.parse toy exEnv ((exHd.serialize).getD [])).isSome = true := by decide
open Embit.Props.C10 in
example : ∀ k, HDKey.parse toy exEnv ((exHd.serialize).getD []) = some k → k.serialize = exHd.serialize :=
  fun k h => by
    have := (xkey_parse_sound toy_laws exEnv _ k h).1
    rw [this]; decide

/-- an accepted x-only key and a stream read with trailing bytes -/
example : (PublicKey.fromXonly toy (beN 32 2)).isSome = true := by decide
example : (PublicKey.readFrom toy ((⟨3, false⟩ : PublicKey toy).sec ++ [9, 9])).isSome = true := by decide
/-- the real text layer: a Base58 string and its decoding (`"2g"` = 0x61), and a string with leading `1`s -/
example : B58.decode [0x32, 0x67] = some [0x61] ∧ B58.encode [0x61] = [0x32, 0x67] := by decide +kernel
example : B58.decode [0x31, 0x31, 0x32] = some [0, 0, 1] ∧ B58.encode [0, 0, 1] = [0x31, 0x31, 0x32] := by decide +kernel

end Embit.Props.C10X
