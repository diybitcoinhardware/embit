import EmbitModel.Proofs.ContractDer
import EmbitModel.Proofs.ContractCurve
import EmbitModel.Proofs.ContractSchnorr
import EmbitModel.Proofs.ToyCurve
/-
  C08 — the pure-python secp256k1 fallback is interchangeable with libsecp256k1.
  Property theorems only. `Model.PySecp.*` models `embit/util/py_secp256k1.py` (+ key.py), `Spec.Libsecp.*` is the
  contract of the same function of `ctypes_secp256k1.py` (libsecp256k1's documented behaviour + what the wrapper
  does); both are tied to the real modules by the correspondence check on every run, and the two real modules are
  compared with each other directly. A theorem `py_eq_contract_f` says: for ALL byte-string arguments the two return
  the same bytes or both reject (`Option` equality). Curve operations are the same abstract `EcOps` on both sides, so
  the theorems are about validation, encoding and dispatch; where the two sides compute a point along different
  routes the group laws `EcLaws E` are an explicit hypothesis. `E.n % 2 = 1` (the group order is odd) is needed
  wherever the two formulations of the low-S rule (`s > n // 2` vs `s > (n-1)/2`) meet.
-/
namespace Embit.Props.C08
open Embit Embit.Model Embit.Model.PySecp

variable (E : EcOps) (H : HashOps)

/-! ### scalar arithmetic modulo n — all 32-byte (and wrong-length) inputs -/

theorem py_eq_contract_seckey_verify (secret : Bytes) :
    ecSeckeyVerify E secret = Spec.Libsecp.ec_seckey_verify E secret := by
  unfold ecSeckeyVerify Spec.Libsecp.ec_seckey_verify
  by_cases hl : secret.length = 32
  · rw [if_neg (by omega), if_neg (by omega), seckey_eq E secret hl]
    cases seckeyValid E (ofBe secret) <;> rfl
  · rw [if_pos hl, if_pos hl]

theorem py_eq_contract_privkey_negate (secret : Bytes) :
    ecPrivkeyNegate E secret = Spec.Libsecp.ec_privkey_negate E secret := by
  unfold ecPrivkeyNegate Spec.Libsecp.ec_privkey_negate Spec.Libsecp.seckey
  by_cases h : secret.length = 32 ∧ 0 < ofBe secret ∧ ofBe secret < E.n
  · rw [if_pos h, if_neg (by omega)]
    exact if_neg (by omega)
  · rw [if_neg h]
    by_cases hl : secret.length = 32
    · rw [if_neg (by omega)]; exact if_pos (by omega)
    · exact if_pos hl

/-- includes: invalid secret, tweak ≥ n, operands summing to 0 mod n — rejected by both -/
theorem py_eq_contract_privkey_add (secret tweak : Bytes) :
    ecPrivkeyAdd E secret tweak = Spec.Libsecp.ec_privkey_add E secret tweak := by
  unfold ecPrivkeyAdd Spec.Libsecp.ec_privkey_add Spec.Libsecp.tweak Spec.Libsecp.seckey
  by_cases hs : secret.length = 32 ∧ 0 < ofBe secret ∧ ofBe secret < E.n
  · by_cases ht : tweak.length = 32 ∧ ofBe tweak < E.n
    · rw [if_pos hs, if_pos ht, if_neg (by omega)]
      simp only [Option.bind_some]
      rw [if_neg (by omega)]
      -- both sides reduce `d + t` modulo `n`, and the sum is below `2n`
      by_cases hz : ofBe secret + ofBe tweak = E.n
      · rw [if_pos hz, if_pos (by rw [hz]; exact Nat.mod_self _)]
      · rw [if_neg hz]
        by_cases hlt : ofBe secret + ofBe tweak < E.n
        · rw [if_pos hlt, Nat.mod_eq_of_lt hlt, if_neg (by omega)]
        · rw [if_neg hlt, Nat.mod_eq_sub_mod (by omega), Nat.mod_eq_of_lt (by omega), if_neg (by omega)]
    · rw [if_pos hs, if_neg ht]
      by_cases hl : secret.length ≠ 32 ∨ tweak.length ≠ 32
      · rw [if_pos hl]; rfl
      · rw [if_neg hl]; exact if_pos (by omega)
  · rw [if_neg hs]
    by_cases hl : secret.length ≠ 32 ∨ tweak.length ≠ 32
    · rw [if_pos hl]; rfl
    · rw [if_neg hl]; exact if_pos (by omega)

theorem py_eq_contract_privkey_tweak_add (secret tweak : Bytes) :
    ecPrivkeyTweakAdd E secret tweak = Spec.Libsecp.ec_privkey_tweak_add E secret tweak := py_eq_contract_privkey_add E secret tweak

/-! ### signature codecs — all 64 / 65-byte (and wrong-length) inputs -/

theorem py_eq_contract_parse_compact (c : Bytes) :
    ecdsaSignatureParseCompact E c = Spec.Libsecp.ecdsa_signature_parse_compact E c := by
  unfold ecdsaSignatureParseCompact Spec.Libsecp.ecdsa_signature_parse_compact Spec.Libsecp.sigStruct
  by_cases hl : c.length = 64
  · have hl' : ¬ c.length ≠ 64 := by omega
    rw [if_neg hl', if_neg hl', rev_eq_leN _ (take32_len c hl), rev_eq_leN _ (drop32_len c hl)]
    by_cases h : ofBe (c.take 32) < E.n ∧ ofBe (c.drop 32) < E.n
    · rw [if_pos h, if_neg (by omega)]
    · rw [if_neg h, if_pos (by omega)]
  · rw [if_pos hl, if_pos hl]

theorem py_eq_contract_serialize_compact (sig : Bytes) :
    ecdsaSignatureSerializeCompact sig = Spec.Libsecp.ecdsa_signature_serialize_compact sig := by
  unfold ecdsaSignatureSerializeCompact Spec.Libsecp.ecdsa_signature_serialize_compact Spec.Libsecp.sigOf
  by_cases hl : sig.length = 64
  · simp only [hl, ne_eq, not_true_eq_false, if_false, if_true, Option.map_some]
    rw [rev_eq_beN _ (take32_len sig hl), rev_eq_beN _ (drop32_len sig hl)]
  · simp [hl]

/-- the Python `bit_length` serialiser is the X.690 shortest-form encoder -/
theorem py_eq_contract_serialize_der (sig : Bytes) :
    ecdsaSignatureSerializeDer sig = Spec.Libsecp.ecdsa_signature_serialize_der sig := by
  unfold ecdsaSignatureSerializeDer Spec.Libsecp.ecdsa_signature_serialize_der Spec.Libsecp.sigOf
  by_cases hl : sig.length = 64
  · simp only [hl, ne_eq, not_true_eq_false, if_false, if_true, Option.map_some]
    have h1 := ofLe_lt_256 _ (take32_len sig hl)
    have h2 := ofLe_lt_256 _ (drop32_len sig hl)
    have e : (2:Nat) ^ 256 ≤ 2 ^ 264 := Nat.pow_le_pow_right (by norm_num) (by norm_num)
    rw [encode_eq_serRS _ _ (by omega) (by omega)]
  · simp [hl]

theorem py_eq_contract_normalize (hodd : E.n % 2 = 1) (sig : Bytes) :
    ecdsaSignatureNormalize E sig = Spec.Libsecp.ecdsa_signature_normalize E sig := by
  unfold ecdsaSignatureNormalize Spec.Libsecp.ecdsa_signature_normalize Spec.Libsecp.sigOf Spec.Libsecp.sigStruct
    Spec.Ecdsa.normalizeS Spec.Ecdsa.isLowS
  by_cases hl : sig.length = 64
  · rw [if_neg (by omega : ¬ sig.length ≠ 64), if_pos hl]
    simp only [Option.bind_some, decide_eq_true_eq]
    by_cases h : ofLe (sig.take 32) < E.n ∧ ofLe (sig.drop 32) < E.n
    · rw [if_pos h, if_neg (by omega), normalize_eq E.n _ hodd]
    · rw [if_neg h, if_pos (by omega)]
  · rw [if_pos hl, if_neg hl]; rfl

theorem py_eq_contract_recoverable_parse_compact (c : Bytes) (recid : Int) :
    ecdsaRecoverableSignatureParseCompact E c recid =
      Spec.Libsecp.ecdsa_recoverable_signature_parse_compact E c recid := by
  unfold ecdsaRecoverableSignatureParseCompact Spec.Libsecp.ecdsa_recoverable_signature_parse_compact
  rw [py_eq_contract_parse_compact]
  by_cases hl : c.length = 64
  · rw [if_neg (by omega : ¬ c.length ≠ 64)]
    split
    · rfl
    · cases Spec.Libsecp.ecdsa_signature_parse_compact E c <;> rfl
  · -- the length test is also the first test of `parse_compact`
    have : Spec.Libsecp.ecdsa_signature_parse_compact E c = none := if_pos hl
    rw [if_pos hl, this]
    split <;> rfl

theorem py_eq_contract_recoverable_serialize_compact (sig : Bytes) :
    ecdsaRecoverableSignatureSerializeCompact sig =
      Spec.Libsecp.ecdsa_recoverable_signature_serialize_compact sig := by
  unfold ecdsaRecoverableSignatureSerializeCompact Spec.Libsecp.ecdsa_recoverable_signature_serialize_compact
  rw [py_eq_contract_serialize_compact]
  by_cases hl : sig.length = 65
  · have h64 : sig[64]? = some (sig.getD 64 0) := by
      rw [List.getD_eq_getElem?_getD, List.getElem?_eq_getElem (by omega : 64 < sig.length)]; rfl
    rw [if_neg (by omega : ¬ sig.length ≠ 65), if_neg (by omega : ¬ sig.length ≠ 65), h64]
    cases Spec.Libsecp.ecdsa_signature_serialize_compact (List.take 64 sig) <;> rfl
  · rw [if_pos hl, if_pos hl]

theorem py_eq_contract_recoverable_convert (sig : Bytes) :
    ecdsaRecoverableSignatureConvert sig = Spec.Libsecp.ecdsa_recoverable_signature_convert sig := rfl

theorem py_eq_contract_pubkey_create (secret : Bytes) :
    ecPubkeyCreate E secret = Spec.Libsecp.ec_pubkey_create E secret := eq_pubkey_create E secret

/-- includes coordinates ≥ p, wrong headers / lengths -/
theorem py_eq_contract_pubkey_parse (sec : Bytes) :
    ecPubkeyParse E sec = Spec.Libsecp.ec_pubkey_parse E sec := by
  unfold ecPubkeyParse Spec.Libsecp.ec_pubkey_parse
  cases sec with
  | nil => rfl
  | cons pre body =>
    dsimp only [List.length_cons]
    by_cases h33 : body.length = 32 ∧ (pre = 0x02 ∨ pre = 0x03)
    · -- compressed: range test, `lift_x`, negation for header 03
      rw [if_pos h33, if_neg (by omega), if_pos (by omega), if_neg (by rcases h33.2 with h | h <;> simp [h])]
      unfold setCompressed
      by_cases hx : ofBe body < E.p
      · rw [if_pos hx, if_neg (by omega)]
        cases E.liftX (ofBe body) with
        | none => rfl
        | some P =>
          dsimp only [Option.bind_some]
          rw [pubStore_eq]
          rcases h33.2 with rfl | rfl <;> rfl
      · rw [if_neg hx, if_pos (by omega)]
    · rw [if_neg h33]
      by_cases h65 : body.length = 64 ∧ pre = 0x04
      · -- uncompressed: both coordinates reduced, then the curve equation
        rw [if_pos h65, if_neg (by omega), if_neg (by omega), if_neg (by simp [h65.2])]
        by_cases hx : ofBe (body.take 32) < E.p ∧ ofBe (body.drop 32) < E.p
        · rw [if_pos hx, if_neg (by omega)]
          cases E.ofXY (ofBe (body.take 32)) (ofBe (body.drop 32)) with
          | none => rfl
          | some P => exact pubStore_eq E P
        · rw [if_neg hx, if_pos (by omega)]
      · -- any other length / header combination is rejected by both
        rw [if_neg h65]
        by_cases hl : body.length + 1 ≠ 33 ∧ body.length + 1 ≠ 65
        · rw [if_pos hl]
        · rw [if_neg hl]
          by_cases hl33 : body.length + 1 = 33
          · rw [if_pos hl33, if_pos ⟨fun h => h33 ⟨by omega, Or.inl h⟩, fun h => h33 ⟨by omega, Or.inr h⟩⟩]
          · rw [if_neg hl33, if_pos (fun h => h65 ⟨by omega, h⟩)]

theorem py_eq_contract_pubkey_serialize (pub : Bytes) (flag : Nat) :
    ecPubkeySerialize E pub flag = Spec.Libsecp.ec_pubkey_serialize E pub flag := by
  unfold ecPubkeySerialize Spec.Libsecp.ec_pubkey_serialize
  rw [show Spec.Libsecp.EC_COMPRESSED = EC_COMPRESSED from rfl,
    show Spec.Libsecp.EC_UNCOMPRESSED = EC_UNCOMPRESSED from rfl]
  by_cases hl : pub.length = 64
  · rw [if_neg (by omega : ¬ pub.length ≠ 64), ← pubLoad_eq E pub hl]
    by_cases hf : flag ≠ EC_COMPRESSED ∧ flag ≠ EC_UNCOMPRESSED
    · rw [if_pos hf, if_pos hf]
    · rw [if_neg hf, if_neg hf]
      cases pubLoad E pub with
      | none => rfl
      | some P =>
        dsimp only [Option.bind_some]
        cases E.xy P with
        | none => rfl
        | some xy =>
          dsimp only [Option.map_some]
          by_cases hc : flag = EC_COMPRESSED
          · rw [if_pos hc, if_pos hc]
            rcases Nat.mod_two_eq_zero_or_one xy.2 with h | h <;> rw [h] <;> rfl
          · rw [if_neg hc, if_neg hc]; rfl
  · rw [if_pos hl, pubkeyOf_none E pub hl]
    split <;> rfl

/-- includes tweak ≥ n and a sum at infinity — rejected by both -/
theorem py_eq_contract_pubkey_add (pub tweak : Bytes) :
    ecPubkeyAdd E pub tweak = Spec.Libsecp.ec_pubkey_add E pub tweak := by
  unfold ecPubkeyAdd Spec.Libsecp.ec_pubkey_add Spec.Libsecp.tweak
  by_cases hl : pub.length = 64
  · rw [if_neg (by omega : ¬ pub.length ≠ 64), ← pubLoad_eq E pub hl]
    by_cases ht : tweak.length = 32 ∧ ofBe tweak < E.n
    · rw [if_neg (by omega : ¬ tweak.length ≠ 32), if_pos ht]
      cases pubLoad E pub with
      | none => rfl
      | some P =>
        dsimp only [Option.bind_some]
        rw [if_neg (by omega), pubStore_eq]
    · rw [if_neg ht]
      by_cases hl2 : tweak.length = 32
      · rw [if_neg (by omega : ¬ tweak.length ≠ 32)]
        cases pubLoad E pub with
        | none => rfl
        | some P => exact if_pos (by omega)
      · rw [if_pos hl2]
        cases pubLoad E pub <;> rfl
  · rw [if_pos hl, pubkeyOf_none E pub hl]; rfl

theorem py_eq_contract_pubkey_tweak_add (pub tweak : Bytes) :
    ecPubkeyTweakAdd E pub tweak = Spec.Libsecp.ec_pubkey_tweak_add E pub tweak := py_eq_contract_pubkey_add E pub tweak

/-- py negates by re-parsing the compressed encoding with the other parity byte; libsecp negates the point -/
theorem py_eq_contract_pubkey_negate (L : EcLaws E) (hp : E.p ≤ 2 ^ 256) (pub : Bytes) :
    ecPubkeyNegate E pub = Spec.Libsecp.ec_pubkey_negate E pub := eq_pubkey_negate E L hp pub

/-- py goes through the compressed encoding and `lift_x`; libsecp negates the point when Y is odd -/
theorem py_eq_contract_xonly_from_pubkey (L : EcLaws E) (hp : E.p ≤ 2 ^ 256) (pub : Bytes) :
    xonlyPubkeyFromPubkey E pub = Spec.Libsecp.xonly_pubkey_from_pubkey E pub := eq_xonly E L hp pub

theorem py_eq_contract_keypair_create (L : EcLaws E) (hp : E.p ≤ 2 ^ 256) (secret : Bytes) :
    keypairCreate E secret = Spec.Libsecp.keypair_create E secret := eq_keypair_create E L hp secret

/-- py re-encodes the structure to DER and runs the strict parser of `verify_ecdsa`; libsecp checks range and low-S
    directly — the same verdict for every 64-byte structure, message and key structure -/
theorem py_eq_contract_ecdsa_verify (hodd : E.n % 2 = 1) (sig msg pub : Bytes) :
    ecdsaVerify E sig msg pub = Spec.Libsecp.ecdsa_verify E sig msg pub := by
  unfold ecdsaVerify Spec.Libsecp.ecdsa_verify Spec.Libsecp.sigOf
  by_cases hs : sig.length = 64
  · by_cases hm : msg.length = 32
    · by_cases hp : pub.length = 64
      · simp only [hs, hm, hp, ne_eq, not_true_eq_false, if_false, if_true, Option.bind_some]
        rw [← pubLoad_eq E pub hp]
        cases pubLoad E pub with
        | none => rfl
        | some P =>
          simp only [Option.map_some]
          unfold ecdsaSignatureSerializeDer
          simp only [hs, ne_eq, not_true_eq_false, if_false, Option.some.injEq]
          exact verifyKey_eq_spec E hodd P _ _ msg (ofLe_lt_256 _ (take32_len sig hs)) (ofLe_lt_256 _ (drop32_len sig hs))
      · simp [hs, hm, hp, pubkeyOf_none E pub hp]
    · simp [hs, hm]
  · simp only [hs, ne_eq, not_false_eq_true, if_true, if_false, Option.bind_none]
    split <;> rfl

/-- what py's strict parser accepts, libsecp parses to the same structure -/
theorem parse_der_py_to_contract (hn : E.n ≤ 2 ^ 256) (der sig : Bytes)
    (h : ecdsaSignatureParseDer E der = some sig) : Spec.Libsecp.ecdsa_signature_parse_der E der = some sig := by
  unfold ecdsaSignatureParseDer at h
  split at h
  · cases h
  · rename_i r s hp
    cases h
    obtain ⟨hb, hok⟩ := parse_strict _ _ _ _ _ hp
    have hr := (rangeOk_iff E.n true r s).mp hok
    unfold Spec.Libsecp.ecdsa_signature_parse_der
    rw [hb, contract_parses_strict E hn r s hr.2.1 hr.2.2.2.1]
    rfl

/-- `parse_der` of py = `parse_der` of libsecp restricted to verifiable signatures: libsecp additionally parses
    encodings that denote r = 0, s = 0 (negative / overflowing numbers are stored as 0) or a high S — none of which
    any key verifies -/
theorem py_eq_contract_parse_der (hn : E.n ≤ 2 ^ 256) (der sig : Bytes) :
    ecdsaSignatureParseDer E der = some sig ↔
      ∃ r s, Spec.Libsecp.parseDerRS E der = some (r, s) ∧ sig = Spec.Libsecp.sigStruct r s ∧
        r ≠ 0 ∧ s ≠ 0 ∧ s ≤ E.n / 2 := by
  constructor
  · intro h
    have hc := parse_der_py_to_contract E hn der sig h
    unfold ecdsaSignatureParseDer at h
    split at h
    · cases h
    · rename_i r s hp
      cases h
      obtain ⟨hb, hok⟩ := parse_strict _ _ _ _ _ hp
      have hr := (rangeOk_iff E.n true r s).mp hok
      refine ⟨r, s, ?_, rfl, by omega, by omega, hr.2.2.2.2 rfl⟩
      rw [hb]; exact contract_parses_strict E hn r s hr.2.1 hr.2.2.2.1
  · rintro ⟨r, s, hp, rfl, hr, hs, hlow⟩
    obtain ⟨hstrict, hrn, hsn⟩ := strict_of_contract E der r s hp hr hs
    unfold ecdsaSignatureParseDer Der.parse
    rw [hstrict]
    have : Der.rangeOk E.n true r s = true :=
      (rangeOk_iff E.n true r s).mpr ⟨by omega, hrn, by omega, hsn, fun _ => hlow⟩
    simp [this, Spec.Libsecp.sigStruct]

/-- **the final verdict is the same for arbitrary signature encodings**: a DER byte string is accepted
    (parses and verifies) under the pure-python backend iff it is under libsecp256k1 -/
theorem verdict_agree (hn : E.n ≤ 2 ^ 256) (hodd : E.n % 2 = 1) (der msg pub : Bytes) :
    (∃ sig, ecdsaSignatureParseDer E der = some sig ∧ ecdsaVerify E sig msg pub = some true) ↔
    (∃ sig, Spec.Libsecp.ecdsa_signature_parse_der E der = some sig ∧
            Spec.Libsecp.ecdsa_verify E sig msg pub = some true) := by
  constructor
  · rintro ⟨sig, hp, hv⟩
    exact ⟨sig, parse_der_py_to_contract E hn der sig hp, by rw [← py_eq_contract_ecdsa_verify E hodd]; exact hv⟩
  · rintro ⟨sig, hp, hv⟩
    refine ⟨sig, ?_, by rw [py_eq_contract_ecdsa_verify E hodd]; exact hv⟩
    -- a structure that verifies has r, s ≠ 0 and low S
    unfold Spec.Libsecp.ecdsa_signature_parse_der at hp
    cases hrs : Spec.Libsecp.parseDerRS E der with
    | none => rw [hrs] at hp; cases hp
    | some rs =>
      obtain ⟨r, s⟩ := rs
      rw [hrs] at hp
      simp only [Option.map_some, Option.some.injEq] at hp
      subst hp
      have hle := parseDerRS_le E der r s hrs
      have hv' := contract_verify_true_range E r s msg pub (by omega) (by omega) hv
      rw [py_eq_contract_parse_der E hn]
      exact ⟨r, s, hrs, rfl, hv'.1, hv'.2.1, hv'.2.2⟩

/-- `ecdsa_sign` under both backends: same bytes or both reject, for every message, key and extra data — away
    from the region where the first valid RFC 6979 candidate yields r = 0 or s = 0 (there libsecp256k1 moves on to
    the next candidate and py raises; probability ≈ 2^-256 per signature) -/
theorem py_eq_contract_ecdsa_sign_partial (hn : E.n < 2 ^ 256) (hodd : E.n % 2 = 1) (fuel : Nat)
    (msg secret : Bytes) (extra : Option Bytes)
    (hgood : ∀ k, deterministicK H fuel E.n (ofBe secret) (ofBe msg) extra = some k →
      (Spec.Ecdsa.signWith E (ofBe secret) (ofBe msg) k).isSome) :
    ecdsaSign E H fuel msg secret extra = Spec.Libsecp.ecdsa_sign E H fuel msg secret extra :=
  eq_ecdsa_sign_partial E H hn hodd fuel msg secret extra hgood

/-- witness that the excluded region is real: on a toy group where the first candidate gives r = 0 the model
    rejects while the contract signs with the next candidate -/
theorem ecdsa_sign_differs_when_r_zero :
    ecdsaSign toyE toyHs 4 (beN 32 1) (beN 32 1) none = none ∧
    (Spec.Libsecp.ecdsa_sign toyE toyHs 4 (beN 32 1) (beN 32 1) none).isSome = true := by
  decide +kernel

/-- key.py's `sign_schnorr` is BIP340 default signing (with libsecp256k1's convention for absent auxiliary data) -/
theorem py_sign_schnorr_eq_bip340 (key msg : Bytes) (aux : Option Bytes) (hk : key.length = 32)
    (hm : msg.length = 32) (ha : badExtra aux = false) :
    signSchnorr E H key msg aux = Spec.Bip340.sign E H (ofBe key) msg aux := signSchnorr_eq_spec E H key msg aux hk hm ha

/-- key.py's `verify_schnorr` is BIP340 verification (`(n−e)·P` for `−e·P`, explicit `x = 0` test) -/
theorem py_verify_schnorr_eq_bip340 (L : EcLaws E) (key sig msg : Bytes) (hk : key.length = 32)
    (hm : msg.length = 32) (hs : sig.length = 64) :
    verifySchnorr E H key sig msg = some (Spec.Bip340.verify E H key msg sig) :=
  verifySchnorr_eq_spec E H L key sig msg hk hm hs

/-- includes odd-Y and invalid key structures, wrong lengths — same verdict or both reject -/
theorem py_eq_contract_schnorrsig_verify (L : EcLaws E) (hp : E.p ≤ 2 ^ 256) (sig msg pub : Bytes) :
    schnorrsigVerify E H sig msg pub = Spec.Libsecp.schnorrsig_verify E H sig msg pub :=
  eq_schnorrsig_verify E H L hp sig msg pub

/-- includes 32-byte secrets, 96-byte keypairs (consistent or not), invalid secrets, bad aux lengths -/
theorem py_eq_contract_schnorrsig_sign (L : EcLaws E) (hp : E.p ≤ 2 ^ 256) (msg keypair : Bytes) (aux : Option Bytes) :
    schnorrsigSign E H msg keypair aux = Spec.Libsecp.schnorrsig_sign E H msg keypair aux :=
  eq_schnorrsig_sign E H L hp msg keypair aux

/-! ### the defects that were repaired (theorems about the old code) -/

/-- D9: before fix 01 `ec_privkey_add` accepted the invalid secret 0 and returned a zero result -/
theorem privkey_add_legacy_witness :
    Legacy.ecPrivkeyAdd toyE (beN 32 0) (beN 32 1) = some (beN 32 1) ∧
    Spec.Libsecp.ec_privkey_add toyE (beN 32 0) (beN 32 1) = none ∧
    Legacy.ecPrivkeyAdd toyE (beN 32 1) (beN 32 10) = some (beN 32 0) ∧
    Spec.Libsecp.ec_privkey_add toyE (beN 32 1) (beN 32 10) = none := by decide +kernel

/-- D10: before fix 05 `ec_privkey_negate(0)` returned n; before fix 04 `parse_compact` accepted r = n -/
theorem negate_parse_compact_legacy_witness :
    Legacy.ecPrivkeyNegate toyE (beN 32 0) = some (beN 32 11) ∧
    Spec.Libsecp.ec_privkey_negate toyE (beN 32 0) = none ∧
    (Legacy.ecdsaSignatureParseCompact (beN 32 11 ++ beN 32 1)).isSome = true ∧
    Spec.Libsecp.ecdsa_signature_parse_compact toyE (beN 32 11 ++ beN 32 1) = none := by decide +kernel

-- (`ecdsa_recover` and `ecdsa_sign_recoverable` are in Props/C08X.lean: the first in full, the second `_partial` with witnesses)

/-! ### non-vacuity -/

/-- the law hypothesis is satisfiable: `y² = x³ + 7` over 𝔽₄₃ (31 points, prime order) satisfies it -/
example : EcLaws toyCurve := toyCurve_laws
/-- negating the key structure of 3G = (35, 21) on that curve gives (35, 22) under both formulations -/
example : ecPubkeyNegate toyCurve (leN 32 35 ++ leN 32 21) = some (leN 32 35 ++ leN 32 22) ∧
    Spec.Libsecp.ec_pubkey_negate toyCurve (leN 32 35 ++ leN 32 21) = some (leN 32 35 ++ leN 32 22) := by
  decide +kernel

example : ecPrivkeyAdd toyE (beN 32 3) (beN 32 4) = some (beN 32 7) := by decide +kernel
example : Spec.Libsecp.ec_privkey_add toyE (beN 32 7) (beN 32 4) = none := by decide +kernel
example : ecPrivkeyAdd toyE (beN 32 7) (beN 32 5) = some (beN 32 1) := by decide +kernel
example : Spec.Libsecp.parseDerRS toyE [0x30, 0x06, 0x02, 0x01, 0x05, 0x02, 0x01, 0x0a] = some (5, 10) := by decide +kernel
example : ecdsaSignatureParseDer toyE [0x30, 0x06, 0x02, 0x01, 0x05, 0x02, 0x01, 0x0a] = none := by decide +kernel
example : ecdsaSignatureParseDer toyE [0x30, 0x06, 0x02, 0x01, 0x05, 0x02, 0x01, 0x05]
    = some (leN 32 5 ++ leN 32 5) := by decide +kernel
example : Spec.Libsecp.parseDerRS toyE [0x30, 0x06, 0x02, 0x01, 0xff, 0x02, 0x01, 0x01] = some (0, 1) := by decide +kernel

end Embit.Props.C08
