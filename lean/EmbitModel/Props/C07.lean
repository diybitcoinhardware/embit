import EmbitModel.Proofs.Sign
import EmbitModel.Proofs.Flip
import EmbitModel.Proofs.ContractSchnorr
import EmbitModel.Proofs.ToyCurve
/-
  C07 — ECDSA and Schnorr signatures are valid, canonical and deterministic.
  Property theorems only. `Model.Der` / `Model.PySecp` model embit's pure-python signer, verifier and DER codec and
  `ec.py`'s grinding loop (tied to /repo by the correspondence check, under both backends); `Spec.Der` is BIP66 / X.690,
  `Spec.Rfc6979` is RFC 6979 §3.2. Curve and hash operations are arbitrary (`EcOps`, `HashOps`); where group structure
  is needed it is the explicit hypothesis `EcLaws E`.
-/
namespace Embit.Props.C07
open Embit Embit.Model Embit.Model.Der Embit.Model.PySecp

variable (E : EcOps) (H : HashOps)

/-- parse ∘ serialise is the identity on every in-range pair (any group order up to 2^256, with or without the
    low-S rule) -/
theorem der_roundtrip (n : Nat) (lowS : Bool) (r s : Nat) (hn : n ≤ 2 ^ 256)
    (hr : 1 ≤ r ∧ r < n) (hs : 1 ≤ s ∧ s < n) (hlow : lowS = true → s ≤ n / 2) :
    Der.parse n lowS (serRS r s) = some (r, s) :=
  parse_serRS n lowS r s hn ((rangeOk_iff n lowS r s).mpr ⟨hr.1, hr.2, hs.1, hs.2, hlow⟩)

/-- anything the parser accepts is THE encoding of the pair it returns: one pair, one byte string. Any altered
    encoding that still parses therefore denotes a different `(r, s)`. -/
theorem der_strict (n : Nat) (lowS : Bool) (b : Bytes) (r s : Nat) (h : Der.parse n lowS b = some (r, s)) :
    b = serRS r s := (parse_strict n lowS b r s h).1

theorem der_unique (n : Nat) (lowS : Bool) (b b' : Bytes) (r s : Nat)
    (h : Der.parse n lowS b = some (r, s)) (h' : Der.parse n lowS b' = some (r, s)) : b = b' := by
  rw [der_strict n lowS b r s h, der_strict n lowS b' r s h']

/-- what is accepted is in range and (with the low-S rule) low -/
theorem der_range (n : Nat) (lowS : Bool) (b : Bytes) (r s : Nat) (h : Der.parse n lowS b = some (r, s)) :
    1 ≤ r ∧ r < n ∧ 1 ≤ s ∧ s < n ∧ (lowS = true → s ≤ n / 2) :=
  (rangeOk_iff n lowS r s).mp (parse_strict n lowS b r s h).2

/-- the structural parser accepts exactly BIP66: 0x30 L 0x02 Lr R 0x02 Ls S with R, S shortest non-negative
    two's-complement INTEGER contents of at most 33 octets -/
theorem der_accepts_iff_bip66 (b : Bytes) (r s : Nat) :
    parseRS b = some (r, s) ↔
      ∃ x y, Spec.Der.IsDerInt x r ∧ Spec.Der.IsDerInt y s ∧ x.length ≤ 33 ∧ y.length ≤ 33 ∧
        b = 0x30 :: UInt8.ofNat (4 + x.length + y.length) :: 0x02 :: UInt8.ofNat x.length ::
              (x ++ 0x02 :: UInt8.ofNat y.length :: y) := by
  constructor
  · exact parseRS_sound b r s
  · rintro ⟨x, y, hx, hy, hxl, hyl, rfl⟩
    exact parseRS_complete x y r s hx hy hxl hyl

/-- the serialiser produces a BIP66 encoding -/
theorem ser_is_bip66 (r s : Nat) (hr : r < 2 ^ 256) (hs : s < 2 ^ 256) : Spec.Der.IsDerSig (serRS r s) r s := by
  refine ⟨derInt r, derInt s, derInt_isDer r, derInt_isDer s, ?_, rfl⟩
  have := derInt_length_le_33 r hr
  have := derInt_length_le_33 s hs
  omega

/-- the encoded integer is the only DER INTEGER content of its value -/
theorem derInt_unique (x : Bytes) (v : Nat) : Spec.Der.IsDerInt x v ↔ x = derInt v :=
  ⟨isDer_unique x v, fun h => h ▸ derInt_isDer v⟩

theorem der_len (r s : Nat) : (serRS r s).length = 6 + (derInt r).length + (derInt s).length := by
  simp [serRS]; omega

/-- an integer takes at most `k` octets exactly when it is below `2^(8k-1)` -/
theorem derInt_len_le_iff (v k : Nat) (hk : 1 ≤ k) : (derInt v).length ≤ k ↔ v < 2 ^ (8 * k - 1) :=
  derInt_length_le_iff v k hk

/-- `≤ 70` bytes when both numbers are below 2^255 — and a 32-octet `s` with a 33-octet `r` gives 71 -/
theorem der_len_le_70 (r s : Nat) (hr : r < 2 ^ 255) (hs : s < 2 ^ 255) : (serRS r s).length ≤ 70 := by
  rw [der_len]
  have := (derInt_length_le_iff r 32 (by decide)).mpr (by simpa using hr)
  have := (derInt_length_le_iff s 32 (by decide)).mpr (by simpa using hs)
  omega

theorem der_len_gt_70 (r s : Nat) (hr : 2 ^ 255 ≤ r) (hs : 2 ^ 247 ≤ s) : (serRS r s).length > 70 := by
  rw [der_len]
  have h1 : ¬ (derInt r).length ≤ 32 := by
    rw [derInt_length_le_iff r 32 (by decide)]; simpa using hr
  have h2 : ¬ (derInt s).length ≤ 31 := by
    rw [derInt_length_le_iff s 31 (by decide)]; simpa using hs
  omega

theorem der_len_le_72 (r s : Nat) (hr : r < 2 ^ 256) (hs : s < 2 ^ 256) : (serRS r s).length ≤ 72 := by
  rw [der_len]
  have := derInt_length_le_33 r hr
  have := derInt_length_le_33 s hs
  omega

/-- a low-S signature over a group of at most 256 bits never exceeds 71 bytes -/
theorem der_len_le_71_lowS (n r s : Nat) (hn : n < 2 ^ 256) (hr : r < n) (hs : s ≤ n / 2) :
    (serRS r s).length ≤ 71 := by
  rw [der_len]
  have := derInt_length_le_33 r (by omega)
  have hs' : s < 2 ^ 255 := by omega
  have := (derInt_length_le_iff s 32 (by decide)).mpr (by simpa using hs')
  omega

theorem sig_parse_then_serialize (hn : E.n ≤ 2 ^ 256) (der sig : Bytes)
    (h : ecdsaSignatureParseDer E der = some sig) : ecdsaSignatureSerializeDer sig = some der := by
  unfold ecdsaSignatureParseDer at h
  split at h
  · cases h
  · rename_i r s hp
    cases h
    have hr := der_range E.n true der r s hp
    rw [serializeDer_struct r s (by omega) (by omega), der_strict E.n true der r s hp]

theorem sig_serialize_then_parse (hn : E.n ≤ 2 ^ 256) (sig : Bytes) (hl : sig.length = 64)
    (hr : 1 ≤ ofLe (sig.take 32) ∧ ofLe (sig.take 32) < E.n)
    (hs : 1 ≤ ofLe (sig.drop 32) ∧ ofLe (sig.drop 32) ≤ E.n / 2) :
    (ecdsaSignatureSerializeDer sig).bind (ecdsaSignatureParseDer E) = some sig := by
  unfold ecdsaSignatureSerializeDer
  simp only [hl, ne_eq, not_true_eq_false, if_false, Option.bind_some]
  unfold ecdsaSignatureParseDer
  rw [der_roundtrip E.n true _ _ hn hr ⟨hs.1, by omega⟩ (fun _ => hs.2)]
  simp only [Option.some.injEq]
  exact struct_eta sig hl

/-- `ecdsa_sign` only ever returns an in-range, low-S pair, whose DER encoding has at most 71 bytes -/
theorem sign_lowS (hn : E.n < 2 ^ 256) (fuel : Nat) (msg secret : Bytes) (extra : Option Bytes) (sig : Bytes)
    (h : ecdsaSign E H fuel msg secret extra = some sig) :
    ∃ r s, sig = leN 32 r ++ leN 32 s ∧ 1 ≤ r ∧ r < E.n ∧ 1 ≤ s ∧ s ≤ E.n / 2 ∧
      ecdsaSignatureSerializeDer sig = some (serRS r s) ∧ (serRS r s).length ≤ 71 := by
  obtain ⟨_, _, _, k, r, s, _, _, hok, rfl⟩ := ecdsaSign_inv E H (by omega) fuel msg secret extra sig h
  have hr := (rangeOk_iff E.n true r s).mp hok
  refine ⟨r, s, rfl, hr.1, hr.2.1, hr.2.2.1, hr.2.2.2.2 rfl, ?_, ?_⟩
  · exact serializeDer_struct r s (by omega) (by omega)
  · exact der_len_le_71_lowS E.n r s hn hr.2.1 (hr.2.2.2.2 rfl)

/-- deterministic: for 32-byte arguments the signature is a function of the integers `(d, z)` and the extra data
    only — the nonce comes from `deterministic_k`, nothing else enters -/
theorem sign_deterministic (fuel : Nat) (msg msg' secret secret' : Bytes) (extra : Option Bytes)
    (h1 : msg.length = 32) (h2 : msg'.length = 32) (h3 : secret.length = 32) (h4 : secret'.length = 32)
    (hz : ofBe msg = ofBe msg') (hd : ofBe secret = ofBe secret') :
    ecdsaSign E H fuel msg secret extra = ecdsaSign E H fuel msg' secret' extra := by
  have e1 : msg = msg' := by rw [← beN_ofBe msg, ← beN_ofBe msg', h1, h2, hz]
  have e2 : secret = secret' := by rw [← beN_ofBe secret, ← beN_ofBe secret', h3, h4, hd]
  rw [e1, e2]

/-! ### grinding (`PrivateKey.sign`) -/

/-- the loop makes at most 200 further signing attempts -/
theorem grind_terminates_le_200 (sign : Option Bytes → Option Bytes) (grind : Bool) (res : Bytes) (c : Nat)
    (h : privateKeySign sign grind = some (res, c)) : c ≤ 200 := by
  unfold privateKeySign at h
  split at h
  · cases h
  · rename_i sig hsig
    split at h
    · exact (grindLoop_spec sign 200 1 sig res c (by omega) (by omega) h).1
    · cases h; omega

/-- what comes back: the plain RFC 6979 signature (no attempt) or the one made with the attempt counter as
    32-byte little-endian extra data; with grinding it is at most 70 bytes of DER unless all 200 attempts were used -/
theorem grind_result (sign : Option Bytes → Option Bytes) (grind : Bool) (res : Bytes) (c : Nat)
    (h : privateKeySign sign grind = some (res, c)) :
    (c = 0 → sign none = some res) ∧ (0 < c → sign (some (leN 32 c)) = some res) ∧
    (grind = true → c = 200 ∨ ∃ der, ecdsaSignatureSerializeDer res = some der ∧ der.length ≤ 70) := by
  unfold privateKeySign at h
  split at h
  · cases h
  · rename_i sig hsig
    split at h
    · rename_i hg
      obtain ⟨_, _, hshort, hinit, hattempt⟩ := grindLoop_spec sign 200 1 sig res c (by omega) (by omega) h
      refine ⟨fun h0 => ?_, fun hpos => hattempt (by omega), fun _ => hshort⟩
      rw [hinit (by omega)]; exact hsig
    · rename_i hg
      cases h
      exact ⟨fun _ => hsig, fun h => by omega, fun h => absurd h hg⟩

/-- ECDSA correctness at the level of key.py: the pair made by `sign_ecdsa` from ANY nonce `0 < k < n`, after the
    low-S normalisation, passes `verify_ecdsa` with the low-S rule under the key `dG` -/
theorem ecdsa_correct_key (L : EcLaws E) (hn : E.n ≤ 2 ^ 256) (d z k r s : Nat) (hk : 0 < k ∧ k < E.n)
    (h : signRS E d z k = some (r, s)) (hr : r ≠ 0) (hs : s ≠ 0) (msg : Bytes) (hz : ofBe msg = z) :
    verifyEcdsaKey E (E.mul d E.g) (serRS r s) msg true = true :=
  verify_signRS L hn d z k r s hk h hr hs msg hz

/-- ECDSA correctness at the level of the bindings: whatever `ecdsa_sign(msg, secret, None, extra)` returns
    verifies with `ecdsa_verify` under `ec_pubkey_create(secret)` — for every message, key, extra data
    (hence also for every grinding attempt) -/
theorem ecdsa_correct (L : EcLaws E) (hn : E.n ≤ 2 ^ 256) (hp : E.p ≤ 2 ^ 256) (fuel : Nat)
    (msg secret : Bytes) (extra : Option Bytes) (sig pub : Bytes)
    (hs : ecdsaSign E H fuel msg secret extra = some sig) (hpub : ecPubkeyCreate E secret = some pub) :
    ecdsaVerify E sig msg pub = some true :=
  ecdsa_sign_verify E L H hn hp fuel msg secret extra sig pub hs hpub

/-- … in particular for the result of `PrivateKey.sign` with or without grinding -/
theorem private_key_sign_verifies (L : EcLaws E) (hn : E.n ≤ 2 ^ 256) (hp : E.p ≤ 2 ^ 256) (fuel : Nat)
    (msg secret : Bytes) (grind : Bool) (res pub : Bytes) (c : Nat)
    (h : privateKeySign (fun ex => ecdsaSign E H fuel msg secret ex) grind = some (res, c))
    (hpub : ecPubkeyCreate E secret = some pub) : ecdsaVerify E res msg pub = some true := by
  obtain ⟨h0, hpos, _⟩ := grind_result _ grind res c h
  rcases Nat.eq_zero_or_pos c with hc | hc
  · exact ecdsa_correct E H L hn hp fuel msg secret none res pub (h0 hc) hpub
  · exact ecdsa_correct E H L hn hp fuel msg secret _ res pub (hpos hc) hpub

/-- BIP340 correctness: what `sign_schnorr(key, msg, aux)` returns passes `verify_schnorr` under the x-only key of
    `key·G` -/
theorem schnorr_correct (L : EcLaws E) (hp : E.p ≤ 2 ^ 256) (hn : E.n ≤ 2 ^ 256) (key msg : Bytes)
    (aux : Option Bytes) (sig : Bytes) (h : signSchnorr E H key msg aux = some sig) :
    ∃ px py, E.xy (E.mul (ofBe key) E.g) = some (px, py) ∧ verifySchnorr E H (beN 32 px) sig msg = some true :=
  verify_signSchnorr L H hp hn key msg aux sig h

/-- BIP340 correctness at the level of the bindings: `schnorrsig_sign(msg, secret, None, aux)` verifies with
    `schnorrsig_verify` under `xonly_pubkey_from_pubkey(ec_pubkey_create(secret))` — the path of
    `PrivateKey.schnorr_sign` / `PublicKey.schnorr_verify` -/
theorem schnorr_correct_binding (L : EcLaws E) (hp : E.p ≤ 2 ^ 256) (hn : E.n ≤ 2 ^ 256)
    (msg secret : Bytes) (aux : Option Bytes) (sig pub xo : Bytes) (par : Bool) (hlen : secret.length = 32)
    (hs : schnorrsigSign E H msg secret aux = some sig)
    (hpub : ecPubkeyCreate E secret = some pub) (hxo : xonlyPubkeyFromPubkey E pub = some (xo, par)) :
    schnorrsigVerify E H sig msg xo = some true := by
  -- 1. the signature is that of `sign_schnorr` for the bare secret
  rw [eq_schnorrsig_sign E H L hp] at hs
  unfold Spec.Libsecp.schnorrsig_sign at hs
  simp only [hlen, if_true, Option.bind_some, seckey_bind_sign, badExtra_iff] at hs
  split at hs; · cases hs
  rename_i hm
  split at hs; · cases hs
  rename_i hbad
  have hm' : msg.length = 32 := by omega
  have hss : signSchnorr E H secret msg aux = some sig := by
    rw [signSchnorr_eq, if_neg (by simp [hlen, hm', hbad])]; exact hs
  -- 2. it verifies under the x coordinate of dG
  obtain ⟨px, py, hxy, hver⟩ := verify_signSchnorr L H hp hn secret msg aux sig hss
  have hsl : sig.length = 64 := by
    by_contra hne
    unfold verifySchnorr at hver
    rw [if_neg (by simp), if_neg (by simp [hm']), if_pos hne] at hver
    cases hver
  rw [verifySchnorr_eq_spec E H L (beN 32 px) sig msg (by simp) hm' hsl] at hver
  simp only [Option.some.injEq] at hver
  -- 3. the key structures
  obtain ⟨_, hpxp, _, hpyp⟩ := L.xy_range _ _ _ hxy
  unfold ecPubkeyCreate at hpub
  rw [if_neg (by omega)] at hpub
  dsimp only at hpub
  split at hpub
  swap
  · cases hpub
  unfold pubStore at hpub
  rw [hxy] at hpub
  cases hpub
  rw [eq_xonly E L hp] at hxo
  unfold Spec.Libsecp.xonly_pubkey_from_pubkey at hxo
  have hl64 : (leN 32 px ++ leN 32 py).length = 64 := by simp
  rw [← pubLoad_eq E _ hl64, pubLoad_store E px py hpxp hpyp hp, L.ofXY_xy _ _ _ hxy] at hxo
  simp only [Option.bind_some, hxy] at hxo
  -- the even point Q with the same x
  obtain ⟨Q, y', hQ, hy'even, hy'p⟩ : ∃ Q y', E.xy Q = some (px, y') ∧ y' % 2 = 0 ∧ y' < E.p ∧
      (Spec.Libsecp.pubkeyStruct E Q).map (fun b => (b, decide (py % 2 = 1))) = some (xo, par) := by
    by_cases hodd : py % 2 = 1
    · refine ⟨E.neg (E.mul (ofBe secret) E.g), E.p - py, L.xy_neg _ _ _ hxy, ?_, by omega, ?_⟩
      · exact (L.neg_parity _ _ _ hxy).2.mpr hodd
      · simpa [hodd] using hxo
    · refine ⟨E.mul (ofBe secret) E.g, py, hxy, by omega, hpyp, ?_⟩
      simpa [hodd] using hxo
  obtain ⟨hy'p, hst⟩ := hy'p
  unfold Spec.Libsecp.pubkeyStruct at hst
  rw [hQ] at hst
  simp only [Option.map_some, Option.some.injEq, Prod.mk.injEq] at hst
  obtain ⟨hxo', _⟩ := hst
  subst hxo'
  -- 4. verification under the x-only structure
  rw [eq_schnorrsig_verify E H L hp]
  unfold Spec.Libsecp.schnorrsig_verify
  have hl64' : (leN 32 px ++ leN 32 y').length = 64 := by simp
  rw [← pubLoad_eq E _ hl64', pubLoad_store E px y' hpxp hy'p hp, L.ofXY_xy _ _ _ hQ]
  simp [hsl, hm', hQ, hy'even, hver]

/-- the model nonce is libsecp256k1's `nonce_function_rfc6979` (raw message octets), for every input -/
theorem nonce_eq_libsecp (fuel n d z : Nat) (extra : Option Bytes) :
    deterministicK H fuel n d z extra = Spec.Rfc6979.nonceRaw H.hmac256 fuel n d (beN 32 z) extra :=
  deterministicK_eq_raw H fuel n d z extra

/-- … and the RFC 6979 nonce whenever the message value is below the group order -/
theorem rfc6979_eq_spec_partial (fuel n d z : Nat) (extra : Option Bytes) (hz : z < n) (hn : n ≤ 2 ^ 256) :
    deterministicK H fuel n d z extra = Spec.Rfc6979.nonce H.hmac256 fuel n d (beN 32 z) extra :=
  deterministicK_eq_rfc H fuel n d z extra hz hn

/-- a toy HMAC for the witness below -/
def toyH : HashOps where
  sha256 := id
  hmac256 := fun k m => beN 32 ((ofBe k + ofBe m) % 250 + 1)

/-- witness (known finding C07-KF1): for a message value ≥ n the nonce differs from RFC 6979 proper
    (group order 251, message 252 ≡ 1) -/
theorem rfc6979_differs_ge_n :
    deterministicK toyH 4 251 1 252 none ≠ Spec.Rfc6979.nonce toyH.hmac256 4 251 1 (beN 32 252) none := by
  decide +kernel

/-- the nonce is a valid ephemeral key -/
theorem nonce_range (fuel n d z : Nat) (extra : Option Bytes) (k : Nat)
    (h : deterministicK H fuel n d z extra = some k) : 1 ≤ k ∧ k < n :=
  deterministicK_range H fuel n d z extra k h

/-! ### the defects that were repaired (theorems about the old code) -/

/-- D11: before fix 06 the range test treated `s = (n-1)/2` as high; the fixed one accepts it (n = 251, s = 125) -/
theorem lowS_boundary_legacy_witness :
    Legacy.rangeOk 251 true 1 125 = false ∧ rangeOk 251 true 1 125 = true ∧ rangeOk 251 true 1 126 = false := by
  decide

/-- D12: before fix 07 `deterministic_k` reduced `z > n` (and did not reduce `z = n`) -/
theorem reduceZ_legacy_witness : Legacy.reduceZ 251 252 = 1 ∧ Legacy.reduceZ 251 251 = 251 := by decide

/-- **every alteration of `s` is rejected**: if only `±R` have an x coordinate in the class of `r` (`xUniqueAt`; on
    secp256k1 this can fail only for x(R) < p − n, probability ≈ 2^-128), then for every other value `s'` a 64-byte
    structure can hold the verifier (with the low-S rule) says no — the only other solution of the verification
    equation is `n − s`, which is high -/
theorem flip_s_rejected (L : EcLaws E) (hn : E.n ≤ 2 ^ 256) (hodd : E.n % 2 = 1) (d z k r s : Nat)
    (hk : 0 < k ∧ k < E.n) (h : signRS E d z k = some (r, s)) (hr : r ≠ 0) (hs : s ≠ 0)
    (huniq : xUniqueAt E (E.mul k E.g) r) (msg : Bytes) (hz : ofBe msg = z)
    (s' : Nat) (hs' : s' < 2 ^ 256) (hne : s' ≠ s) :
    verifyEcdsaKey E (E.mul d E.g) (serRS r s') msg true = false := by
  by_contra hcon
  have hv : verifyEcdsaKey E (E.mul d E.g) (serRS r s') msg true = true := by simpa using hcon
  clear hcon
  have hnpos := L.n_pos
  obtain ⟨rx, ry, s0, hR, hr', hs0, hs0pos, hs0lt, hsor, hrlt, _, _, hlow⟩ := signRS_inv L d z k r s h hs
  -- unpack the verifier
  unfold verifyEcdsaKey at hv
  rw [parse_of_ser E.n true r s' (by omega) hs'] at hv
  by_cases hok : rangeOk E.n true r s' = true
  swap
  · simp [hok] at hv
  simp only [hok, if_true, hz] at hv
  have hrange := (rangeOk_iff E.n true r s').mp hok
  have hlow' := hrange.2.2.2.2 rfl
  rw [L.lin_comb] at hv
  set t := (z * E.invN s' % E.n + r * E.invN s' % E.n * d) % E.n with ht
  have htlt : t < E.n := Nat.mod_lt _ hnpos
  cases hxy : E.xy (E.mul t E.g) with
  | none => rw [hxy] at hv; cases hv
  | some xy =>
    obtain ⟨x', y'⟩ := xy
    rw [hxy] at hv
    simp only [beq_iff_eq] at hv
    -- the point is ±R, hence t = k or t = n - k
    have hcast_t : ((t : Nat) : ZMod E.n) = (z : ZMod E.n) * (E.invN s' : ZMod E.n) + r * (E.invN s' : ZMod E.n) * d := by
      rw [ht]; simp [ZMod.natCast_mod]
    have hki := inv_cast L k hk.1 hk.2
    have hs0c : (s0 : ZMod E.n) = (E.invN k : ZMod E.n) * ((z : ZMod E.n) + d * r) := by
      rw [hs0]; simp [ZMod.natCast_mod]
    have hw : ((E.invN s' : ZMod E.n) * (s' : ZMod E.n)) = 1 := by
      rw [mul_comm]; exact inv_cast L s' (by omega) (by omega)
    rcases huniq _ x' y' hxy hv with hQ | hQ
    · -- t = k, so s' ≡ s0; s' is low and s is the low one of s0, n - s0, so s' = s
      have htk : t = k := L.mul_inj t k htlt hk.2 hQ
      have := flip_alg (k : ZMod E.n) _ z d r _ (s' : ZMod E.n) (s0 : ZMod E.n) 1 hki hs0c hw
        (by rw [← hcast_t, htk, one_mul])
      rw [one_mul] at this
      have heq : s0 = s' := eq_of_cast_eq s0 s' hs0lt (by omega) this
      omega
    · -- t = n - k, so s' ≡ -s0
      rw [L.neg_mul k (by omega)] at hQ
      have htk : t = E.n - k := L.mul_inj t (E.n - k) htlt (by omega) hQ
      have := flip_alg (k : ZMod E.n) _ z d r _ (s' : ZMod E.n) (s0 : ZMod E.n) (-1) hki hs0c hw
        (by rw [← hcast_t, htk, cast_sub_self k (by omega), neg_one_mul])
      have heq : s0 = E.n - s' := eq_of_cast_eq s0 (E.n - s') hs0lt (by omega) (by
        rw [cast_sub_self s' (by omega), this, neg_one_mul])
      omega

/-- why known finding C07-KF2 is not a defect of embit: for a message value that is 0 modulo n the negated key
    verifies exactly the same signatures, under any verifier that implements ECDSA -/
theorem neg_key_verifies_z0 (L : EcLaws E) (d : Nat) (hd : d ≤ E.n) (der msg : Bytes) (lowS : Bool)
    (hz : ofBe msg % E.n = 0) :
    verifyEcdsaKey E (E.neg (E.mul d E.g)) der msg lowS = verifyEcdsaKey E (E.mul d E.g) der msg lowS := by
  have hnpos := L.n_pos
  unfold verifyEcdsaKey
  cases Der.parse E.n lowS der with
  | none => rfl
  | some rs =>
    obtain ⟨r, s⟩ := rs
    simp only []
    have hu1 : ofBe msg * E.invN s % E.n = 0 := by
      rw [Nat.mul_mod, hz]; simp
    rw [hu1, L.neg_mul d hd, L.lin_comb, L.lin_comb]
    generalize r * E.invN s % E.n = u2
    -- (u2 (n-d)) ≡ -(u2 d)
    set a := (0 + u2 * d) % E.n with ha
    have halt : a < E.n := Nat.mod_lt _ hnpos
    have hb : (0 + u2 * (E.n - d)) % E.n = (E.n - a) % E.n := by
      apply mod_eq_of_cast
      have e1 : ((0 + u2 * (E.n - d) : ℕ) : ZMod E.n) = -((u2 : ZMod E.n) * d) := by
        push_cast; rw [Nat.cast_sub hd]; simp
      have e2 : ((E.n - a : ℕ) : ZMod E.n) = -((u2 : ZMod E.n) * d) := by
        rw [cast_sub_self a (by omega), ha, ZMod.natCast_mod]; push_cast; ring
      rw [e1, e2]
    rw [hb, L.mul_mod, ← L.neg_mul a (by omega)]
    cases hxy : E.xy (E.mul a E.g) with
    | none => rw [L.xy_neg_none _ hxy]
    | some xy =>
      obtain ⟨x, y⟩ := xy
      rw [L.xy_neg _ _ _ hxy]


/-! ### non-vacuity -/

/-- the law hypothesis is satisfiable: `y² = x³ + 7` over 𝔽₄₃ (a cyclic group of prime order 31) satisfies it -/
example : EcLaws toyCurve := toyCurve_laws
/-- a signature on that curve, made and verified by the model (key 5, message 9, nonce 3) -/
example : signRS toyCurve 5 9 3 = some (4, 11) ∧
    verifyEcdsaKey toyCurve (toyCurve.mul 5 toyCurve.g) (serRS 4 11) (beN 32 9) true = true ∧
    verifyEcdsaKey toyCurve (toyCurve.mul 5 toyCurve.g) (serRS 4 20) (beN 32 9) true = false ∧
    verifyEcdsaKey toyCurve (toyCurve.mul 5 toyCurve.g) (serRS 4 20) (beN 32 9) false = true := by decide +kernel
/-- `xUniqueAt` holds there for the nonce point 3G = (35, 21): r = 35 mod 31 = 4 and no other x is ≡ 4 -/
example : xUniqueAt toyCurve (toyCurve.mul 3 toyCurve.g) 4 := by
  intro Q x y hxy hx
  have H := forallPts_spec (fun Q x _ => decide (x % 31 = 4 → (Q = 3 ∨ Q = 28))) (by decide +kernel) Q x y hxy
  simp only [decide_eq_true_eq] at H
  exact H hx

example : Der.parse 251 true (serRS 17 100) = some (17, 100) := by decide
example : serRS 17 200 = [0x30, 0x07, 0x02, 0x01, 17, 0x02, 0x02, 0x00, 200] := by decide
example : parseRS [0x30, 0x07, 0x02, 0x01, 17, 0x02, 0x02, 0x00, 200] = some (17, 200) := by decide
example : parseRS [0x30, 0x07, 0x02, 0x02, 0x00, 17, 0x02, 0x01, 100] = none := by decide   -- padded r
example : Spec.Der.encode 17 200 = serRS 17 200 := by decide
/-- a grinding run that needs two attempts (toy signer: the attempt counter decides the length) -/
example :
    privateKeySign (fun ex => match ex with
      | none => some (leN 32 (2 ^ 255) ++ leN 32 (2 ^ 254))
      | some e => if ofLe e < 2 then some (leN 32 (2 ^ 255 + 1) ++ leN 32 (2 ^ 254)) else some (leN 32 5 ++ leN 32 7)) true
      = some (leN 32 5 ++ leN 32 7, 2) := by decide +kernel

end Embit.Props.C07
