import EmbitModel.Props.C20Facts
import EmbitModel.Generated.BindingNames
/-
  C20, completeness of the probed table (audit2 A-7; part2-C19-C20 X4; first audit J1/J2).

  Every obligation of Props/C20Facts.lean has the shape `∀ f ∈ bindingFns, …` and therefore holds over the empty table: a
  probe that silently loses functions (or a code change that hides a function from it) was not noticed. Here the table
  is bounded from below by an enumeration made by other routes (`Generated/BindingNames.lean`, harness/bindnames.py):
  `callGraph` - dir() of the loaded module + the bytecode of every function defined there; `secpDefs` - every top-level
  `def` of the source whose body mentions `_secp`. The obligations are restated with the quantifier over the ENUMERATION:
  a function that can reach the library and has no probed, locked, fresh-buffered record breaks the build.
-/
namespace Embit.Props.C20
open Embit.Model.Lock Embit.Gen.Binding Embit.Gen.BindingNames

set_option maxRecDepth 100000

/-- record `r` of the probe table is about the module function `fn` (records are named `fn` or `fn:variant`) -/
def recordOf (r fn : String) : Bool := r == fn || (fn ++ ":").isPrefixOf r

/-- the functions of the enumeration -/
def enumerated : List String := callGraph.map (·.1)

/-- one round of the reachability closure over `callGraph`: functions whose code loads the library, or refers to a
    function already known to reach it -/
def reachStep (r : List String) : List String :=
  (callGraph.filter fun e => e.2.1 || e.2.2.any r.contains).map (·.1)

def reachN : Nat → List String → List String
  | 0, r => r
  | n + 1, r => reachN n (reachStep r)

/-- the functions that can reach the library: least fixed point of `reachStep` (`reaching_is_closed`) -/
def reaching : List String := reachN 8 []

def exemptNames : List String := exempt.map (·.1)

def noDup : List String → Bool
  | [] => true
  | a :: l => !l.contains a && noDup l

/-- `n` is in the exemption list of the generated file -/
def isExempt (n : String) : Bool := exemptNames.contains n

/-- the probe table has a record about function `n` -/
def hasRecord (n : String) : Bool := bindingFns.any fun f => recordOf f.name n

/-- every record about function `n` was exercised by the probe, calls native code only under the library's lock, lets C
    write only into buffers no other call can see, and does not re-acquire the lock -/
def recordsGood (n : String) : Bool :=
  bindingFns.all fun f => !recordOf f.name n ||
    (f.probed && f.callsNative && f.nativeUnderLock && f.outBuffersFresh && !f.lockReentered)

/-- `reaching` is closed under the call graph: no further function refers to a reaching one (so 8 rounds were enough) -/
theorem reaching_is_closed : reachStep reaching = reaching := by decide +kernel

/-- no duplicate keys: in the probe table, in the enumeration, in the exemption list -/
theorem binding_keys_distinct :
    noDup (bindingFns.map (·.name)) = true ∧ noDup enumerated = true ∧ noDup exemptNames = true := by decide +kernel

/-- the listed exemptions `Gen.BindingNames.exempt` are EXACTLY the enumerated functions that cannot reach the library:
    the reason given in the generated file is recomputed here from the call graph, not trusted -/
theorem exempt_exactly_the_unreaching :
    (exemptNames.all enumerated.contains && enumerated.all fun n => isExempt n == !reaching.contains n) = true := by
  decide +kernel

/-- the two routes agree: every `def` whose source mentions `_secp` is an enumerated function that reaches the library
    in the bytecode call graph (and is therefore not exempt) -/
theorem source_defs_are_reaching :
    (secpDefs.all fun n => enumerated.contains n && reaching.contains n && !isExempt n) = true := by
  decide +kernel

/-- what runs at import: when a module-level statement calls a function that reaches the library, the table has the
    `<import>` record, probed and locked -/
theorem import_has_a_record :
    (importCalls.any reaching.contains) = true →
      ∃ f ∈ bindingFns, f.name = "<import>" ∧ f.probed = true ∧ f.callsNative = true ∧ f.nativeUnderLock = true := by
  decide +kernel

/-- vice versa: every record is about an enumerated function (or the import), and a record that calls native code is
    about a function that reaches the library in the independent call graph -/
theorem every_record_is_enumerated :
    (bindingFns.all fun f => f.name == "<import>" ||
      enumerated.any fun n => recordOf f.name n && (!f.callsNative || reaching.contains n)) = true := by
  -- a function with the record's own name is looked for first (`recordOf`: a string append and a prefix test)
  simp +singlePass only [fun f : BindingFn => any_eq_any_or (l := enumerated)
    (p := fun n => f.name == n && (!f.callsNative || reaching.contains n))
    (q := fun n => recordOf f.name n && (!f.callsNative || reaching.contains n))
    fun n hn => by simp_all only [recordOf, Bool.and_eq_true, Bool.true_or, and_self]]
  decide +kernel

/-- the obligations of Props/C20Facts restated over the ENUMERATION: every function of the loaded binding module that
    is not in the exemption list (i.e. can reach the library) has a record, and every record of it was exercised by the
    probe, makes its native calls under the library's lock, lets C write only into buffers no other call can see, and
    does not re-acquire the lock. Dropping a function from the probe table breaks this theorem. -/
theorem every_enumerated_entry_locked :
    (enumerated.all fun n => isExempt n || (hasRecord n && recordsGood n)) = true := by
  -- arranged so that few records are matched against `n` by `recordOf` (a string append and a prefix test): a record
  -- named `n` itself is looked for first, and in `recordsGood` the flags are tested before the names
  simp +singlePass only [hasRecord, recordsGood, Bool.or_comm (!recordOf _ _), fun n => any_eq_any_or (l := bindingFns)
    (p := fun f => f.name == n) (q := fun f => recordOf f.name n) fun f hf => by simp only [recordOf, hf, Bool.true_or]]
  decide +kernel

/-- the same, unfolded: for an enumerated function outside the exemption list -/
theorem enumerated_entry_locked (n : String) (hn : n ∈ enumerated) (hex : isExempt n = false) :
    (∃ f ∈ bindingFns, recordOf f.name n = true) ∧
    ∀ f ∈ bindingFns, recordOf f.name n = true →
      f.probed = true ∧ f.callsNative = true ∧ f.nativeUnderLock = true ∧ f.outBuffersFresh = true
        ∧ f.lockReentered = false := by
  have h := List.all_eq_true.1 every_enumerated_entry_locked n hn
  rw [hex, Bool.false_or, Bool.and_eq_true] at h
  refine ⟨by simpa [hasRecord] using h.1, fun f hf hr => ?_⟩
  have h2 := List.all_eq_true.1 h.2 f hf
  simp only [hr, Bool.not_true, Bool.false_or, Bool.and_eq_true, Bool.not_eq_true'] at h2
  exact ⟨h2.1.1.1.1, h2.1.1.1.2, h2.1.1.2, h2.1.2, h2.2⟩

/-- COMPLETENESS: every enumerated function outside the exemption list has a record in the probed table -/
theorem every_enumerated_function_has_a_record :
    ∀ n ∈ enumerated, isExempt n = false → ∃ f ∈ bindingFns, recordOf f.name n = true :=
  fun n hn hex => (enumerated_entry_locked n hn hex).1

/-- protocol + facts, for programs named through the enumeration: any threads running any sequences of records of
    enumerated, non-exempt functions give the serial results under every complete schedule -/
theorem enumerated_serialisable (threads : List (List BindingFn))
    (hin : ∀ ops ∈ threads, ∀ f ∈ ops, f ∈ bindingFns ∧ ∃ n ∈ enumerated, isExempt n = false ∧ recordOf f.name n = true)
    (sched : List Tid) :
    complete (run sched (init (progsOf (threads.map (·.map (·.steps)))))) →
    ∀ t, (run sched (init (progsOf (threads.map (·.map (·.steps)))))).res t
      = (run (serialSched (progsOf (threads.map (·.map (·.steps)))) threads.length)
          (init (progsOf (threads.map (·.map (·.steps)))))).res t := by
  refine binding_serialisable threads (fun ops hops f hf => ?_) sched
  obtain ⟨hmem, n, hn, hex, hrec⟩ := hin ops hops f hf
  exact ⟨hmem, ((enumerated_entry_locked n hn hex).2 f hmem hrec).2.1⟩

/-- non-vacuity: the enumeration is not empty, most of it reaches the library, the exemption list is short, and the
    Liquid unblinding primitive and both signers are among the reaching functions -/
example : (decide (40 ≤ reaching.length) && decide (exemptNames.length ≤ 10) && decide (40 ≤ secpDefs.length)
    && reaching.contains "rangeproof_rewind" && reaching.contains "ecdsa_sign" && reaching.contains "schnorrsig_sign"
    && !isExempt "ecdsa_sign") = true := by decide +kernel

end Embit.Props.C20
