import EmbitModel.Proofs.PyCurveCount
import EmbitModel.Proofs.ContractCurve
import Mathlib.Tactic.NormNum.Prime
import EmbitModel.Proofs.SecpPrimes
/-
  C08 (audit A1 / A2) — the curve and field arithmetic of the pure-Python backend, `embit/util/key.py` lines 17–245.

  `Model/PyCurve.lean` follows that code branch for branch over Python integers, for an arbitrary
  `EllipticCurve(p, a, b)` (`modinv`, `jacobi_symbol`, `modsqrt`, `affine`, `negate`, `on_curve`, `is_x_coord`,
  `lift_x`, `double`, `add_mixed`, `add` with all special cases, the 256-step multi-scalar `mul`); the harness ties
  the model to the real functions on every run (ops `pycurve.*`, ≈ 4 700 cases per quick run).

  This file proves, for a PRIME modulus `p` (`[Fact C.p.Prime]`, an explicit hypothesis, never an axiom):

  (1) the modelled functions implement the group law of the curve `y² = x³ + a x + b` over `ZMod p` — Mathlib's
      `WeierstrassCurve.Affine.Point` — via the map `pt C : JPt → (W C).toAffine.Point`
      (`Jacobian.Point.toAffine` of the residues): `add`, `add_mixed`, `double`, `negate`, `mul` (single, pair
      and general multi-scalar form, 256 bits read), `affine`, `on_curve`, `lift_x`, `is_x_coord`,
      `ECPubKey.set`; and the field functions: `pow`, `modinv`, `jacobi_symbol`, `modsqrt`.
      `Valid C P` = entries reduced, and `z = 0` or a nonsingular point of the curve; every operation returns a
      `Valid` tuple on `Valid` operands (closure is part of each theorem).
  (2) `pyEcOps C n g` — the abstract record `EcOps` over which `Model/PySecp.lean` and every C07 / C08 theorem
      are stated, INSTANTIATED with the modelled key.py arithmetic — satisfies the law structure `EcLaws`
      (`py_ec_laws`), from
        `Params C n g`  facts decided by RUNNING the modelled code on the parameters:
                        p ≡ 3 (mod 4), discriminant ≠ 0, `jacobi_symbol(b, p) = -1`, n ≠ 2, n ≤ 2^256,
                        G finite and on the curve, `mul([(G, n)])` is infinity — plus `n` prime,
        `CardEq C n`    the curve group has exactly n elements (equivalently `pointCount C = n`: run `on_curve`
                        on all p² pairs — `card_eq_iff_point_count`).
  (3) both are instantiated: for the toy curve `y² = x³ + 7` over 𝔽₄₃ everything is discharged by evaluation
      (`toy_ec_laws`, no hypothesis left); for secp256k1 the kernel evaluates `mul([(G, n)])`, `on_curve(G)`,
      `jacobi_symbol(7, p)` and the discriminant, so that

        THE ONLY REMAINING ASSUMPTION ABOUT secp256k1 IS
          #E(𝔽_p) = n          (`hc : CardEq secp256k1 secp256k1N`, equivalently `pointCount secp256k1 = n`;
                               by `secp256k1_card_of_bound` any bound `#E(𝔽_p) < 2n`, e.g. Hasse's, suffices)
        PROVED, not assumed:
          p = 2^256 − 2^32 − 977 is prime   `secp256k1_p_prime`  (Pratt certificate, 10 Lucas steps)
          n is prime                        `secp256k1_n_prime`  (Pratt certificate, 12 Lucas steps)
          n • G = 0                         `secp256k1_nG`       (the modelled `mul([(G, n)])`, run by the kernel)
          G has order exactly n             `secp256k1_G_order`
        (`Proofs/SecpPrimes.lean`: every modular power of the certificates is evaluated by the kernel (`natPow`,
        Proofs/Pratt.lean); the factorisations found off-line are not trusted.)
        `secp256k1_ec_laws'` is the same statement with "p prime" and "n prime" kept as hypotheses, for readers
        who want the list "p prime, n prime, #E = n" literally.

      Under that one hypothesis `secp256k1_ec_laws` gives `EcLaws (pyEcOps secp256k1 …)`, hence every `EcLaws`-relative
      theorem of C07 / C08 for the record built from key.py's own arithmetic (`py_negate_matches_contract_secp256k1`
      is one instance), and the `pipeline_*` theorems show that the abstract decompositions written in
      `Model/PySecp.lean` (`E.add (E.mul u1 E.g) (E.mul u2 P)` …) equal what the real Jacobian pipelines
      (`affine(mul([(G, u1), (P, u2)]))` …) return. The group-law theorems of part (1) hold for secp256k1
      UNCONDITIONALLY (`secp256k1_add`, `secp256k1_mul_G`).
-/
namespace Embit.Props.C08Y
open Embit Embit.Model Embit.Model.PyCurve WeierstrassCurve NumberTheorySymbols

/-- the model of Python's built-in `pow(b, e, m)` (square and multiply) is `b ^ e mod m` -/
theorem pow_is_modpow (m : ℕ) (hm : 0 < m) (b : ℤ) (e : ℕ) : powMod b e m = b ^ e % (m : ℤ) := powMod_eq m hm b e

/-- `modinv(a, n)` (extended Euclid as written, `a ≥ 0`): answers `t` with `t·a ≡ 1 (mod n)` when `gcd(a, n) = 1` … -/
theorem modinv_coprime (n : ℕ) (a : ℤ) (ha : 0 ≤ a) (hg : Int.gcd a n = 1) :
    ∃ t : ℤ, modinv a n = some t ∧ (t : ZMod n) * a = 1 := modinv_some n a ha hg

/-- … and `None` otherwise (`modinv(0, n)`, `modinv(n, n)`, a common factor) -/
theorem modinv_not_coprime (n : ℕ) (hn : 0 < n) (a : ℤ) (ha : 0 ≤ a) (hg : Int.gcd a n ≠ 1) : modinv a n = none :=
  modinv_none n hn a ha hg

/-- **`modinv` is the field inverse** for a prime modulus and an argument that is not ≡ 0 -/
theorem modinv_is_field_inverse (p : ℕ) [Fact p.Prime] (a : ℤ) (ha : 0 ≤ a) (hne : (a : ZMod p) ≠ 0) :
    ∃ t : ℤ, modinv a p = some t ∧ (t : ZMod p) = (a : ZMod p)⁻¹ := modinv_inv p a ha hne

/-- **`modinv` answers the canonical representative**: for `0 ≤ a < n` the value lies in `[0, n)` -/
theorem modinv_canonical (n : ℕ) (a : ℤ) (h0 : 0 ≤ a) (h1 : a < n) (t : ℤ) (h : modinv a n = some t) : 0 ≤ t ∧ t < n :=
  modinv_range n a h0 h1 t h

theorem modinv_of_multiple (p : ℕ) [Fact p.Prime] (a : ℤ) (ha : 0 ≤ a) (h0 : (a : ZMod p) = 0) : modinv a p = none :=
  modinv_zero p a ha h0

/-- **`jacobi_symbol(n, k)` is the Jacobi symbol** `J(n | k)` for every integer `n` and odd `k > 0`; both `while`
    loops terminate within the fuel given -/
theorem jacobi_symbol_is_jacobi (n : ℤ) (k : ℕ) (hk0 : 0 < k) (hk : k % 2 = 1) : jacobiSymbol n k = some (J(n | k)) :=
  jacobiSymbol_eq n k hk0 hk

/-- `modsqrt` (`a^((p+1)/4)`, p ≡ 3 mod 4): what it returns is a reduced square root … -/
theorem modsqrt_sound (p : ℕ) [Fact p.Prime] (a y : ℤ) (h : modsqrt a p = some (some y)) :
    0 ≤ y ∧ y < p ∧ (y : ZMod p) ^ 2 = (a : ZMod p) := PyCurve.modsqrt_sound p a y h

/-- … it finds a root of every square, and answers `None` exactly for the non-squares -/
theorem modsqrt_complete (p : ℕ) [Fact p.Prime] (h3 : p % 4 = 3) (a : ℤ) :
    (IsSquare (a : ZMod p) → ∃ y, modsqrt a p = some (some y)) ∧
    (¬ IsSquare (a : ZMod p) → modsqrt a p = some none) :=
  ⟨PyCurve.modsqrt_complete p h3 a, modsqrt_nonsquare p h3 a⟩

section group
variable (C : Curve) [Fact C.p.Prime]

/-- **`negate` is the group inverse** -/
theorem negate_is_neg {P : JPt} (hv : Valid C P) : pt C (negate C P) = - pt C P ∧ Valid C (negate C P) :=
  ⟨pt_negate C hv, valid_negate C hv⟩

/-- **`double` doubles** (including `z = 0` and points of order two, where it returns `z = 0`) -/
theorem double_is_double {P : JPt} (hv : Valid C P) : pt C (double C P) = 2 • pt C P ∧ Valid C (double C P) :=
  ⟨by rw [pt_double C hv, two_nsmul], valid_double C hv⟩

/-- `double` is literally Mathlib's Jacobian doubling formula `dblXYZ` on the residues -/
theorem double_is_dblXYZ (x y z : ℤ) (hz : z ≠ 0) : toF C (double C (x, y, z)) = (W C).dblXYZ (toF C (x, y, z)) :=
  double_toF C x y z hz

/-- **`add_mixed(P, Q)` (`Q.z = 1`) is the group sum** — all its branches -/
theorem add_mixed_is_add {P Q : JPt} (hP : Valid C P) (hQ : Valid C Q) (hz : Q.2.2 = 1) :
    pt C (addMixed C P Q) = pt C P + pt C Q ∧ Valid C (addMixed C P Q) := pt_addMixed C hP hQ hz

/-- **`add(P, Q)` is the group sum** — infinity on either side, the `z = 1` fast paths, equal `x` with equal /
    opposite `y`, the general formulas; for ALL valid Jacobian representatives -/
theorem add_is_add {P Q : JPt} (hP : Valid C P) (hQ : Valid C Q) :
    pt C (add C P Q) = pt C P + pt C Q ∧ Valid C (add C P Q) := pt_add C hP hQ

/-- **`mul(ps)` is the multi-scalar product** `Σ (nᵢ mod 2^256) • Pᵢ` — the loop as written, for any list -/
theorem mul_is_multiscalar (ps : List (JPt × ℕ)) (hps : ∀ pn ∈ ps, Valid C pn.1) :
    pt C (mul C ps) = scalSum C (fun n => n % 2 ^ 256) ps ∧ Valid C (mul C ps) := pt_mul C ps hps

/-- `mul([(P, k)]) = k • P` for `k < 2^256` -/
theorem mul_single {P : JPt} (hP : Valid C P) (k : ℕ) (hk : k < 2 ^ 256) : pt C (mul C [(P, k)]) = k • pt C P :=
  pt_mul_single C hP k hk

/-- `mul([(P, a), (Q, b)]) = a • P + b • Q` (Shamir's trick as the code does it) -/
theorem mul_pair {P Q : JPt} (hP : Valid C P) (hQ : Valid C Q) (a b : ℕ) (ha : a < 2 ^ 256) (hb : b < 2 ^ 256) :
    pt C (mul C [(P, a), (Q, b)]) = a • pt C P + b • pt C Q := pt_mul_pair C hP hQ a b ha hb

/-- `affine` of a finite valid tuple: the reduced representative `(x/z², y/z³, 1)` of the same point; of `z = 0`: `None` -/
theorem affine_is_normal_form {x y z : ℤ} (hv : Valid C (x, y, z)) :
    (z = 0 → affine C (x, y, z) = some none) ∧
    (z ≠ 0 → ∃ x' y' : ℤ, affine C (x, y, z) = some (some (x', y', 1)) ∧ Valid C (x', y', 1) ∧
      (x' : ZMod C.p) = (x : ZMod C.p) / (z : ZMod C.p) ^ 2 ∧ (y' : ZMod C.p) = (y : ZMod C.p) / (z : ZMod C.p) ^ 3 ∧
      pt C (x', y', 1) = pt C (x, y, z)) :=
  ⟨fun h => by subst h; exact affine_inf C x y, affine_finite C hv⟩

/-- **the serialised coordinates depend on the group element only** (not on the Jacobian representative) -/
theorem affine_depends_on_point_only {P : JPt} (hv : Valid C P) : affineXY C P = some (ptXY C (pt C P)) :=
  affineXY_eq C hv

/-- **`on_curve` decides membership** -/
theorem on_curve_decides (x y z : ℤ) :
    onCurve C (x, y, z) = true ↔ z ≠ 0 ∧
      (y : ZMod C.p) ^ 2 = (x : ZMod C.p) ^ 3 + (C.a : ZMod C.p) * x * (z : ZMod C.p) ^ 4 + (C.b : ZMod C.p) * (z : ZMod C.p) ^ 6 :=
  onCurve_iff C x y z

/-- on a smooth curve the reduced tuples `on_curve` accepts are exactly the finite `Valid` ones -/
theorem on_curve_iff_valid (hs : Smooth C) (x y : ℤ) (hx : 0 ≤ x ∧ x < C.p) (hy : 0 ≤ y ∧ y < C.p) :
    Valid C (x, y, 1) ↔ onCurve C (x, y, 1) = true := valid_affine_iff C hs x y hx hy

/-- **`is_x_coord` decides whether `x³ + a x + b` is a square** -/
theorem is_x_coord_decides (hodd : C.p % 2 = 1) (x : ℤ) :
    isXCoord C x = some (decide (IsSquare ((x : ZMod C.p) ^ 3 + (C.a : ZMod C.p) * x + (C.b : ZMod C.p)))) :=
  isXCoord_eq C hodd x

/-- **`lift_x` returns the point with that `x` and the EVEN root** … -/
theorem lift_x_selects_even_root (hs : Smooth C) (h3 : C.p % 4 = 3) (x : ℤ) (hx : 0 ≤ x ∧ x < C.p) (P : JPt)
    (h : liftX C x = some (some P)) : ∃ y : ℤ, P = (x, y, 1) ∧ y % 2 = 0 ∧ Valid C P := liftX_sound C hs h3 x hx P h

/-- … every point with an even `y` is found, and `None` is answered exactly when there is no point with that `x` -/
theorem lift_x_complete (h3 : C.p % 4 = 3) (x : ℤ) :
    (∀ y : ℤ, Valid C (x, y, 1) → y % 2 = 0 → liftX C x = some (some (x, y, 1))) ∧
    (¬ IsSquare ((x : ZMod C.p) ^ 3 + (C.a : ZMod C.p) * x + (C.b : ZMod C.p)) → liftX C x = some none) :=
  ⟨fun y hv hy => liftX_complete C h3 x y hv hy, liftX_nonsquare C h3 x⟩

/-- `ECPubKey.set`, uncompressed branch: accepts exactly the reduced pairs on the curve -/
theorem set_uncompressed (hs : Smooth C) (x y : ℕ) (P : JPt) :
    setUncompressed C x y = some P ↔ P = ((x : ℤ), (y : ℤ), 1) ∧ x < C.p ∧ y < C.p ∧ Valid C P :=
  setUncompressed_iff C hs x y P

/-- `ECPubKey.set`, compressed branch: never raises; accepts exactly `x < p` with a point above it and stores the
    point with the demanded parity (`lift_x`, then `negate` for an odd prefix) -/
theorem set_compressed (hs : Smooth C) (h3 : C.p % 4 = 3) (odd : Bool) (x : ℕ) :
    (x < C.p ∧ IsSquare (((x : ℤ) : ZMod C.p) ^ 3 + (C.a : ZMod C.p) * ((x : ℤ) : ZMod C.p) + (C.b : ZMod C.p)) →
      ∃ y : ℤ, liftX C x = some (some ((x : ℤ), y, 1)) ∧ y % 2 = 0 ∧ Valid C ((x : ℤ), y, 1) ∧
        setCompressed C odd x = some (some (if odd then negate C ((x : ℤ), y, 1) else ((x : ℤ), y, 1)))) ∧
    (¬ (x < C.p ∧ IsSquare (((x : ℤ) : ZMod C.p) ^ 3 + (C.a : ZMod C.p) * ((x : ℤ) : ZMod C.p) + (C.b : ZMod C.p))) →
      setCompressed C odd x = some none) := setCompressed_spec C hs h3 odd x

end group

section record
variable (C : Curve) [Fact C.p.Prime] {n : ℕ} {g : APt C}

/-- **`EcLaws` holds for the record built from the modelled key.py arithmetic**, from the decidable facts
    `Params C n g` and `CardEq C n` -/
theorem py_ec_laws (hp : Params C n g) (hc : CardEq C n) : EcLaws (pyEcOps C n g) := pyEcLaws C hp hc

/-- `CardEq` is the executable count: `on_curve` accepted on exactly `n − 1` of the `p²` reduced pairs -/
theorem card_eq_iff_point_count (hs : Smooth C) (n : ℕ) : CardEq C n ↔ pointCount C = n := cardEq_iff C hs n

/-- `ec_pubkey_create`: `affine(mul([(G, d)]))` is `xy (d·G)` of the record -/
theorem pipeline_pubkey_create (hp : Params C n g) (d : ℕ) (hd : d < 2 ^ 256) :
    affineXY C (mul C [(toJ g.1, d)]) = some ((pyEcOps C n g).xy ((pyEcOps C n g).mul d g)) := pipeline_create C hp d hd

/-- `verify_ecdsa`, `verify_schnorr`, `ec_pubkey_add`: the two-scalar `mul` is `a·G + b·P` of the record -/
theorem pipeline_verify (hp : Params C n g) (P : APt C) (hP : n • ι C P = 0) (a b : ℕ) (ha : a < 2 ^ 256) (hb : b < 2 ^ 256) :
    affineXY C (mul C [(toJ g.1, a), (toJ P.1, b)]) =
      some ((pyEcOps C n g).xy ((pyEcOps C n g).add ((pyEcOps C n g).mul a g) ((pyEcOps C n g).mul b P))) :=
  pipeline_two_scalars C hp P hP a b ha hb

/-- `ecdsa_recover`: `affine(add(mul([(R, u1)]), negate(mul([(G, u2)]))))` is `u1·R + (−(u2·G))` of the record -/
theorem pipeline_ecdsa_recover (hp : Params C n g) (R : APt C) (hR : n • ι C R = 0) (u1 u2 : ℕ) (h1 : u1 < 2 ^ 256)
    (h2 : u2 < 2 ^ 256) :
    affineXY C (add C (mul C [(toJ R.1, u1)]) (negate C (mul C [(toJ g.1, u2)]))) =
      some ((pyEcOps C n g).xy ((pyEcOps C n g).add ((pyEcOps C n g).mul u1 R)
        ((pyEcOps C n g).neg ((pyEcOps C n g).mul u2 g)))) := pipeline_recover C hp R hR u1 u2 h1 h2

/-- with `CardEq`, every canonical point is killed by `n` (the side condition of the pipelines is vacuous) -/
theorem all_points_killed_by_n (hc : CardEq C n) (P : APt C) : n • ι C P = 0 := nsmul_all C hc (ι C P)

end record

/-! ### instance 1: the toy curve — every hypothesis discharged by evaluation -/

instance toy_p_prime : Fact toy43.p.Prime := ⟨by show Nat.Prime 43; norm_num⟩

theorem toy_smooth : Smooth toy43 := ⟨by decide, by decide⟩

/-- `G = (2, 12)` on `y² = x³ + 7` over 𝔽₄₃ -/
def toyG : APt toy43 :=
  ⟨some (2, 12), (valid_affine_iff toy43 toy_smooth 2 12 (by decide) (by decide)).mpr (by decide)⟩

theorem toy_params : Params toy43 toy43N toyG where
  p34 := by decide
  disc := by decide
  b_nonsquare := by decide +kernel
  n_prime := by show Nat.Prime 31; norm_num
  n_odd := by decide
  n_le := by decide
  g_finite := by decide
  nG := by decide +kernel

/-- the toy curve has exactly 31 points: `on_curve` run on all 43² pairs -/
theorem toy_card : CardEq toy43 toy43N :=
  (cardEq_iff toy43 toy_smooth toy43N).mpr (by decide +kernel)

/-- **non-vacuity of the whole chain**: the same key.py code on `(43, 0, 7)` satisfies `EcLaws`, no hypothesis left -/
theorem toy_ec_laws : EcLaws (pyEcOps toy43 toy43N toyG) := py_ec_laws toy43 toy_params toy_card

/-! ### instance 2: secp256k1 — what remains is #E = n -/

/-- **the field size of secp256k1 is prime** (Pratt certificate checked by the kernel) -/
theorem secp256k1_p_prime : secp256k1.p.Prime := Primes.secp256k1P_prime

/-- **the order of secp256k1's generator is prime** (Pratt certificate checked by the kernel) -/
theorem secp256k1_n_prime : secp256k1N.Prime := Primes.secp256k1N_prime

/-- `on_curve(G)`, by running the model on the 256-bit parameters in the kernel -/
theorem secp256k1_G_on_curve : onCurve secp256k1 secp256k1G = true := by decide +kernel

/-- **`n • G = 0` for secp256k1**: the modelled `mul([(G, n)])` (256 doublings, 128-odd additions on 256-bit
    integers) evaluates to a tuple with `z = 0` — evaluated by the Lean kernel, not assumed -/
theorem secp256k1_nG : (mul secp256k1 [(secp256k1G, secp256k1N)]).2.2 = 0 := by decide +kernel

/-- `jacobi_symbol(7, p) = -1`: 7 is not a square modulo p (no point with x = 0) -/
theorem secp256k1_7_nonresidue : jacobiSymbol secp256k1.b secp256k1.p = some (-1) := by decide +kernel

theorem secp256k1_smooth : Smooth secp256k1 := ⟨by decide +kernel, by decide +kernel⟩

/-- the generator as a canonical point; needs `p` prime to speak of the group at all -/
def secpG' [Fact secp256k1.p.Prime] : APt secp256k1 :=
  ⟨some (secp256k1G.1.toNat, secp256k1G.2.1.toNat),
    valid_of_onCurve secp256k1 secp256k1_smooth
      ⟨⟨by decide +kernel, by decide +kernel⟩, ⟨by decide +kernel, by decide +kernel⟩, ⟨by decide, by decide +kernel⟩⟩
      secp256k1_G_on_curve⟩

/-- all of `Params` for secp256k1 is computed, except that `n` is prime -/
theorem secp256k1_params [Fact secp256k1.p.Prime] (hn : secp256k1N.Prime) : Params secp256k1 secp256k1N secpG' where
  p34 := by decide +kernel
  disc := by decide +kernel
  b_nonsquare := secp256k1_7_nonresidue
  n_prime := hn
  n_odd := by decide +kernel
  n_le := by decide +kernel
  g_finite := by simp [secpG']
  -- rewriting the generator first keeps the unifier from evaluating `mul` on the two spellings of `G`
  nG := by rw [show toJ secpG'.1 = secp256k1G from rfl]; exact secp256k1_nG

/-- secp256k1 with the primality of `p` and of `n` kept as hypotheses: "p prime, n prime, #E = n" -/
theorem secp256k1_ec_laws' [Fact secp256k1.p.Prime] (hn : secp256k1N.Prime) (hc : CardEq secp256k1 secp256k1N) :
    EcLaws (pyEcOps secp256k1 secp256k1N secpG') := py_ec_laws secp256k1 (secp256k1_params hn) hc

instance secp256k1_p_fact : Fact secp256k1.p.Prime := ⟨secp256k1_p_prime⟩

/-- the generator of secp256k1 as a canonical point -/
def secpG : APt secp256k1 := secpG'

/-- **secp256k1**: if the curve has exactly `n` points, then the record built from key.py's own arithmetic
    satisfies `EcLaws` — the hypothesis of the C07 / C08 theorems. Nothing else about secp256k1 is assumed. -/
theorem secp256k1_ec_laws (hc : CardEq secp256k1 secp256k1N) : EcLaws (pyEcOps secp256k1 secp256k1N secpG) :=
  secp256k1_ec_laws' secp256k1_n_prime hc

/-- the one remaining assumption follows from ANY bound `#E(𝔽_p) < 2n` — in particular from Hasse's theorem
    (`#E ≤ p + 1 + 2√p < 2n`), which Mathlib does not contain -/
theorem secp256k1_card_of_bound (h : Nat.card (W secp256k1).toAffine.Point < 2 * secp256k1N) :
    CardEq secp256k1 secp256k1N := cardEq_of_lt secp256k1 (secp256k1_params secp256k1_n_prime) h

/-- **`G` has order exactly `n`** in the group of secp256k1 — unconditionally -/
theorem secp256k1_G_order : addOrderOf (ι secp256k1 secpG) = secp256k1N :=
  addOrderOf_g secp256k1 (secp256k1_params secp256k1_n_prime)

/-- key.py's `add` on secp256k1 is the group law — unconditionally, for all valid Jacobian representatives -/
theorem secp256k1_add {P Q : JPt} (hP : Valid secp256k1 P) (hQ : Valid secp256k1 Q) :
    pt secp256k1 (add secp256k1 P Q) = pt secp256k1 P + pt secp256k1 Q ∧ Valid secp256k1 (add secp256k1 P Q) :=
  pt_add secp256k1 hP hQ

/-- key.py's `mul([(G, k)])` on secp256k1 is `k • G` for every 256-bit scalar — unconditionally -/
theorem secp256k1_mul_G (k : ℕ) (hk : k < 2 ^ 256) :
    pt secp256k1 (mul secp256k1 [(secp256k1G, k)]) = k • pt secp256k1 secp256k1G :=
  pt_mul_single secp256k1 secpG.2 k hk

/-- one `EcLaws`-relative theorem of C08 at the record built from key.py's arithmetic: py's `ec_pubkey_negate`
    (re-parsing with the other parity byte) equals the libsecp256k1 contract, on secp256k1, assuming only #E = n -/
theorem py_negate_matches_contract_secp256k1 (hc : CardEq secp256k1 secp256k1N) (pub : Bytes) :
    PySecp.ecPubkeyNegate (pyEcOps secp256k1 secp256k1N secpG) pub =
      Spec.Libsecp.ec_pubkey_negate (pyEcOps secp256k1 secp256k1N secpG) pub :=
  eq_pubkey_negate _ (secp256k1_ec_laws hc) (show secp256k1.p ≤ 2 ^ 256 by decide +kernel) pub

-- `CardEq secp256k1 secp256k1N` (#E(𝔽_p) = n) is PROVED in Props/C08Z.lean (`secp256k1_card_eq`, elementary counting — no Hasse bound), and with it `secp256k1_ec_laws_unconditional`.

/-! ### non-vacuity -/

/-- the toy group, as key.py computes it: `3·G = (35, 21)`, `31·G = ∞`, `30·G = −G` -/
example : affineXY toy43 (mul toy43 [(toy43G, 3)]) = some (some (35, 21)) ∧
    affineXY toy43 (mul toy43 [(toy43G, 31)]) = some none ∧
    affineXY toy43 (mul toy43 [(toy43G, 30)]) = some (some (2, 31)) := by decide +kernel
/-- every branch of `add` on the toy curve: infinity, doubling through the `z = 1` path, opposite points, generic -/
example : add toy43 inf toy43G = toy43G ∧ add toy43 toy43G toy43G = double toy43 toy43G ∧
    add toy43 toy43G (negate toy43 toy43G) = inf ∧
    affine toy43 (add toy43 (double toy43 toy43G) (double toy43 (double toy43 toy43G))) = some (some (29, 31, 1)) := by
  decide +kernel
example : Valid toy43 toy43G := toyG.2
example : modinv 3 43 = some 29 ∧ modinv 0 43 = none ∧ modinv 43 43 = none := by decide +kernel
example : jacobiSymbol 7 43 = some (-1) ∧ jacobiSymbol 8 43 = some (-1) ∧ jacobiSymbol 15 43 = some 1 := by decide +kernel
example : liftX toy43 2 = some (some (2, 12, 1)) ∧ liftX toy43 3 = some none := by decide +kernel
set_option maxRecDepth 100000 in
/-- secp256k1: `(n−1)·G = −G` as the model computes it -/
example : affine secp256k1 (mul secp256k1 [(secp256k1G, secp256k1N - 1)]) = some (some (negate secp256k1 secp256k1G)) := by
  decide +kernel
example : EcLaws (pyEcOps toy43 toy43N toyG) := toy_ec_laws

end Embit.Props.C08Y
