import EmbitModel.Props.C17
import EmbitModel.Proofs.CostBin
/-
  C17, third part — the BYTE parsers with a step counter attached (audit2 A-3, first audit A5).

  `Props/C17.lean` bounds `readManySteps`, a function defined there and linked to no parser. Here the parsers
  themselves are instrumented (`Model/CostBin.lean`): `txReadC`, `scriptReadC`, `witnessReadC`, `txInReadC`,
  `txOutReadC`, `readVoutC`, `readKVsC` (one PSBT / PSET scope), `readInsC` / `readOutsC`, `psbtParseC` return the value together
  with the number of steps of the run, accepted or rejected. Two kinds of theorem:
    * ERASURE  — the value part of the instrumented parser is the model parser (`Tx.read`, `Psbt.parse`, … — the
                 functions that C03/C04/C06 prove correct and that the driver runs against embit), for every input;
    * BOUND    — steps ≤ 5·|input| + 12 (transactions), ≤ 7·|input| + 12 (PSBT, both versions, every compress mode),
                 and what an accepted run builds has at most as many elements / scopes as bytes were consumed.
  Termination: `Tx.read` and everything below it is structural recursion on the count (`readMany`), no fuel — there
  is nothing to state except the bound (the count field may be 2^64-1; the loop stops at the first element that
  cannot be read, after ≤ |input| + 1 iterations). The only fuelled byte parser is the `while True` loop of a PSBT
  scope (`readKVsFuel`, which answers `none` both for "rejected" and for "fuel used up"): `readKVsFuelC` keeps the two
  apart (`Res`), and `scope_never_out_of_fuel` shows that with the fuel the model uses the third answer never occurs.
  What a step is: see the header of `Model/CostBin.lean`.
-/
set_option linter.unusedSimpArgs false
set_option linter.unusedVariables false
namespace Embit.Props.C17Y
open Embit Embit.Model Embit.Model.CostBin

/-! ## erasure: the instrumented parser is the model parser -/

/-- the counted loop: value = `readMany` of the element reader's value -/
theorem counted_loop_erases {α : Type} (p : CP α) (n : Nat) (b : Bytes) :
    (readManyC p n b).1 = readMany (erase p) n b := readManyC_fst p n b

theorem script_erases (b : Bytes) : (scriptReadC b).1 = scriptRead b := scriptReadC_fst b
theorem witness_erases (b : Bytes) : (witnessReadC b).1 = witnessRead b := witnessReadC_fst b
theorem txin_erases (b : Bytes) : (txInReadC b).1 = TxIn.read b := txInReadC_fst b
theorem txout_erases (b : Bytes) : (txOutReadC b).1 = TxOut.read b := txOutReadC_fst b

/-- **`Transaction.read_from`**: the instrumented parser returns exactly what `Model.Tx.read` returns -/
theorem tx_read_erases (b : Bytes) : (txReadC b).1 = Tx.read b := txReadC_fst b

/-- **`Transaction.parse`** -/
theorem tx_parse_erases (b : Bytes) : (txParseC b).1 = Tx.parse b := txParseC_fst b

/-- **one PSBT / PSET scope**, any fuel: forgetting the difference between "rejected" and "out of fuel" gives the
    model's `readKVsFuel` -/
theorem scope_erases (fuel : Nat) (b : Bytes) : (readKVsFuelC fuel b).1.toOption = readKVsFuel fuel b :=
  readKVsFuelC_fst fuel b

/-- **`PSBT.parse(b, compress)`**, version 0 and 2, every compress mode -/
theorem psbt_parse_erases (ko : KeyOps) (sha : Bytes → Bytes) (compress : Nat) (b : Bytes) :
    (psbtParseC ko sha compress b).1 = Psbt.parse ko sha compress b := psbtParseC_fst ko sha compress b

/-! ## bounds -/

/-- **the counted loop of the parsers**: if the element reader spends ≤ 5 steps per byte it consumes (`Amort`), then
    whatever the count `n` says the loop spends ≤ 5·|b| + D steps; an accepted loop spends ≤ 5 steps per byte consumed
    and returns no more elements than it consumed bytes -/
theorem counted_loop_linear {α : Type} (D : Nat) (p : CP α) (hp : Amort D p) (n : Nat) (b : Bytes) :
    (readManyC p n b).2 ≤ 5 * b.length + D ∧
    ∀ xs r, (readManyC p n b).1 = some (xs, r) →
      (readManyC p n b).2 + 5 * r.length ≤ 5 * b.length ∧ xs.length + r.length ≤ b.length :=
  ⟨(readManyC_bound D p hp n b).2, (readManyC_bound D p hp n b).1⟩

/-- the four element readers of a transaction are such readers -/
theorem element_readers_amortised :
    Amort 8 scriptReadC ∧ Amort 8 witnessReadC ∧ Amort 8 txInReadC ∧ Amort 8 txOutReadC :=
  ⟨scriptReadC_amort, witnessReadC_amort, txInReadC_amort, txOutReadC_amort⟩

/-- **`Transaction.read_from`: steps ≤ 5·|b| + 12 for EVERY byte string**, accepted or not; an accepted transaction
    cost at most 5 steps per byte it occupies -/
theorem tx_read_steps_linear (b : Bytes) :
    (txReadC b).2 ≤ 5 * b.length + 12 ∧
    ∀ t r, (txReadC b).1 = some (t, r) → (txReadC b).2 + 5 * r.length ≤ 5 * b.length :=
  txReadC_bound b

/-- **`Transaction.parse`: steps ≤ 5·|b| + 13** -/
theorem tx_parse_steps_linear (b : Bytes) : (txParseC b).2 ≤ 5 * b.length + 13 := by
  have := (txReadC_bound b).1
  simp only [txParseC]
  omega

/-- **the old stand-alone iteration count is a lower bound of the instrumented parser's steps**: `C17.readManySteps`
    of the VALUE reader counts iterations only, the instrumented loop counts them and the element reader's steps -/
theorem iterations_le_steps {α : Type} (p : CP α) (n : Nat) (b : Bytes) :
    C17.readManySteps (erase p) n b ≤ (readManyC p n b).2 := by
  induction n generalizing b with
  | zero => simp [C17.readManySteps, readManyC]
  | succ n ih =>
    simp only [C17.readManySteps, readManyC, erase]
    cases h : (p b).1 with
    | none => simp only []; omega
    | some xr =>
      obtain ⟨x, r⟩ := xr
      have := ih r
      simp only []
      cases h2 : (readManyC p n r).1 with
      | none => simp only []; omega
      | some q => simp only []; omega

/-- **one PSBT / PSET scope: steps ≤ 5·|b| + 8 for EVERY fuel** (so no run spins until the fuel is gone); an accepted
    scope has fewer pairs than it consumed bytes -/
theorem scope_steps_linear (fuel : Nat) (b : Bytes) :
    (readKVsFuelC fuel b).2 ≤ 5 * b.length + 8 ∧
    ∀ kvs r, (readKVsFuelC fuel b).1 = .ok (kvs, r) →
      (readKVsFuelC fuel b).2 + 5 * r.length ≤ 5 * b.length ∧ kvs.length + r.length < b.length :=
  ⟨(readKVsFuelC_bound fuel b).1, (readKVsFuelC_bound fuel b).2.1⟩

/-- **termination of the scope loop, stated as such**: there is a fuel ≤ |b| + 1 — the one the model uses — with which
    the loop does not answer "out of fuel"; every larger fuel does as well -/
theorem scope_never_out_of_fuel (b : Bytes) :
    (∃ fuel, fuel ≤ b.length + 1 ∧ (readKVsFuelC fuel b).1.isOutOfFuel = false) ∧
    ∀ fuel, b.length < fuel → (readKVsFuelC fuel b).1.isOutOfFuel = false :=
  ⟨⟨b.length + 1, Nat.le_refl _, (readKVsFuelC_bound _ b).2.2 (by omega)⟩,
   fun fuel h => (readKVsFuelC_bound fuel b).2.2 h⟩

/-- hence a `none` of the model's `readKVs` is a rejection, never a lack of fuel -/
theorem scope_rejection_is_not_fuel (b : Bytes) (h : readKVs b = none) : (readKVsC b).1 = .reject := by
  have e := readKVsC_fst b
  have f := readKVsC_fuel b
  rw [h] at e
  cases hq : (readKVsC b).1 with
  | ok x => simp [hq, Res.toOption] at e
  | reject => rfl
  | outOfFuel => simp [hq, Res.isOutOfFuel] at f

/-- **the two scope loops of `PSBT.read_from`** (counts from the unsigned transaction or, in version 2, from
    attacker-chosen fields): steps ≤ 6·|b| + 9; accepted ⇒ no more scopes than bytes consumed -/
theorem psbt_scope_loops_linear (ko : KeyOps) (sha : Bytes → Bytes) (compress : Nat) (tx : Option Tx) (n i : Nat)
    (b : Bytes) :
    ((readInsC ko sha compress tx n i b).2 ≤ 6 * b.length + 9 ∧
      ∀ ss r, (readInsC ko sha compress tx n i b).1 = some (ss, r) → ss.length + r.length ≤ b.length) ∧
    ((readOutsC ko tx n i b).2 ≤ 6 * b.length + 9 ∧
      ∀ ss r, (readOutsC ko tx n i b).1 = some (ss, r) → ss.length + r.length ≤ b.length) :=
  ⟨⟨((readInsC_loop ko sha compress tx).bound n i b).1, fun ss r h => (((readInsC_loop ko sha compress tx).bound n i b).2 ss r h).2⟩,
   ⟨((readOutsC_loop ko tx).bound n i b).1, fun ss r h => (((readOutsC_loop ko tx).bound n i b).2 ss r h).2⟩⟩

/-- **`PSBT.parse`: steps ≤ 7·|b| + 12 for every byte string, version 0 and 2, every compress mode** -/
theorem psbt_parse_steps_linear (ko : KeyOps) (sha : Bytes → Bytes) (compress : Nat) (b : Bytes) :
    (psbtParseC ko sha compress b).2 ≤ 7 * b.length + 12 :=
  psbtParseC_bound ko sha compress b

/-- **`Transaction.read_vout(stream, idx)`** (streamed previous transaction): the instrumented reader is the model's -/
theorem read_vout_erases (sha : Bytes → Bytes) (idx : Nat) (b : Bytes) :
    (readVoutC sha idx b).1 = Tx.readVout sha idx b := readVoutC_fst sha idx b

/-- **`Transaction.read_vout`: steps ≤ 5·|b| + 12 for every byte string and index** -/
theorem read_vout_steps_linear (sha : Bytes → Bytes) (idx : Nat) (b : Bytes) :
    (readVoutC sha idx b).2 ≤ 5 * b.length + 12 := readVoutC_bound sha idx b

-- GOAL (not proved): instrumented versions of the PSET parser (Model/Pset.lean: same `readKVs` loop — `scope_*` above
--   apply to each of its scopes — but Liquid element readers and its own global fold) and of the PSBTView readers
--   (Model/View.lean, offset-based). For those `C17X.ltx_loops_le_input` / `pset_scopes_le_input` remain what is proved.
-- GOAL (not proved): the steps of the field decoders applied to a value already read (`Tx.parse` of the global
--   transaction and of NON_WITNESS_UTXO, `Deriv.parse`, `tapDerivParse`) are not part of `psbtParseC`'s count; for
--   the transaction-valued ones the count is `txParseC`'s on the value (≤ 5·|value| + 13 by `tx_parse_steps_linear`).
-- GOAL (not proved): allocations of a REJECTED run (elements built before the failing one) — bounded by the
--   iterations, hence by the steps, but not stated separately.

/-! ### non-vacuity -/
-- a 60-byte legacy transaction, its steps; a count field of 2^64-1 on 14 bytes: 2 iterations' worth of steps
example : (txReadC ([1,0,0,0, 1] ++ List.replicate 32 7 ++ [0,0,0,0, 0, 255,255,255,255, 1] ++ [1,0,0,0,0,0,0,0, 0]
    ++ [0,0,0,0])).2 = 20 := by decide +kernel
example : ((txReadC ([1,0,0,0, 1] ++ List.replicate 32 7 ++ [0,0,0,0, 0, 255,255,255,255, 1] ++ [1,0,0,0,0,0,0,0, 0]
    ++ [0,0,0,0])).1).isSome = true := by decide +kernel
example : txReadC [1,0,0,0, 0xff, 255,255,255,255,255,255,255,255, 9] = (none, 5) := by decide +kernel
example : (readKVsFuelC 0 [0]).1 = .outOfFuel := by decide +kernel
example : (readKVsFuelC 1 [0]).1 = .ok ([], []) := by decide +kernel
example : (readKVsFuelC 5 [1]).1 = .reject := by decide +kernel
-- too little fuel is reported as such, not as a rejection
example : (readKVsFuelC 1 [1, 9, 1, 8, 0]).1 = .outOfFuel := by decide +kernel
example : (readKVsC [1, 9, 1, 8, 0]) = (.ok ([([9], [8])], []), 14) := by decide +kernel

end Embit.Props.C17Y
