import EmbitModel.Proofs.Bech32Sound
import EmbitModel.Generated.AddrFacts
/-
  C11 — Addresses and their base58/bech32 codecs are exact inverses and reject errors.
  Property theorems only. `Model.*` follows embit (`base58.py`, `bech32.py`, `script.py` after
  `fixes/c11-address-decoding-strict.diff`) and is tied to the repository by the correspondence check;
  `Spec.*` is Base58Check / BIP173 / BIP350 / the standard script templates.
  Hash functions are parameters (`dsha`, `sha`): every statement holds for every function.
  The substitution-detection theorems live in `Props/C11Detect.lean`.
-/
namespace Embit.Props.C11
open Embit Model Spec.Address

/-! ### constants -/

/-- the constants the model uses are the ones of the loaded embit modules (re-extracted on every run) -/
theorem generated_constants_match :
    Base58.digits = Generated.b58Digits ∧ Bech32.charset = Generated.bech32Charset
    ∧ Bech32.bech32Const = Generated.bech32Const ∧ Bech32.bech32mConst = Generated.bech32mConst
    ∧ Bech32.generator = Generated.bech32Generator := by decide +kernel

/-- embit's `NETWORKS` table (as extracted from the loaded module) satisfies what the address theorems need:
    one-byte version prefixes, p2pkh and p2sh prefixes disjoint, lower-case printable HRPs without `1` -/
theorem generated_networks_ok : Address.TableOk Generated.addrNetworks :=
  Address.tableOk_of_B _ (by decide +kernel)

/-! ### base58 -/

/-- `decode (encode b) = b` for every byte string (empty, leading zeros, any length) -/
theorem b58_decode_encode (b : Bytes) : Base58.decode (Base58.encode b) = some b := Base58.decode_encode b

/-- `encode (decode s) = s` for every string the decoder accepts -/
theorem b58_encode_decode (s : List Char) (b : Bytes) (h : Base58.decode s = some b) : Base58.encode b = s :=
  Base58.encode_decode s b h

/-- the decoder accepts exactly the strings over the alphabet -/
theorem b58_accepts_iff_alphabet (s : List Char) : (Base58.decode s).isSome ↔ ∀ c ∈ s, c ∈ Base58.digits :=
  Base58.decode_isSome_iff s

/-- the encoder is the specified Base58 encoding -/
theorem b58_encode_is_spec (b : Bytes) : Base58.encode b = Spec.Base58.encode b := Base58.encode_eq_spec b

/-- the decoder accepts exactly the specified encodings: `decode s = b ↔ s` is the Base58 text of `b` -/
theorem b58_decode_iff_spec (s : List Char) (b : Bytes) : Base58.decode s = some b ↔ Spec.Base58.Decodes s b := by
  rw [Base58.decode_iff, Spec.Base58.Decodes, b58_encode_is_spec]

/-- Base58Check: encoder is the specification, `decode_check ∘ encode_check = id`, and the decoder accepts
    exactly the Base58Check texts — for every hash function with at least four output bytes -/
theorem b58check_encode_is_spec (sha : Bytes → Bytes) (p : Bytes) :
    Base58.encodeCheck (fun x => sha (sha x)) p = Spec.Base58.encodeCheck sha p := Base58.encodeCheck_eq_spec sha p

theorem b58check_decode_encode (dsha : Bytes → Bytes) (h4 : ∀ x, 4 ≤ (dsha x).length) (p : Bytes) :
    Base58.decodeCheck dsha (Base58.encodeCheck dsha p) = some p := Base58.decodeCheck_encodeCheck dsha h4 p

theorem b58check_decode_iff_spec (sha : Bytes → Bytes) (h4 : ∀ x, 4 ≤ (sha x).length) (s : List Char) (p : Bytes) :
    Base58.decodeCheck (fun x => sha (sha x)) s = some p ↔ Spec.Base58.DecodesCheck sha s p := by
  rw [Base58.decodeCheck_iff _ (fun x => h4 (sha x)), Spec.Base58.DecodesCheck, b58check_encode_is_spec]

/-- a wrong checksum is never accepted, whatever the hash function (no hypothesis on it) -/
theorem b58check_sound (dsha : Bytes → Bytes) (s : List Char) (p : Bytes)
    (h : Base58.decodeCheck dsha s = some p) : s = Base58.encodeCheck dsha p := Base58.decodeCheck_sound dsha s p h

/-! ### bech32 -/

/-- `convertbits` 8→5 (padded) followed by 5→8 (strict) is the identity on byte lists -/
theorem convertbits_roundtrip (b : List Nat) (hb : ∀ v ∈ b, v < 256) :
    ∃ c, Bech32.convertbits b 8 5 true = some c ∧ (∀ x ∈ c, x < 32) ∧ Bech32.convertbits c 5 8 false = some b := by
  obtain ⟨c, h1, h2, _, _, h5⟩ := Bech32.convertbits_8_5_8 b hb
  exact ⟨c, h1, h2, h5⟩

/-- the polymod step is XOR-linear -/
theorem polymod_step_linear (a b v w : Nat) :
    Bech32.polymodStep (a ^^^ b) (v ^^^ w) = Bech32.polymodStep a v ^^^ Bech32.polymodStep b w :=
  Bech32.polymodStep_xor a b v w

/-- create/verify identity: `polymod (hrp_expand hrp ++ data ++ checksum) = const`, every hrp, every data -/
theorem bech32_create_verify (e : Bech32.Encoding) (hrp : List Char) (data : List Nat) :
    Bech32.polymod (Bech32.hrpExpand hrp ++ data ++ Bech32.createChecksum e hrp data) = e.const :=
  Bech32.polymod_createChecksum e hrp data

theorem bech32_verify_after_create (e : Bech32.Encoding) (hrp : List Char) (data : List Nat) :
    Bech32.verifyChecksum hrp (data ++ Bech32.createChecksum e hrp data) = some e := by
  rw [Bech32.verifyChecksum_eq_some, ← List.append_assoc]; exact bech32_create_verify e hrp data

/-- the six checksum symbols are the only ones that verify -/
theorem bech32_checksum_unique (e : Bech32.Encoding) (hrp : List Char) (data c : List Nat)
    (hc : ∀ x ∈ c, x < 32) (hl : c.length = 6)
    (h : Bech32.polymod (Bech32.hrpExpand hrp ++ data ++ c) = e.const) : c = Bech32.createChecksum e hrp data :=
  Bech32.checksum_unique e hrp data c hc hl h

/-- `bech32_decode (bech32_encode enc hrp data) = (enc, hrp, data)` for a printable lower-case hrp, 5-bit
    data and at most 90 characters -/
theorem bech32_decode_encode (e : Bech32.Encoding) (hrp : List Char) (data : List Nat) (hh : Bech32.HrpOk hrp)
    (hd : ∀ d ∈ data, d < 32) (hlen : hrp.length + 1 + data.length + 6 ≤ 90) :
    ∃ s, Bech32.bech32Encode e hrp data = some s ∧ Bech32.bech32Decode s = some (e, hrp, data) :=
  ⟨_, Bech32.bech32Encode_eq e hrp data hd, Bech32.bech32Decode_encode e hrp data hh hd hlen⟩

/-- segwit addresses: `encode` succeeds on every valid (hrp, version 0–16, program 2–40 bytes), its text is the
    BIP173/BIP350 encoding, and `decode` returns the version and program -/
theorem segwit_decode_encode (hrp : List Char) (ver : Nat) (prog : Bytes)
    (h : Bech32.SegwitOk hrp ver (prog.map UInt8.toNat)) :
    Bech32.encode hrp ver (prog.map UInt8.toNat) = some (Spec.Bech32.segwitEncode hrp ver prog)
    ∧ Bech32.decode hrp (Spec.Bech32.segwitEncode hrp ver prog) = some (ver, prog.map UInt8.toNat) := by
  rw [← Bech32.segwitText_eq_spec hrp ver prog (by have := h.verOk; omega)]
  exact Bech32.encode_decode_convOf hrp ver prog h

/-! ### addresses -/

/-- the address text of each of the five standard scripts is the Base58Check / BIP173 / BIP350 encoding -/
theorem address_is_spec (sha : Bytes → Bytes) (net : Network) (hn : Address.NetOk net) (s : Std) (hs : s.WF) :
    Address.address (fun x => sha (sha x)) net s.script
      = some (some (addressOf sha (Address.paramsOf net) s)) := by
  rw [Address.address_std _ net hn s hs, Address.textOf_eq_spec sha net hn s]

/-- script → address → script is the identity: five standard types × every network of a well-formed table -/
theorem addr_script_addr (sha : Bytes → Bytes) (h4 : ∀ x, 4 ≤ (sha x).length) (nets : List Network)
    (ht : Address.TableOk nets) (net : Network) (hmem : net ∈ nets) (s : Std) (hs : s.WF) :
    ∃ text, Address.address (fun x => sha (sha x)) net s.script = some (some text)
      ∧ text = addressOf sha (Address.paramsOf net) s
      ∧ Address.toScript (fun x => sha (sha x)) nets text = some (some s.script) := by
  refine ⟨_, Address.address_std _ net (ht.each net hmem) s hs, Address.textOf_eq_spec sha net (ht.each net hmem) s, ?_⟩
  exact Address.toScript_address _ (fun x => h4 (sha x)) nets ht net hmem s hs

/-- … in particular for embit's own table -/
theorem addr_script_addr_embit (sha : Bytes → Bytes) (h4 : ∀ x, 4 ≤ (sha x).length) (net : Network)
    (hmem : net ∈ Generated.addrNetworks) (s : Std) (hs : s.WF) :
    ∃ text, Address.address (fun x => sha (sha x)) net s.script = some (some text)
      ∧ text = addressOf sha (Address.paramsOf net) s
      ∧ Address.toScript (fun x => sha (sha x)) Generated.addrNetworks text = some (some s.script) :=
  addr_script_addr sha h4 _ generated_networks_ok net hmem s hs

/-! ### rejection -/

/-- mixed case is never decoded (bech32 level and segwit level) -/
theorem mixed_case_rejected (hrp s : List Char) (h1 : Bech32.lower s ≠ s) (h2 : Bech32.upper s ≠ s) :
    Bech32.bech32Decode s = none ∧ Bech32.decode hrp s = none :=
  ⟨Bech32.bech32Decode_mixed_case s h1 h2, Bech32.decode_mixed_case hrp s h1 h2⟩

/-- whatever `bech32.decode` returns obeys the program rules (version ≤ 16, 2–40 bytes, 20/32 for v0) and was
    checked with the checksum variant of its version (BECH32 for 0, BECH32M otherwise) -/
theorem segwit_decode_rules (hrp s : List Char) (ver : Nat) (prog : List Nat)
    (h : Bech32.decode hrp s = some (ver, prog)) :
    ver ≤ 16 ∧ 2 ≤ prog.length ∧ prog.length ≤ 40 ∧ (ver = 0 → prog.length = 20 ∨ prog.length = 32)
    ∧ ∃ data, Bech32.bech32Decode s = some (Bech32.encOf ver, hrp, ver :: data)
        ∧ Bech32.convertbits data 5 8 false = some prog :=
  (Bech32.decode_eq_some_iff hrp s ver prog).mp h

/-- soundness of the segwit decoder: whatever `bech32.decode(hrp, s)` returns, `s` is a valid BIP173/BIP350
    segwit address for `hrp` (≤ 90 characters, not mixed case, valid hrp, correct checksum of the variant belonging
    to the version, zero padding of fewer than 5 bits, program rules) with exactly that version and program.
    Together with `segwit_decode_encode` (every valid triple's canonical text decodes): the decoder accepts
    only valid addresses and every canonical one. -/
theorem segwit_decode_sound (hrp s : List Char) (ver : Nat) (prog : List Nat)
    (h : Bech32.decode hrp s = some (ver, prog)) :
    ∃ pb : Bytes, prog = pb.map UInt8.toNat ∧ Spec.Bech32.IsSegwitAddress hrp s ver pb :=
  Bech32.decode_sound hrp s ver prog h

/-- a checksum of the wrong variant for the witness version is rejected -/
theorem wrong_variant_rejected (hrp s : List Char) (e : Bech32.Encoding) (hg : List Char) (d0 : Nat)
    (rest : List Nat) (hd : Bech32.bech32Decode s = some (e, hg, d0 :: rest)) (hw : e ≠ Bech32.encOf d0) :
    Bech32.decode hrp s = none := Bech32.decode_wrong_variant hrp s e hg d0 rest hd hw

/-- `address_to_scriptpubkey` yields a script only (a) for a Base58Check string whose payload is exactly
    21 bytes and starts with a version byte of the table, or (b) for a segwit address whose HRP is in the table,
    version 0 with 20/32 bytes or version 1 with 32 bytes -/
theorem to_script_yields (dsha : Bytes → Bytes) (nets : List Network) (s : List Char) (sc : Bytes)
    (h : Address.toScript dsha nets s = some (some sc)) :
    (∃ data, Base58.decodeCheck dsha s = some data ∧ data.length = 21 ∧
        ∃ net ∈ nets, (data.take 1 = net.p2pkh ∧ sc = [0x76, 0xa9, 0x14] ++ data.drop 1 ++ [0x88, 0xac])
          ∨ (data.take 1 = net.p2sh ∧ sc = [0xa9, 0x14] ++ data.drop 1 ++ [0x87]))
    ∨ (Address.splitOne s ∈ nets.map (·.bech32) ∧ ∃ ver prog,
        Bech32.decode (Address.splitOne s) s = some (ver, prog)
        ∧ ((ver = 0 ∧ (prog.length = 20 ∨ prog.length = 32)) ∨ (ver = 1 ∧ prog.length = 32))
        ∧ sc = UInt8.ofNat (if ver > 0 then ver + 0x50 else ver) :: UInt8.ofNat prog.length :: prog.map UInt8.ofNat) := by
  rcases Address.toScript_yields dsha nets s sc h with ⟨data, h1, h2, h3⟩ | hb
  · exact Or.inl ⟨data, h1, h2, Address.matchPrefix_yields data nets sc h3⟩
  · exact Or.inr (Address.bech32Branch_yields nets s sc hb)

/-- soundness of `address_to_scriptpubkey`: a yielded script is a standard script and the input string is a valid
    address for it on a network of the table — Base58Check text of `version byte ++ 20-byte hash`, or a valid
    BIP173/BIP350 segwit address (v0 with 20/32 bytes, v1 with 32 bytes) whose HRP is in the table. In particular
    no script is ever yielded for a wrong checksum or checksum variant, mixed case, an invalid program or hash
    length, or an unknown prefix. -/
theorem to_script_sound (dsha : Bytes → Bytes) (nets : List Network) (s : List Char) (sc : Bytes)
    (h : Address.toScript dsha nets s = some (some sc)) :
    (∃ net ∈ nets, ∃ hash : Bytes, hash.length = 20 ∧
        ((s = Base58.encodeCheck dsha (net.p2pkh ++ hash) ∧ sc = (Std.p2pkh hash).script)
          ∨ (s = Base58.encodeCheck dsha (net.p2sh ++ hash) ∧ sc = (Std.p2sh hash).script)))
    ∨ (∃ net ∈ nets, ∃ ver, ∃ pb : Bytes, Spec.Bech32.IsSegwitAddress net.bech32 s ver pb
        ∧ ((ver = 0 ∧ pb.length = 20 ∧ sc = (Std.p2wpkh pb).script)
          ∨ (ver = 0 ∧ pb.length = 32 ∧ sc = (Std.p2wsh pb).script)
          ∨ (ver = 1 ∧ pb.length = 32 ∧ sc = (Std.p2tr pb).script))) := by
  rcases to_script_yields dsha nets s sc h with ⟨data, h1, h2, net, hn, hk⟩ | ⟨hh, ver, prog, hd, hv, hsc⟩
  · left
    have hs := Base58.decodeCheck_sound dsha s data h1
    rw [← List.take_append_drop 1 data] at hs
    refine ⟨net, hn, data.drop 1, by simp [h2], ?_⟩
    rcases hk with ⟨hp, hsc⟩ | ⟨hp, hsc⟩
    · exact Or.inl ⟨hp ▸ hs, by simpa [Std.script] using hsc⟩
    · exact Or.inr ⟨hp ▸ hs, by simpa [Std.script] using hsc⟩
  · right
    obtain ⟨net, hn, hnb⟩ := List.mem_map.mp hh
    obtain ⟨pb, rfl, hvalid⟩ := Bech32.decode_sound _ s ver prog hd
    rw [map_ofNat_toNat, List.length_map] at hsc
    rw [List.length_map] at hv
    refine ⟨net, hn, ver, pb, hnb ▸ hvalid, ?_⟩
    rcases hv with ⟨rfl, hl | hl⟩ | ⟨rfl, hl⟩
    · exact Or.inl ⟨rfl, hl, by rw [hsc, hl]; rfl⟩
    · exact Or.inr (Or.inl ⟨rfl, hl, by rw [hsc, hl]; rfl⟩)
    · exact Or.inr (Or.inr ⟨rfl, hl, by rw [hsc, hl]; rfl⟩)

/-- unknown prefix: a string that is not a 21-byte Base58Check payload and whose HRP is not in the table is
    rejected (D15 repaired) -/
theorem unknown_hrp_rejected (dsha : Bytes → Bytes) (nets : List Network) (s : List Char)
    (hb : ∀ data, Base58.decodeCheck dsha s = some data → data.length ≠ 21)
    (hh : Address.splitOne s ∉ nets.map (·.bech32)) : Address.toScript dsha nets s = none := by
  have hbr := Address.bech32Branch_unknown_hrp nets s hh
  unfold Address.toScript
  cases hd : Base58.decodeCheck dsha s with
  | none => simp [hbr]
  | some data => simp [hb data hd, hbr]

/-- invalid hash length: a Base58Check payload that is not 21 bytes never yields a script through the Base58
    branch (D16 repaired); a mixed-case string is rejected by the segwit branch as well -/
theorem bad_payload_length_rejected (dsha : Bytes → Bytes) (nets : List Network) (s : List Char) (data : Bytes)
    (hd : Base58.decodeCheck dsha s = some data) (hl : data.length ≠ 21)
    (h1 : Bech32.lower s ≠ s) (h2 : Bech32.upper s ≠ s) : Address.toScript dsha nets s = none := by
  unfold Address.toScript
  simp only [hd, ne_eq, hl, not_false_eq_true, if_true]
  have : Address.bech32Branch true nets s = none := by
    unfold Address.bech32Branch
    simp only [Bech32.decode_mixed_case _ s h1 h2]
    split <;> rfl
  simp [this]

/-- an unknown version byte gives `None` (no script) -/
theorem unknown_version_none (dsha : Bytes → Bytes) (nets : List Network) (s : List Char) (data : Bytes)
    (hd : Base58.decodeCheck dsha s = some data) (hl : data.length = 21)
    (hv : ∀ net ∈ nets, data.take 1 ≠ net.p2pkh ∧ data.take 1 ≠ net.p2sh) :
    Address.toScript dsha nets s = some none := by
  unfold Address.toScript
  simp only [hd, hl, ne_eq, not_true_eq_false, if_false, Address.matchPrefix_eq_none_iff.mpr hv]

/-! ### the defects that were repaired (theorems about the code before the fix) -/

/-- D15: before the fix any HRP was accepted (`xx1…`); D16: a one-byte Base58Check payload gave a malformed
    "p2pkh" script. Both are rejected by the fixed code. (Shown with a constant checksum function; the harness
    replays the SHA-256 instances `xx1qqqqsyqcyq5rqwzqfpg9scrgwpugpzysnec80ce` and `1Wh4bh` on embit.) -/
theorem old_code_accepts_unknown_hrp_and_short_payload :
    let d : Bytes → Bytes := fun _ => [1, 2, 3, 4]
    let a := "xx1qqqqsyqcyq5rqwzqfpg9scrgwpugpzysnec80ce".toList
    Address.toScriptOld d Generated.addrNetworks a
        = some (some ([0x00, 0x14] ++ (List.range 20).map UInt8.ofNat))
    ∧ Address.toScript d Generated.addrNetworks a = none
    ∧ Address.toScriptOld d Generated.addrNetworks (Base58.encodeCheck d [0x00]) = some (some [0x76, 0xa9, 0x14, 0x88, 0xac])
    ∧ Address.toScript d Generated.addrNetworks (Base58.encodeCheck d [0x00]) = none := by
  -- the kernel is slow on `String.toList` of a literal; the literal is `String.ofList _` by `rfl`
  rw [String.toList_ofList]
  decide +kernel

/-! ### non-vacuity -/

def exNet : Network := { p2pkh := [0x00], p2sh := [0x05], bech32 := "bc".toList }

example : exNet ∈ Generated.addrNetworks := by decide +kernel
example : Address.NetOk exNet := Address.netOk_of_B _ (by decide +kernel)
example : (Std.p2wsh (List.replicate 32 7)).WF ∧ (Std.p2pkh (List.replicate 20 9)).WF := by decide +kernel
example : Bech32.SegwitOk "bc".toList 1 ((List.replicate 32 (7 : UInt8)).map UInt8.toNat) :=
  ⟨⟨by decide +kernel, by decide +kernel, by decide +kernel⟩, by decide, by decide +kernel, by decide +kernel,
    by decide +kernel, by decide, by decide +kernel⟩
/-- the BIP173 example address, decoded by the model -/
example : Bech32.decode "bc".toList "bc1qw508d6qejxtdg4y5r3zarvary0c5xw7kv8f3t4".toList
    = some (0, [0x75, 0x1e, 0x76, 0xe8, 0x19, 0x91, 0x96, 0xd4, 0x54, 0x94, 0x1c, 0x45, 0xd1, 0xb3, 0xa3, 0x23,
                0xf1, 0x43, 0x3b, 0xd6]) := by
  rw [String.toList_ofList, String.toList_ofList]
  decide +kernel
/-- mixed case and wrong-variant instances (BIP350 test vectors) are rejected -/
example : Bech32.decode "bc".toList "bc1qw508d6qejxtdg4y5r3zarvary0c5xw7kv8f3T4".toList = none := by
  rw [String.toList_ofList, String.toList_ofList]
  decide +kernel
example : Bech32.decode "bc".toList "bc1qw508d6qejxtdg4y5r3zarvary0c5xw7kemeawh".toList = none := by
  rw [String.toList_ofList, String.toList_ofList]
  decide +kernel
example : Base58.decode (Base58.encode [0, 0, 1, 255]) = some [0, 0, 1, 255] ∧ Base58.encode [] = [] := by decide +kernel
/-- observation (modelled, not demanded by C11): the all-upper-case spelling of a valid address, which BIP173 says
    a decoder must accept, is rejected by `address_to_scriptpubkey` because the HRP comparison is case-sensitive -/
example : Address.toScript (fun _ => []) Generated.addrNetworks "BC1QW508D6QEJXTDG4Y5R3ZARVARY0C5XW7KV8F3T4".toList = none
    ∧ (Bech32.decode "bc".toList "BC1QW508D6QEJXTDG4Y5R3ZARVARY0C5XW7KV8F3T4".toList).isSome = true := by
  rw [String.toList_ofList, String.toList_ofList]
  decide +kernel


end Embit.Props.C11
