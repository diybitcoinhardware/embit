import EmbitModel.Props.C04
import EmbitModel.Props.C06
/-
  C17 — every parser terminates promptly on hostile input (the part that is logic).
  On the models of the parsers: every function is total (structural recursion or fuel = input length), the number
  of loop iterations a count field can cause is at most the number of remaining bytes + 1, and what a successful
  parse builds has at most as many elements as the input has bytes. CPython's actual time and memory are observed
  by the monitor in harness/props/c17.py, not proved.
-/
set_option linter.unusedSimpArgs false
set_option linter.unusedVariables false
namespace Embit.Props.C17
open Embit Model

/-- a parser that consumes at least one byte whenever it succeeds -/
def Consuming {α : Type} (p : Parser α) : Prop := ∀ b x r, p b = some (x, r) → r.length < b.length

/-- iterations of `for i in range(n): p(stream)` including the failing one that ends the loop. A stand-alone counter
    (audit A5): what links it to the parsers is `C17Y.iterations_le_steps` (it is a lower bound of the step count of the
    instrumented loop `readManyC`, whose value part is `readMany`), and the parsers' own bounds are in `Props/C17Y.lean` -/
def readManySteps {α : Type} (p : Parser α) : Nat → Bytes → Nat
  | 0, _ => 0
  | n+1, b => match p b with
    | some (_, r) => 1 + readManySteps p n r
    | none => 1

/-- **no count-driven loop**: whatever the count field says, the loop body runs at most |input| + 1 times -/
theorem steps_le_input {α : Type} (p : Parser α) (hp : Consuming p) (n : Nat) (b : Bytes) :
    readManySteps p n b ≤ b.length + 1 := by
  induction n generalizing b with
  | zero => simp [readManySteps]
  | succ n ih =>
    simp only [readManySteps]
    split
    · rename_i x r h
      have := hp _ _ _ h
      have := ih r
      omega
    · omega

/-- **no count-driven allocation**: a successful counted read returns at most as many elements as bytes consumed -/
theorem output_le_input {α : Type} (p : Parser α) (hp : Consuming p) (n : Nat) (b : Bytes) (xs : List α) (r : Bytes)
    (h : readMany p n b = some (xs, r)) : xs.length + r.length ≤ b.length := by
  have := readMany_weight p 1 (fun b x r h => by have := hp b x r h; omega) n b xs r h
  omega

theorem compact_consuming : Consuming Compact.read := by
  intro b x r h
  obtain ⟨e, _⟩ := Compact.read_sound h
  have := Compact.enc_length_pos x
  rw [e]; simp; omega

theorem script_consuming : Consuming scriptRead := by
  intro b x r h
  obtain ⟨e, _⟩ := scriptRead_sound h
  have := Compact.enc_length_pos x.length
  rw [e]; simp [scriptSer]; omega

theorem witness_consuming : Consuming witnessRead := by
  intro b x r h
  obtain ⟨e, _, _⟩ := witnessRead_sound h
  have := Compact.enc_length_pos x.length
  rw [e]; simp [witnessSer]; omega

theorem txin_consuming : Consuming TxIn.read := by
  intro b x r h
  obtain ⟨e, hw, _⟩ := TxIn.read_sound h
  rw [e]; simp [TxIn.ser, hw.txid]; omega

theorem txout_consuming : Consuming TxOut.read := by
  intro b x r h
  obtain ⟨e, _⟩ := TxOut.read_sound h
  rw [e]; simp [TxOut.ser]; omega

/-- a parsed transaction has at most as many inputs + outputs as its encoding has bytes -/
theorem tx_size_le_input (b : Bytes) (t : Tx) (r : Bytes) (h : Tx.read b = some (t, r)) :
    t.vin.length + t.vout.length ≤ b.length := by
  obtain ⟨e, hwf⟩ := Tx.read_sound h
  have h41 : ∀ i ∈ t.vin, 41 ≤ (TxIn.ser i).length := by
    intro i hi
    have h1 := Compact.enc_length_pos i.scriptSig.length
    have h2 : (TxIn.ser i).length = 32 + (4 + ((Compact.enc i.scriptSig.length).length + i.scriptSig.length + 4)) := by
      simp [TxIn.ser, scriptSer, (hwf.ins i hi).txid]; omega
    omega
  have h9 : ∀ o ∈ t.vout, 9 ≤ (TxOut.ser o).length := by
    intro o ho
    have h1 := Compact.enc_length_pos o.spk.length
    have h2 : (TxOut.ser o).length = 8 + ((Compact.enc o.spk.length).length + o.spk.length) := by
      simp [TxOut.ser, scriptSer]
    omega
  have a := length_le_flatMap_length TxIn.ser t.vin (fun i hi => Nat.le_trans (by decide) (h41 i hi))
  have c := length_le_flatMap_length TxOut.ser t.vout (fun o ho => Nat.le_trans (by decide) (h9 o ho))
  rw [e]
  simp only [Tx.ser, List.length_append]
  omega

/-- a scope has fewer pairs than bytes -/
theorem scope_pairs_lt_input (b : Bytes) (kvs : List KV) (r : Bytes) (h : readKVs b = some (kvs, r)) :
    kvs.length < b.length := by
  obtain ⟨e, _⟩ := readKVs_sound h
  have := writeKVs_length kvs
  rw [e]; simp; omega

/-- **PSBT (also version 2, where the counts are attacker-chosen fields)**: an accepted PSBT has at most as many
    input + output scopes as the byte string has bytes -/
theorem psbt_scopes_le_input (ko : KeyOps) (sha : Bytes → Bytes) (b : Bytes) (p : Psbt)
    (h : Psbt.parse ko sha 0 b = some p) : p.inputs.length + p.outputs.length ≤ b.length := by
  obtain ⟨g, ins, outs, e, li, lo, _⟩ := Props.C04.parse_lossless ko sha b p h
  have a := length_le_flatMap_length writeKVs ins (fun x _ => Nat.lt_of_le_of_lt (Nat.zero_le _) (writeKVs_length x))
  have c := length_le_flatMap_length writeKVs outs (fun x _ => Nat.lt_of_le_of_lt (Nat.zero_le _) (writeKVs_length x))
  rw [e, ← li, ← lo]
  simp only [List.length_append]
  omega

/-- taproot leaf hashes: the count field cannot exceed what the value holds -/
theorem leaf_hashes_le_value (v : Bytes) (hs : List Bytes) (d : Deriv) (h : tapDerivParse v = some (hs, d)) :
    32 * hs.length ≤ v.length := by
  unfold tapDerivParse at h
  split at h
  · simp at h
  · rename_i n r hn
    obtain ⟨e1, _⟩ := Compact.read_sound hn
    split at h
    · simp at h
    · rename_i hs' r2 hh
      split at h
      · simp at h
      · simp at h; obtain ⟨rfl, _⟩ := h
        have := readMany_weight (takeN 32) 32 (fun b x r h1 => by
          obtain ⟨e, l⟩ := takeN_sound h1; rw [e]; simp [l]) _ _ _ _ hh
        rw [e1]; simp; omega

/-- the streamed previous-transaction reader does no more work than the full parser accepts -/
theorem readVout_total (sha : Bytes → Bytes) (idx : Nat) (b : Bytes) :
    (Tx.readVout sha idx b).isSome → (Tx.read b).isSome := by
  rw [Props.C06.readVout_eq_parse]
  cases Tx.read b <;> simp

-- The text parsers (descriptor / miniscript / taptree: termination, steps, recursion depth; Base58, bech32, mnemonics,
-- shares), the Liquid parsers and the key parsers are in Props/C17X.lean, with what remains unproved stated there.

/-! ### non-vacuity -/
example : readManySteps Compact.read 1000000 [1, 2, 3] = 4 := by decide
example : readManySteps Compact.read 1000000 [] = 1 := by decide

end Embit.Props.C17
