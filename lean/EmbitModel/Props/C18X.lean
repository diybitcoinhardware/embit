import EmbitModel.Props.C18
import EmbitModel.Proofs.PsetEmit
import EmbitModel.Proofs.LiquidAddrB58
import EmbitModel.Proofs.PsetSerParse
import EmbitModel.Proofs.PsetParseWF
import EmbitModel.Proofs.PsetSerParseV0
/-
  C18 (deepening) — the whole-PSET statements, key uniqueness, base58 confidential addresses.

  `Model.LPset.*` is the model of embit's `liquid/pset.py` (KEEP_ALL), tied to the repository by the correspondence ops
  `pset.parse` / `pset.roundtrip` / `pset.tx` on every run. Statements are about arbitrary byte strings and arbitrary
  key validators `ko`.
-/
set_option linter.unusedSimpArgs false
set_option linter.unusedVariables false
namespace Embit.Props.C18X
open Embit Model Spec.LWire

/-! ## 1. `PSET.parse` is lossless (composition of the per-scope theorems with the global framing) -/

/-- MAIN. Whatever `PSET.parse` accepts is the canonical framing of a global scope `g`, input scopes `ins` and output
    scopes `outs` (so "the pairs of the original" are exactly these); the scope counts are those of the object;
    what `LInputScope.write_to` emits for an input scope is a PERMUTATION of the pairs read for it (every pair of the
    original is there with identical bytes, nothing else is, no key is written twice); what `LOutputScope.write_to`
    emits is a permutation of the pairs read with each key in the spelling of the PSET's version (`canonKey`), and
    `write_to` does not raise; the global pairs are in the global scope that `PSET.write_to` emits —
    version 2: all of them (and there is no transaction pair); version 0: every pair except the transaction whenever
    the global scope can be written at all, and — OUTSIDE the D53 region `D53Free t ins` (explicit, decidable: the
    global transaction has no issuance, no peg-in flag, no witness data, no output nonce, and no input scope carries
    the PSETv2 issuance fields) — the transaction rebuilt from the scopes IS the global transaction, it serialises,
    and all global pairs including the transaction are written back bit-identically. -/
theorem pset_parse_lossless (ko : KeyOps) (b : Bytes) (p : LPset) (h : LPset.parse ko b = some p) :
    ∃ (g : List KV) (ins outs : List (List KV)),
      b = psetMagic ++ writeKVs g ++ ins.flatMap writeKVs ++ outs.flatMap writeKVs
      ∧ (∀ kv ∈ g, KVWF kv) ∧ (∀ kvs ∈ ins, ∀ kv ∈ kvs, KVWF kv) ∧ (∀ kvs ∈ outs, ∀ kv ∈ kvs, KVWF kv)
      ∧ ins.length = p.inputs.length ∧ outs.length = p.outputs.length
      ∧ (∀ (j : Nat) (kvs : List KV) (s : LInScope), ins[j]? = some kvs → p.inputs[j]? = some s →
            (∀ kv ∈ kvs, kv ∈ s.pairs p.version) ∧ kvs.Perm (s.pairs p.version)
            ∧ ((s.pairs p.version).map Prod.fst).Nodup)
      ∧ (∀ (j : Nat) (kvs : List KV) (s : LOutScope), outs[j]? = some kvs → p.outputs[j]? = some s →
            s.pairs p.version = some (s.pairsL p.version)
            ∧ (∀ kv ∈ kvs, (LOutField.canonKey p.version kv.1, kv.2) ∈ s.pairsL p.version)
            ∧ (kvs.map (fun kv => (LOutField.canonKey p.version kv.1, kv.2))).Perm (s.pairsL p.version)
            ∧ ((s.pairsL p.version).map Prod.fst).Nodup)
      ∧ (p.version = some 2 → (∀ kv ∈ g, kv.1 ≠ [0x00]) ∧ ∃ gp, p.globalPairs = some gp ∧ ∀ kv ∈ g, kv ∈ gp)
      ∧ (p.version ≠ some 2 → ∃ t, ([0x00], LTx.ser t) ∈ g ∧ WF t
            ∧ p.inputs.length = t.vin.length ∧ p.outputs.length = t.vout.length
            ∧ (∀ gp, p.globalPairs = some gp → ∀ kv ∈ g, kv.1 ≠ [0x00] → kv ∈ gp)
            ∧ (D53Free t ins = true → p.tx = some t ∧ LTx.serOpt t = some (LTx.ser t)
                 ∧ ∃ gp, p.globalPairs = some gp ∧ ∀ kv ∈ g, kv ∈ gp)) :=
  LPset.parse_lossless ko b p h

/-- consequence, version 2: a parsed PSETv2 always re-serialises, to the framing of a global scope that contains
    every original global pair, followed by one written scope per original scope (same counts), each containing every
    original pair of that scope -/
theorem pset_v2_reserialise (ko : KeyOps) (b : Bytes) (p : LPset) (h : LPset.parse ko b = some p)
    (hv : p.version = some 2) :
    ∃ (g gp : List KV) (ins outs : List (List KV)),
      b = psetMagic ++ writeKVs g ++ ins.flatMap writeKVs ++ outs.flatMap writeKVs
      ∧ LPset.ser p = some (psetMagic ++ writeKVs gp
          ++ p.inputs.flatMap (fun s => writeKVs (s.pairs p.version))
          ++ p.outputs.flatMap (fun s => writeKVs (s.pairsL p.version)))
      ∧ (∀ kv ∈ g, kv ∈ gp) ∧ ins.length = p.inputs.length ∧ outs.length = p.outputs.length := by
  obtain ⟨g, ins, outs, eb, _, _, _, l1, l2, _, fo, g2, _⟩ := pset_parse_lossless ko b p h
  obtain ⟨_, gp, hgp, hm⟩ := g2 hv
  refine ⟨g, gp, ins, outs, eb, LPset.ser_of_globalPairs p gp hgp ?_, hm, l1, l2⟩
  intro s hs
  obtain ⟨j, hj⟩ := List.mem_iff_getElem?.mp hs
  have hjl : j < outs.length := by rw [l2]; exact (List.getElem?_eq_some_iff.mp hj).1
  exact (fo j outs[j] s (List.getElem?_eq_getElem hjl) hj).1

/-- consequence, version 0 outside the D53 region: the same, and the transaction pair is written back bit-identically
    (`g ⊆ gp` includes `([0x00], LTx.ser t)`) -/
theorem pset_v0_reserialise_partial (ko : KeyOps) (b : Bytes) (p : LPset) (h : LPset.parse ko b = some p)
    (hv : p.version ≠ some 2) :
    ∃ (g : List KV) (ins outs : List (List KV)) (t : LTx),
      b = psetMagic ++ writeKVs g ++ ins.flatMap writeKVs ++ outs.flatMap writeKVs
      ∧ ([0x00], LTx.ser t) ∈ g
      ∧ (D53Free t ins = true → p.tx = some t ∧ ∃ gp,
          LPset.ser p = some (psetMagic ++ writeKVs gp
            ++ p.inputs.flatMap (fun s => writeKVs (s.pairs p.version))
            ++ p.outputs.flatMap (fun s => writeKVs (s.pairsL p.version)))
          ∧ (∀ kv ∈ g, kv ∈ gp)) := by
  obtain ⟨g, ins, outs, eb, _, _, _, l1, l2, _, fo, _, g0⟩ := pset_parse_lossless ko b p h
  obtain ⟨t, hm, _, _, _, _, hfree⟩ := g0 hv
  refine ⟨g, ins, outs, t, eb, hm, ?_⟩
  intro hf
  obtain ⟨htx, _, gp, hgp, hall⟩ := hfree hf
  refine ⟨htx, gp, LPset.ser_of_globalPairs p gp hgp ?_, hall⟩
  intro s hs
  obtain ⟨j, hj⟩ := List.mem_iff_getElem?.mp hs
  have hjl : j < outs.length := by rw [l2]; exact (List.getElem?_eq_some_iff.mp hj).1
  exact (fo j outs[j] s (List.getElem?_eq_getElem hjl) hj).1

/-! ## 2. no key twice: in what is accepted, and in what `write_to` emits -/

/-- a scope in which a key occurs twice is refused (input scopes) -/
theorem lscope_keys_nodup_input (ko : KeyOps) (kvs : List KV) (s0 s : LInScope) (hne : ∀ kv ∈ kvs, kv.1 ≠ [])
    (h : LInScope.addPairs ko s0 kvs = some s) : (kvs.map Prod.fst).Nodup :=
  LInScope.addPairs_nodup ko kvs s0 s hne h

/-- output scopes: no canonical key twice — a key given twice, or a field given once in each of its two spellings
    (`elements` / `pset`), is refused, whatever the version the scope is later written in -/
theorem lscope_keys_nodup_output (ko : KeyOps) (ver : Option Nat) (kvs : List KV) (s0 s : LOutScope)
    (hne : ∀ kv ∈ kvs, kv.1 ≠ []) (h : LOutScope.addPairs ko s0 kvs = some s) :
    (kvs.map (fun kv => LOutField.canonKey ver kv.1)).Nodup :=
  LOutScope.addPairs_nodup ko ver kvs s0 s hne h

theorem lscope_duplicate_key_rejected (ko : KeyOps) (kvs : List KV) (si : LInScope) (so : LOutScope) (ver : Option Nat)
    (hne : ∀ kv ∈ kvs, kv.1 ≠ []) :
    (¬ (kvs.map Prod.fst).Nodup → LInScope.addPairs ko si kvs = none)
    ∧ (¬ (kvs.map (fun kv => LOutField.canonKey ver kv.1)).Nodup → LOutScope.addPairs ko so kvs = none) := by
  constructor
  · intro hd
    cases h : LInScope.addPairs ko si kvs with
    | none => rfl
    | some s => exact absurd (lscope_keys_nodup_input ko kvs si s hne h) hd
  · intro hd
    cases h : LOutScope.addPairs ko so kvs with
    | none => rfl
    | some s => exact absurd (lscope_keys_nodup_output ko ver kvs so s hne h) hd

/-- what `LInputScope.write_to` emits for a scope built by `read_from` (from a seed that itself writes nothing: `{}`
    for PSETv2, the transaction fields for version 0) is a permutation of the pairs read — so no key is written twice
    and no pair is invented -/
theorem lscope_written_perm_input (ko : KeyOps) (ver : Option Nat) (kvs : List KV) (s0 s : LInScope)
    (hv : ver = some 2 ∨ InSeeded s0.base) (h0 : s0.pairs ver = []) (hne : ∀ kv ∈ kvs, kv.1 ≠ [])
    (h : LInScope.addPairs ko s0 kvs = some s) :
    kvs.Perm (s.pairs ver) ∧ ((s.pairs ver).map Prod.fst).Nodup :=
  ⟨LInScope.pairs_perm ko ver kvs s0 s hv h0 hne h, LInScope.pairs_keys_nodup ko ver kvs s0 s hv h0 hne h⟩

/-- the same for `LOutputScope.write_to`, keys in the spelling of the version written (`LOutSeededG`: the version-0 seed
    with explicit or confidential value) -/
theorem lscope_written_perm_output (ko : KeyOps) (ver : Option Nat) (kvs : List KV) (s0 s : LOutScope)
    (hv : ver = some 2 ∨ LOutSeededG s0) (h0 : s0.pairsL ver = []) (hne : ∀ kv ∈ kvs, kv.1 ≠ [])
    (h : LOutScope.addPairs ko s0 kvs = some s) :
    (kvs.map (fun kv => (LOutField.canonKey ver kv.1, kv.2))).Perm (s.pairsL ver)
    ∧ ((s.pairsL ver).map Prod.fst).Nodup :=
  ⟨LOutScope.pairsL_perm ko ver kvs s0 s hv h0 hne h, LOutScope.pairsL_keys_nodup ko ver kvs s0 s hv h0 hne h⟩

/-- version-0 output scopes seeded with a CONFIDENTIAL value (not covered by `C18.lscope_lossless_output`, whose seed
    has an integer value): nothing lost either -/
theorem lscope_lossless_output_conf (ko : KeyOps) (ver : Option Nat) (kvs : List KV) (s0 s : LOutScope)
    (hv : ver = some 2 ∨ LOutSeededG s0) (hne : ∀ kv ∈ kvs, kv.1 ≠ [])
    (h : LOutScope.addPairs ko s0 kvs = some s) :
    ∀ kv ∈ kvs, (LOutField.canonKey ver kv.1, kv.2) ∈ s.pairsL ver :=
  (LOutScope.addPairs_losslessG ko ver kvs s0 s hv hne h).1

def confTx : LTx :=
  { version := 2, vin := [], locktime := 0,
    vout := [{ asset := List.replicate 32 4, value := .conf (8 :: List.replicate 32 6), nonce := none, spk := [] }] }

example : LOutSeededG (lseedOut (some confTx) 0) := by
  simp [LOutSeededG, lseedOut, lget, confTx]

example : LOutScope.addPairs C18.trivialKo {} [(ek 0x00, [8, 1]), (pk 0x01, [8, 1])] = none := by decide
example : ¬ ([(ek 0x00, ([8, 1] : Bytes)), (pk 0x01, [8, 1])].map (fun kv => LOutField.canonKey (some 2) kv.1)).Nodup := by
  decide

/-! the excluded region is not empty (known finding D53): a version-0 PSET whose global transaction has a peg-in input -/

def trivialKo : KeyOps := C18.trivialKo

def peginTx : LTx :=
  { version := 2, locktime := 0,
    vin := [{ txid := List.replicate 32 7, vout := 1, scriptSig := [], sequence := 0xfffffffd, isPegin := true }],
    vout := [{ asset := List.replicate 32 4, value := .explicit 1000, nonce := none, spk := [0x51] }] }

def peginPset : Bytes := psetMagic ++ writeKVs [([0x00], LTx.ser peginTx)] ++ writeKVs [] ++ writeKVs []

-- REMOVED with the repair of D53 (fixes/d53.diff; the model follows the fixed code): the witness theorem
-- `pset_v0_tx_dropped_D53` ("the transaction rebuilt from the scopes has lost the peg-in flag") is FALSE of the fixed
-- code. Its positive counterpart is `C18Z.pset_v0_pegin_kept` (same PSET: the transaction is the global transaction),
-- and the statements without `D53Free` are in Props/C18Z.lean.

/-! non-vacuity: a version-2 PSET with one input (liquid value, unknown proprietary key) and one output read in the
    legacy spelling, and a version-0 PSET outside the D53 region -/

def exV2 : Bytes :=
  psetMagic ++ writeKVs [([0x02], leN 4 2), ([0x04], [1]), ([0x05], [1]), ([0xfb], leN 4 2)]
    ++ writeKVs [([0x0e], List.replicate 32 9), ([0x0f], leN 4 0), (LInField.key .value, leN 8 7), (psetTag ++ [0x7f], [1])]
    ++ writeKVs [([0x03], leN 8 5), ([0x04], [0x51]), (ek 0x00, [8, 1])]

set_option maxRecDepth 100000 in
example : ((LPset.parse trivialKo exV2).bind LPset.ser).isSome = true
    ∧ (LPset.parse trivialKo exV2).map (·.version) = some (some 2) := by decide +kernel

def plainTx : LTx :=
  { peginTx with vin := [{ txid := List.replicate 32 7, vout := 1, scriptSig := [], sequence := 0xfffffffd }] }

def exV0 : Bytes := psetMagic ++ writeKVs [([0x00], LTx.ser plainTx)] ++ writeKVs [(LInField.key .value, leN 8 7)] ++ writeKVs []

set_option maxRecDepth 100000 in
example : (LPset.parse trivialKo exV0).bind LPset.tx = some plainTx
    ∧ D53Free plainTx [[(LInField.key .value, leN 8 7)]] = true
    ∧ (LPset.parse trivialKo exV0).bind LPset.ser = some exV0 := by decide +kernel

/-! ## 3. base58 Liquid addresses (`bp2sh` confidential, `p2sh` unconfidential) -/

open Model.LAddr in
/-- MAIN: `addr_decode(address(script, blinding_key, network)) = (script, blinding_key)` for every P2SH script, every
    33-byte key `PublicKey.parse` accepts, every network of `liquid.networks.NETWORKS` that has a `bp2sh` prefix
    (liquidv1, elementsregtest, liquidtestnet), and EVERY checksum function of at least 4 bytes. Besides
    Base58Check decode∘encode this needs the dispatch of `addr_decode`: the text is not `"Fee"` and the part before
    its first `'1'`, lower-cased, is no bech32 / blech32 prefix — true because the version bytes confine the two
    leading base-58 characters to `VJ` (liquidv1), `Az` / `B1` (regtest), `vj` (testnet); table checked by evaluation. -/
theorem confidential_p2sh_address_roundtrip (validSec : Bytes → Bool) (dsha : Bytes → Bytes)
    (hd : ∀ b, 4 ≤ (dsha b).length) (net : Net) (hn : net ∈ nets) (pre : Bytes) (hpre : net.bp2sh = some pre)
    (hash pub : Bytes) (hh : hash.length = 20) (hpl : pub.length = 33) (hv : validSec pub = true) :
    ∃ addr, addressP2sh dsha net ([0xa9, 0x14] ++ hash ++ [0x87]) (some pub) = some addr
      ∧ addr = Base58.encodeCheck dsha (pre ++ pub ++ hash)
      ∧ addrDecode validSec dsha addr = .base58 (some ([0xa9, 0x14] ++ hash ++ [0x87], some pub)) := by
  obtain ⟨addr, h1, h2⟩ := addrDecode_addressP2sh_conf validSec dsha hd net hn pre hpre hash pub hh hpl hv
  refine ⟨addr, h1, ?_, h2⟩
  have hspk : isP2sh ([0xa9, 0x14] ++ hash ++ [0x87]) = true := by
    simp only [isP2sh, p2sh_last]; simp [hh]
  simp only [addressP2sh, hspk, hpre] at h1
  simp at h1
  rw [← h1]; simp

open Model.LAddr in
/-- the unconfidential P2SH address (`p2sh` prefix), every network of the table including the bitcoin ones -/
theorem p2sh_address_roundtrip (validSec : Bytes → Bool) (dsha : Bytes → Bytes) (hd : ∀ b, 4 ≤ (dsha b).length)
    (net : Net) (hn : net ∈ nets) (hash : Bytes) (hh : hash.length = 20) :
    ∃ addr, addressP2sh dsha net ([0xa9, 0x14] ++ hash ++ [0x87]) none = some addr
      ∧ addrDecode validSec dsha addr = .base58 (some ([0xa9, 0x14] ++ hash ++ [0x87], none)) :=
  addrDecode_addressP2sh_plain validSec dsha hd net hn hash hh

open Model.LAddr in
/-- whatever the base58 branch of `addr_decode` returns comes from the Base58Check text of a payload with a `bp2sh`
    (then the 33 bytes after it are the key, accepted by `PublicKey.parse`) or `p2sh` prefix; the bytes after that are
    wrapped as `a914 … 87` WITHOUT a length check (observation: a payload of another length gives a non-P2SH script) -/
theorem base58_address_decode_sound (validSec : Bytes → Bool) (dsha : Bytes → Bytes) (addr : List Char) (sc : Bytes)
    (k : Option Bytes) (h : addrDecode validSec dsha addr = .base58 (some (sc, k))) :
    ∃ data, addr = Base58.encodeCheck dsha data
      ∧ ((bp2shPrefixes.contains (data.take 2) = true ∧ k = some ((data.drop 2).take 33)
            ∧ validSec ((data.drop 2).take 33) = true ∧ sc = [0xa9, 0x14] ++ data.drop 35 ++ [0x87])
         ∨ (bp2shPrefixes.contains (data.take 2) = false ∧ p2shPrefixes.contains (data.take 1) = true ∧ k = none
            ∧ sc = [0xa9, 0x14] ++ data.drop 1 ++ [0x87])) :=
  addrDecode_base58_sound validSec dsha addr sc k h

open Model.LAddr in
/-- non-vacuity: the liquidv1 entry, a toy 4-byte "hash", an all-accepting key validator -/
example : (nets.filter (fun n => n.bp2sh.isSome)).map (·.name) = ["liquidv1", "elementsregtest", "liquidtestnet"] := by
  decide

open Model.LAddr in
set_option maxRecDepth 100000 in
example : (addressP2sh (fun b => b ++ [1, 2, 3, 4]) (nets.headD default) ([0xa9, 0x14] ++ List.replicate 20 7 ++ [0x87])
      (some (2 :: List.replicate 32 9))).map (addrDecode (fun _ => true) (fun b => b ++ [1, 2, 3, 4]))
    = some (.base58 (some ([0xa9, 0x14] ++ List.replicate 20 7 ++ [0x87], some (2 :: List.replicate 32 9)))) := by
  decide +kernel

/-! ## 4. serialise-then-parse (scopes of both versions, whole PSETv2 objects) -/

/-- input scope: for a well-formed scope (`LInWF`: explicit, every clause a size bound of the wire format, a validity
    check `read_value` performs, the absence of duplicate keys, or "no typed bitcoin key contains a proprietary tag")
    the pairs `write_to` emits fit the key-value framing, are read back as they were written, and folding `read_value`
    over them from the seed `read_from` starts with (`{}` for PSETv2, the transaction fields for version 0) gives the
    scope back — with the liquid-field table in `write_to` order (`norm`; the model keeps the table in reading order,
    Python keeps attributes) -/
theorem input_scope_ser_parse (ko : KeyOps) (ver : Option Nat) (s : LInScope) (h : LInWF ko s) (r : Bytes) :
    readKVs (writeKVs (s.pairs ver) ++ r) = some (s.pairs ver, r)
    ∧ LInScope.addPairs ko (LInScope.seedOf ver s) (s.pairs ver) = some s.norm :=
  ⟨readKVs_write _ r (LInScope.pairs_wf ko ver s h), LInScope.addPairs_pairs ko ver s h⟩

/-- output scope, PSETv2 -/
theorem output_scope_ser_parse (ko : KeyOps) (s : LOutScope) (h : LOutWF ko s) (r : Bytes) :
    s.pairs (some 2) = some (s.pairsL (some 2))
    ∧ readKVs (writeKVs (s.pairsL (some 2)) ++ r) = some (s.pairsL (some 2), r)
    ∧ LOutScope.addPairs ko {} (s.pairsL (some 2)) = some s.norm :=
  ⟨by simp [LOutScope.pairs_eq, h.valueConf], readKVs_write _ r (LOutScope.pairsL_wf ko (some 2) s h.typed h.unknown h.lf),
   LOutScope.addPairs_pairs ko s h⟩

/-- MAIN: a well-formed version-2 PSET object serialises, and parsing the bytes gives the object back (liquid tables
    in `write_to` order). `LPsetWF`: version 2, the global fields as in C04X's `PsbtWF`, every scope well-formed. -/
theorem pset_v2_ser_parse (ko : KeyOps) (p : LPset) (h : LPsetWF ko p) :
    ∃ b, LPset.ser p = some b ∧ LPset.parse ko b = some p.norm :=
  LPset.parse_ser_v2 ko p h

/-- normalising is idempotent, keeps well-formedness, changes nothing in the bytes written, and the normalised object is
    a fixed point of parse ∘ serialise — so parse ∘ serialise is idempotent on well-formed objects -/
theorem pset_v2_norm (ko : KeyOps) (p : LPset) (h : LPsetWF ko p) :
    p.norm.norm = p.norm ∧ LPsetWF ko p.norm ∧ LPset.ser p.norm = LPset.ser p
    ∧ ∃ b, LPset.ser p.norm = some b ∧ LPset.parse ko b = some p.norm :=
  ⟨LPset.norm_norm p, h.norm, LPset.ser_norm p h.version, LPset.parse_ser_norm ko p h⟩

/-- consequence: serialisation is injective on well-formed version-2 objects up to the order of the liquid tables -/
theorem pset_v2_ser_injective (ko : KeyOps) (p q : LPset) (hp : LPsetWF ko p) (hq : LPsetWF ko q)
    (h : LPset.ser p = LPset.ser q) : p.norm = q.norm := by
  obtain ⟨b, h1, h2⟩ := pset_v2_ser_parse ko p hp
  obtain ⟨b', h1', h2'⟩ := pset_v2_ser_parse ko q hq
  rw [h, h1'] at h1
  cases h1
  rw [h2] at h2'
  exact Option.some.inj h2'

/-- every version-2 PSET that `PSET.parse` returns is well-formed (one step of `read_value` preserves `LInWF` / `LOutWF`,
    branch by branch) -/
theorem pset_v2_parse_wf (ko : KeyOps) (b : Bytes) (p : LPset) (h : LPset.parse ko b = some p) (hv : p.version = some 2) :
    LPsetWF ko p :=
  LPset.parse_wf_v2 ko b p h hv

/-- hence parse ∘ serialise ∘ parse = norm ∘ parse on version-2 PSETs: whatever was accepted re-serialises and the bytes
    parse to the same object (liquid tables in `write_to` order); and the bytes written are a fixed point:
    serialise (parse (serialise (parse b))) = serialise (parse b) -/
theorem pset_v2_parse_ser_parse (ko : KeyOps) (b : Bytes) (p : LPset) (h : LPset.parse ko b = some p)
    (hv : p.version = some 2) :
    ∃ b', LPset.ser p = some b' ∧ LPset.parse ko b' = some p.norm ∧ LPset.ser p.norm = some b' := by
  obtain ⟨b', h1, h2⟩ := LPset.parse_ser_parse_v2 ko b p h hv
  exact ⟨b', h1, h2, by rw [LPset.ser_norm p hv]; exact h1⟩

/-- version-0 output scope: from the seed `LOutputScope(vout=vout)` (script, asset, value as integer or raw commitment) the
    pairs written in the legacy spellings fold back to the scope -/
theorem output_scope_ser_parse_v0 (ko : KeyOps) (ver : Option Nat) (hv : ver ≠ some 2) (s : LOutScope) (h : LOutWF0 ko s)
    (r : Bytes) :
    s.pairs ver = some (s.pairsL ver)
    ∧ readKVs (writeKVs (s.pairsL ver) ++ r) = some (s.pairsL ver, r)
    ∧ LOutScope.addPairs ko s.seedOf0 (s.pairsL ver) = some s.norm :=
  ⟨by simp [LOutScope.pairs_eq, hv], readKVs_write _ r (LOutScope.pairsL_wf ko ver s h.typed h.unknown h.lf),
   LOutScope.addPairs_pairs0 ko ver hv s h⟩

/-- MAIN, version 0: a well-formed version-0 object (`LPsetWF0`: it carries its transaction, and the seeds derived from that
    transaction are the seeds of its scopes) serialises, and parsing the bytes gives the object back. Note that this direction
    is NOT affected by D53: an object whose input scopes hold issuance fields writes them into its transaction AND into the
    scopes, and gets both back. -/
theorem pset_v0_ser_parse (ko : KeyOps) (p : LPset) (h : LPsetWF0 ko p) :
    ∃ b, LPset.ser p = some b ∧ LPset.parse ko b = some p.norm :=
  LPset.parse_ser_v0 ko p h

-- (the former GOAL `pset_v0_parse_wf_partial` is proved as `C18Z.pset_v0_parse_wf` / `pset_v0_parse_ser_parse`, for the
--  well-formedness `LPsetWF0K` that admits the transaction parts kept since fix `d53`, under `LPset.noOwnIssuance`; the
--  witness that the condition is needed is `C18Z.pset_v0_own_issuance_overrides`.)

/-! non-vacuity: a PSETv2 object with liquid fields, a liquid-unknown key and a bitcoin field in every scope -/

def exIn : LInScope :=
  { base := { txid := some (List.replicate 32 9), vout := some 0, sighashType := some 1,
              unknown := [(psetTag ++ [0x7f], [1])] },
    lf := [(.issueValue, leN 8 0), (.value, leN 8 7)] }

def exOut : LOutScope :=
  { base := { value := some 5, spk := some [0x51], unknown := [([0xf0], [2])] },
    lf := [(.blinderIndex, leN 4 0), (.valueCommitment, [8, 1])] }

def exP : LPset := { version := some 2, txVersion := some 2, inputs := [exIn], outputs := [exOut] }

theorem exIn_wf : LInWF trivialKo exIn :=
  ⟨rfl, rfl, by decide, by decide, by decide, by decide, trivial, trivial, by decide, ⟨rfl, rfl⟩, by decide⟩

theorem exOut_wf : LOutWF trivialKo exOut :=
  ⟨rfl, by decide, by decide, by decide, by decide, by decide, rfl⟩

theorem exP_wf : LPsetWF trivialKo exP :=
  ⟨rfl, by decide, fun s hs => by simp [exP] at hs; subst hs; exact exIn_wf,
   fun s hs => by simp [exP] at hs; subst hs; exact exOut_wf⟩

set_option maxRecDepth 100000 in
/-- the liquid tables were given in reading order; the parsed object has them in `write_to` order -/
example : ((LPset.ser exP).bind (LPset.parse trivialKo)).map (fun q => q.inputs.map (·.lf))
      = some [[(.value, leN 8 7), (.issueValue, leN 8 0)]]
    ∧ ((LPset.ser exP).bind (LPset.parse trivialKo)).bind LPset.ser = LPset.ser exP
    ∧ (LPset.ser exP).isSome = true := by decide +kernel

/-! non-vacuity, version 0 -/

def exIn0 : LInScope :=
  { base := { txid := some (List.replicate 32 7), vout := some 1, sequence := some 0xfffffffd }, lf := [(.value, leN 8 7)] }

def exOut0 : LOutScope :=
  { base := { value := some 1000, spk := some [0x51] }, lf := [(.asset, List.replicate 32 4), (.blindingPubkey, [2, 3])] }

def exP0 : LPset := { version := none, txVersion := some 2, locktime := some 0, inputs := [exIn0], outputs := [exOut0] }

theorem plainTx_wf : WF plainTx := by
  refine ⟨by decide, by decide, by decide, by decide, ?_, ?_⟩
  · intro i hi
    simp [plainTx, peginTx] at hi
    subst hi
    exact ⟨by decide, Or.inl ⟨by decide, by decide⟩, by decide, by decide, (fun a h => by cases h), wfInWitness_default⟩
  · intro o ho
    simp [plainTx, peginTx] at ho
    subst ho
    exact ⟨Or.inl (by decide), (by show (1000 : Nat) < 2 ^ 64; decide), trivial, by decide, ⟨by decide, by decide⟩⟩

set_option maxRecDepth 100000 in
theorem exP0_wf : LPsetWF0 trivialKo exP0 := by
  refine ⟨by decide, trivial, by simp [exP0], by simp [exP0], by simp [exP0], by simp [exP0], ?_, ?_, ?_⟩
  · intro s hs
    simp [exP0] at hs; subst hs
    exact ⟨rfl, rfl, by decide, by decide, by decide, by decide, trivial, trivial, by decide, ⟨rfl, rfl⟩, by decide⟩
  · intro s hs
    simp [exP0] at hs; subst hs
    exact ⟨by decide, by decide, by decide, by decide, by decide, by decide, rfl⟩
  · refine ⟨plainTx, by decide +kernel, plainTx_wf, by decide +kernel, rfl, rfl, ?_, ?_⟩
    · intro j s hs
      cases j with
      | zero => simp [exP0] at hs; subst hs; rfl
      | succ j => simp [exP0] at hs
    · intro j s hs
      cases j with
      | zero => simp [exP0] at hs; subst hs; rfl
      | succ j => simp [exP0] at hs

set_option maxRecDepth 100000 in
example : ((LPset.ser exP0).bind (LPset.parse trivialKo)).bind LPset.ser = LPset.ser exP0
    ∧ (LPset.ser exP0).isSome = true := by decide +kernel

end Embit.Props.C18X
