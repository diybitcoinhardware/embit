import EmbitModel.Proofs.Slip39Layout
import EmbitModel.Proofs.Slip39Groups
import EmbitModel.Proofs.Slip39TwoLevel
import EmbitModel.Proofs.Slip39Eval
/-
  C16 (deepening) — the share text format against the bit layout of SLIP-0039, and two-level (group) recovery
  against the standard's combination.  Property theorems only; `Model.Slip39.*` is the model of embit's
  slip39.py, `Spec.Slip39.*` is written from the standard (`Spec/Slip39Spec.lean`: `encodeShare`/`decodeShare`
  on bit lists; `Spec/Slip39Groups.lean`: validity of a share set and `combineShares`).

  Field mapping (`Share.toFields` / `Share.ofFields`): embit keeps ONE five-bit field `exponent` where the
  current standard has the extendable-backup flag (1 bit) followed by the iteration exponent (4 bits):
  ext = exponent / 16, e = exponent % 16; the share value is the big-endian byte string of `value`.
  embit always uses the customisation string "shamir"; the standard uses "shamir_extendable" when ext = 1.
  Hence the equalities with the standard hold for exponent < 16 (ext = 0); the data words agree for every
  exponent < 32 (`share_words_eq_spec`), and `extendable_flag_differs` shows the difference at exponent = 16.
-/
namespace Embit.Props.C16X
open Embit Embit.Model.Slip39

/-! ### share text = bit layout of the standard -/

/-- the words `Share.mnemonic` prints before the checksum (shifts and masks on one big integer) are the data words
    of the standard: header bits id(15) ext(1) e(4) GI(4) Gt−1(4) g−1(4) I(4) t−1(4), zero padding to a multiple
    of ten bits, the value bits, chopped into ten-bit words — for every well-formed share (any exponent < 32,
    any length ≡ 0 mod 16, ≥ 128 bits); the checksum is RS1024 with customisation string "shamir" -/
theorem share_words_eq_spec (s : Share) (h : s.WF) :
    s.mnemonic = Spec.Slip39.dataWords s.toFields ++ rs1024Create csShamir (Spec.Slip39.dataWords s.toFields) :=
  mnemonic_eq_dataWords s h

/-- **`Share.mnemonic s` = `encodeShare (fields of s)`** of the standard, for every well-formed share whose
    exponent field is below 16 (extendable-backup flag 0) -/
theorem share_mnemonic_eq_spec (s : Share) (h : s.WF) (he : s.exponent < 16) :
    s.mnemonic = Spec.Slip39.encodeShare s.toFields :=
  mnemonic_eq_encodeShare s h he

/-- **`Share.parse` = `decodeShare`** of the standard on EVERY sequence of words below 1024 whose
    extendable-backup bit (bit 4 of the second word) is 0: same refusals (checksum, fewer than 20 words, padding
    of more than 8 bits or non-zero padding, group threshold above group count), same fields — in both directions
    of the field mapping -/
theorem share_parse_eq_spec (idx : List Nat) (hw : ∀ w ∈ idx, w < 1024) (hext : (idx.getD 1 0 >>> 4) &&& 1 = 0) :
    Share.parse idx = (Spec.Slip39.decodeShare idx).map Share.ofFields ∧
    Spec.Slip39.decodeShare idx = (Share.parse idx).map Share.toFields :=
  ⟨parse_eq_decodeShare idx hw hext, decodeShare_eq_parse idx hw hext⟩

/-- consequently parse ∘ mnemonic = id is a statement about the standard's layout: embit parses the standard's
    encoding of the fields of `s` back to `s`, and the standard's decoder inverts the standard's encoder there -/
theorem share_roundtrip_spec (s : Share) (h : s.WF) (he : s.exponent < 16) :
    Share.parse (Spec.Slip39.encodeShare s.toFields) = some s ∧
    Spec.Slip39.decodeShare s.mnemonic = some s.toFields ∧
    Spec.Slip39.decodeShare (Spec.Slip39.encodeShare s.toFields) = some s.toFields := by
  refine ⟨?_, ?_, decode_encodeShare s h he⟩
  · rw [← mnemonic_eq_encodeShare s h he]; exact share_text_roundtrip s h
  · rw [mnemonic_eq_encodeShare s h he]; exact decode_encodeShare s h he

/-- the field mappings are inverse to each other on what the decoders produce -/
theorem fields_roundtrip (f : Spec.Slip39.ShareFields) (he : f.e < 16) : (Share.ofFields f).toFields = f :=
  toFields_ofFields f he

/-- the extendable-backup bit (observation, not demanded by C16): with `exponent = 16` embit prints and accepts a
    share whose second word has the extendable bit set but whose checksum uses "shamir"; the standard's decoder
    refuses it (it demands "shamir_extendable"), and embit refuses the standard's encoding of the same fields —
    a safe refusal in both directions; the data words are the same -/
theorem extendable_flag_differs :
    let s : Share := ⟨128, 7, 16, 2, 2, 3, 0, 1, 5⟩
    s.initOk = true ∧ Share.parse s.mnemonic = some s ∧
    Spec.Slip39.decodeShare s.mnemonic = none ∧
    s.mnemonic ≠ Spec.Slip39.encodeShare s.toFields ∧
    s.mnemonic.take 17 = (Spec.Slip39.encodeShare s.toFields).take 17 ∧
    Share.parse (Spec.Slip39.encodeShare s.toFields) = none ∧
    Spec.Slip39.decodeShare (Spec.Slip39.encodeShare s.toFields) = some s.toFields := by
  decide +kernel

/-! ### two-level recovery -/

/-- **group (two-level) recovery = the standard's combination.** For every list of well-formed shares
    (exponent < 16) that is a valid set in the sense of the standard — one identifier, exponent, group threshold,
    group count and length; group indices below the group count; exactly `group_threshold` groups; in each group
    one member threshold, distinct member indices and exactly that many shares —
    `ShareSet(shares).recover(passphrase)` equals `combineShares`: RecoverSecret(T_i, ·) on the members of each
    group (in ascending group index), RecoverSecret(GT, ·) on the group shares, then decryption; both sides fail
    together when a digest does not verify.  Every HMAC / PBKDF2. -/
theorem group_recover_eq_spec (P : Prims) (shares : List Share) (pass : Bytes) (hwf : ∀ s ∈ shares, s.WF)
    (hext : ∀ s ∈ shares, s.exponent < 16)
    (hv : Spec.Slip39.validSet (shares.map Share.toFields) = true) :
    (ShareSet.new? shares).bind (fun ss => ss.recover P pass) =
      Spec.Slip39.combineShares (toSpec P) (shares.map Share.toFields) pass :=
  recover_eq_combine P shares pass hwf hext hv

/-- … in terms of mnemonics: `recover_mnemonic` (up to the BIP39 conversion) on word sequences that parse to a
    valid set is the standard's combination of the decoded fields -/
theorem group_recover_mnemonics_eq_spec (P : Prims) (ms : List (List Nat)) (shares : List Share) (pass : Bytes)
    (hp : ms.mapM Share.parse = some shares) (hwf : ∀ s ∈ shares, s.WF) (hext : ∀ s ∈ shares, s.exponent < 16)
    (hv : Spec.Slip39.validSet (shares.map Share.toFields) = true) :
    recoverShares P ms pass = Spec.Slip39.combineShares (toSpec P) (shares.map Share.toFields) pass := by
  rw [← recover_eq_combine P shares pass hwf hext hv]
  unfold recoverShares
  rw [hp]
  show (match ShareSet.new? shares with
    | none => none
    | some ss => ss.recover P pass) = _
  cases ShareSet.new? shares <;> rfl

/-- fewer groups than the group threshold are refused (threshold ≥ 2): if the group indices of the given shares
    all lie in a list of fewer than `group_threshold` numbers, `recover` raises, whatever the shares contain -/
theorem fewer_groups_refused (P : Prims) (ss : ShareSet) (pass : Bytes) (hk : 2 ≤ ss.groupThreshold)
    (D : List Nat) (hD : ∀ s ∈ ss.shares, s.groupIndex ∈ D) (hfew : D.length < ss.groupThreshold) :
    ss.recover P pass = none :=
  Embit.Model.Slip39.fewer_groups_refused P ss pass hk D hD hfew

/-- a group with fewer shares than its member threshold is refused: if the group of some given share holds fewer
    shares than that share's member threshold, `recover` raises — as the code does it: also when the group
    threshold is 1 and another group is complete, because every non-empty group is processed first -/
theorem fewer_members_refused (P : Prims) (ss : ShareSet) (pass : Bytes) (s : Share) (hs : s ∈ ss.shares)
    (hfew : (ss.shares.filter fun t => t.groupIndex == s.groupIndex).length < s.memberThreshold) :
    ss.recover P pass = none :=
  Embit.Model.Slip39.fewer_members_refused P ss pass s hs hfew

/-! ### non-vacuity -/

example : (⟨128, 7, 1, 2, 2, 3, 0, 1, 5⟩ : Share).WF ∧ (⟨128, 7, 1, 2, 2, 3, 0, 1, 5⟩ : Share).exponent < 16 :=
  ⟨⟨by decide +kernel, by decide, by decide, by decide, by decide⟩, by decide⟩

set_option maxRecDepth 100000 in
/-- both sides of `share_mnemonic_eq_spec` / `share_parse_eq_spec` evaluated on a 128-bit and a 256-bit share -/
example :
    (⟨128, 7, 1, 2, 2, 3, 0, 1, 5⟩ : Share).mnemonic = Spec.Slip39.encodeShare (⟨128, 7, 1, 2, 2, 3, 0, 1, 5⟩ : Share).toFields ∧
    (⟨256, 32767, 15, 15, 16, 16, 15, 16, 2 ^ 256 - 1⟩ : Share).mnemonic =
      Spec.Slip39.encodeShare (⟨256, 32767, 15, 15, 16, 16, 15, 16, 2 ^ 256 - 1⟩ : Share).toFields ∧
    (Spec.Slip39.decodeShare (⟨128, 7, 1, 2, 2, 3, 0, 1, 5⟩ : Share).mnemonic).map Share.ofFields =
      some ⟨128, 7, 1, 2, 2, 3, 0, 1, 5⟩ := by
  decide +kernel

/-- toy primitives satisfying the length hypotheses used elsewhere (here no hypothesis on them is needed) -/
def toyPrims : Prims :=
  { hmac := fun key msg => (key ++ msg ++ [1, 2, 3, 4]).take 32 ++ List.replicate (32 - (key ++ msg ++ [1, 2, 3, 4]).length) 0,
    pbkdf2 := fun pw salt _ n => ((pw ++ salt).take n) ++ List.replicate (n - (pw ++ salt).length) 5 }

def exEms : Bytes := [0x7c, 0x33, 0x97, 0xa2, 0x92, 0xa5, 0x94, 0x16, 0x82, 0xd7, 0xa4, 0xae, 0x2d, 0x89, 0x8d, 0x11]
def exTape : List Nat := List.replicate 40 7 ++ List.replicate 40 200

/-- a two-level set built with the model's own `split_secret`: group threshold 2 of 3 groups; group 0 has member
    threshold 2 (of 3 members, members 2 and 0 given), group 2 has member threshold 1 -/
def exShares : List Share :=
  let gs := (splitSecret toyPrims exEms 2 3 exTape).getD []
  let g0 := (gs.getD 0 (0, [])).2
  let g2 := (gs.getD 2 (0, [])).2
  let ms := (splitSecret toyPrims g0 2 3 exTape.reverse).getD []
  [⟨128, 99, 1, 0, 2, 3, 2, 2, ofBe (ms.getD 2 (0, [])).2⟩,
   ⟨128, 99, 1, 2, 2, 3, 0, 1, ofBe g2⟩,
   ⟨128, 99, 1, 0, 2, 3, 0, 2, ofBe (ms.getD 0 (0, [])).2⟩]

set_option maxRecDepth 100000 in
example : (exShares.all fun s => s.initOk && decide (s.id < 2 ^ 15) && decide (s.exponent < 16) &&
      decide (s.shareBitLength % 16 = 0) && decide (128 ≤ s.shareBitLength)) = true ∧
    Spec.Slip39.validSet (exShares.map Share.toFields) = true ∧
    (ShareSet.new? exShares).bind (fun ss => ss.recover toyPrims [1, 2]) = decrypt toyPrims exEms 99 1 [1, 2] ∧
    Spec.Slip39.combineShares (toSpec toyPrims) (exShares.map Share.toFields) [1, 2] =
      some (Spec.Slip39.decryptMS (toSpec toyPrims) exEms 99 1 [1, 2]) := by
  unfold exShares
  rw [splitSecret_eq, ShareSet.recover_eq]
  decide +kernel

set_option maxRecDepth 100000 in
/-- the refusals are reachable: one group only (threshold 2), and group 0 with one of its two members -/
example :
    (ShareSet.new? (exShares.take 1 ++ exShares.drop 2)).bind (fun ss => ss.recover toyPrims []) = none ∧
    (ShareSet.new? (exShares.take 2)).bind (fun ss => ss.recover toyPrims []) = none ∧
    ((exShares.take 2).filter fun t => t.groupIndex == 0).length < 2 := by
  unfold exShares
  rw [splitSecret_eq, ShareSet.recover_eq]
  decide +kernel

/-! ### two levels: any sufficient set recovers (exact sets and supersets) -/

/-- **two-level generate-then-recover.** Let the group shares be `split_secret(ems, GT, G)` and the member shares of
    group `i` be `split_secret(group share i, T_i, N_i)` (any tapes, any HMAC with ≥ 4 output bytes). Every list of
    distinct share objects taken from these — same id / exponent / length, group threshold GT, group count G,
    member threshold T_i — in which at least GT groups are present and every present group holds at least its
    member threshold of shares, is accepted by `ShareSet(...)` and `recover` returns `decrypt(ems)`: exact sets
    (= the standard's combination by `group_recover_eq_spec`) and supersets (invalid for the standard, accepted by
    embit) alike, in any order. -/
theorem two_level_sufficient_set_recovers (P : Prims) (hH : ∀ key msg, 4 ≤ (P.hmac key msg).length)
    (ems : Bytes) (GT G : Nat) (tape0 : List Nat) (gsh : List (Nat × Bytes))
    (hg : splitSecret P ems GT G tape0 = some gsh)
    (Tof Nof : Nat → Nat) (tapeOf : Nat → List Nat) (msOf : Nat → List (Nat × Bytes))
    (hm : ∀ g ∈ gsh, splitSecret P g.2 (Tof g.1) (Nof g.1) (tapeOf g.1) = some (msOf g.1))
    (id e : Nat) (shares : List Share)
    (hsh : ∀ s ∈ shares, s.id = id ∧ s.exponent = e ∧ s.groupThreshold = GT ∧ s.groupCount = G ∧
        s.shareBitLength = 8 * ems.length ∧ s.groupIndex < G ∧ s.memberThreshold = Tof s.groupIndex ∧
        (s.memberIndex, s.bytes) ∈ msOf s.groupIndex)
    (hnd : (shares.map fun s => (s.groupIndex, s.memberIndex)).Nodup)
    (hfull : ∀ s ∈ shares, s.memberThreshold ≤ (shares.filter fun t => t.groupIndex == s.groupIndex).length)
    (D : List Nat) (hDnd : D.Nodup) (hD : ∀ d ∈ D, ∃ s ∈ shares, s.groupIndex = d) (hGT : GT ≤ D.length)
    (pass : Bytes) :
    (ShareSet.new? shares).bind (fun ss => ss.recover P pass) = decrypt P ems id e pass :=
  two_level_recover P hH ems GT G tape0 gsh hg Tof Nof tapeOf msOf hm id e shares hsh hnd hfull D hDnd hD hGT pass

/-- a superset of `exShares`: all three members of group 0 (threshold 2), groups 1 and 2 (threshold 2 of 3 groups) -/
def exSuperset : List Share :=
  let gs := (splitSecret toyPrims exEms 2 3 exTape).getD []
  let ms := (splitSecret toyPrims (gs.getD 0 (0, [])).2 2 3 exTape.reverse).getD []
  [⟨128, 99, 1, 0, 2, 3, 2, 2, ofBe (ms.getD 2 (0, [])).2⟩,
   ⟨128, 99, 1, 2, 2, 3, 0, 1, ofBe (gs.getD 2 (0, [])).2⟩,
   ⟨128, 99, 1, 0, 2, 3, 0, 2, ofBe (ms.getD 0 (0, [])).2⟩,
   ⟨128, 99, 1, 1, 2, 3, 0, 1, ofBe (gs.getD 1 (0, [])).2⟩,
   ⟨128, 99, 1, 0, 2, 3, 1, 2, ofBe (ms.getD 1 (0, [])).2⟩]

set_option maxRecDepth 100000 in
/-- the hypotheses of `two_level_sufficient_set_recovers` hold for it (group 0 split 2-of-3, groups 1 and 2 split
    1-of-1), the standard calls the set invalid, embit recovers -/
example :
    let gsh := (splitSecret toyPrims exEms 2 3 exTape).getD []
    let Tof : Nat → Nat := fun gi => if gi = 0 then 2 else 1
    let Nof : Nat → Nat := fun gi => if gi = 0 then 3 else 1
    let msOf : Nat → List (Nat × Bytes) := fun gi =>
      (splitSecret toyPrims (gsh.getD gi (0, [])).2 (Tof gi) (Nof gi) exTape.reverse).getD []
    splitSecret toyPrims exEms 2 3 exTape = some gsh ∧
    (gsh.all fun g => splitSecret toyPrims g.2 (Tof g.1) (Nof g.1) exTape.reverse == some (msOf g.1)) = true ∧
    (exSuperset.all fun s => s.id == 99 && s.exponent == 1 && s.groupThreshold == 2 && s.groupCount == 3 &&
      s.shareBitLength == 8 * exEms.length && decide (s.groupIndex < 3) && s.memberThreshold == Tof s.groupIndex &&
      (msOf s.groupIndex).contains (s.memberIndex, s.bytes) &&
      decide (s.memberThreshold ≤ (exSuperset.filter fun t => t.groupIndex == s.groupIndex).length)) = true ∧
    Spec.Slip39.validSet (exSuperset.map Share.toFields) = false ∧
    (ShareSet.new? exSuperset).bind (fun ss => ss.recover toyPrims [1, 2]) = decrypt toyPrims exEms 99 1 [1, 2] := by
  unfold exSuperset
  rw [splitSecret_eq, ShareSet.recover_eq]
  decide +kernel

end Embit.Props.C16X
