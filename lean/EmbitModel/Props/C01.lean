import EmbitModel.Proofs.Sighash
import EmbitModel.Props.C03
/-
  C01 — signature hashes equal the consensus digests (legacy, BIP143, BIP341).
  `Model.sighash*` model embit's `Transaction.sighash_*` / `PSBTView.sighash_*`; `Spec.Consensus.*` is consensus.
  All theorems hold for every hash function `sha`, every transaction, index and flag — no size bounds.
-/
set_option linter.unusedSimpArgs false

namespace Embit.Props.C01
open Embit Model Spec.Wire Spec.Consensus

/-- legacy digest = Satoshi's algorithm (serialise the modified copy, append the hash type), all 8 flags,
    every index, including `uint256::ONE` for SINGLE without a matching output -/
theorem legacy_eq_consensus (sha : Bytes → Bytes) (t : Tx) (idx : Nat) (sc : Bytes) (f : Nat)
    (hf : validFlag f = true) (hi : idx < t.vin.length) :
    sighashLegacy sha t idx sc f = some (legacy sha t idx sc f) := by
  have hnot : ¬ idx ≥ t.vin.length := by omega
  have hget : t.vin[idx]? = some t.vin[idx] := List.getElem?_eq_getElem hi
  have hmapidx : ∀ g : Nat → TxIn → TxIn, (t.vin.mapIdx g)[idx]? = some (g idx t.vin[idx]) := by
    intro g; simp [List.getElem?_mapIdx, hget]
  have hins : anyoneCanPay f = false → _ := ins_nonacp t idx sc hf
  unfold sighashLegacy legacy legacyTxCopy
  -- both sides now branch on the same three booleans: ANYONECANPAY, SINGLE, NONE
  simp only [hnot, if_false, sighashCheck_valid hf, hget, hmapidx, defaultAsAll_beq _ SIGHASH_NONE (by decide),
    defaultAsAll_beq _ SIGHASH_SINGLE (by decide), show (base f == SIGHASH_SINGLE) = isSingle f from rfl,
    show (base f == SIGHASH_NONE) = isNone f from rfl]
  generalize isSingle f = single at *
  generalize isNone f = none' at *
  cases hacp : anyoneCanPay f
  case' false => rw [hins hacp]
  all_goals
    cases ho : t.vout[idx]? with
    | some o =>
      simp only [serWith_all, getElem?_some_lt ho]
      cases single <;> cases none' <;>
        simp [dsha, encodeLegacy, TxOut.ser_fun, flatten_replicate_flatMap, blankOut, List.append_assoc, encIn,
          outpoint, TxOut.ser_eq]
    | none =>
      simp only [serWith_all, List.getElem?_eq_none_iff.mp ho]
      cases single <;> cases none' <;>
        simp [dsha, encodeLegacy, TxOut.ser_fun, flatten_replicate_flatMap, blankOut, List.append_assoc, encIn,
          outpoint, TxOut.ser_eq]

/-- BIP143 digest, all 8 flags, every index -/
theorem segwit_eq_bip143 (sha : Bytes → Bytes) (t : Tx) (idx : Nat) (inp : TxIn) (sc : Bytes) (value : Nat)
    (f : Nat) (hf : validFlag f = true) (hget : t.vin[idx]? = some inp) :
    sighashSegwit sha t idx sc value f = some (bip143 sha t idx inp sc value f) := by
  unfold sighashSegwit bip143
  simp only [getElem?_some_lt hget, if_false, sighashCheck_valid hf, hget, defaultAsAll_beq _ SIGHASH_NONE (by decide),
    defaultAsAll_beq _ SIGHASH_SINGLE (by decide), show (base f == SIGHASH_SINGLE) = isSingle f from rfl,
    show (base f == SIGHASH_NONE) = isNone f from rfl]
  cases ho : t.vout[idx]? <;>
    simp only [dsha, hashPrevoutsPre_eq, hashSequencePre_eq, hashOutputsPre_eq, zero32, outpoint, varStr, scriptSer,
      List.append_assoc, TxOut.ser_eq] <;>
    cases anyoneCanPay f <;> cases isSingle f <;> cases isNone f <;> simp

theorem validTaprootFlag_cases {f : Nat} (h : validTaprootFlag f = true) :
    f = 0 ∨ f = 1 ∨ f = 2 ∨ f = 3 ∨ f = 0x81 ∨ f = 0x82 ∨ f = 0x83 := by
  simpa [validTaprootFlag] using h

def leafOf (script : Option Bytes) (leafVer : Nat) (codesep : Option Nat) : Option Leaf :=
  script.map fun s => { script := s, version := leafVer, codesepPos := codesep.getD 0xffffffff }

/-- BIP341 digest — the FULL statement: every hash type `f` (any natural number, not only the seven BIP341 defines),
    every index, lists `spks` / `values` of every length. Where BIP341 defines no digest (`bip341 … = none`: hash type
    outside {0,1,2,3,0x81,0x82,0x83} — 0x80 included —, a list of spent scripts or amounts whose length is not the
    number of inputs, index out of range, SINGLE without a matching output) the code refuses; everywhere else it
    returns BIP341's digest. (Before `fixes/fix-taproot-hashtype.diff` this needed the hypotheses
    `validTaprootFlag f` and `spks.length = t.vin.length`: audit item A4.) `leafVer < 256`: the leaf version is a
    byte (`bytes([leaf_version])`). -/
theorem taproot_eq_bip341 (sha : Bytes → Bytes) (t : Tx) (idx : Nat) (spks : List Bytes) (values : List Nat)
    (f : Nat) (annex script : Option Bytes) (leafVer : Nat) (codesep : Option Nat) (hlv : leafVer < 256) :
    sighashTaproot sha t idx spks values f (if script.isSome then 1 else 0) annex script leafVer codesep
      = bip341 sha t idx spks values f annex (leafOf script leafVer codesep) := by
  cases hf : validTaprootFlag f with
  | false => rw [sighashTaproot_invalid_flag sha t idx spks values f _ annex script leafVer codesep hf]; simp [bip341, hf]
  | true =>
  by_cases hs : spks.length = t.vin.length
  case neg => rw [sighashTaproot_spks_length sha t idx spks values f _ annex script leafVer codesep hs]; simp [bip341, hs]
  by_cases hv : values.length = t.vin.length
  case neg => simp [sighashTaproot, bip341, hv]
  rcases Nat.lt_or_ge idx t.vin.length with hi | hi
  case inr => simp [sighashTaproot, hi, bip341, List.getElem?_eq_none hi]
  have hget : t.vin[idx]? = some t.vin[idx] := List.getElem?_eq_getElem hi
  have hvget : values[idx]? = some values[idx] := List.getElem?_eq_getElem (by omega)
  have hsget : spks[idx]? = some spks[idx] := List.getElem?_eq_getElem (by omega)
  obtain ⟨hvf, h256, h80, hsingle, hnone⟩ := validTaprootFlag_facts hf
  have hnot : ¬ idx ≥ t.vin.length := by omega
  have h256' : ¬ f ≥ 256 := by omega
  have hlv' : ¬ leafVer ≥ 256 := by omega
  have hsp : ¬ ((2 * if script.isSome = true then 1 else 0) + (if annex.isSome = true then 1 else 0) ≥ 256) := by
    split <;> split <;> omega
  have e6 : leN 4 0xffffffff = [0xff, 0xff, 0xff, 0xff] := by decide
  unfold sighashTaproot bip341
  -- the refusals are out of the way; both sides now branch on the same three booleans
  simp only [hf, hs, hv, hget, hvget, hsget, sighashCheck_valid hvf, h80, hnot, h256', hsingle, hnone, hsp, if_false,
    ne_eq, not_true_eq_false, Bool.not_true, Bool.false_eq_true, Bool.or_self, decide_false,
    show (f / 0x80 % 2 == 1) = anyoneCanPay f from rfl, show (base f == SIGHASH_SINGLE) = isSingle f from rfl,
    show (base f == SIGHASH_NONE) = isNone f from rfl]
  generalize anyoneCanPay f = acp
  generalize isSingle f = single
  generalize isNone f = none'
  cases ho : t.vout[idx]? with
  | some o =>
    cases script <;> cases annex <;> cases codesep <;>
      simp [getElem?_some_lt ho, hlv', leafOf, e6, hashPrevoutsPre_eq, hashSequencePre_eq, hashOutputsPre_eq,
        hashAmountsPre_eq, hashSpksPre_eq, outpoint, varStr, scriptSer, taggedHash, tagged, List.append_assoc,
        Nat.mul_comm, and_comm, TxOut.ser_eq, ← apply_ite some]
  | none =>
    cases single <;> cases script <;> cases annex <;> cases codesep <;>
      simp [List.getElem?_eq_none_iff.mp ho, hlv', leafOf, e6, hashPrevoutsPre_eq, hashSequencePre_eq, hashOutputsPre_eq,
        hashAmountsPre_eq, hashSpksPre_eq, outpoint, varStr, scriptSer, taggedHash, tagged, List.append_assoc,
        Nat.mul_comm, and_comm, TxOut.ser_eq, ← apply_ite some]

/-- the two refusals the full statement adds, spelled out: hash type 0x80 (ANYONECANPAY with base type DEFAULT) has no
    BIP341 digest and is refused … -/
theorem taproot_0x80_rejected (sha : Bytes → Bytes) (t : Tx) (idx : Nat) (spks : List Bytes) (values : List Nat)
    (e : Nat) (a s : Option Bytes) (lv : Nat) (cs : Option Nat) (l : Option Leaf) :
    sighashTaproot sha t idx spks values 0x80 e a s lv cs = none ∧ bip341 sha t idx spks values 0x80 a l = none :=
  ⟨sighashTaproot_invalid_flag sha t idx spks values 0x80 e a s lv cs (by decide), by simp [bip341, validTaprootFlag]⟩

/-- … and so is a list of spent scripts that does not have one entry per input -/
theorem taproot_spks_length_rejected (sha : Bytes → Bytes) (t : Tx) (idx : Nat) (spks : List Bytes)
    (values : List Nat) (f e : Nat) (a s : Option Bytes) (lv : Nat) (cs : Option Nat) (l : Option Leaf)
    (h : spks.length ≠ t.vin.length) :
    sighashTaproot sha t idx spks values f e a s lv cs = none ∧ bip341 sha t idx spks values f a l = none :=
  ⟨sighashTaproot_spks_length sha t idx spks values f e a s lv cs h, by simp [bip341, h]⟩

/-- a hash type outside {DEFAULT, ALL, NONE, SINGLE} (± ANYONECANPAY) is refused by all three algorithms -/
theorem invalid_flag_rejected (sha : Bytes → Bytes) (t : Tx) (idx : Nat) (sc : Bytes) (v : Nat) (f : Nat)
    (hf : sighashCheck f = none) :
    sighashLegacy sha t idx sc f = none ∧ sighashSegwit sha t idx sc v f = none
    ∧ ∀ spks values e a s lv cs, sighashTaproot sha t idx spks values f e a s lv cs = none := by
  refine ⟨?_, ?_, ?_⟩
  · unfold sighashLegacy; rw [hf]; exact ite_self _
  · unfold sighashSegwit; rw [hf]; exact ite_self _
  · intro spks values e a s lv cs
    unfold sighashTaproot; rw [hf]; simp only [ite_self]

/-- `SIGHASH.check` accepts exactly the eight flags the property quantifies over (below 256) -/
theorem check_accepts_iff (f : Nat) (h : f < 256) : (sighashCheck f).isSome = validFlag f := by
  have key : (List.range 256).all (fun f => (sighashCheck f).isSome == validFlag f) = true := by decide +kernel
  exact eq_of_beq (List.all_eq_true.mp key f (List.mem_range.mpr h))

/-- out-of-range input index is refused -/
theorem bad_index_rejected (sha : Bytes → Bytes) (t : Tx) (idx : Nat) (sc : Bytes) (v f : Nat)
    (h : idx ≥ t.vin.length) :
    sighashLegacy sha t idx sc f = none ∧ sighashSegwit sha t idx sc v f = none := by
  simp [sighashLegacy, sighashSegwit, h]

-- entry_points_agree — PSBT.sighash / PSBTView.sighash (dispatch, the view's streaming digests) equal each other and
--   the consensus digest — is proved in Props/C01X.lean.

/-! ### non-vacuity -/
example : validFlag 0x83 = true ∧ validTaprootFlag 0x83 = true ∧ 0 < C03.exLegacy.vin.length := by decide
example : (legacy id C03.exLegacy 0 [0x51] 0x03).length = 66 := by decide
example : (sighashLegacy id C03.exLegacy 0 [0x51] 0x03) = some (legacy id C03.exLegacy 0 [0x51] 0x03) :=
  legacy_eq_consensus id _ _ _ _ (by decide) (by decide)

-- the full taproot statement is not vacuous on either side: a digest for 0x81 with one script per input, refusals for
-- 0x80, for an empty script list, for a hash type above a byte
example : (sighashTaproot id C03.exLegacy 0 [[0x51]] [7] 0x81 0 none none 0xC0 none).isSome = true := by decide
example : sighashTaproot id C03.exLegacy 0 [[0x51]] [7] 0x81 0 none none 0xC0 none
    = bip341 id C03.exLegacy 0 [[0x51]] [7] 0x81 none none :=
  taproot_eq_bip341 id C03.exLegacy 0 [[0x51]] [7] 0x81 none none 0xC0 none (by decide)
example : bip341 id C03.exLegacy 0 [[0x51]] [7] 0x80 none none = none
    ∧ bip341 id C03.exLegacy 0 [] [7] 0x81 none none = none
    ∧ bip341 id C03.exLegacy 0 [[0x51]] [7] 0x181 none none = none := by decide

end Embit.Props.C01
