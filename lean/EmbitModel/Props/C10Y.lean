import EmbitModel.Proofs.KeysB58Canon
import EmbitModel.Props.C10X
import EmbitModel.Driver.Keys
/-
  C10Y — the Base58Check codec law for the CONCRETE text layer, and the WIF / extended-key TEXT round trips
  without a codec hypothesis (audit item A10 / C10-3).

  `Props/C10.lean` proves `wif_roundtrip` and `xkey_text_roundtrip` for an arbitrary text codec under the hypothesis
  `hcodec : ∀ b, env.b58dec (env.b58enc b) = some b`, which was discharged only for a toy environment. Here the law is
  PROVED for the functions the driver actually runs as `env.b58enc` / `env.b58dec` — `B58.encodeCheck dsha` /
  `B58.decodeCheck dsha` of `Model/Base58Check.lean` (embit's `base58.py` over ASCII codes, big-integer conversion,
  leading-zero padding, the `s[:-1]` quirk, the `b[:-4]` / `b[-4:]` slices), corresponded with `embit.base58` on
  every run — for EVERY payload (empty, leading zero bytes, any length), with the checksum function a parameter.

  What is needed of the checksum function `dsha`, exactly (`decodeCheck_encodeCheck_iff`): the round trip at a payload
  `b` holds IFF `b = []` or `dsha b` has at least four bytes (embit slices four bytes off the end whatever was
  appended). Nothing else is used: no injectivity, no collision resistance. The converse direction
  (`decodeCheck dsha s = some b → encodeCheck dsha b = s`, C10X) needs nothing at all.
  The driver's `dsha` is `sha256 ∘ sha256` of `Crypto/Sha256.lean`, whose block loop is a `partial def` (opaque to the
  kernel), so "its output has 32 bytes" cannot be a Lean theorem in this development; it stays the explicit hypothesis
  `hd : ∀ b, 4 ≤ (dsha b).length` (the same one `C10.xkey_roundtrip_table` and C11's `b58check_decode_encode` carry),
  and the executable function is tied to hashlib by the correspondence on every run.
-/
namespace Embit.Props.C10Y
open Embit Embit.Keys Embit.Spec

variable {E : Keys.EcOps}

/-- `decode (encode b) = b` for EVERY byte string — empty, leading zero bytes, any length -/
theorem base58_decode_encode (b : Bytes) : B58.decode (B58.encode b) = some b := B58.decode_encode b

/-- `decode` accepts exactly the `encode` texts (this and C10X `base58_decode_canonical` side by side) -/
theorem base58_decode_iff (s : Text) (b : Bytes) : B58.decode s = some b ↔ s = B58.encode b := B58.decode_iff s b

/-- the law the C10 text round trips assume, for the concrete codec: `decode_check (encode_check b) = b` for EVERY
    payload, for every checksum function with at least four output bytes -/
theorem decodeCheck_encodeCheck (dsha : Bytes → Bytes) (hd : ∀ b, 4 ≤ (dsha b).length) :
    ∀ b, B58.decodeCheck dsha (B58.encodeCheck dsha b) = some b :=
  fun b => B58.decodeCheck_encodeCheck dsha b (hd b)

/-- … and the hypothesis is exact, payload by payload: the round trip at `b` holds iff `b` is empty or the checksum
    function yields at least four bytes at `b` -/
theorem decodeCheck_encodeCheck_iff (dsha : Bytes → Bytes) (b : Bytes) :
    B58.decodeCheck dsha (B58.encodeCheck dsha b) = some b ↔ (b = [] ∨ 4 ≤ (dsha b).length) :=
  B58.decodeCheck_encodeCheck_iff dsha b

/-- witness that the length hypothesis cannot be dropped: with a three-byte checksum the text of the payload `01` is
    refused (`decode_check` cuts four bytes where three were appended) -/
theorem short_checksum_breaks_roundtrip :
    B58.decodeCheck (fun _ => [1, 2, 3]) (B58.encodeCheck (fun _ => [1, 2, 3]) [1]) = none := by decide +kernel

/-- decode-then-encode identity on accepted strings, no hypothesis on the checksum function
    (C10X `base58check_decode_canonical`, stated for the functions themselves) -/
theorem encodeCheck_decodeCheck (dsha : Bytes → Bytes) (s : Text) (b : Bytes)
    (h : B58.decodeCheck dsha s = some b) : B58.encodeCheck dsha b = s := B58.decodeCheck_sound dsha s b h

/-- THE CODEC LAW, both directions side by side: `encode_check` and `decode_check` of the concrete layer are
    mutually inverse — every payload survives encode-then-decode, every accepted text is the encoding of its
    payload, i.e. `decode_check` accepts exactly the `encode_check` texts -/
theorem codec_law (dsha : Bytes → Bytes) (hd : ∀ b, 4 ≤ (dsha b).length) :
    (∀ b, B58.decodeCheck dsha (B58.encodeCheck dsha b) = some b) ∧
    (∀ s b, B58.decodeCheck dsha s = some b → B58.encodeCheck dsha b = s) ∧
    (∀ s b, B58.decodeCheck dsha s = some b ↔ s = B58.encodeCheck dsha b) :=
  ⟨decodeCheck_encodeCheck dsha hd, encodeCheck_decodeCheck dsha, B58.decodeCheck_iff dsha hd⟩

/-- consequently `encode_check` is injective: two payloads with the same text are equal -/
theorem encodeCheck_injective (dsha : Bytes → Bytes) (hd : ∀ b, 4 ≤ (dsha b).length) (b b' : Bytes)
    (h : B58.encodeCheck dsha b = B58.encodeCheck dsha b') : b = b' :=
  enc_inj_of_roundtrip (decodeCheck_encodeCheck dsha hd b) (decodeCheck_encodeCheck dsha hd b') h

/-- the hypothesis `hcodec` of `C10.wif_roundtrip` / `C10.xkey_text_roundtrip` holds in every environment whose
    text layer is the concrete one; together with C10X `base58check_decode_canonical` both codec laws hold there -/
theorem env_codec_law (env : Env) (dsha : Bytes → Bytes) (hd : ∀ b, 4 ≤ (dsha b).length)
    (henc : env.b58enc = B58.encodeCheck dsha) (hdec : env.b58dec = B58.decodeCheck dsha) :
    (∀ b, env.b58dec (env.b58enc b) = some b) ∧ DecodeCanonical env :=
  ⟨B58.codec_of_concrete env dsha hd henc hdec, B58.decodeCanonical env dsha henc hdec⟩

/-! ### WIF and extended-key text round trips over the concrete codec: no codec hypothesis -/

/-- `C10.wif_roundtrip` with the concrete Base58Check as text layer: encode then decode returns the secret, the
    compression flag and a network with the same version byte. Hypotheses: the curve laws, a valid scalar, a network
    of the generated table — exactly those of the original — and the length of the checksum function's output -/
theorem wif_roundtrip_concrete (L : EcLaws E) (env : Env) (dsha : Bytes → Bytes) (hd : ∀ b, 4 ≤ (dsha b).length)
    (henc : env.b58enc = B58.encodeCheck dsha) (hdec : env.b58dec = B58.decodeCheck dsha)
    (k : PrivateKey) (hv : seckeyValid E k.secret = true) (hnet : k.network < Generated.keyNets.length) :
    ∃ t net', k.wif env = some t ∧ PrivateKey.fromWif E env t = some ⟨k.secret, k.compressed, net'⟩
      ∧ netWif net' = netWif k.network :=
  C10.wif_roundtrip L env (B58.codec_of_concrete env dsha hd henc hdec) k hv hnet

/-- the two directions together: the WIF text of a key decodes to the key, and that text is the only one accepted
    for what it decodes to (C10X `wif_parse_sound_b58`) -/
theorem wif_text_bijective_concrete (L : EcLaws E) (env : Env) (dsha : Bytes → Bytes)
    (hd : ∀ b, 4 ≤ (dsha b).length) (henc : env.b58enc = B58.encodeCheck dsha)
    (hdec : env.b58dec = B58.decodeCheck dsha)
    (k : PrivateKey) (hv : seckeyValid E k.secret = true) (hnet : k.network < Generated.keyNets.length) :
    ∃ t k', k.wif env = some t ∧ PrivateKey.fromWif E env t = some k' ∧ k'.secret = k.secret ∧
      k'.compressed = k.compressed ∧ netWif k'.network = netWif k.network ∧ k'.wif env = some t := by
  obtain ⟨t, net', h1, h2, h3⟩ := wif_roundtrip_concrete L env dsha hd henc hdec k hv hnet
  exact ⟨t, _, h1, h2, rfl, rfl, h3, (C10X.wif_parse_sound_b58 env dsha henc hdec t _ h2).1⟩

/-- `C10.xkey_text_roundtrip` with the concrete Base58Check as text layer: `from_base58 (to_base58 k) = k` in
    version, depth, parent fingerprint, child number, chain code and key. Hypotheses exactly those of the original,
    plus the length of the checksum function's output, minus the codec law -/
theorem xkey_text_roundtrip_concrete (L : EcLaws E) (env : Env) (dsha : Bytes → Bytes)
    (hd : ∀ b, 4 ≤ (dsha b).length) (henc : env.b58enc = B58.encodeCheck dsha)
    (hdec : env.b58dec = B58.decodeCheck dsha) (k : HDKey E)
    (hinit : HDKey.init env k.key k.chainCode (some k.version) k.depth k.fingerprint k.childNumber = some k)
    (hkey : k.key.Valid E) (hver : k.version.length = 4) (hcc : k.chainCode.length = 32)
    (hfp : k.fingerprint.length = 4)
    (h0 : k.depth = 0 → k.childNumber = 0 ∧ k.fingerprint = [0, 0, 0, 0]) :
    ∃ t, k.toBase58 env = some t ∧ HDKey.fromBase58 E env t = some k.normNet :=
  C10.xkey_text_roundtrip L env (B58.codec_of_concrete env dsha hd henc hdec) k hinit hkey hver hcc hfp h0

/-- text form of `C10.xkey_roundtrip_table`, every hypothesis about the text layer and the constructor discharged:
    over the GENERATED table and the concrete codec, for every network and each of its ten version prefixes, every
    valid key of the matching kind, every depth, fingerprint and child number is accepted by the constructor, prints
    as a text and that text parses back to the same key -/
theorem xkey_text_roundtrip_table (L : EcLaws E) (env : Env) (dsha : Bytes → Bytes)
    (hd : ∀ b, 4 ≤ (dsha b).length) (henc : env.b58enc = B58.encodeCheck dsha)
    (hdec : env.b58dec = B58.decodeCheck dsha)
    (net : Generated.KeyNet) (hn : net ∈ Generated.keyNets) (e : String × Bytes × Bool) (he : e ∈ net.versions)
    (key : KeyObj E) (hkey : key.Valid E) (hkind : key.isPrivate = e.2.2)
    (cc fp : Bytes) (depth cn : Nat) (hcc : cc.length = 32) (hfp : fp.length = 4) (hdep : depth < 256)
    (hcn : cn < 2 ^ 32) (h0 : depth = 0 → cn = 0 ∧ fp = [0, 0, 0, 0]) :
    ∃ k t, HDKey.init env key cc (some e.2.1) depth fp cn = some k ∧ k.toBase58 env = some t ∧
      HDKey.fromBase58 E env t = some k.normNet ∧ k.version = e.2.1 ∧ k.depth = depth ∧ k.fingerprint = fp ∧
      k.childNumber = cn ∧ k.chainCode = cc := by
  obtain ⟨k, b, hinit, _, _, _, hver, hdp, hfpk, hcnk, hcck⟩ :=
    C10.xkey_roundtrip_table L env dsha hd henc net hn e he key hkey hkind cc fp depth cn hcc hfp hdep hcn h0
  have hk : k = ⟨key, cc, e.2.1, depth, fp, cn⟩ := ((init_iff env _ _ _ _ _ _ k).mp hinit).2.2.1
  have hlen4 : e.2.1.length = 4 := (B58.table_entry net hn e he).1
  subst hk
  obtain ⟨t, ht, hp⟩ := xkey_text_roundtrip_concrete L env dsha hd henc hdec
    ⟨key, cc, e.2.1, depth, fp, cn⟩ hinit hkey hlen4 hcc hfp h0
  exact ⟨_, t, hinit, ht, hp, rfl, rfl, rfl, rfl, rfl⟩

/-- `keyEnv` of `Driver/Keys.lean` — the environment every C09 / C10 driver op runs in (`priv.wif`, `priv.from_wif`,
    `hd.to_base58`, `hd.from_base58`, `hd.init`, `b58.encode_check`, `b58.decode_check` …) — has the concrete codec
    over the driver's double SHA-256 as its text layer, whatever the HMAC / tagged-hash overrides -/
theorem driver_env_concrete (hmacOv tagOv : Option Bytes) :
    (Driver.KeyDrv.keyEnv hmacOv tagOv).b58enc = B58.encodeCheck Driver.KeyDrv.dsha ∧
    (Driver.KeyDrv.keyEnv hmacOv tagOv).b58dec = B58.decodeCheck Driver.KeyDrv.dsha := ⟨rfl, rfl⟩

/-- the WIF round trip for exactly the functions the driver runs (`PrivateKey.wif (keyEnv …)`,
    `PrivateKey.fromWif secpOps (keyEnv …)`); what remains assumed of the driver's instances: the curve laws for its
    secp256k1 arithmetic and that its SHA-256 (a `partial def`, opaque to the kernel) returns at least four bytes -/
theorem wif_roundtrip_driver (L : EcLaws Driver.KeyDrv.secpOps) (hd : ∀ b, 4 ≤ (Driver.KeyDrv.dsha b).length)
    (hmacOv tagOv : Option Bytes) (k : PrivateKey) (hv : seckeyValid Driver.KeyDrv.secpOps k.secret = true)
    (hnet : k.network < Generated.keyNets.length) :
    ∃ t net', k.wif (Driver.KeyDrv.keyEnv hmacOv tagOv) = some t ∧
      PrivateKey.fromWif Driver.KeyDrv.secpOps (Driver.KeyDrv.keyEnv hmacOv tagOv) t
        = some ⟨k.secret, k.compressed, net'⟩ ∧ netWif net' = netWif k.network :=
  wif_roundtrip_concrete L _ _ hd rfl rfl k hv hnet

/-- the extended-key text round trip for exactly the functions the driver runs -/
theorem xkey_text_roundtrip_driver (L : EcLaws Driver.KeyDrv.secpOps)
    (hd : ∀ b, 4 ≤ (Driver.KeyDrv.dsha b).length) (hmacOv tagOv : Option Bytes)
    (net : Generated.KeyNet) (hn : net ∈ Generated.keyNets) (e : String × Bytes × Bool) (he : e ∈ net.versions)
    (key : KeyObj Driver.KeyDrv.secpOps) (hkey : key.Valid Driver.KeyDrv.secpOps) (hkind : key.isPrivate = e.2.2)
    (cc fp : Bytes) (depth cn : Nat) (hcc : cc.length = 32) (hfp : fp.length = 4) (hdep : depth < 256)
    (hcn : cn < 2 ^ 32) (h0 : depth = 0 → cn = 0 ∧ fp = [0, 0, 0, 0]) :
    ∃ k t, HDKey.init (Driver.KeyDrv.keyEnv hmacOv tagOv) key cc (some e.2.1) depth fp cn = some k ∧
      k.toBase58 (Driver.KeyDrv.keyEnv hmacOv tagOv) = some t ∧
      HDKey.fromBase58 Driver.KeyDrv.secpOps (Driver.KeyDrv.keyEnv hmacOv tagOv) t = some k.normNet := by
  obtain ⟨k, t, h1, h2, h3, _⟩ := xkey_text_roundtrip_table L (Driver.KeyDrv.keyEnv hmacOv tagOv) _ hd rfl rfl
    net hn e he key hkey hkind cc fp depth cn hcc hfp hdep hcn h0
  exact ⟨k, t, h1, h2, h3⟩

/-! ### non-vacuity (toy curve of `Proofs/KeyToyCurve.lean`, the concrete codec with a payload-dependent checksum) -/

/-- a checksum function with at least four bytes whose first four bytes depend on the payload -/
def exDsha : Bytes → Bytes := fun b => b.reverse ++ [1, 2, 3, 4]

/-- C10's toy environment with its text layer replaced by the concrete Base58Check -/
def exEnvY : Env := B58.withB58 C10.exEnv exDsha

example : ∀ b, 4 ≤ (exDsha b).length := by intro b; simp [exDsha]
example : exEnvY.b58enc = B58.encodeCheck exDsha ∧ exEnvY.b58dec = B58.decodeCheck exDsha := ⟨rfl, rfl⟩
/-- the law evaluated: empty payload, leading zero bytes, an ordinary payload; and an accepted text re-encodes -/
example : B58.decodeCheck exDsha (B58.encodeCheck exDsha []) = some [] ∧
    B58.decodeCheck exDsha (B58.encodeCheck exDsha [0, 0, 0]) = some [0, 0, 0] ∧
    B58.decodeCheck exDsha (B58.encodeCheck exDsha [0, 0, 0x61, 0xff]) = some [0, 0, 0x61, 0xff] := by decide +kernel
example : B58.encodeCheck exDsha [0, 0, 1] = [0x31, 0x31, 0x37, 0x61, 0x31, 0x70, 0x52, 0x65] ∧
    B58.decodeCheck exDsha [0x31, 0x31, 0x37, 0x61, 0x31, 0x70, 0x52, 0x65] = some [0, 0, 1] := by decide +kernel
example : ∀ b, exEnvY.b58dec (exEnvY.b58enc b) = some b :=
  (env_codec_law exEnvY exDsha (by intro b; simp [exDsha]) rfl rfl).1

/-- WIF: the hypotheses of `wif_roundtrip_concrete` hold of C10's example key (secret 5, uncompressed, testnet), and
    the round trip evaluated -/
example : seckeyValid toy C10.exPriv.secret = true ∧ C10.exPriv.network < Generated.keyNets.length := by decide
example : ∃ t net', C10.exPriv.wif exEnvY = some t ∧
    PrivateKey.fromWif toy exEnvY t = some ⟨C10.exPriv.secret, C10.exPriv.compressed, net'⟩ ∧
    netWif net' = netWif C10.exPriv.network :=
  wif_roundtrip_concrete toy_laws exEnvY exDsha (by intro b; simp [exDsha]) rfl rfl C10.exPriv (by decide) (by decide)
example : ((C10.exPriv.wif exEnvY).bind (PrivateKey.fromWif toy exEnvY)).map (fun k => (k.secret, k.compressed))
    = some (5, false) := by decide +kernel

/-- extended keys: C10's example key (xpub version, depth 3, hardened index) is accepted by the constructor over the
    concrete codec — its text really starts `xpub` — and all hypotheses of `xkey_text_roundtrip_concrete` hold -/
example : HDKey.init exEnvY C10.exHd.key C10.exHd.chainCode (some C10.exHd.version) C10.exHd.depth
    C10.exHd.fingerprint C10.exHd.childNumber = some C10.exHd := by
  rw [init_iff]; exact ⟨by decide, by decide, rfl, _, rfl, by decide +kernel⟩
example : C10.exHd.key.Valid toy ∧ C10.exHd.version.length = 4 ∧ C10.exHd.chainCode.length = 32 ∧
    C10.exHd.fingerprint.length = 4 := ⟨⟨by decide, rfl⟩, by decide, by decide, by decide⟩
example : ((C10.exHd.toBase58 exEnvY).bind (HDKey.fromBase58 toy exEnvY)).isSome = true ∧
    ((C10.exHd.toBase58 exEnvY).getD []).take 4 = [0x78, 0x70, 0x75, 0x62] := by decide +kernel
/-- the table form: mainnet, its `xprv` entry, the private key 5 at depth 0 -/
example : ∃ k t, HDKey.init exEnvY (.priv ⟨5, true, 0⟩ : KeyObj toy) (List.replicate 32 7)
      (some [0x04, 0x88, 0xad, 0xe4]) 0 [0, 0, 0, 0] 0 = some k ∧ k.toBase58 exEnvY = some t ∧
      HDKey.fromBase58 toy exEnvY t = some k.normNet := by
  obtain ⟨k, t, h1, h2, h3, _⟩ := xkey_text_roundtrip_table toy_laws exEnvY exDsha (by intro b; simp [exDsha]) rfl rfl
    (Generated.keyNets[0]'(by decide)) (List.getElem_mem _) ("xprv", [0x04, 0x88, 0xad, 0xe4], true) (by decide)
    (.priv ⟨5, true, 0⟩) ⟨by decide, rfl⟩ rfl (List.replicate 32 7) [0, 0, 0, 0] 0 0 (by decide) (by decide)
    (by decide) (by decide) (fun _ => ⟨rfl, rfl⟩)
  exact ⟨k, t, h1, h2, h3⟩
/-- the driver's environment: the equations of `driver_env_concrete` hold by unfolding -/
example : (Driver.KeyDrv.keyEnv none none).b58enc = B58.encodeCheck Driver.KeyDrv.dsha := rfl

end Embit.Props.C10Y
