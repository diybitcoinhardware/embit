import EmbitModel.Props.C08Z
import EmbitModel.Proofs.PyCurveLawful
import EmbitModel.Crypto.SecpLawful
import EmbitModel.Driver.Secp
import EmbitModel.Driver.Keys
import EmbitModel.Driver.SigCheck
/-
  C08W — the record the native driver EVALUATES is lawful (second audit, finding A-1).

  `Crypto.secpLawful` (Crypto/SecpLawful.lean; `= lawfulOps secp256k1 secp256k1N G`, Model/PyCurveOps.lean) is an
  executable, Mathlib-free `EcOps` whose points are canonical affine values only — `none` or reduced coordinates accepted
  by the model of `EllipticCurve.on_curve` — and whose operations are the modelled arithmetic of `embit/util/key.py`
  (corresponded with the real functions on every run: `pycurve.*`, `proven=True`). This file proves

    * `lawful_iso`            the identity-on-values map `CPt → APt` is a bijection commuting with add / neg / mul / g /
                              xy / ofXY / liftX / invN: `lawfulOps C n g ≅ pyEcOps C n g` (any smooth curve, `p ≡ 3 mod 4` prime);
    * `norm_check_never_fails` the run-time re-check inside the record's normalisation is dead code;
    * `secpLawful_ec_laws`, `secpLawful_inf_unique`, `secpLawful_key_laws`
                              `EcLaws` / `InfUnique` / `Keys.EcLaws (toKeys ·)` for the driver's record, NO hypothesis
                              (the laws of Props/C08Z transported along the isomorphism);
    * `driver_record_eq`, `driver_key_record_eq`, `driver_sigcheck_record_eq`
                              the records the driver's handlers are written over ARE this record (by definition).
-/
namespace Embit.Props.C08W
open Embit Embit.Model Embit.Model.PyCurve Embit.Props.C08Y Embit.Props.C08Z

/-- **the lawful record is isomorphic to the record the laws are proved of**: `toA` (the same underlying value, the
    carrier predicate `okPt` traded for `Valid`) is injective, surjective, and commutes with every field of `EcOps` -/
theorem lawful_iso (C : Curve) [Fact C.p.Prime] (hs : Smooth C) (h3 : C.p % 4 = 3) (n : ℕ) (g : CPt C) :
    let E := lawfulOps C n g
    let E' := pyEcOps C n (toA C hs g)
    let f : E.Pt → E'.Pt := toA C hs
    Function.Bijective f ∧
    (∀ P Q, f (E.add P Q) = E'.add (f P) (f Q)) ∧ (∀ P, f (E.neg P) = E'.neg (f P)) ∧
    (∀ k P, f (E.mul k P) = E'.mul k (f P)) ∧ f E.g = E'.g ∧ E.n = E'.n ∧ E.p = E'.p ∧
    (∀ P, E'.xy (f P) = E.xy P) ∧ (∀ x y, (E.ofXY x y).map f = E'.ofXY x y) ∧
    (∀ x, (E.liftX x).map f = E'.liftX x) ∧ (∀ a, E.invN a = E'.invN a) ∧
    (∀ P : E.Pt, (f P).1 = P.1) :=
  let φ := lawfulEmb C hs h3 n g
  ⟨⟨toA_injective C hs, toA_surjective C hs⟩, φ.add, φ.neg, φ.mul, φ.g, φ.n, φ.p, φ.xy, φ.ofXY, φ.liftX, φ.invN,
    fun _ => rfl⟩

/-- **the re-check in `norm` is dead code**: on every valid tuple (in particular every result of `add`, `negate`,
    `mul`, `ECPubKey.set` on canonical operands) `norm` returns `affine` of the tuple, never the fallback -/
theorem norm_check_never_fails (C : Curve) [Fact C.p.Prime] (hs : Smooth C) {J : JPt} (hv : Valid C J) :
    (norm C J).1 = (affineXY C J).getD none := norm_val C hs hv

/-- curve laws travel backwards along an embedding of curve records (generic) -/
theorem laws_transport {E E' : EcOps} (φ : EcEmb E E') (L : EcLaws E') : EcLaws E := φ.laws L

/-- the generator of the driver's record is the generator of the record of Props/C08Y / C08Z -/
theorem secpLawful_g : toA secp256k1 secp256k1_smooth Crypto.secpLawfulG = secpG := Subtype.ext rfl

/-- the embedding of the driver's record into `pyEcOps secp256k1 secp256k1N secpG` -/
def secpLawfulEmb : EcEmb Crypto.secpLawful (pyEcOps secp256k1 secp256k1N secpG) :=
  secpLawful_g ▸ lawfulEmb secp256k1 secp256k1_smooth (by decide +kernel) secp256k1N Crypto.secpLawfulG

/-- **`EcLaws Crypto.secpLawful`, no hypothesis**: the record the native driver evaluates satisfies every law the
    C07 / C08 (and, bridged, C09 / C10 / C02) theorems assume -/
theorem secpLawful_ec_laws : EcLaws Crypto.secpLawful := secpLawfulEmb.laws secp256k1_ec_laws_unconditional

/-- **`InfUnique Crypto.secpLawful`**: `a·G` has no coordinates only for `n ∣ a` -/
theorem secpLawful_inf_unique : SignWith.InfUnique Crypto.secpLawful := secpLawfulEmb.infUnique secp256k1_inf_unique

theorem secpLawful_n_le : Crypto.secpLawful.n ≤ 2 ^ 256 := by show secp256k1N ≤ 2 ^ 256; decide +kernel

theorem secpLawful_p_le : Crypto.secpLawful.p ≤ 2 ^ 256 := by show secp256k1.p ≤ 2 ^ 256; decide +kernel

/-- **`Keys.EcLaws` for the key layer's record** (C09 / C10): the bridged lawful record -/
theorem secpLawful_key_laws : Embit.Keys.EcLaws (SignWith.toKeys Crypto.secpLawful) :=
  C02Y.bridge_laws secpLawful_ec_laws secpLawful_n_le secpLawful_p_le secpLawful_inf_unique

/-- the record of `py.*`, `contract.*`, `ecdsa.verify`, `schnorr.*`, `priv.sign`, `sign.*` (Driver/Secp.lean, SignWith.lean) -/
theorem driver_record_eq : Driver.E = Crypto.secpLawful := rfl

/-- the record of the key ops (Driver/Keys.lean, KeysX.lean: `bip32.*`, `sec.*`, `xkey.*`, `wif.*`, `tweak.*`, `spec.*`) -/
theorem driver_key_record_eq : Driver.KeyDrv.secpOps = SignWith.toKeys Crypto.secpLawful := rfl

/-- the record of the verifier ops `sig.*` / `sigcheck.*` (Driver/SigCheck.lean) -/
theorem driver_sigcheck_record_eq : Driver.sigE = Crypto.secpLawful := rfl

/-- so the laws hold of the objects the handlers are written over, literally -/
theorem driver_ec_laws : EcLaws Driver.E ∧ SignWith.InfUnique Driver.E ∧ Embit.Keys.EcLaws Driver.KeyDrv.secpOps :=
  ⟨secpLawful_ec_laws, secpLawful_inf_unique, secpLawful_key_laws⟩

/-! ### non-vacuity -/

/-- the carrier has no junk: the audit's witness `some (0, 0)` is not a point, `G` and infinity are -/
example : CPt.ofOption secp256k1 (some (0, 0)) = none ∧ (CPt.ofOption secp256k1 (some (Crypto.Secp.gx, Crypto.Secp.gy))).isSome = true ∧
    (CPt.ofOption secp256k1 none).isSome = true := by decide +kernel

/-- the isomorphism on the toy curve of Props/C08Y: hypotheses satisfiable, and the two records compute the same `3·G` -/
example : ((lawfulOps toy43 toy43N ⟨some (2, 12), by decide⟩).mul 3 ⟨some (2, 12), by decide⟩).1 = some (35, 21) := by decide +kernel

end Embit.Props.C08W
