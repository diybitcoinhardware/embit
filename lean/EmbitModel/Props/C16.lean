import EmbitModel.Proofs.Slip39TwoLevel
import EmbitModel.Proofs.Slip39RsDetect
import EmbitModel.Proofs.Slip39CryptSpec
import EmbitModel.Proofs.Slip39RsSpec
import EmbitModel.Proofs.Slip39ParseSound
import EmbitModel.Proofs.Slip39InterpSpec
import EmbitModel.Proofs.Slip39Eval
/-
  C16 — SLIP39 shares: any threshold subset recovers, fewer never yield a secret.
  Property theorems only. `Model.Slip39.*` is the model of embit's slip39.py (tied to the repo by the
  correspondence check), `Spec.Slip39.*` the SLIP-0039 arithmetic; HMAC and PBKDF2 are arbitrary functions
  (`Prims`) subject only to the stated output-length hypotheses.
-/
namespace Embit.Props.C16
open Embit Embit.Model.Slip39 Polynomial

/-! ### GF(256): tables and field -/

/-- the exp table built by `_load` holds the powers of 3 in GF(2)[x]/(x^8+x^4+x^3+x+1) (carry-less
    multiplication of the spec), the log table inverts it, and the cycle has length 255 -/
theorem tables_correct :
    (∀ i < 255, exp i = Spec.Slip39.gfPow 3 i ∧ log (exp i) = i ∧ 0 < exp i ∧ exp i < 256) ∧
    (∀ a < 256, a ≠ 0 → log a < 255 ∧ exp (log a) = a) ∧ Spec.Slip39.gfMul (exp 254) 3 = 1 := by
  rw [exp_eq_expL, log_eq_logL]
  refine ⟨?_, logL_facts, ?_⟩
  · intro i hi
    refine ⟨?_, (expL_facts i hi).2.2, (expL_facts i hi).1, (expL_facts i hi).2.1⟩
    induction i with
    | zero => exact expL_zero
    | succ i ih =>
      have := expL_step i (by omega)
      rw [Nat.mod_eq_of_lt hi] at this
      rw [this, ih (by omega)]; rfl
  · have := expL_step 254 (by decide)
    rw [← this]; exact expL_zero

/-- multiplication through the tables (as `interpolate` does it) is the spec's GF(256) multiplication -/
theorem table_mul_eq_spec (a b : Nat) (ha : a < 256) (hb : b < 256) :
    (if a = 0 ∨ b = 0 then 0 else exp ((log a + log b) % 255)) = Spec.Slip39.gfMul a b := by
  rw [exp_eq_expL, log_eq_logL]; exact mulL_eq_gfMul a b ha hb

/-- numbers below 256 with XOR and the spec's multiplication form a field -/
theorem gf256_field : ∃ F : Field GF256, (∀ a b : GF256, (F.add a b).val = a.val ^^^ b.val) ∧
    (∀ a b : GF256, (F.mul a b).val = Spec.Slip39.gfMul a.val b.val) :=
  ⟨GF256.instField, fun _ _ => rfl, fun a b => mulL_eq_gfMul a.val b.val a.lt b.lt⟩

/-! ### interpolation -/

/-- `ShareSet.interpolate` (sums of logarithms, "log 0 = 0" trick) computes, byte by byte, the value at `x` of the
    Lagrange interpolation polynomial through the shares (Mathlib `Lagrange.interpolate` over GF(256)), whenever
    the x-coordinates are distinct bytes and `x` is none of them -/
theorem interpolate_eq_lagrange (data : List (Nat × Bytes)) (L : Nat) (g : Good data L) (x : Nat) (hx : x < 256)
    (hnot : x ∉ data.map (·.1)) :
    (interpolate x data).length = L ∧
    ∀ b < L, toG ((interpolate x data).getD b 0) = eval (GF256.ofNat x) (sharePoly data b) :=
  ⟨interpolate_length' g x, fun b hb => interpolate_eq_eval' g x hx hnot b hb⟩

/-- … and therefore equals the executable `Interpolation` of the spec (Lagrange formula with carry-less
    multiplication and a^254 inverses) -/
theorem interpolate_eq_spec (data : List (Nat × Bytes)) (L : Nat) (g : Good data L) (x : Nat) (hx : x < 256)
    (hnot : x ∉ data.map (·.1)) : interpolate x data = Spec.Slip39.interpolation L x data :=
  Embit.Model.Slip39.interpolate_eq_spec g x hx hnot

/-! ### any k of n recover, fewer / bad digest / mixed sets are refused -/

/-- `split_secret` (k ≥ 2) = SLIP-0039 `SplitSecret` on the same random choices; `recover_secret` = `RecoverSecret`
    for thresholds ≠ 1 -/
theorem split_recover_eq_spec (P : Prims) (hH : ∀ key msg, 4 ≤ (P.hmac key msg).length) :
    (∀ (secret : Bytes) (k n : Nat) (tape : List Nat) (shares : List (Nat × Bytes)),
      splitSecret P secret k n tape = some shares → 2 ≤ k →
      ∃ (r : Bytes) (ys : List Bytes), r.length = secret.length - 4 ∧ ys.length = k - 2 ∧
        Spec.Slip39.splitSecret ⟨P.hmac, P.pbkdf2⟩ k n secret r ys = some shares) ∧
    (∀ (T : List (Nat × Bytes)) (L : Nat), Good T L → ∀ t, t ≠ 1 → 254 ∉ T.map (·.1) → 255 ∉ T.map (·.1) →
      recoverSecret P T = Spec.Slip39.recoverSecret ⟨P.hmac, P.pbkdf2⟩ t T) :=
  ⟨fun secret k n tape shares hs hk => splitSecret_eq_spec P hH secret k n tape shares hs hk,
   fun _ _ g t ht h254 h255 => recoverSecret_eq_spec P g t ht h254 h255⟩

/-- `split_secret` is SLIP-0039's SplitSecret: for k ≥ 2 there are k base points — k−2 random shares at
    x = 0 … k−3, the digest share `HMAC(r, secret)[:4] ‖ r` at x = 254 and the secret at x = 255 — and the n
    shares have x-coordinates 0 … n−1 and are, byte by byte, the values of the polynomials of degree < k through
    the base points -/
theorem split_on_polynomial (P : Prims) (hH : ∀ key msg, 4 ≤ (P.hmac key msg).length)
    (secret : Bytes) (k n : Nat) (tape : List Nat) (shares : List (Nat × Bytes))
    (hs : splitSecret P secret k n tape = some shares) (hk : 2 ≤ k) :
    ∃ (r : Bytes) (B : List (Nat × Bytes)),
      Good B secret.length ∧ B.length = k ∧
      (254, digest P r secret ++ r) ∈ B ∧ (255, secret) ∈ B ∧ (∀ b, (sharePoly B b).degree < k) ∧
      shares.map (·.1) = List.range n ∧
      ∀ t ∈ shares, t.2.length = secret.length ∧
        ∀ b < secret.length, toG (t.2.getD b 0) = eval (GF256.ofNat t.1) (sharePoly B b) := by
  obtain ⟨r, B, _, gB, hlen, hD, hS, hx, _, _, _, hsh⟩ := splitSecret_onpoly P hH secret k n tape shares hs hk
  exact ⟨r, B, gB, hlen, hD, hS, fun b => by have := sharePoly_degree gB b; rwa [hlen] at this, hx, hsh⟩

/-- raw level: for k ≥ 2, ANY collection of at least k distinct shares out of the n produced by `split_secret`
    (any order) passes the digest check of `recover_secret` and returns the secret — every tape, both secret
    sizes, every HMAC with ≥ 4 output bytes -/
theorem any_k_recover (P : Prims) (hH : ∀ key msg, 4 ≤ (P.hmac key msg).length)
    (secret : Bytes) (k n : Nat) (tape : List Nat) (shares : List (Nat × Bytes))
    (hs : splitSecret P secret k n tape = some shares) (hk : 2 ≤ k)
    (T : List (Nat × Bytes)) (hT : ∀ t ∈ T, t ∈ shares) (hnd : (T.map (·.1)).Nodup) (hkT : k ≤ T.length) :
    recoverSecret P T = some secret :=
  recoverSecret_of_split P hH secret k n tape shares hs hk T hT hnd hkT

/-- whole pipeline: `generate_shares` then `recover_mnemonic` on ANY ≥ k distinct mnemonics out of the n gives
    the secret back — every 1 ≤ k ≤ n ≤ 16 (whenever generation succeeds), passphrase, exponent, tape, Feistel
    round function and HMAC of the right output lengths -/
theorem generate_then_recover (P : Prims) (hF : ∀ pw s it n, (P.pbkdf2 pw s it n).length = n)
    (hH : ∀ key msg, 4 ≤ (P.hmac key msg).length)
    (secret : Bytes) (k n : Nat) (pass : Bytes) (e : Nat) (tape : List Nat) (ms : List (List Nat))
    (hgen : generateShares P secret k n pass e tape = some ms)
    (hid : ∀ id rest, tape = id :: rest → id < 2 ^ 15) (he : e < 32)
    (sub : List (List Nat)) (hsub : ∀ m ∈ sub, m ∈ ms) (hnd : sub.Nodup) (hk : k ≤ sub.length) :
    recoverShares P sub pass = some secret :=
  generate_recover P hF hH secret k n pass e tape ms hgen hid he sub hsub hnd hk

/-- splitting yields exactly n pairwise distinct share mnemonics (also for k = 1, after the fix of D23) -/
theorem n_distinct_shares (P : Prims) (hH : ∀ key msg, 4 ≤ (P.hmac key msg).length)
    (secret : Bytes) (k n : Nat) (pass : Bytes) (e : Nat) (tape : List Nat) (ms : List (List Nat))
    (hgen : generateShares P secret k n pass e tape = some ms)
    (hid : ∀ id rest, tape = id :: rest → id < 2 ^ 15) (he : e < 32) : ms.length = n ∧ ms.Nodup :=
  generate_distinct P hH secret k n pass e tape ms hgen hid he

/-- fewer shares than the threshold (k ≥ 2) never yield a secret, whatever the shares contain -/
theorem fewer_refused (P : Prims) (ss : ShareSet) (pass : Bytes) (hk : 2 ≤ ss.groupThreshold)
    (hfew : ss.shares.length < ss.groupThreshold) : ss.recover P pass = none :=
  Embit.Model.Slip39.fewer_refused P ss pass hk hfew

/-- a set whose interpolated digest share does not match the interpolated secret is refused; what
    `recover_secret` returns always satisfies the digest equation -/
theorem bad_digest_refused (P : Prims) (T : List (Nat × Bytes)) :
    ((interpolate 254 T).take 4 ≠ digest P ((interpolate 254 T).drop 4) (interpolate 255 T) →
      recoverSecret P T = none) ∧
    (∀ s, recoverSecret P T = some s →
      s = interpolate 255 T ∧ (interpolate 254 T).take 4 = digest P ((interpolate 254 T).drop 4) s) :=
  ⟨recoverSecret_bad_digest P T, fun s h => recoverSecret_digest P T s h⟩

/-- mixed share sets are refused: whatever `ShareSet(shares)` accepts has one identifier, iteration exponent,
    group threshold, group count and share length, and no (group index, member index) twice -/
theorem mixed_sets_refused (shares : List Share) (ss : ShareSet) (h : ShareSet.new? shares = some ss) :
    (∀ s ∈ shares, s.id = ss.id ∧ s.exponent = ss.exponent ∧ s.groupThreshold = ss.groupThreshold ∧
      s.groupCount = ss.groupCount ∧ s.shareBitLength = ss.shareBitLength) ∧
    (shares.map fun s => (s.groupIndex, s.memberIndex)).Nodup :=
  (shareSet_consistent shares ss h).2.2

/-! ### encryption -/

/-- the Feistel network is inverted by running the rounds backwards: `decrypt (encrypt x) = x` and
    `encrypt (decrypt x) = x` for EVERY round function with the requested output length, every identifier below
    2^16, exponent, passphrase and every non-empty even-length x -/
theorem feistel_inverse (P : Prims) (hF : ∀ pw s it n, (P.pbkdf2 pw s it n).length = n) (x : Bytes) (id e : Nat)
    (pass : Bytes) (hx : x.length % 2 = 0) (hne : x ≠ []) (hid : id < 65536) :
    (∃ y, encrypt P x id e pass = some y ∧ y.length = x.length ∧ decrypt P y id e pass = some x) ∧
    (∃ y, decrypt P x id e pass = some y ∧ y.length = x.length ∧ encrypt P y id e pass = some x) :=
  ⟨crypt_reverse P hF pass x id e [0, 1, 2, 3] hx hne hid, crypt_reverse P hF pass x id e [3, 2, 1, 0] hx hne hid⟩

/-- `_crypt` = the four-round Feistel cipher of the standard (round function F(i, R) = PBKDF2(i ‖ passphrase,
    "shamir" ‖ id ‖ R, 2500·2^e, n/2)), in both directions -/
theorem feistel_eq_spec (P : Prims) (x : Bytes) (id e : Nat) (pass : Bytes) (hx : x.length % 2 = 0) (hne : x ≠ [])
    (hid : id < 65536) :
    encrypt P x id e pass = some (Spec.Slip39.encryptMS (toSpec P) x id e pass) ∧
    decrypt P x id e pass = some (Spec.Slip39.decryptMS (toSpec P) x id e pass) :=
  crypt_eq_spec P x id e pass hx hne hid

/-! ### share text -/

/-- parse ∘ mnemonic = id on well-formed share fields (any length that is a multiple of 16 bits, ≥ 128) -/
theorem share_text_roundtrip (s : Share) (h : s.WF) : Share.parse s.mnemonic = some s :=
  Embit.Model.Slip39.share_text_roundtrip s h

/-- the parser accepts exactly the printed format: a word sequence (words < 1024) parses to `s` iff `s` is
    well-formed and the sequence is `s.mnemonic()` — in particular an accepted mnemonic re-encodes to itself
    (after the fix of the length check, D37) -/
theorem share_parse_iff (idx : List Nat) (hw : ∀ w ∈ idx, w < 1024) (s : Share) :
    Share.parse idx = some s ↔ s.WF ∧ s.mnemonic = idx :=
  ⟨parse_sound idx hw s, fun ⟨wf, e⟩ => e ▸ Embit.Model.Slip39.share_text_roundtrip s wf⟩

/-- the created checksum always verifies (any customisation string, any data) -/
theorem rs1024_create_verify (cs data : List Nat) : rs1024Verify cs (data ++ rs1024Create cs data) = true :=
  Embit.Model.Slip39.rs1024_create_verify cs data

/-- embit's RS1024 (polymod with the ten generator constants, customisation "shamir") is the Reed-Solomon code of
    the standard: verification = zero residue modulo g(x) = (x−a)(x−a²)(x−a³) over GF(1024), creation = the
    systematic encoding -/
theorem rs1024_eq_spec (ws : List Nat) (hw : ∀ w ∈ ws, w < 1024) :
    rs1024Verify csShamir ws = Spec.Slip39.rsValid 0 ws ∧ rs1024Create csShamir ws = Spec.Slip39.rsChecksum 0 ws :=
  ⟨verify_eq_spec ws hw, create_eq_spec ws hw⟩

/-- XOR-linearity of the polymod step -/
theorem rs1024_step_linear (a b v w : Nat) :
    rs1024Step (a ^^^ b) (v ^^^ w) = rs1024Step a v ^^^ rs1024Step b w := rs1024Step_xor a b v w

/-- RS1024 detects every substitution of 1, 2 or 3 words in a share of at most 33 words (20- and 33-word shares
    included): two word sequences that both verify and differ in at most three positions are equal -/
theorem rs1024_detects_le3 (cs ws ws' : List Nat) (hl : ws'.length = ws.length) (hlen : ws.length ≤ 33)
    (hw : ∀ w ∈ ws, w < 1024) (hw' : ∀ w ∈ ws', w < 1024)
    (p1 p2 p3 : Nat) (h12 : p1 < p2) (h23 : p2 < p3) (h3 : p3 < ws.length)
    (hagree : ∀ i, i ≠ p1 → i ≠ p2 → i ≠ p3 → ws'[i]? = ws[i]?)
    (hW : rs1024Verify cs ws = true) (hV : rs1024Verify cs ws' = true) : ws' = ws :=
  rs1024_detects_le3_pos cs ws ws' hl hlen hw hw' p1 p2 p3 h12 h23 h3 hagree hW hV

/-- consequently a share mnemonic with 1–3 substituted words is never parsed -/
theorem corrupted_share_rejected (ws ws' : List Nat) (hl : ws'.length = ws.length) (hlen : ws.length ≤ 33)
    (hw : ∀ w ∈ ws, w < 1024) (hw' : ∀ w ∈ ws', w < 1024)
    (p1 p2 p3 : Nat) (h12 : p1 < p2) (h23 : p2 < p3) (h3 : p3 < ws.length)
    (hagree : ∀ i, i ≠ p1 → i ≠ p2 → i ≠ p3 → ws'[i]? = ws[i]?)
    (hok : (Share.parse ws).isSome) (hne : ws' ≠ ws) : Share.parse ws' = none := by
  have hW : rs1024Verify csShamir ws = true := by
    unfold Share.parse at hok
    cases h : rs1024Verify csShamir ws with
    | true => rfl
    | false => simp [h] at hok
  cases hV : rs1024Verify csShamir ws' with
  | false => unfold Share.parse; simp [hV]
  | true => exact absurd (rs1024_detects_le3 csShamir ws ws' hl hlen hw hw' p1 p2 p3 h12 h23 h3 hagree hW hV) hne

/-! ### non-vacuity -/

/-- toy primitives satisfying the length hypotheses -/
def toyPrims : Prims :=
  { hmac := fun key msg => (key ++ msg ++ [1, 2, 3, 4]).take 32 ++ List.replicate (32 - (key ++ msg ++ [1, 2, 3, 4]).length) 0,
    pbkdf2 := fun pw salt _ n => ((pw ++ salt).take n) ++ List.replicate (n - (pw ++ salt).length) 5 }

example : ∀ pw s it n, (toyPrims.pbkdf2 pw s it n).length = n := by
  intro pw s it n; simp [toyPrims]; omega
example : ∀ key msg, 4 ≤ (toyPrims.hmac key msg).length := by
  intro key msg; simp [toyPrims]; omega

def exSecret : Bytes := [0x7c, 0x33, 0x97, 0xa2, 0x92, 0xa5, 0x94, 0x16, 0x82, 0xd7, 0xa4, 0xae, 0x2d, 0x89, 0x8d, 0x11]
def exTape : List Nat := List.replicate 40 7 ++ List.replicate 40 200

set_option maxRecDepth 100000 in
example : (splitSecret toyPrims exSecret 3 5 exTape).map (·.map (·.1)) = some [0, 1, 2, 3, 4] := by
  rw [splitSecret_eq]; decide +kernel

set_option maxRecDepth 100000 in
example : ∃ sh, splitSecret toyPrims exSecret 3 5 exTape = some sh ∧
    recoverSecret toyPrims [sh.getD 4 (0, []), sh.getD 1 (0, []), sh.getD 2 (0, [])] = some exSecret ∧
    recoverSecret toyPrims [sh.getD 4 (0, []), sh.getD 1 (0, [])] = none := by
  refine ⟨(splitSecret toyPrims exSecret 3 5 exTape).getD [], ?_⟩
  rw [splitSecret_eq, recoverSecret_eq]
  decide +kernel

example : (⟨128, 7, 1, 2, 2, 3, 0, 1, 5⟩ : Share).WF :=
  ⟨by decide +kernel, by decide, by decide, by decide, by decide⟩

set_option maxRecDepth 100000 in
example : Share.parse (Share.mnemonic ⟨128, 7, 1, 2, 2, 3, 0, 1, 5⟩) = some ⟨128, 7, 1, 2, 2, 3, 0, 1, 5⟩ := by
  decide +kernel

example : rs1024Verify csShamir ([1, 2, 3] ++ rs1024Create csShamir [1, 2, 3]) = true := by decide +kernel

example : Good [(0, [1, 2]), (1, [3, 4]), (255, [5, 6])] 2 :=
  ⟨by decide, by decide, by decide, by decide⟩

/-! ### deepening

  `Props/C16X.lean` holds `share_mnemonic_eq_spec`, `share_parse_eq_spec`, `share_roundtrip_spec` (share text = bit
  layout of the standard) and `group_recover_eq_spec`, `two_level_sufficient_set_recovers`, `fewer_groups_refused`,
  `fewer_members_refused` (two-level recovery). -/

end Embit.Props.C16
