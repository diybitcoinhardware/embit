import EmbitModel.Proofs.SignWithValid
import EmbitModel.Proofs.SignWithComplete
import EmbitModel.Proofs.SignWithCount
import EmbitModel.Proofs.SignWithView
import EmbitModel.Proofs.SignWithViewEq
import EmbitModel.Proofs.SignWithKeys
import EmbitModel.Props.C01
import EmbitModel.Props.C02
/-
  C02X — `PSBT.sign_with(root, sighash)` as a whole (deepening of C02): the executable model `SignWith.signWith`
  (Model/SignWith.lean: loop over inputs, key involvement, BIP32 matching, taproot key / script path, the counter;
  tied to embit on every run by `sign.run` with the concrete secp256k1 / hashes) adds only valid, authorised
  signatures, changes nothing else, and returns their number.

  All theorems hold for every PSBT, every signer (key, HD key, descriptor key, descriptor), every authorised flag and
  every cryptographic environment `Ops` (BIP32 derivation, public keys, hashes, taproot tweak, both signers are
  arbitrary functions). Where properties of the environment are needed they are explicit hypotheses:
  `OrderLaws` (Python's set iteration orders are permutations) and `SigLaws` (a signature verifies under the signer's
  public key — what Props/C07 proves of the concrete signers relative to `EcLaws`; discharged for the environment the
  driver runs in Props/C02Y.lean).
  `signWith … = some (p', n, ws)`: `p'` the PSBT afterwards, `n` the returned counter, `ws` the (ghost) trace of ALL writes
  (every signature filed, also when the slot already held that very signature).
-/
set_option linter.unusedSimpArgs false
set_option linter.unusedVariables false
namespace Embit.Props.C02X
open Embit Model Model.SignWith Spec.Consensus

variable {HD : Type}

/-! ### (a) frame -/

/-- what `core s' = core s` says, field by field: everything but `partial_sigs`, `taproot_sigs`,
    `final_scriptwitness` is equal -/
theorem core_eq_iff (s s' : InScope) :
    core s' = core s ↔
      s'.txid = s.txid ∧ s'.vout = s.vout ∧ s'.sequence = s.sequence ∧ s'.nonWitnessUtxo = s.nonWitnessUtxo ∧
      s'.witnessUtxo = s.witnessUtxo ∧ s'.utxoS = s.utxoS ∧ s'.txhash = s.txhash ∧ s'.verified = s.verified ∧
      s'.sighashType = s.sighashType ∧ s'.redeemScript = s.redeemScript ∧ s'.witnessScript = s.witnessScript ∧
      s'.bip32 = s.bip32 ∧ s'.tapBip32 = s.tapBip32 ∧ s'.tapInternalKey = s.tapInternalKey ∧
      s'.tapMerkleRoot = s.tapMerkleRoot ∧ s'.tapScripts = s.tapScripts ∧ s'.finalScriptSig = s.finalScriptSig ∧
      s'.unknown = s.unknown := by
  cases s; cases s'
  simp only [core, InScope.mk.injEq, true_and, and_true]

/-- globals, outputs and the number of inputs are unchanged, and every input scope differs from the original at most in
    its three signature fields -/
theorem frame (O : Ops HD) (signer : Signer HD) (auth : Option Nat) (p p' : Psbt) (n : Nat) (ws : List Write)
    (h : signWith O signer auth p = some (p', n, ws)) :
    p'.version = p.version ∧ p'.txVersion = p.txVersion ∧ p'.locktime = p.locktime ∧ p'.xpubs = p.xpubs ∧
    p'.unknown = p.unknown ∧ p'.outputs = p.outputs ∧ p'.inputs.length = p.inputs.length ∧
    ∀ (i : Nat) s s', p.inputs[i]? = some s → p'.inputs[i]? = some s' → core s' = core s :=
  (signWith_tr O signer auth p p' n ws h).frame

/-- the signature fields: no key disappears and the old keys keep their order (new ones are appended); a slot the
    trace does not write keeps its content, a written slot holds one of the values written to it; the final witness is
    the original one or a single key-path signature of the trace -/
theorem frame_sigs (O : Ops HD) (signer : Signer HD) (auth : Option Nat) (p p' : Psbt) (n : Nat) (ws : List Write)
    (h : signWith O signer auth p = some (p', n, ws)) (i : Nat) (s s' : InScope)
    (hs : p.inputs[i]? = some s) (hs' : p'.inputs[i]? = some s') :
    (∃ extra, s'.partialSigs.map Prod.fst = s.partialSigs.map Prod.fst ++ extra) ∧
    (∃ extra, s'.tapSigs.map Prod.fst = s.tapSigs.map Prod.fst ++ extra) ∧
    (∀ sl, (∀ v, (i, sl, v) ∉ ws) → slotValue s' sl = slotValue s sl) ∧
    (∀ sl v, (i, sl, v) ∈ ws → ∃ v', (i, sl, v') ∈ ws ∧ slotValue s' sl = some v') ∧
    (s'.finalWitness = s.finalWitness ∨ ∃ v, (i, Slot.tapKeySig, v) ∈ ws ∧ s'.finalWitness = some [v]) :=
  (signWith_tr O signer auth p p' n ws h).frameSigs i s s' hs hs'

/-! ### (b) authorised, by a key the signer controls -/

/-- every slot content of the result that is not the original content was written for a key `sg` of the signer, on an
    input whose flag the policy authorises, by a key `sg` controls there (`JustifiedAt`: the signer's own key occurring
    in the script, a derivation entry with the signer's fingerprint whose path derives exactly that key, the taproot
    output key obtained by tweaking such a key, or such a key occurring in a leaf script) -/
theorem added_sigs_authorised (O : Ops HD) (OL : OrderLaws O) (signer : Signer HD) (auth : Option Nat)
    (p p' : Psbt) (n : Nat) (ws : List Write) (h : signWith O signer auth p = some (p', n, ws))
    (i : Nat) (s s' : InScope) (hs : p.inputs[i]? = some s) (hs' : p'.inputs[i]? = some s') (sl : Slot) (v : Bytes)
    (hv : slotValue s' sl = some v) (hnew : slotValue s sl ≠ some v) :
    ∃ sg ∈ signer.keys, JustifiedAt O sg auth p (i, sl, v) := by
  have t := signWith_tr O signer auth p p' n ws h
  exact signWith_just O OL signer auth p p' n ws h _ (new_content_written p p' n ws t i s s' hs hs' sl v hv hnew)

/-- the flag of a justified write is the input's effective flag and the caller authorised it (C02's rule) -/
theorem justified_flag (O : Ops HD) (sg : Single HD) (auth : Option Nat) (p : Psbt) (w : Write)
    (hj : JustifiedAt O sg auth p w) :
    ∃ s u, p.inputs[w.1]? = some s ∧ s.utxo = some u ∧
      C02.authorisedFlag auth s.sighashType (isTaprootSpk u.spk) ∧
      Justified O sg s u (C02.effective auth s.sighashType (isTaprootSpk u.spk))
        (fun f leaf => psbtSighash O.sha p w.1 f leaf) w.2 := by
  obtain ⟨s, u, f, h1, h2, h3, h4⟩ := hj
  have hf := C02.policy_flag _ _ _ _ h3
  refine ⟨s, u, h1, h2, (C02.policy_iff _ _ _).mp (by simp [h3]), hf ▸ h4⟩

/-- nothing is signed for a caller who authorised only ALL / DEFAULT with a weaker flag -/
theorem all_never_signs_weaker (O : Ops HD) (sg : Single HD) (a : Nat) (ha : a = 0 ∨ a = 1) (p : Psbt) (w : Write)
    (hj : JustifiedAt O sg (some a) p w) :
    ∃ s u f, p.inputs[w.1]? = some s ∧ s.utxo = some u ∧ (f = 0 ∨ f = 1) ∧
      Justified O sg s u f (fun f leaf => psbtSighash O.sha p w.1 f leaf) w.2 := by
  obtain ⟨s, u, f, h1, h2, h3, h4⟩ := hj
  exact ⟨s, u, f, h1, h2, C02.all_never_signs_weaker _ _ a f ha h3, h4⟩

/-! ### (c) valid -/

/-- every slot content of the result that is not the original content is a signature that verifies under the key it is
    filed under (ECDSA: the SEC key of the `partial_sigs` entry; taproot: the x-only key occurring in the scriptPubKey /
    in the leaf script and heading the `taproot_sigs` key) against the digest `PSBT.sighash` assigns to that input of
    the PSBT AS HANDED IN, with the authorised flag appended (omitted for taproot DEFAULT). `hkeys`: the keys of the scope's
    derivation maps are encodings of curve points — `PSBT.parse` refuses anything else -/
theorem added_sigs_valid (O : Ops HD) (OL : OrderLaws O) (vs : Bytes → Bool) (ev sv : Bytes → Bytes → Bytes → Bool)
    (SL : SigLaws O vs ev sv) (signer : Signer HD) (auth : Option Nat)
    (p p' : Psbt) (n : Nat) (ws : List Write) (h : signWith O signer auth p = some (p', n, ws))
    (i : Nat) (s s' : InScope) (hs : p.inputs[i]? = some s) (hs' : p'.inputs[i]? = some s') (hkeys : KeysValid vs s)
    (sl : Slot) (v : Bytes) (hv : slotValue s' sl = some v) (hnew : slotValue s sl ≠ some v) :
    ∃ u, s.utxo = some u ∧ C02.authorisedFlag auth s.sighashType (isTaprootSpk u.spk) ∧
      ValidWrite ev sv O s u (C02.effective auth s.sighashType (isTaprootSpk u.spk))
        (fun f leaf => psbtSighash O.sha p i f leaf) (sl, v) := by
  obtain ⟨sg, _, hj⟩ := added_sigs_authorised O OL signer auth p p' n ws h i s s' hs hs' sl v hv hnew
  obtain ⟨s0, u, h1, h2, h3, h4⟩ := justified_flag O sg auth p _ hj
  rw [hs] at h1; cases h1
  exact ⟨u, h2, h3, h4.valid SL hkeys⟩

/-- the hypothesis `hkeys` of `added_sigs_valid` holds of every input of every PSBT `PSBT.parse` accepts (`ko.validSec` /
    `ko.validX` = `ec.PublicKey.parse` / `from_xonly` succeed; `from_xonly(x)` IS the parse of `02 ‖ x`) -/
theorem parsed_keys_valid (ko : KeyOps) (hx : ∀ x, ko.validX x = true → ko.validSec (0x02 :: x) = true)
    (sha : Bytes → Bytes) (compress : Nat) (b : Bytes) (p : Psbt) (h : Psbt.parse ko sha compress b = some p) :
    ∀ s ∈ p.inputs, KeysValid ko.validSec s :=
  parse_keysValid ko hx sha compress b p h

/-! #### the digest `PSBT.sighash` assigns is the consensus digest (composition with C01) -/

theorem optAll_length {α : Type} (l : List (Option α)) (xs : List α) (h : optAll l = some xs) :
    xs.length = l.length := by
  induction l generalizing xs with
  | nil => simp only [optAll, Option.some.injEq] at h; subst h; rfl
  | cons a r ih =>
    cases a with
    | none => simp [optAll] at h
    | some x =>
      unfold optAll at h
      split at h
      · cases h
      · rename_i ys hys
        simp only [Option.some.injEq] at h; subst h
        simp [ih ys hys]

theorem tx_vin_length (p : Psbt) (t : Tx) (h : p.tx = some t) : t.vin.length = p.inputs.length := by
  unfold Psbt.tx at h
  split at h
  · rename_i vin vout hvin hvout
    simp only [Option.some.injEq] at h; subst h
    simpa using optAll_length _ _ hvin
  · cases h

/-- taproot key path: BIP341 digest over all previous outputs of the PSBT, for every hash type (`none` on both sides
    where BIP341 defines no digest, 0x80 included) -/
theorem digest_taproot_keypath (sha : Bytes → Bytes) (p : Psbt) (i f : Nat) (s : InScope) (u : TxOut) (t : Tx)
    (us : List TxOut) (hs : p.inputs[i]? = some s) (hu : s.utxo = some u) (htap : isTaprootSpk u.spk = true)
    (ht : p.tx = some t) (hus : optAll (p.inputs.map InScope.utxo) = some us) :
    psbtSighash sha p i f none = bip341 sha t i (us.map (·.spk)) (us.map (·.value)) f none none := by
  have := C01.taproot_eq_bip341 sha t i (us.map (·.spk)) (us.map (·.value)) f none none 0xC0 none (by decide)
  simp only [Option.isSome_none, Bool.false_eq_true, if_false, C01.leafOf, Option.map_none] at this
  simp only [psbtSighash, hs, hu, ht, htap, if_true, hus, this]

/-- taproot script path: BIP341 digest with the leaf (script, leaf version, no code separator), for every hash type -/
theorem digest_taproot_leaf (sha : Bytes → Bytes) (p : Psbt) (i f : Nat) (s : InScope) (u : TxOut) (t : Tx)
    (us : List TxOut) (script : Bytes) (lv : Nat) (hlv : lv < 256)
    (hs : p.inputs[i]? = some s) (hu : s.utxo = some u) (htap : isTaprootSpk u.spk = true)
    (ht : p.tx = some t) (hus : optAll (p.inputs.map InScope.utxo) = some us) :
    psbtSighash sha p i f (some (script, lv))
      = bip341 sha t i (us.map (·.spk)) (us.map (·.value)) f none
          (some { script := script, version := lv, codesepPos := 0xffffffff }) := by
  have := C01.taproot_eq_bip341 sha t i (us.map (·.spk)) (us.map (·.value)) f none (some script) lv none hlv
  simp only [Option.isSome_some, if_true, C01.leafOf, Option.map_some, Option.getD_none] at this
  simp only [psbtSighash, hs, hu, ht, htap, if_true, hus, this]

/-- segwit v0: BIP143 digest with the script code of C02's dispatch and the previous output's amount -/
theorem digest_segwit (sha : Bytes → Bytes) (p : Psbt) (i f : Nat) (s : InScope) (u : TxOut) (t : Tx) (inp : TxIn)
    (sc : Bytes) (hs : p.inputs[i]? = some s) (hu : s.utxo = some u) (htap : isTaprootSpk u.spk = false)
    (ht : p.tx = some t) (hin : t.vin[i]? = some inp)
    (hd : sighashDispatch u.spk s.witnessScript s.redeemScript s.witnessUtxo.isSome = (Algo.segwit, sc))
    (hf : validFlag f = true) :
    psbtSighash sha p i f none = some (bip143 sha t i inp sc u.value f) := by
  simp only [psbtSighash, hs, hu, ht, htap, Bool.false_eq_true, if_false, hd]
  exact C01.segwit_eq_bip143 sha t i inp sc u.value f hf hin

/-- legacy: Satoshi's digest with the script code of C02's dispatch -/
theorem digest_legacy (sha : Bytes → Bytes) (p : Psbt) (i f : Nat) (s : InScope) (u : TxOut) (t : Tx)
    (sc : Bytes) (hs : p.inputs[i]? = some s) (hu : s.utxo = some u) (htap : isTaprootSpk u.spk = false)
    (ht : p.tx = some t)
    (hd : sighashDispatch u.spk s.witnessScript s.redeemScript s.witnessUtxo.isSome = (Algo.legacy, sc))
    (hf : validFlag f = true) :
    psbtSighash sha p i f none = some (legacy sha t i sc f) := by
  have hi : i < t.vin.length := by
    rw [tx_vin_length p t ht]
    rcases Nat.lt_or_ge i p.inputs.length with h' | h'
    · exact h'
    · rw [List.getElem?_eq_none h'] at hs; cases hs
  simp only [psbtSighash, hs, hu, ht, htap, Bool.false_eq_true, if_false, hd]
  exact C01.legacy_eq_consensus sha t i sc f hf hi

/-! ### (d) count -/

/-- the result is the PSBT with the trace applied, and the returned counter is the NUMBER OF DISTINCT SLOTS
    `(input, key[, leaf])` the call filed a signature under: `L` enumerates the slots of the trace without repetition and
    has `n` elements. A slot written twice within the call (two keys of a descriptor deriving the same key, a key listed as
    taproot and as ordinary derivation, …) counts once (after fix c02x-02). -/
theorem count_eq_slots (O : Ops HD) (signer : Signer HD) (auth : Option Nat) (p p' : Psbt) (n : Nat)
    (ws : List Write) (h : signWith O signer auth p = some (p', n, ws)) :
    p' = applyWrites p ws ∧
    ∃ L : List (Nat × Slot), L.Nodup ∧ L.length = n ∧ ∀ x, x ∈ L ↔ x ∈ ws.map Write.slot :=
  let t := signWith_tr O signer auth p p' n ws h
  ⟨t.app, t.distinct⟩

/-- `count = number of signatures added`: when no write of the trace stores a value its slot already held BEFORE the
    call, the counter is the number of slots whose content differs between the PSBT handed in and the PSBT returned.
    The hypothesis is needed: the counter counts the signatures the call FILES, whether or not the identical signature
    was there already — signing an already signed PSBT again returns `n` again and adds nothing
    (`resign_counts_again_witness`). The repo's own tests pin that behaviour
    (`test_psbtview.test_sign`: `sign_input` on a scope that carries the signatures already must return their number);
    it is not a finding. -/
theorem count_eq_added (O : Ops HD) (signer : Signer HD) (auth : Option Nat) (p p' : Psbt) (n : Nat)
    (ws : List Write) (h : signWith O signer auth p = some (p', n, ws))
    (hfresh : ∀ w ∈ ws, ∀ s, p.inputs[w.1]? = some s → slotValue s w.2.1 ≠ some w.2.2) :
    ∃ L : List (Nat × Slot), L.Nodup ∧ L.length = n ∧
      ∀ (i : Nat) s s', p.inputs[i]? = some s → p'.inputs[i]? = some s' →
        ∀ sl, (i, sl) ∈ L ↔ slotValue s' sl ≠ slotValue s sl :=
  (signWith_tr O signer auth p p' n ws h).countAdded hfresh

/-! ### (e) completeness, as far as the code provides it -/

/-- after a successful run, for every private key `sg` of the signer and every input whose flag the policy authorises:
    * not taproot: if `sg`'s own SEC key or its HASH160 occurs in the script, `partial_sigs` has an entry under that key;
      for every derivation entry `sg` controls, `partial_sigs` has an entry under the entry's key;
    * taproot: for `sg`'s own key and every derived key it controls: if the tweaked key occurs in the scriptPubKey the
      final witness is a single signature; otherwise every leaf script containing the key has an entry
      `x-only key ‖ TapLeaf hash` in `taproot_sigs`.
    (by (b)/(c) every such entry that was not there before is a valid signature by a key of the signer; an entry that
    was there before is kept unless the same slot is signed again) -/
theorem complete (O : Ops HD) (OL : OrderLaws O) (signer : Signer HD) (auth : Option Nat) (p p' : Psbt)
    (n : Nat) (ws : List Write) (h : signWith O signer auth p = some (p', n, ws))
    (sg : Single HD) (hsg : sg ∈ signer.keys) (hpriv : sg ≠ .keyPub) (i : Nat) (s : InScope) (u : TxOut) (f : Nat)
    (hs : p.inputs[i]? = some s) (hu : s.utxo = some u)
    (hpol : signPolicy auth s.sighashType (isTaprootSpk u.spk) = some f) :
    ∃ s', p'.inputs[i]? = some s' ∧ InputDone O sg s u s' :=
  signWith_complete O OL signer auth p p' n ws h sg hsg hpriv i s u f hs hu hpol

/-- an input whose flag is not authorised is not touched -/
theorem unauthorised_untouched (O : Ops HD) (OL : OrderLaws O) (signer : Signer HD) (auth : Option Nat)
    (p p' : Psbt) (n : Nat) (ws : List Write) (h : signWith O signer auth p = some (p', n, ws))
    (i : Nat) (s s' : InScope) (u : TxOut) (hs : p.inputs[i]? = some s) (hs' : p'.inputs[i]? = some s')
    (hu : s.utxo = some u) (hpol : signPolicy auth s.sighashType (isTaprootSpk u.spk) = none) :
    ∀ w ∈ ws, w.1 ≠ i := by
  intro w hw hwi
  obtain ⟨sg, _, s0, u0, f, h1, h2, h3, _⟩ := signWith_just O OL signer auth p p' n ws h w hw
  rw [hwi, hs] at h1; cases h1
  rw [hu] at h2; cases h2
  rw [hpol] at h3; cases h3

/-! ### PSBTView.sign_with: the stream variant

`viewSignWith … = some (b, n, p', ws)`: `b` the bytes written to `sig_stream`, `n` the returned counter; ghost: `p'` the PSBT
formed by the per-input scopes the view signs in memory (never stored by the code), `ws` the trace. The per-input signing
code is the in-memory one (`signInput`), so (a)–(e) hold of `p'` verbatim, and `b` is the serialisation of the signature
fields of `p'`. -/

/-- the bytes written: for every input, if the signer has a private key and the input's flag is authorised, the final
    witness (if it has items) and all `taproot_sigs` pairs (taproot) or all `partial_sigs` pairs (otherwise) of the
    signed copy — existing entries included —, then the separator `00`; and the signed copies differ from the parsed
    scopes at most in the three signature fields -/
theorem view_stream_and_frame (O : Ops HD) (OL : OrderLaws O) (signer : Signer HD) (auth : Option Nat) (p : Psbt)
    (b : Bytes) (n : Nat) (p' : Psbt) (ws : List Write) (h : viewSignWith O signer auth p = some (b, n, p', ws)) :
    b = viewStream signer.keys auth p.inputs p'.inputs ∧ p'.inputs.length = p.inputs.length ∧
    (∀ (i : Nat) s s', p.inputs[i]? = some s → p'.inputs[i]? = some s' → core s' = core s) ∧
    p' = applyWrites p ws := by
  obtain ⟨t, hb, _, _⟩ := viewSignWith_spec O OL signer auth p b n p' ws h
  have hf := t.frame
  exact ⟨hb, hf.2.2.2.2.2.2.1, hf.2.2.2.2.2.2.2, t.app⟩

theorem view_frame_sigs (O : Ops HD) (OL : OrderLaws O) (signer : Signer HD) (auth : Option Nat) (p : Psbt)
    (b : Bytes) (n : Nat) (p' : Psbt) (ws : List Write) (h : viewSignWith O signer auth p = some (b, n, p', ws))
    (i : Nat) (s s' : InScope) (hs : p.inputs[i]? = some s) (hs' : p'.inputs[i]? = some s') :
    (∃ extra, s'.partialSigs.map Prod.fst = s.partialSigs.map Prod.fst ++ extra) ∧
    (∃ extra, s'.tapSigs.map Prod.fst = s.tapSigs.map Prod.fst ++ extra) ∧
    (∀ sl, (∀ v, (i, sl, v) ∉ ws) → slotValue s' sl = slotValue s sl) ∧
    (∀ sl v, (i, sl, v) ∈ ws → ∃ v', (i, sl, v') ∈ ws ∧ slotValue s' sl = some v') ∧
    (s'.finalWitness = s.finalWitness ∨ ∃ v, (i, Slot.tapKeySig, v) ∈ ws ∧ s'.finalWitness = some [v]) :=
  (viewSignWith_spec O OL signer auth p b n p' ws h).1.frameSigs i s s' hs hs'

/-- (b) for the stream variant -/
theorem view_added_sigs_authorised (O : Ops HD) (OL : OrderLaws O) (signer : Signer HD) (auth : Option Nat)
    (p : Psbt) (b : Bytes) (n : Nat) (p' : Psbt) (ws : List Write)
    (h : viewSignWith O signer auth p = some (b, n, p', ws))
    (i : Nat) (s s' : InScope) (hs : p.inputs[i]? = some s) (hs' : p'.inputs[i]? = some s') (sl : Slot) (v : Bytes)
    (hv : slotValue s' sl = some v) (hnew : slotValue s sl ≠ some v) :
    ∃ sg ∈ signer.keys, JustifiedAt O sg auth p (i, sl, v) := by
  obtain ⟨t, _, hj, _⟩ := viewSignWith_spec O OL signer auth p b n p' ws h
  exact hj _ (new_content_written p p' n ws t i s s' hs hs' sl v hv hnew)

/-- (c) for the stream variant: every signature written to the stream that was not in the PSBT verifies under its key
    against the digest of the PSBT the stream holds -/
theorem view_added_sigs_valid (O : Ops HD) (OL : OrderLaws O) (vs : Bytes → Bool)
    (ev sv : Bytes → Bytes → Bytes → Bool) (SL : SigLaws O vs ev sv) (signer : Signer HD) (auth : Option Nat)
    (p : Psbt) (b : Bytes) (n : Nat) (p' : Psbt) (ws : List Write)
    (h : viewSignWith O signer auth p = some (b, n, p', ws))
    (i : Nat) (s s' : InScope) (hs : p.inputs[i]? = some s) (hs' : p'.inputs[i]? = some s') (hkeys : KeysValid vs s)
    (sl : Slot) (v : Bytes) (hv : slotValue s' sl = some v) (hnew : slotValue s sl ≠ some v) :
    ∃ u, s.utxo = some u ∧ C02.authorisedFlag auth s.sighashType (isTaprootSpk u.spk) ∧
      ValidWrite ev sv O s u (C02.effective auth s.sighashType (isTaprootSpk u.spk))
        (fun f leaf => psbtSighash O.sha p i f leaf) (sl, v) := by
  obtain ⟨sg, _, hj⟩ := view_added_sigs_authorised O OL signer auth p b n p' ws h i s s' hs hs' sl v hv hnew
  obtain ⟨s0, u, h1, h2, h3, h4⟩ := justified_flag O sg auth p _ hj
  rw [hs] at h1; cases h1
  exact ⟨u, h2, h3, h4.valid SL hkeys⟩

/-- (d) for the stream variant -/
theorem view_count_eq_slots (O : Ops HD) (OL : OrderLaws O) (signer : Signer HD) (auth : Option Nat)
    (p : Psbt) (b : Bytes) (n : Nat) (p' : Psbt) (ws : List Write)
    (h : viewSignWith O signer auth p = some (b, n, p', ws)) :
    ∃ L : List (Nat × Slot), L.Nodup ∧ L.length = n ∧ ∀ x, x ∈ L ↔ x ∈ ws.map Write.slot :=
  (viewSignWith_spec O OL signer auth p b n p' ws h).1.distinct

theorem view_count_eq_added (O : Ops HD) (OL : OrderLaws O) (signer : Signer HD) (auth : Option Nat)
    (p : Psbt) (b : Bytes) (n : Nat) (p' : Psbt) (ws : List Write)
    (h : viewSignWith O signer auth p = some (b, n, p', ws))
    (hfresh : ∀ w ∈ ws, ∀ s, p.inputs[w.1]? = some s → slotValue s w.2.1 ≠ some w.2.2) :
    ∃ L : List (Nat × Slot), L.Nodup ∧ L.length = n ∧
      ∀ (i : Nat) s s', p.inputs[i]? = some s → p'.inputs[i]? = some s' →
        ∀ sl, (i, sl) ∈ L ↔ slotValue s' sl ≠ slotValue s sl :=
  (viewSignWith_spec O OL signer auth p b n p' ws h).1.countAdded hfresh

/-- (e) for the stream variant -/
theorem view_complete (O : Ops HD) (OL : OrderLaws O) (signer : Signer HD) (auth : Option Nat)
    (p : Psbt) (b : Bytes) (n : Nat) (p' : Psbt) (ws : List Write)
    (h : viewSignWith O signer auth p = some (b, n, p', ws))
    (sg : Single HD) (hsg : sg ∈ signer.keys) (hpriv : sg.isPrivate = true) (i : Nat) (s : InScope) (u : TxOut) (f : Nat)
    (hs : p.inputs[i]? = some s) (hu : s.utxo = some u)
    (hpol : signPolicy auth s.sighashType (isTaprootSpk u.spk) = some f) :
    ∃ s', p'.inputs[i]? = some s' ∧ InputDone O sg s u s' :=
  (viewSignWith_spec O OL signer auth p b n p' ws h).2.2.2 sg hsg hpriv i s u f hs hu hpol

/-- the two variants agree: `PSBTView.sign_with` over the PSBT the stream holds signs exactly the scopes
    `PSBT.sign_with` produces and returns the same counter, and one raises iff the other does (the in-memory variant
    runs key-major, the stream variant input-major, over the same per-input function whose digests only read the frame) -/
theorem view_eq_memory (O : Ops HD) (signer : Signer HD) (auth : Option Nat) (p : Psbt) :
    (viewSignWith O signer auth p).map (fun r => (r.2.2.1, r.2.1))
      = (signWith O signer auth p).map (fun r => (r.1, r.2.1)) :=
  viewSignWith_eq_signWith O signer auth p

/-- … so the bytes written are the signature fields of the PSBT the in-memory variant returns -/
theorem view_stream_of_memory (O : Ops HD) (OL : OrderLaws O) (signer : Signer HD) (auth : Option Nat) (p p' : Psbt)
    (n : Nat) (ws : List Write) (h : signWith O signer auth p = some (p', n, ws)) :
    ∃ ws', viewSignWith O signer auth p = some (viewStream signer.keys auth p.inputs p'.inputs, n, p', ws') := by
  have he := view_eq_memory O signer auth p
  rw [h] at he
  cases hv : viewSignWith O signer auth p with
  | none => rw [hv] at he; simp at he
  | some r =>
    obtain ⟨b, n', q, ws'⟩ := r
    rw [hv] at he
    simp only [Option.map_some, Option.some.injEq, Prod.mk.injEq] at he
    obtain ⟨rfl, rfl⟩ := he
    obtain ⟨_, hb, _, _⟩ := viewSignWith_spec O OL signer auth p b n' q ws' hv
    exact ⟨ws', by rw [hb]⟩

-- (`SigLaws` is proved of the environment built from the C07 / C09 / C10 models — the environment the driver runs — relative
--  to the curve laws in Props/C02Y.lean: `sigLaws_concrete`, `added_sigs_valid_concrete`, `added_sigs_valid_standards`.)

set_option maxRecDepth 100000

/-! ### non-vacuity: a toy environment satisfying the laws, and runs of the model that sign -/

/-- a toy environment: public key = first byte of the secret, signatures name the signer's public key -/
def toyOps : Ops (List Nat) where
  sha := fun b => [UInt8.ofNat (b.length % 256)]
  hash160 := fun b => b.take 2
  secOf := fun sk _ => [0x02, sk.headD 0]
  derive := fun r path => some (r ++ path)
  hdSecret := fun r => r.map UInt8.ofNat
  hdFingerprint := fun _ => [1, 2, 3, 4]
  tapTweak := fun sk _ => some (sk.map (· + 0x70))
  ecdsaSign := fun sk h => some ([0x30, sk.headD 0] ++ sk ++ h)
  schnorrSign := fun sk h => some ([0x40, sk.headD 0] ++ sk ++ h)
  orderD := id
  orderK := List.reverse

def toyEv (pub _m sig : Bytes) : Bool := pub.take 1 == [0x02] && sig.take 2 == [0x30, (pub.drop 1).headD 0]
def toySv (xo _m sig : Bytes) : Bool := sig.take 2 == [0x40, xo.headD 0]

theorem toy_orderLaws : OrderLaws toyOps := ⟨fun _ => List.Perm.refl _, fun l => List.reverse_perm l⟩

/-- toy validity of an encoding: not 65 bytes long (the toy has no uncompressed keys) -/
def toyValid (pub : Bytes) : Bool := pub.length != 65

theorem toy_sigLaws : SigLaws toyOps toyValid toyEv toySv := by
  refine ⟨?_, ?_, ?_⟩
  · intro sk c m sig hs
    simp only [toyOps, Option.some.injEq] at hs
    subst hs
    simp [toyEv, toyOps]
  · intro sk m sig pub hv hs hc
    simp only [toyOps, Option.some.injEq] at hs hc
    subst hs
    have hlen : pub.length ≠ 65 := by simpa [toyValid] using hv
    simp only [compressSec, hlen, if_false] at hc
    subst hc
    simp [toyEv]
  · intro sk c m sig hs
    simp only [toyOps, Option.some.injEq] at hs
    subst hs
    simp [toySv, toyOps, xonlyOfSec]

def toyOut : OutScope := { value := some 900, spk := some [0x51] }
def toyPsbt (ins : List InScope) : Psbt := { version := some 2, inputs := ins, outputs := [toyOut] }

/-- non-taproot input whose script contains the key `02 07`; a derivation entry for key `02 05` at path 5/1 -/
def toyIn : InScope :=
  { txid := some [1], vout := some 0, witnessUtxo := some { value := 1000, spk := [0x51, 0x02, 0x07, 0xac] },
    bip32 := [([0x02, 0x05], { fingerprint := [1, 2, 3, 4], path := [5, 1] })] }

/-- taproot input: output key `77 07` (the tweak of secret 07 …), one leaf script containing the x-only key `05` -/
def toyTap : InScope :=
  { txid := some [2], vout := some 1,
    witnessUtxo := some { value := 2000, spk := [0x51, 0x20, 0x77, 0x07] ++ List.replicate 30 0x11 },
    tapScripts := [([0xc0], [0x20, 0x05, 0xac, 0xc0])],
    tapBip32 := [([0x05], ([], { fingerprint := [1, 2, 3, 4], path := [5, 1] }))] }

theorem toy_keysValid : KeysValid toyValid toyIn := by
  refine ⟨fun e he => ?_, fun e he => ?_⟩
  · simp only [toyIn, List.mem_singleton] at he
    subst he; decide
  · simp [toyIn] at he

def runOf (r : Option (Psbt × Nat × List Write)) :=
  r.map (fun r => (r.2.1, r.2.2.map (fun w => (w.1, w.2.1))))

-- the key itself occurs in the script: one ECDSA signature
example : runOf (signWith toyOps (.single (.wif [7, 9] true)) (some 1) (toyPsbt [toyIn]))
    = some (1, [(0, .partialSig [2, 7])]) := by decide +kernel
-- an HD key: the derivation entry
example : runOf (signWith toyOps (.single (.hd [])) none (toyPsbt [toyIn]))
    = some (1, [(0, .partialSig [2, 5])]) := by decide +kernel
-- a descriptor key with origin 5: path 5/1 minus the origin
example : runOf (signWith toyOps (.single (.keyHd [5] (some ([1, 2, 3, 4], [5])))) none (toyPsbt [toyIn]))
    = some (1, [(0, .partialSig [2, 5])]) := by decide +kernel
-- taproot key path (WIF key 07) and script path (HD key, leaf key 05), a descriptor holding both
example : runOf (signWith toyOps (.descriptor [.wif [7] true, .keyPub, .hd []]) (some 0) (toyPsbt [toyIn, toyTap]))
    = some (4, [(0, .partialSig [2, 7]), (1, .tapKeySig), (0, .partialSig [2, 5]),
        (1, .tapScriptSig ([5] ++ taggedHash toyOps.sha "TapLeaf" ([0xc0] ++ scriptSer [0x20, 0x05, 0xac])))]) := by
  decide +kernel
-- the PSBT asks for NONE|ANYONECANPAY, the caller authorised ALL: nothing is signed
example : runOf (signWith toyOps (.single (.wif [7, 9] true)) (some 1)
    (toyPsbt [{ toyIn with sighashType := some 0x82 }])) = some (0, []) := by decide +kernel
-- a descriptor holding the same HD key twice: every signature is filed twice, counted once
example : runOf (signWith toyOps (.descriptor [.hd [], .hd []]) none (toyPsbt [toyIn]))
    = some (1, [(0, .partialSig [2, 5]), (0, .partialSig [2, 5])]) := by decide +kernel

-- the stream variant: the descriptor of the example above; both inputs are written (existing entries included), each
-- followed by the separator
example : (viewSignWith toyOps (.descriptor [.wif [7] true, .keyPub, .hd []]) (some 0) (toyPsbt [toyIn, toyTap])).map
      (fun r => (r.1, r.2.1))
    = some ([3, 2, 2, 7, 5, 48, 7, 7, 1, 1, 3, 2, 2, 5, 6, 48, 5, 5, 1, 1, 1, 0,
             1, 8, 6, 1, 4, 64, 119, 119, 22, 3, 20, 5, 7, 5, 64, 5, 5, 1, 28, 0], 4) := by decide +kernel
example : (viewSignWith toyOps (.single (.wif [7, 9] true)) (some 1)
      (toyPsbt [{ toyIn with partialSigs := [([2, 9], [0xaa])] }])).map (fun r => (r.1, r.2.1))
    = some ([3, 2, 2, 9, 1, 170, 3, 2, 2, 7, 6, 48, 7, 7, 9, 1, 1, 0], 1) := by decide +kernel

/-- `count_eq_added` applied to a run on a PSBT without signatures: its hypothesis holds -/
example : ∃ L : List (Nat × Slot), L.Nodup ∧ L.length = 1 ∧
    ∀ (i : Nat) s s', (toyPsbt [toyIn]).inputs[i]? = some s →
      (toyPsbt [{ toyIn with partialSigs := [([2, 7], [0x30, 7, 7, 9, 1, 1])] }]).inputs[i]? = some s' →
      ∀ sl, (i, sl) ∈ L ↔ slotValue s' sl ≠ slotValue s sl := by
  have h : signWith toyOps (.single (.wif [7, 9] true)) (some 1) (toyPsbt [toyIn])
      = some (toyPsbt [{ toyIn with partialSigs := [([2, 7], [0x30, 7, 7, 9, 1, 1])] }], 1,
          [(0, .partialSig [2, 7], [0x30, 7, 7, 9, 1, 1])]) := by rfl
  refine count_eq_added toyOps _ _ _ _ _ _ h ?_
  intro w hw s hs
  rw [List.mem_singleton] at hw
  subst hw
  simp only [toyPsbt, List.getElem?_cons_zero, Option.some.injEq] at hs
  subst hs
  decide

/-! ### witnesses -/

/-- an existing `partial_sigs` entry under a key that signs is REPLACED (the frame theorem cannot say "no existing
    signature is altered"): the foreign value `aa` filed under the signer's key `02 07` is overwritten -/
theorem existing_sig_replaced_witness :
    (signWith toyOps (.single (.wif [7, 9] true)) (some 1)
      (toyPsbt [{ toyIn with partialSigs := [([2, 7], [0xaa])] }])).map (fun r => (r.2.1, r.1.inputs.map (·.partialSigs)))
    = some (1, [[([2, 7], [0x30, 7, 7, 9, 1, 1])]]) := by decide +kernel

/-- `count_eq_added` needs its hypothesis: signing a PSBT that the same key signed already files the same two signatures
    again and returns 2 again, while nothing in the PSBT changes (the behaviour the repo's tests pin: the counter counts
    signatures filed by the call, not entries that are new) -/
theorem resign_counts_again_witness :
    ((signWith toyOps (.single (.hd [])) none (toyPsbt [toyIn, toyTap])).bind
      (fun r => (signWith toyOps (.single (.hd [])) none r.1).map
        (fun r2 => (r.2.1, r2.2.1, r2.1.inputs.map (fun s => (s.partialSigs, s.tapSigs))
                      == r.1.inputs.map (fun s => (s.partialSigs, s.tapSigs))))))
    = some (2, 2, true) := by decide +kernel

/-- a slot written twice within one call counts once, also when the two signatures differ: two secrets (paths 5/1 and
    5/2) with the same public key `02 05`, listed as taproot and as ordinary derivation of a non-taproot input -/
theorem slot_twice_counts_once_witness :
    runOf (signWith toyOps (.single (.hd [])) none
      (toyPsbt [{ toyIn with tapBip32 := [([0x05], ([], { fingerprint := [1, 2, 3, 4], path := [5, 2] }))] }]))
    = some (1, [(0, .partialSig [2, 5]), (0, .partialSig [2, 5])]) := by decide +kernel

/-- the check before fix c02x-01 compared x-only keys also for ECDSA entries -/
def keyMatchesOld (O : Ops (List Nat)) (secret pub : Bytes) : Bool :=
  xonlyOfSec (O.secOf secret true) = xonlyOfSec pub

/-- … so an entry naming the key with the other parity (`03 05` for the derived `02 05`) passed, and the signature was
    filed under a key it does not verify under; the fixed check refuses the entry -/
theorem old_xonly_check_witness :
    keyMatchesOld toyOps [5, 1] [0x03, 0x05] = true ∧ keyMatches toyOps false [5, 1] [0x03, 0x05] = false ∧
    toyEv [0x03, 0x05] [1] ((toyOps.ecdsaSign [5, 1] [1]).getD []) = false := by decide +kernel


/-- the main theorems applied to a run of the toy environment: the new `partial_sigs` entry is valid -/
example : ∃ u, toyIn.utxo = some u ∧ C02.authorisedFlag (some 1) toyIn.sighashType (isTaprootSpk u.spk) ∧
    ValidWrite toyEv toySv toyOps toyIn u (C02.effective (some 1) toyIn.sighashType (isTaprootSpk u.spk))
      (fun f leaf => psbtSighash toyOps.sha (toyPsbt [toyIn]) 0 f leaf) (.partialSig [2, 7], [0x30, 7, 7, 9, 1, 1]) := by
  have h : signWith toyOps (.single (.wif [7, 9] true)) (some 1) (toyPsbt [toyIn])
      = some (toyPsbt [{ toyIn with partialSigs := [([2, 7], [0x30, 7, 7, 9, 1, 1])] }], 1,
          [(0, .partialSig [2, 7], [0x30, 7, 7, 9, 1, 1])]) := by rfl
  exact added_sigs_valid toyOps toy_orderLaws toyValid toyEv toySv toy_sigLaws _ _ _ _ _ _ h 0 toyIn _ rfl rfl
    toy_keysValid (.partialSig [2, 7]) _ (by decide +kernel) (by decide +kernel)

end Embit.Props.C02X
