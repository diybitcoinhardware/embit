import EmbitModel.Props.C19Facts
import EmbitModel.Props.C19X
import EmbitModel.Generated.AliasNames
/-
  C19, completeness of the extracted tables (audit2 A-7; part2-C19-C20 X3/X4; first audit A8/I3).

  `Gen.Alias.sites` / `sharedSites` hold one record per HAZARD the translator found. `facts_safe_partial`,
  `unsafe_sites_exactly`, `shared_facts_safe` quantify over those tables and hold over the empty table; only 33 site names
  were pinned from below. Here the tables are bounded by an enumeration made in a brand-new interpreter by routes the
  translator does not use (`Generated/AliasNames.lean`, harness/aliasnames.py): every live function object of the package
  (gc), every parameter whose default VALUE is a mutable object, every mutable object bound at module / class level.
  A module that drops out of the translator's walk, or a function / default / object it no longer reports, breaks the build.
-/
namespace Embit.Props.C19
open Embit Embit.Heap Embit.Gen.AliasNames

set_option maxRecDepth 1000000

/-- strictly ascending: no duplicate keys -/
def ascending : List Nat → Bool
  | a :: b :: l => decide (a < b) && ascending (b :: l)
  | _ => true

/-- `a ⊆ b` for ascending lists, by one merge pass -/
def subAsc : List Nat → List Nat → Bool
  | [], _ => true
  | _ :: _, [] => false
  | a :: as, b :: bs => if a = b then subAsc as bs else if b < a then subAsc (a :: as) bs else false

def noDupNames : List String → Bool
  | [] => true
  | a :: l => !(l.any (· == a)) && noDupNames l

/-- keys of the live functions of the package -/
def reachableKeys : List Nat := reachableFns.map (·.1)

/-- merge of two ascending lists -/
def mergeAsc : List Nat → List Nat → List Nat
  | [], l => l
  | l, [] => l
  | a :: as, b :: bs => if a < b then a :: mergeAsc as (b :: bs) else if b < a then b :: mergeAsc (a :: as) bs
      else a :: mergeAsc as bs
termination_by a b => a.length + b.length

/-- everything the translator analysed, plus the named exemptions -/
def scannedOrExempt : List Nat := mergeAsc (mergeAsc scannedLoaded scannedAstOnly) (unscannedExempt.map (·.1))

/-- no duplicate keys in the enumeration and in the translator's own list of analysed functions -/
theorem function_keys_distinct :
    ascending reachableKeys = true ∧ ascending scannedLoaded = true ∧ ascending scannedAstOnly = true
      ∧ ascending (unscannedExempt.map (·.1)) = true := by decide +kernel

/-- COMPLETENESS of the translator's walk: every function object alive after importing the whole package was analysed by
    the translator (or is in the named exemption list `Gen.AliasNames.unscannedExempt`, empty at present) -/
theorem every_reachable_function_scanned : subAsc reachableKeys scannedOrExempt = true := by decide +kernel

/-- vice versa: every function the translator took from the loaded modules is a live function of the enumeration, and no
    exemption is claimed for a function that was analysed -/
theorem every_scanned_function_reachable :
    subAsc scannedLoaded reachableKeys = true
      ∧ (unscannedExempt.all fun e => !scannedLoaded.contains e.1 && reachableKeys.contains e.1) = true := by
  decide +kernel

/-- the site of the table that speaks about the default of `name` (= "module.qualname(param)") -/
def defaultSiteSafe (name : String) : Bool :=
  Gen.Alias.sites.any fun s => s.name == name && s.safe &&
    (match s.kind with
     | .ctorParam _ => true
     | .mutableDefault _ => true
     | .sharedConstantDefault => true
     | _ => false)

/-- "no shared mutable default" restated over the ENUMERATION: every parameter of every live function whose default value
    is a list / dict / set / bytearray has a site of a default-argument kind in the table, and that site is safe (copied
    or guarded by the constructor, only read, or a constant table shared by design) - unless it is named in one of the
    two exclusion lists `contractMutators` / `knownUnsafe` (none is, `no_default_is_excluded`; `knownUnsafe` is empty
    since D31 was repaired, `knownUnsafe_is_empty`) -/
theorem every_mutable_default_has_a_safe_site :
    (mutableDefaults.all fun n => defaultSiteSafe n || contractMutators.contains n || knownUnsafe.contains n) = true := by
  -- kind and safety are tested before the name
  simp only [defaultSiteSafe, Bool.and_assoc, Bool.and_comm (Site.name _ == _)]
  decide +kernel

theorem no_default_is_excluded :
    (mutableDefaults.all fun n => !contractMutators.contains n && !knownUnsafe.contains n) = true := by decide +kernel

/-- "no hidden module state" restated over the ENUMERATION: every distinct mutable object bound at module or class level
    has, under one of the names it is bound to, a `sharedObject` site in `Gen.Alias.sharedSites`, confirmed safe by an
    executed probe -/
theorem every_shared_object_has_a_safe_site :
    (sharedObjects.all fun o => Gen.Alias.sharedSites.any fun s =>
      (match s.kind with | .sharedObject _ => true | _ => false) && s.safe && o.2.any (· == s.name)) = true := by
  decide +kernel

/-- vice versa: every `sharedObject` site of the table is one of the enumerated objects -/
theorem every_shared_object_site_is_enumerated :
    (Gen.Alias.sharedSites.all fun s =>
      (match s.kind with | .sharedObject _ => false | _ => true) ||
        sharedObjects.any fun o => o.2.any (· == s.name)) = true := by decide +kernel

/-- the tables have no duplicate keys (site names are what the exclusion lists and the known finding refer to) -/
theorem site_names_distinct :
    noDupNames (Gen.Alias.sites.map (·.name)) = true ∧ noDupNames (Gen.Alias.sharedSites.map (·.name)) = true
      ∧ noDupNames (Gen.Alias.memoKeys.map (·.1)) = true := by decide +kernel

/-- the exact exclusion list (`C19X.unsafe_sites_exactly`) together with the lower bounds: the unsafe rows of the table
    are exactly the contract mutators (no recorded defect is excused any more: D31 is repaired, round 6), AND the table is complete for the enumeration, so "everything else is safe" speaks
    about every live function's defaults and every module- / class-level object, not about whatever rows were emitted -/
theorem unsafe_sites_exactly_over_the_enumeration :
    (Gen.Alias.sites.all fun s => (!s.safe) == contractMutators.contains s.name) = true
      ∧ subAsc reachableKeys scannedOrExempt = true
      ∧ (mutableDefaults.all fun n => defaultSiteSafe n) = true
      ∧ (sharedObjects.all fun o => Gen.Alias.sharedSites.any fun s => s.safe && o.2.any (· == s.name)) = true := by
  refine ⟨unsafe_sites_exactly, every_reachable_function_scanned, List.all_eq_true.2 fun n hn => ?_,
    List.all_eq_true.2 fun o ho => ?_⟩
  · have h := List.all_eq_true.1 every_mutable_default_has_a_safe_site n hn
    have hx := List.all_eq_true.1 no_default_is_excluded n hn
    simp only [Bool.and_eq_true, Bool.not_eq_true'] at hx
    simpa only [hx.1, hx.2, Bool.or_false] using h
  · obtain ⟨s, hs, h⟩ := List.any_eq_true.1 (List.all_eq_true.1 every_shared_object_has_a_safe_site o ho)
    simp only [Bool.and_eq_true] at h
    exact List.any_eq_true.2 ⟨s, hs, Bool.and_eq_true _ _ ▸ ⟨h.1.2, h.2⟩⟩

/-- non-vacuity: the enumeration is large, the translator analysed as many functions, and defaults / objects exist -/
example : (decide (700 ≤ reachableKeys.length) && decide (700 ≤ scannedLoaded.length)
    && decide (10 ≤ mutableDefaults.length) && decide (15 ≤ sharedObjects.length)
    && decide (unscannedExempt.length = 0)) = true := by decide +kernel

end Embit.Props.C19
