import EmbitModel.Proofs.Heap
/-
  C19 — results depend only on arguments: no hidden shared state, no argument mutation.

  Part 1 (model): for the object store of `Model/Heap.lean` and EVERY history of public operations (construct with
  defaults / with fresh literals / from another object, mutate one object, query with arbitrary arguments; no
  bound on length or pool size): if no constructor stores a default object or a container of its source, no method
  writes through its argument and no memo is keyed on nothing, then objects created independently are independent,
  argument objects are never changed, and every answer is a function of the receiver's contents and the arguments.
  Each hypothesis is necessary: witness theorems exhibit the dependence for an unsafe descriptor.

  Part 2 (facts) is `Props/C19Facts.lean`: the descriptors of the real code are the GENERATED `Gen.Alias.sites`;
  `facts_safe_partial` is the obligation that breaks (at build time) when the code (re)introduces a shared default, a
  memo keyed on nothing, an argument mutation, a shared out-buffer, or anything the translator cannot classify.
  (Two files so that a regression in the code breaks exactly the theorems about the code.)
-/
namespace Embit.Props.C19
open Embit Embit.Heap

/-! ### Part 1 — theorems about all histories -/

/-- a state reached by some history from the state right after import -/
def Reachable (env : Env) (st : State) : Prop :=
  ∃ (d : Nat) (dflt : Nat → List Val) (h : List Op), st = run env (init d dflt) h

theorem reachable_inv {env : Env} (hs : env.classesSafe = true) {st : State} (hr : Reachable env st) : Inv st := by
  obtain ⟨d, dflt, h, rfl⟩ := hr
  exact run_inv hs h (inv_init d dflt)

/-- **independence**: after any history, mutating object `i` (with or without cache invalidation) leaves what can
    be seen of every other object `j` unchanged — provided no constructor stores its default object (or a container
    of the object it is built from) by reference -/
theorem independence (env : Env) (hs : env.classesSafe = true) (st : State) (hr : Reachable env st)
    (i j f : Nat) (v : Val) (hij : i ≠ j) (hj : j < st.objs.length) :
    obs (step env st (.mutate i f v)) j = obs st j ∧ obs (step env st (.mutateRaw i f v)) j = obs st j := by
  have hI := reachable_inv hs hr
  constructor
  · apply step_obs hs hI _ j hj
    intro f' v'; constructor
    · intro h; cases h; exact hij rfl
    · intro h; cases h
  · apply step_obs hs hI _ j hj
    intro f' v'; constructor
    · intro h; cases h
    · intro h; cases h; exact hij rfl

/-- the same over whole continuations: whatever happens to the other objects (construction, mutation, queries, in any
    number and order), object `j` shows the same contents as long as `j` itself is not mutated -/
theorem independence_history (env : Env) (hs : env.classesSafe = true) (st : State) (hr : Reachable env st)
    (j : Nat) (hj : j < st.objs.length) :
    ∀ ops : List Op, (∀ op ∈ ops, ∀ f v, op ≠ .mutate j f v ∧ op ≠ .mutateRaw j f v) →
      obs (run env st ops) j = obs st j := by
  have hI := reachable_inv hs hr
  clear hr
  intro ops
  induction ops generalizing st with
  | nil => intro _; rfl
  | cons op ops ih =>
    intro h
    simp only [run]
    rw [ih (step env st op) (Nat.lt_of_lt_of_le hj (step_objs_length hs st op)) (step_inv hs hI op)
      (fun o ho => h o (List.mem_cons_of_mem _ ho))]
    exact step_obs hs hI op j hj (h op List.mem_cons_self)

/-- **no argument mutation**: if no method writes through its argument, every argument object the caller holds
    shows the same contents after any further history -/
theorem no_arg_mutation (env : Env) (hs : env.classesSafe = true) (hm : env.noArgMutation = true)
    (st : State) (hr : Reachable env st) (k : Nat) (hk : k < st.pool.length) :
    ∀ ops : List Op, argObs (run env st ops) k = argObs st k := by
  have hI := reachable_inv hs hr
  clear hr
  intro ops
  induction ops generalizing st with
  | nil => rfl
  | cons op ops ih =>
    simp only [run]
    rw [ih (step env st op) (Nat.lt_of_lt_of_le hk (step_pool_length hs st op)) (step_inv hs hI op)]
    exact step_argObs hs hm hI op k hk

/-- **results depend only on the receiver and the arguments**: after any history whose mutations invalidate the memos
    (`mutate` = change + `clear_cache()`), every query answers `f m (contents of the receiver) (contents of the
    argument)` — nothing that was constructed, mutated elsewhere or computed before enters -/
theorem result_depends_only_on_receiver_and_args (env : Env) (hs : env.classesSafe = true)
    (hk : env.memosKeyed = true) (d : Nat) (dflt : Nat → List Val) (h : List Op)
    (hraw : (h.all fun o => !o.isRaw) = true) (i m k : Nat) :
    answer env (run env (init d dflt) h) i m k
      = env.f m (obs (run env (init d dflt) h) i) (argObs (run env (init d dflt) h) k) := by
  obtain ⟨_, hM⟩ := run_memoInv hs hk h (inv_init d dflt) (memoInv_init env d dflt) hraw
  exact answer_eq hM (memoKind_keyed hk m) i k

theorem run_append (env : Env) : ∀ (h qs : List Op) (s : State), run env (run env s h) qs = run env s (h ++ qs) := by
  intro h
  induction h with
  | nil => intro qs s; rfl
  | cons o os ih => intro qs s; simp only [run, List.cons_append]; exact ih qs _

/-- **query stability**: repeating a query with the same arguments gives the same answer, whatever queries (on any
    object, with any arguments) were made in between -/
theorem query_stable (env : Env) (hs : env.classesSafe = true) (hk : env.memosKeyed = true)
    (hm : env.noArgMutation = true) (d : Nat) (dflt : Nat → List Val) (h qs : List Op)
    (hraw : (h.all fun o => !o.isRaw) = true) (hq : (qs.all Op.isQuery) = true)
    (i m k : Nat) (hi : i < (run env (init d dflt) h).objs.length) (hkk : k < (run env (init d dflt) h).pool.length) :
    answer env (run env (run env (init d dflt) h) qs) i m k = answer env (run env (init d dflt) h) i m k := by
  have hrun : run env (run env (init d dflt) h) qs = run env (init d dflt) (h ++ qs) := run_append env h qs _
  have hraw2 : ((h ++ qs).all fun o => !o.isRaw) = true := by
    rw [List.all_append, hraw, Bool.true_and]
    apply List.all_eq_true.mpr
    intro o ho
    have := List.all_eq_true.mp hq o ho
    cases o <;> simp [Op.isQuery, Op.isRaw] at this ⊢
  rw [hrun, result_depends_only_on_receiver_and_args env hs hk d dflt (h ++ qs) hraw2,
    result_depends_only_on_receiver_and_args env hs hk d dflt h hraw, ← hrun]
  have hr : Reachable env (run env (init d dflt) h) := ⟨d, dflt, h, rfl⟩
  rw [no_arg_mutation env hs hm _ hr k hkk qs]
  rw [independence_history env hs _ hr i hi qs]
  intro op hop f v
  have := List.all_eq_true.mp hq op hop
  cases op <;> simp [Op.isQuery] at this ⊢

/-! ### the hypotheses are necessary (witnesses on the model) and satisfiable -/

def fHash : Nat → List (List Val) → List Val → Val := fun _ recv a => recv.flatten.sum + 100 * a.sum

/-- `class Tx: def __init__(self, vin=[]): self.vin = vin` and a method with a memo keyed on nothing that appends
    to its argument -/
def envUnsafe : Env :=
  { classes := [⟨[.storesDefault], false⟩], methods := [⟨.keyedOnNothing, false⟩, ⟨.uncached, true⟩],
    defaultRef := fun _ _ => 0, f := fHash }

/-- the repaired library: None-guard / copy, memo keyed on the arguments, no write through the argument -/
def envSafe : Env :=
  { classes := [⟨[.noneGuard, .copies], true⟩], methods := [⟨.keyedOnArgs, false⟩, ⟨.uncached, false⟩],
    defaultRef := fun _ p => p, f := fHash }

def s0 : State := init 2 (fun _ => [])

/-- `a = Tx(); b = Tx(); a.vin.append(7)` — `b.vin` is `[7]` -/
theorem shared_default_breaks_independence :
    let st := run envUnsafe s0 [.construct 0 [], .construct 0 []]
    obs st 1 = [[]] ∧ obs (step envUnsafe st (.mutate 0 0 7)) 1 = [[7]] := by
  decide

/-- `p = PSBT(tx)` storing the containers of `tx` by reference: mutating `tx` changes `p` -/
theorem shared_source_breaks_independence :
    let st := run envUnsafe s0 [.construct 0 [some [1]], .constructFrom 0 0]
    obs st 1 = [[1]] ∧ obs (step envUnsafe st (.mutate 0 0 7)) 1 = [[1, 7]] := by
  decide

/-- `t.digest([1])` then `t.digest([2])` with a memo keyed on nothing: the second answer is the first one's, while a
    fresh object answers differently -/
theorem stale_memo :
    let st := run envUnsafe s0 [.construct 0 [some [5]], .newArg [1], .newArg [2]]
    answer envUnsafe st 0 0 1 = 205 ∧
    answer envUnsafe (step envUnsafe st (.query 0 0 0)) 0 0 1 = 105 := by
  decide

/-- `mnemonic_from_bytes(e)` with `e += checksum`: the caller's bytearray is longer afterwards -/
theorem mutating_method_changes_argument :
    let st := run envUnsafe s0 [.construct 0 [some [5]], .newArg [1]]
    argObs st 0 = [1] ∧ argObs (step envUnsafe st (.query 0 1 0)) 0 = [1, 0] := by
  decide

/-- mutating the receiver WITHOUT invalidating the memo gives a stale answer even for a memo keyed on the arguments:
    `clear_cache()` after a direct mutation is part of the contract (histories use `mutate`, not `mutateRaw`) -/
theorem stale_after_raw_mutation :
    let st := run envSafe s0 [.construct 0 [some [5], none], .newArg [1], .query 0 0 0]
    answer envSafe (step envSafe st (.mutateRaw 0 0 3)) 0 0 0 = 105 ∧
    answer envSafe (step envSafe st (.mutate 0 0 3)) 0 0 0 = 108 := by
  decide

example : envSafe.classesSafe = true ∧ envSafe.memosKeyed = true ∧ envSafe.noArgMutation = true := by decide

/-- non-vacuity of the theorems: the safe library has non-trivial histories, and on them the statements hold with
    distinct objects, non-empty containers and different arguments -/
example :
    let st := run envSafe s0 [.construct 0 [], .construct 0 [some [4], some [9]], .newArg [1], .newArg [2],
      .query 0 0 0, .mutate 0 0 7, .query 0 0 1, .query 1 0 0]
    st.objs.length = 2 ∧ obs st 0 = [[7], []] ∧ obs st 1 = [[4], [9]] ∧
    answer envSafe st 0 0 0 = 107 ∧ answer envSafe st 0 0 1 = 207 ∧ answer envSafe st 1 0 0 = 113 := by
  decide

end Embit.Props.C19
