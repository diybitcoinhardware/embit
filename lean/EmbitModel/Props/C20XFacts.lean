import EmbitModel.Props.C20X
import EmbitModel.Props.C20Facts
/-
  C20, deepened, part 2 — the machine with context contents instantiated with the facts PROBED from the loaded binding
  module on this run (Generated/BindingFacts.lean). Which native symbols write the context is read off the recorded
  symbol names (`ctxWriterSyms`: the API functions whose context parameter is not `const`).
-/
namespace Embit.Props.C20
open Embit.Model.Lock Embit.Model.LockCtx Embit.Gen.Binding

set_option maxRecDepth 100000

/-- every native call of the binding layer that WRITES the library context (`secp256k1_context_create`,
    `secp256k1_context_randomize`, …) is made while holding the library's lock -/
theorem context_writers_locked : ∀ f ∈ bindingFns, stepsCtxWritesLocked f.steps = true := by decide +kernel

/-- the probe has seen context writers: module import, `_init` and `context_randomize` write the context (so the
    statement above and the theorems below are about something) -/
theorem context_writers_present :
    (["<import>", "_init", "context_randomize"].all fun n =>
      bindingFns.any fun f => f.name == n && stepsWriteCtx f.steps) = true := by decide +kernel

/-- programs of probed binding functions follow the discipline, also as programs of the machine with context contents -/
theorem binding_programs_csafe (threads : List (List BindingFn))
    (hin : ∀ ops ∈ threads, ∀ f ∈ ops, f ∈ bindingFns ∧ f.callsNative = true) (t : Tid) :
    csafe t (progsOfC (threads.map (·.map (·.steps))) t) = true := by
  unfold csafe
  rw [show (progsOfC (threads.map (·.map (·.steps))) t).map erase = _ from congrFun (erase_progsOfC _) t]
  exact progsOf_table_safe bindingFns (fun f hf => (facts_consistent f hf).2) every_entry_locked buffers_fresh threads hin t

/-- programs of binding-backed operations of the probed module in the machine where the context has contents, every
    call reads it and `_init` / `context_randomize` rewrite it: any threads, any operation sequences, any complete
    schedule — the results are the serial ones and the context is left consistent -/
theorem binding_ctx_serialisable (threads : List (List BindingFn))
    (hin : ∀ ops ∈ threads, ∀ f ∈ ops, f ∈ bindingFns ∧ f.callsNative = true) (sched : List Tid) :
    let progs := progsOfC (threads.map (·.map (·.steps)))
    ccomplete (crun sched (cinit progs)) →
    (∀ t, (crun sched (cinit progs)).res t = (crun (cserialSched progs threads.length) (cinit progs)).res t)
      ∧ (crun sched (cinit progs)).ctxA = (crun sched (cinit progs)).ctxB := by
  intro progs hc
  have hs := binding_programs_csafe threads hin
  have hn : ∀ t, threads.length ≤ t → progs t = [] := by
    intro t ht
    simp only [progs, progsOfC]
    rw [List.getElem?_eq_none (by simpa using ht)]
  exact ⟨ctx_serialisable progs threads.length hs hn sched hc, ctx_consistent_when_complete progs hs sched hc⟩

/-- … and every fair schedule of such programs completes (round robin as the instance) -/
theorem binding_round_robin_completes (threads : List (List BindingFn))
    (hin : ∀ ops ∈ threads, ∀ f ∈ ops, f ∈ bindingFns ∧ f.callsNative = true) (k : Nat) :
    let progs := progsOf (threads.map (·.map (·.steps)))
    threads.length * totalTicks progs threads.length ≤ k →
    complete (run (pref (· % threads.length) k) (init progs)) :=
  round_robin_completes _ threads.length
    (progsOf_table_safe bindingFns (fun f hf => (facts_consistent f hf).2) every_entry_locked buffers_fresh threads hin)
    (progsOf_steps_beyond threads) k

/-- non-vacuity: `context_randomize` against `ecdsa_sign`, the writer scheduled while the signer is inside its native
    call (it is blocked): complete, serial results, context consistent and randomised -/
example :
    let fns := fun n => (bindingFns.filter (·.name == n)).map (·.steps)
    let progs := progsOfC [fns "ecdsa_sign", fns "context_randomize"]
    let sched := [0, 0, 1, 1, 0, 0, 0, 1, 1, 1, 1]
    (crun sched (cinit progs)).rest 0 = [] ∧ (crun sched (cinit progs)).rest 1 = []
      ∧ (crun sched (cinit progs)).res 0 = [token 0 0]
      ∧ (crun sched (cinit progs)).ctxA = token 1 0 ∧ (crun sched (cinit progs)).ctxB = token 1 0 := by
  decide +kernel

end Embit.Props.C20
