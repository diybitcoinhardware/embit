import EmbitModel.Proofs.LiquidTxRoundtrip
import EmbitModel.Proofs.Blech32
import EmbitModel.Model.Liquid
import EmbitModel.Proofs.LiquidBlind
import EmbitModel.Proofs.LiquidBalance
import EmbitModel.Proofs.PsetScope
import EmbitModel.Proofs.LiquidAddr
/-
  C18 — Liquid: confidential transactions round-trip, blind soundly and unblind exactly.

  PARTIAL by construction: range proofs, surjection proofs and Pedersen commitments live in the prebuilt
  libsecp256k1-zkp. Here: everything that is logic (codecs, key-value losslessness, the derivation of every
  blinding factor, the decision logic of `verify()` / `unblind()`, balance relative to explicit algebraic laws,
  blech32). What the C library actually does is observed in differential runs (harness/liquid_worker.py) and is
  never presented as proved.

  `Model.*` = model of embit (tied to the repository by the correspondence check), `Spec.LWire.*` = the Elements
  wire format, `Zkp` = the commitment library as arbitrary functions.
-/
namespace Embit.Props.C18
open Embit Model Spec.LWire

/-! ## 1. Liquid transactions round-trip (as C03) -/

/-- on well-formed transactions embit's serialiser is the Elements wire encoding -/
theorem ltx_ser_eq_wire (t : LTx) (h : WF t) : LTx.ser t = encode t := LTx.ser_eq_encode t h

/-- serialise-then-parse is the identity, field for field (inputs with issuance / peg-in flags, explicit and
    committed outputs, all four witness parts) -/
theorem ltx_roundtrip (t : LTx) (h : WF t) : LTx.parse (LTx.ser t) = some t := LTx.exact.parseAll_ser t h

/-- anything the parser accepts is the Elements encoding of the (well-formed) transaction it returns -/
theorem ltx_parse_sound (b : Bytes) (t : LTx) (h : LTx.parse b = some t) : Decodes b t :=
  (LTx.exact_wire.parseAll_iff b t).mp h

/-- the parser accepts exactly the wire format -/
theorem ltx_parse_iff (b : Bytes) (t : LTx) : LTx.parse b = some t ↔ Decodes b t := LTx.exact_wire.parseAll_iff b t

theorem ltx_reencode (b : Bytes) (t : LTx) (h : LTx.parse b = some t) : LTx.ser t = b :=
  LTx.exact.parseAll_iff.reencode h

/-- one byte string, one transaction -/
theorem ltx_wire_unique (b : Bytes) (t t' : LTx) (h : Decodes b t) (h' : Decodes b t') : t = t' :=
  LTx.exact_wire.parseAll_iff.enc_inj h.1 h'.1 (h.2.trans h'.2.symm)

/-- every proper truncation of a valid encoding is rejected (after the `liquid-strict-reads` fix) -/
theorem ltx_truncated_rejected (b : Bytes) (t : LTx) (h : Decodes b t) (k : Nat) (hk : k < b.length) :
    LTx.parse (b.take k) = none := by
  obtain ⟨hwf, rfl⟩ := h
  exact LTx.exact_wire.truncated t hwf k hk

/-- every extension of a valid encoding by trailing bytes is rejected -/
theorem ltx_trailing_rejected (b : Bytes) (t : LTx) (h : Decodes b t) (e : Bytes) (he : e ≠ []) :
    LTx.parse (b ++ e) = none := by
  obtain ⟨hwf, rfl⟩ := h
  exact LTx.exact_wire.trailing t hwf e he

/-- the flag byte of an accepted encoding is 0 or 1, and it is 1 exactly when some witness is non-empty
    (no unknown flags, no superfluous witness record) -/
theorem ltx_flag (b : Bytes) (t : LTx) (h : LTx.parse b = some t) :
    (b.drop 4).head? = some (if hasWitness t then 1 else 0) := by
  obtain ⟨hwf, he⟩ := ltx_parse_sound b t h
  rw [← he]
  unfold encode
  split <;> simp [List.append_assoc, leN_length]

/-- the layers on their own: inputs (issuance / peg-in flags in bits 31 / 30 of the index), outputs, witnesses -/
theorem lin_roundtrip (i : LTxIn) (r : Bytes) (h : WFIn i) :
    LTxIn.read (LTxIn.ser i ++ r) = some ({ i with witness := {} }, r) := LTxIn.read_ser i r h
theorem lin_sound (b r : Bytes) (i : LTxIn) (h : LTxIn.read b = some (i, r)) :
    b = LTxIn.ser i ++ r ∧ WFIn i := ⟨(LTxIn.read_sound h).1, (LTxIn.read_sound h).2.1⟩
theorem lout_roundtrip (o : LTxOut) (r : Bytes) (h : WFOut o) :
    LTxOut.read (LTxOut.ser o ++ r) = some ({ o with witness := {} }, r) := LTxOut.read_ser o r h
theorem lout_sound (b r : Bytes) (o : LTxOut) (h : LTxOut.read b = some (o, r)) :
    b = LTxOut.ser o ++ r ∧ WFOut o := ⟨(LTxOut.read_sound h).1, (LTxOut.read_sound h).2.1⟩
theorem lwitness_roundtrip (wi : LInWitness) (wo : LOutWitness) (r : Bytes) (hi : WFInWitness wi)
    (ho : WFOutWitness wo) :
    LInWitness.read (LInWitness.ser wi ++ r) = some (wi, r) ∧ LOutWitness.read (LOutWitness.ser wo ++ r) = some (wo, r) :=
  ⟨LInWitness.read_ser wi r hi, LOutWitness.read_ser wo r ho⟩

/-- the issuance flag is bit 31 and the peg-in flag bit 30 of the index that is written -/
theorem index_flags (i : LTxIn) (h : i.vout < 2^30) :
    (LTxIn.wireVout i).testBit 31 = i.issuance.isSome ∧ (LTxIn.wireVout i).testBit 30 = i.isPegin
    ∧ LTxIn.wireVout i % 2^30 = i.vout := by
  unfold LTxIn.wireVout
  cases i.issuance <;> cases i.isPegin <;>
    simp [Nat.testBit, Nat.shiftRight_eq_div_pow] <;> omega

/-- explicit values are written big-endian (`0x01` ‖ 8 bytes), unlike Bitcoin's little-endian amounts -/
theorem explicit_value_big_endian (v : Nat) : LValue.ser (.explicit v) = 1 :: (leN 8 v).reverse := rfl

/-! ## 2. `LOutputScope.verify()` is sound as decision logic -/


/-- the asset statement `verify()` establishes: the stated asset, blinded with the stated factor, IS the generator
    committed to — or, without a factor, the asset proof verifies against it in the library -/
def AssetConsistent (Z : Zkp) (o : VerifyView) (a gen : Bytes) : Prop :=
  Z.generatorParse (o.assetCommitment.getD []) = some gen ∧
  ((truthyB o.abf = true ∧ Z.generatorGenerateBlinded a (o.abf.getD []) = some gen)
   ∨ (truthyB o.abf = false ∧ truthyB o.assetProof = true ∧
      ∃ proof ga, Z.surjectionproofParse (o.assetProof.getD []) = some proof ∧ Z.generatorGenerate a = some ga
        ∧ Z.surjectionproofVerify proof [ga] gen = true))

/-- the value statement: the commitment to the stated value under the stated factor and the verified generator
    serialises to the stated commitment — or, without a factor, the value proof is an exact-value range proof
    `[v, v]` for the stated commitment -/
def ValueConsistent (Z : Zkp) (o : VerifyView) (v : Nat) (gen : Bytes) : Prop :=
  (truthyB o.vbf = true ∧ ∃ c, Z.pedersenCommit (o.vbf.getD []) v gen = some c
      ∧ Z.pedersenCommitmentSerialize c = some (o.valueCommitment.getD []))
  ∨ (truthyB o.vbf = false ∧ truthyB o.valueProof = true ∧
      ∃ c, Z.pedersenCommitmentParse (o.valueCommitment.getD []) = some c
        ∧ Z.rangeproofVerify (o.valueProof.getD []) c [] gen = some (v, v))

/-- every consistency predicate the property names, for one output -/
structure Consistent (Z : Zkp) (o : VerifyView) : Prop where
  /-- a stated asset next to an asset commitment is tied to it -/
  asset : ∀ a, o.asset = some a → truthyB o.assetCommitment = true → ∃ gen, AssetConsistent Z o a gen
  /-- a stated value next to a value commitment is tied to it, through an asset that was itself verified -/
  value : ∀ v, o.value = some v → truthyB o.valueCommitment = true →
    ∃ a gen, o.asset = some a ∧ truthyB o.assetCommitment = true ∧ AssetConsistent Z o a gen ∧ ValueConsistent Z o v gen
  /-- a raw commitment in the place of the stated value never passes next to a value commitment -/
  raw : o.valueIsRaw = true → o.value = none → truthyB o.valueCommitment = false

private theorem verifyAsset_spec (Z : Zkp) (o : VerifyView) (g : Option Bytes) (h : verifyAsset Z o = some g) :
    (g = none ∧ (o.asset = none ∨ truthyB o.assetCommitment = false))
    ∨ (∃ a gen, g = some gen ∧ o.asset = some a ∧ truthyB o.assetCommitment = true ∧ AssetConsistent Z o a gen) := by
  unfold verifyAsset at h
  split at h
  · rename_i ha
    simp at h; subst h
    exact Or.inl ⟨rfl, Or.inl ha⟩
  · rename_i a ha
    split at h
    · rename_i hc
      simp at h; subst h
      exact Or.inl ⟨rfl, Or.inr (by simpa using hc)⟩
    · rename_i hc
      have hc' : truthyB o.assetCommitment = true := by simpa using hc
      split at h
      · simp at h
      · rename_i hev
        split at h
        · simp at h
        · rename_i gen hgen
          split at h
          · rename_i habf
            split at h
            · simp at h
            · rename_i g' hg'
              split at h
              · rename_i heq
                simp at h; subst h; subst heq
                exact Or.inr ⟨a, gen, rfl, ha, hc', hgen, Or.inl ⟨habf, hg'⟩⟩
              · simp at h
          · rename_i habf
            have habf' : truthyB o.abf = false := by simpa using habf
            have hap : truthyB o.assetProof = true := by
              simp [habf'] at hev
              exact hev
            split at h
            · simp at h
            · rename_i proof hproof
              split at h
              · simp at h
              · rename_i ga hga
                split at h
                · rename_i hver
                  simp at h; subst h
                  exact Or.inr ⟨a, gen, rfl, ha, hc', hgen, Or.inr ⟨habf', hap, proof, ga, hproof, hga, hver⟩⟩
                · simp at h

private theorem verifyValue_spec (Z : Zkp) (o : VerifyView) (g : Option Bytes) (h : verifyValue Z o g = true) :
    (∀ v, o.value = some v → truthyB o.valueCommitment = true → ∃ gen, g = some gen ∧ ValueConsistent Z o v gen)
    ∧ (o.valueIsRaw = true → o.value = none → truthyB o.valueCommitment = false) := by
  unfold verifyValue at h
  split at h
  · rename_i h0
    simp at h0
    refine ⟨fun v hv => by simp [h0.1] at hv, fun hr => by simp [h0.2] at hr⟩
  · rename_i h0
    split at h
    · rename_i hvc
      have hvc' : truthyB o.valueCommitment = false := by simpa using hvc
      exact ⟨fun v _ hc => by simp [hvc'] at hc, fun _ _ => hvc'⟩
    · rename_i hvc
      split at h
      · simp at h
      · rename_i gen
        split at h
        · simp at h
        · rename_i hev
          split at h
          · simp at h
          · rename_i value hvalue
            refine ⟨?_, fun _ hn => by simp [hvalue] at hn⟩
            intro v hv _
            rw [hvalue] at hv; simp at hv; subst hv
            refine ⟨gen, rfl, ?_⟩
            split at h
            · rename_i hvbf
              split at h
              · simp at h
              · rename_i c hc
                split at h
                · simp at h
                · rename_i ser hser
                  have : o.valueCommitment.getD [] = ser := by simpa using h
                  exact Or.inl ⟨hvbf, c, hc, by rw [hser, this]⟩
            · rename_i hvbf
              have hvbf' : truthyB o.vbf = false := by simpa using hvbf
              have hvp : truthyB o.valueProof = true := by
                simp [hvbf'] at hev
                exact hev
              split at h
              · simp at h
              · rename_i c hc
                split at h
                · simp at h
                · rename_i mn mx hr
                  simp at h
                  obtain ⟨h1, h2⟩ := h
                  subst h1; subst h2
                  exact Or.inr ⟨hvbf', hvp, c, hc, hr⟩

/-- MAIN: `verify()` returning True means every consistency predicate was evaluated and held -/
theorem verify_sound (Z : Zkp) (o : VerifyView) (h : verifyView Z o = true) : Consistent Z o := by
  unfold verifyView at h
  split at h
  · simp at h
  · rename_i g hg
    obtain ⟨hv, hraw⟩ := verifyValue_spec Z o g h
    rcases verifyAsset_spec Z o g hg with ⟨rfl, hskip⟩ | ⟨a, gen, rfl, ha, hc, hcons⟩
    · refine ⟨?_, ?_, hraw⟩
      · intro a ha hc
        rcases hskip with h1 | h1
        · simp [h1] at ha
        · simp [h1] at hc
      · intro v hv' hc'
        obtain ⟨gen, hgen, _⟩ := hv v hv' hc'
        simp at hgen
    · refine ⟨?_, ?_, hraw⟩
      · intro a' ha' _
        rw [ha] at ha'; simp at ha'; subst ha'
        exact ⟨gen, hcons⟩
      · intro v hv' hc'
        obtain ⟨gen', hgen, hval⟩ := hv v hv' hc'
        simp at hgen; subst hgen
        exact ⟨a, gen, ha, hc, hcons, hval⟩

theorem lout_verify_sound (Z : Zkp) (s : LOutScope) (h : LOutScope.verify Z s = true) : Consistent Z s.view :=
  verify_sound Z s.view h

/-! the defect that was repaired (D26): the old truthiness tests skipped the checks for value 0 / asset b"" -/

def nullZkp : Zkp where
  generatorParse := fun _ => none
  generatorSerialize := fun _ => none
  generatorGenerate := fun _ => none
  generatorGenerateBlinded := fun _ _ => none
  pedersenCommit := fun _ _ _ => none
  pedersenCommitmentParse := fun _ => none
  pedersenCommitmentSerialize := fun _ => none
  blindSum := fun _ _ _ _ => none
  surjectionproofParse := fun _ => none
  surjectionproofSerialize := fun _ => none
  surjectionproofVerify := fun _ _ _ => false
  surjectionproofInitialize := fun _ _ _ _ _ => none
  surjectionproofGenerate := fun _ _ _ _ _ _ => none
  rangeproofVerify := fun _ _ _ _ => none
  rangeproofSign := fun _ _ _ _ _ _ _ _ _ _ => none
  pubkeyOfSecret := fun _ => none
  ecdhNonce := fun _ _ => none

/-- a stated value of 0 next to a value commitment, nothing else -/
def zeroValueView : VerifyView :=
  { asset := none, assetCommitment := none, abf := none, assetProof := none, value := some 0,
    valueCommitment := some [8, 1], vbf := none, valueProof := none }

/-- the old `verify()` accepted a stated value of 0 against ANY commitment, with a library that verifies nothing;
    the repaired one refuses it -/
theorem old_verify_skips_zero_value :
    verifyViewOld nullZkp zeroValueView = true ∧ verifyView nullZkp zeroValueView = false
    ∧ ¬ Consistent nullZkp zeroValueView := by
  refine ⟨by decide, by decide, ?_⟩
  intro hc
  obtain ⟨a, gen, ha, _⟩ := hc.value 0 rfl (by decide)
  simp [zeroValueView] at ha

/-- for every library: the old logic passes value 0 as soon as the asset stage passes or is skipped -/
theorem old_verify_zero_value_unchecked (Z : Zkp) (o : VerifyView) (h0 : o.value = some 0) (ha : o.asset = none) :
    verifyViewOld Z o = true := by
  simp [verifyViewOld, ha, truthyB, verifyAsset, h0]


/-! ## 3. `PSET.blind(seed)` is deterministic: the derivation of every factor -/

/-- `PSET.blind(seed)`: every blinding factor, nonce and commitment of the result is determined by the seed, the
    PSET and the (deterministic) library — the asset blinding factor of output `i` is the tagged hash
    `liquid/abf` of `txseed ‖ i`, its value blinding factor is the tagged hash `liquid/vbf` of `txseed ‖ i`, EXCEPT for
    the last blinded output whose factor is the library's blind-sum over exactly the values / factors of the
    unblinded inputs and the blinded outputs; the ECDH key is the public key of the tagged hash
    `liquid/range_proof`; the commitments are the library's generator / Pedersen commitment of exactly these.
    Outputs without blinding key or value are returned unchanged. (`txseed` itself is the tagged hash
    `liquid/txseed` of seed ‖ outpoints ‖ scripts.) -/
theorem blind_deterministic (Z : Zkp) (sha : Bytes → Bytes) (seed : Bytes) (ins : List BlindIn)
    (outs res : List BlindOut) (h : blind Z sha seed ins outs = some res) :
    res.length = outs.length ∧
    ∃ a lastVbf, sumArgs ins (assignFactors sha (txseed sha seed ins outs) 0 outs) = some a
      ∧ Z.blindSum a.vals a.abfs a.vbfs a.nIn = some lastVbf ∧
    ∀ i o, outs[i]? = some o → ∃ r, res[i]? = some r ∧
      (o.selected = false → r = o) ∧
      (o.selected = true →
        r.abf = some (taggedHash sha "liquid/abf" (txseed sha seed ins outs ++ idx4 i))
        ∧ r.vbf = some (if isLastSelected outs i then lastVbf
                        else taggedHash sha "liquid/vbf" (txseed sha seed ins outs ++ idx4 i))
        ∧ r.ecdhPubkey = Z.pubkeyOfSecret (taggedHash sha "liquid/range_proof" (txseed sha seed ins outs ++ idx4 i))
        ∧ ∃ asset value gen vc, o.asset = some asset ∧ o.value = some value
            ∧ Z.generatorGenerateBlinded asset (r.abf.getD []) = some gen ∧ Z.generatorSerialize gen = r.assetCommitment
            ∧ Z.pedersenCommit (r.vbf.getD []) value gen = some vc ∧ Z.pedersenCommitmentSerialize vc = r.valueCommitment) := by
  obtain ⟨hlen, a, lv, ha, hlv, hall⟩ := blind_pointwise Z sha seed ins outs res h
  refine ⟨hlen, a, lv, ha, hlv, fun i o ho => ?_⟩
  obtain ⟨r, hr, hns, hsel⟩ := hall i o ho
  refine ⟨r, hr, hns, fun hs => ?_⟩
  obtain ⟨⟨_, _, _, _, s5, s6⟩, ⟨asset, value, abf, vbf, gen, vc, e1, e2, e3, e4, e5, e6, e7, e8⟩, hecdh, _⟩ :=
    (hsel hs).spec
  cases e3; cases e4
  exact ⟨s5, s6, hecdh, asset, value, gen, vc, e1, e2, by rw [s5]; exact e5, e6, by rw [s6]; exact e7, e8⟩

/-- consequence: blinding is a function of (seed, inputs, the outputs' script / value / asset / blinding key) only —
    blinding state left over from an earlier run (factors, commitments, proofs of the outputs to be blinded) has
    no influence on the factors -/
theorem blind_ignores_stale_factors (sha : Bytes → Bytes) (ts : Bytes) (i : Nat) (o : BlindOut) (x y : Option Bytes)
    (hs : o.selected = true) :
    withFactors sha ts i { o with abf := x, vbf := y } = withFactors sha ts i o := by
  have : ({ o with abf := x, vbf := y } : BlindOut).selected = true := by simpa [BlindOut.selected] using hs
  simp [withFactors, hs, this]

/-- the seed of the transaction binds the seed, every outpoint and every output script -/
theorem txseed_def (sha : Bytes → Bytes) (seed : Bytes) (ins : List BlindIn) (outs : List BlindOut) :
    txseed sha seed ins outs = taggedHash sha "liquid/txseed"
      (seed ++ ins.flatMap (fun i => i.txid.reverse ++ leN 4 i.vout) ++ outs.flatMap (fun o => scriptSer o.spk)) := rfl



/-! ## 4. Balance, relative to the library's specified algebra (hypothesis `ZkpLaws`, never an axiom) -/

section balance
variable {R M : Type} [CommRing R] [AddCommGroup M] [Module R M]

/-- Σ commit(inputs) − Σ commit(blinded outputs) = Σ plain(inputs) − Σ plain(blinded outputs) for exactly the values
    and factors `blind` hands to `pedersen_blind_generator_blind_sum` and the last factor it gets back: the blinding
    cancels, what remains is the unblinded amount the explicit outputs and the fee must account for -/
theorem balance {Z : Zkp} {A : ZkpAlg R M} (L : ZkpLaws Z A) (sha : Bytes → Bytes) (seed : Bytes)
    (ins : List BlindIn) (outs res : List BlindOut) (h : blind Z sha seed ins outs = some res) (assets : List Bytes) :
    ∃ a lastVbf, sumArgs ins (assignFactors sha (txseed sha seed ins outs) 0 outs) = some a
      ∧ Z.blindSum a.vals a.abfs a.vbfs a.nIn = some lastVbf
      ∧ (assets.length = a.vals.length →
          let es : List (Entry R) := mkEntries A a.vals assets a.abfs (setLast a.vbfs lastVbf)
          ((es.take a.nIn).map (Entry.commit A)).sum - ((es.drop a.nIn).map (Entry.commit A)).sum
            = ((es.take a.nIn).map (Entry.plain A)).sum - ((es.drop a.nIn).map (Entry.plain A)).sum) :=
  balance_of_blind L sha seed ins outs res h assets

/-- Σ commit(inputs) = Σ commit(blinded outputs) + Σ v·H(asset) over explicit outputs and fee, given value
    conservation and cancelling blinding terms -/
theorem balance_fee (A : ZkpAlg R M) (ins outs explicit : List (Entry R))
    (h : (ins.map Entry.term).sum = (outs.map Entry.term).sum)
    (hv : (ins.map (Entry.plain A)).sum = (outs.map (Entry.plain A)).sum + (explicit.map (Entry.plain A)).sum) :
    (ins.map (Entry.commit A)).sum = (outs.map (Entry.commit A)).sum + (explicit.map (Entry.plain A)).sum :=
  balance_with_fee A ins outs explicit h hv

/-- the commitment `blind` stores for an output decodes to `v·(H(asset) + abf·G) + vbf·G` -/
theorem commitment_decodes {Z : Zkp} {A : ZkpAlg R M} (L : ZkpLaws Z A) (asset abf vbf gen c : Bytes) (v : Nat)
    (hg : Z.generatorGenerateBlinded asset abf = some gen) (hc : Z.pedersenCommit vbf v gen = some c) :
    A.point c = Entry.commit A { v := v, asset := asset, abf := A.scalar abf, vbf := A.scalar vbf } :=
  commit_decodes L asset abf vbf gen c v hg hc

end balance

/-- non-vacuity of the balance hypotheses: integers as scalars and points, one input of 10 split into 7 + 3 -/
example : (([{ v := 10, asset := [1], abf := 5, vbf := 11 }] : List (Entry Int)).map Entry.term).sum
    = (([{ v := 7, asset := [1], abf := 2, vbf := 4 }, { v := 3, asset := [1], abf := 9, vbf := 16 }] : List (Entry Int)).map Entry.term).sum := by
  decide

/-- a toy library over the integers (points and scalars are integers, a point `n` is represented by `n` zero bytes):
    shows that the generator / commitment laws of `ZkpLaws` are satisfiable by non-trivial functions (its blind-sum
    never answers, so that law holds vacuously here; `balance_fee` has its own numeric example above) -/
def toyAlg : ZkpAlg Int Int := { G := 1, H := fun t => (ofBe t : Int), scalar := fun b => (ofBe b : Int), point := fun b => (b.length : Int) }

def toyZkp : Zkp :=
  { nullZkp with
    generatorGenerateBlinded := fun a r => some (List.replicate (ofBe a + ofBe r) 0)
    pedersenCommit := fun vbf v gen => some (List.replicate (v * gen.length + ofBe vbf) 0) }

example : ZkpLaws toyZkp toyAlg where
  generator := by
    intro asset abf g h
    simp [toyZkp] at h
    subst h
    simp [toyAlg]
  commit := by
    intro vbf v gen c h
    simp [toyZkp] at h
    subst h
    simp [toyAlg]
  blindSum := by
    intro vals abfs vbfs nIn r h
    simp [toyZkp, nullZkp] at h


/-! ## 5. Unblinding: what is stored was checked against both commitments -/

theorem unblind_sound (Z : Zkp) (utxoAsset utxoValue : Bytes) (rw : Rewound)
    (h : unblindAccept Z utxoAsset utxoValue rw = true) :
    ∃ gen cmt, Z.generatorGenerateBlinded rw.asset rw.abf = some gen ∧ Z.generatorParse utxoAsset = some gen
      ∧ Z.pedersenCommit rw.vbf rw.value gen = some cmt ∧ Z.pedersenCommitmentParse utxoValue = some cmt := by
  unfold unblindAccept at h
  split at h
  · rename_i gen g0 h1 h2
    split at h
    · simp at h
    · rename_i hne
      have : gen = g0 := by simpa using hne
      subst this
      split at h
      · rename_i cmt c0 h3 h4
        have : cmt = c0 := by simpa using h
        subst this
        exact ⟨gen, cmt, h1, h2, h3, h4⟩
      · simp at h
  · simp at h

/-! ## 6. PSET liquid fields are lossless at the key-value level (as C04) -/

/-- input scope: every pair read is written back with identical bytes (utxos as Liquid transactions / outputs, the
    15 proprietary fields, unknown proprietary keys, all bitcoin fields) -/
theorem lscope_lossless_input (ko : KeyOps) (ver : Option Nat) (kvs : List KV) (s0 s : LInScope)
    (hv : ver = some 2 ∨ InSeeded s0.base) (hne : ∀ kv ∈ kvs, kv.1 ≠ [])
    (h : LInScope.addPairs ko s0 kvs = some s) : ∀ kv ∈ kvs, kv ∈ s.pairs ver :=
  (LInScope.addPairs_lossless ko ver kvs s0 s hv hne h).1

/-- output scope: every pair read is written back with identical value under the key of the PSET's version (both
    spellings of a field are read, `canonKey` is the one written) -/
theorem lscope_lossless_output (ko : KeyOps) (ver : Option Nat) (kvs : List KV) (s0 s : LOutScope)
    (hv : ver = some 2 ∨ LOutSeeded s0) (hne : ∀ kv ∈ kvs, kv.1 ≠ [])
    (h : LOutScope.addPairs ko s0 kvs = some s) :
    (∀ kv ∈ kvs, (LOutField.canonKey ver kv.1, kv.2) ∈ s.pairsL ver)
    ∧ (s.valueConf = none → s.pairs ver = some (s.pairsL ver)) := by
  refine ⟨(LOutScope.addPairs_lossless ko ver kvs s0 s hv hne h).1, ?_⟩
  intro hc
  simp [LOutScope.pairs_eq, hc]

/-- a field given twice (for outputs: also once in each spelling) is refused, an integer field of the wrong length
    is refused — nothing is silently overwritten or re-sized -/
theorem lscope_duplicate_rejected (ko : KeyOps) (si : LInScope) (so : LOutScope) (k v : Bytes)
    (hl : isLiquidKey k = true) :
    (∀ f, LInField.ofKey k = some f → (lget si.lf f).isSome = true → LInScope.addPair ko si k v = none)
    ∧ (∀ f, LOutField.ofKey k = some f → (lget so.lf f).isSome = true → LOutScope.addPair ko so k v = none)
    ∧ (∀ f n, LInField.ofKey k = some f → f.len = some n → v.length ≠ n → LInScope.addPair ko si k v = none) :=
  ⟨fun f hf hs => LInScope.duplicate_field_rejected ko si k v f hl hf hs,
   fun f hf hs => LOutScope.duplicate_field_rejected ko so k v f hl hf hs,
   fun f n hf hn hv => LInScope.wrong_length_rejected ko si k v f n hl hf hn hv⟩

/-- the keys are the ones of the ELIP / Elements proprietary namespaces -/
theorem liquid_keys :
    LInField.key .value = [0xfc, 0x08, 0x65, 0x6c, 0x65, 0x6d, 0x65, 0x6e, 0x74, 0x73, 0x00]
    ∧ LInField.key .rangeProof = [0xfc, 0x04, 0x70, 0x73, 0x65, 0x74, 0x0e]
    ∧ LOutField.key true .valueCommitment = [0xfc, 0x04, 0x70, 0x73, 0x65, 0x74, 0x01]
    ∧ LOutField.key false .valueCommitment = [0xfc, 0x08, 0x65, 0x6c, 0x65, 0x6d, 0x65, 0x6e, 0x74, 0x73, 0x00]
    ∧ LOutField.key true .assetProof = [0xfc, 0x04, 0x70, 0x73, 0x65, 0x74, 0x0a] := by decide

-- The whole-PSET composition (`pset_parse_lossless`: framing, scope counts, global scope, version-0 transaction identity
-- outside the D53 region with the witness `pset_v0_tx_dropped_D53`), key uniqueness for whole scopes in what is read
-- (`lscope_keys_nodup_input/output`) and in what `write_to` emits (`lscope_written_perm_input/output`: the emitted
-- pairs are a permutation of the pairs read) are proved in Props/C18X.lean.

/-! ## 7. blech32 and confidential addresses -/

open Model.Blech32 Embit.Blech32 in
/-- a created checksum always verifies (any prefix, any data; polymod linearity over GF(2), no `bv_decide`) -/
theorem blech32_create_verify (hrp data : List Nat) :
    verifyChecksum hrp (data ++ createChecksum hrp data) = true := create_verify hrp data

open Model.Blech32 Embit.Blech32 in
/-- `blech32.decode(hrp, blech32.encode(hrp, ver, prog)) = (ver, prog)` for every byte string `prog` -/
theorem blech32_encode_decode (hrp : List Nat) (witver : Nat) (witprog addr : List Nat) (hh : HrpOk hrp)
    (hv : witver < 32) (hp : ∀ b ∈ witprog, b < 256) (he : Blech32.encode hrp witver witprog = some addr) :
    Blech32.decode hrp addr = some (witver, some witprog) := encode_decode hrp witver witprog addr hh hv hp he

open Embit.Blech32 in
/-- a confidential address of a witness-version-0 script decodes to the script and the blinding key
    (PARTIAL: version 0 only — see the witness below) -/
theorem confidential_address_roundtrip_partial (validSec : Bytes → Bool) (hrp : List Nat) (prog pub : Bytes)
    (addr : List Nat) (hh : HrpOk hrp) (hpub : pub.length = 33) (hvalid : validSec pub = true)
    (hprog : prog.length < 256)
    (he : confAddress hrp (0x00 :: UInt8.ofNat prog.length :: prog) pub = some addr) :
    confAddrDecode validSec hrp addr = some (0x00 :: UInt8.ofNat prog.length :: prog, pub) :=
  confAddr_roundtrip validSec hrp prog pub addr hh hpub hvalid hprog he

/-- witness for the excluded region: `addr_decode` ignores the witness version, so no address of a version ≥ 1
    script (first byte ≠ 0, e.g. taproot `0x51`) can decode to its script -/
theorem confidential_address_version_ignored (validSec : Bytes → Bool) (hrp addr : List Nat) (sc pub : Bytes)
    (h : confAddrDecode validSec hrp addr = some (sc, pub)) : sc.head? = some 0x00 :=
  confAddrDecode_version_ignored validSec hrp addr sc pub h

-- The base58 branch (`bp2sh` confidential and `p2sh` unconfidential addresses, incl. the dispatch of `addr_decode`) is
-- proved in Props/C18X.lean (`confidential_p2sh_address_roundtrip`, `p2sh_address_roundtrip`).

/-! ## 8. SLIP-77 -/

/-- the derivation is the one SLIP-0077 prescribes, for every HMAC -/
theorem slip77_spec (hmac512 hmac256 : Bytes → Bytes → Bytes) (seed mbk spk : Bytes) :
    slip77Master hmac512 seed
      = (hmac512 ((hmac512 "Symmetric key seed".toUTF8.toList seed).take 32) (0x00 :: "SLIP-0077".toUTF8.toList)).drop 32
    ∧ slip77BlindingKey hmac256 mbk spk = hmac256 mbk spk := ⟨rfl, rfl⟩

/-! ## non-vacuity -/

def exIssuance : Issuance :=
  { nonce := List.replicate 32 1, entropy := List.replicate 32 2, amount := .explicit 5,
    token := .conf (9 :: List.replicate 32 3) }

/-- one input with issuance and peg-in flag and a witness, one explicit and one confidential output -/
def exLTx : LTx :=
  { version := 2, locktime := 0,
    vin := [{ txid := List.replicate 32 7, vout := 1, scriptSig := [], sequence := 0xfffffffd, isPegin := true,
              issuance := some exIssuance, witness := { amountProof := [1, 2], scriptWitness := [[3]] } }],
    vout := [{ asset := List.replicate 32 4, value := .explicit 1000, nonce := none, spk := [] },
             { asset := 0x0a :: List.replicate 32 5, value := .conf (0x08 :: List.replicate 32 6),
               nonce := some (0x02 :: List.replicate 32 8), spk := [0x51],
               witness := { surjProof := [9], rangeProof := [10, 11] } }] }

set_option maxRecDepth 100000 in
example : LTx.parse (LTx.ser exLTx) = some exLTx := by decide +kernel
set_option maxRecDepth 100000 in
example : LTx.ser exLTx = encode exLTx := by decide +kernel
example : hasWitness exLTx = true := by decide
set_option maxRecDepth 100000 in
example : LTx.parse ((LTx.ser exLTx).take 100) = none := by decide +kernel
example : WFIndex { txid := [], vout := 1, scriptSig := [], sequence := 0, isPegin := true, issuance := some exIssuance } :=
  Or.inl ⟨by decide, by decide⟩

def trivialKo : KeyOps := { validSec := fun _ => true, validX := fun _ => true, validXpub := fun _ => true }

/-- an input scope with a value, an issuance amount of ZERO and an unknown proprietary key: all three are written back -/
example : (LInScope.addPairs trivialKo {} [(LInField.key .value, leN 8 7), (LInField.key .issueValue, leN 8 0),
    (psetTag ++ [0x7f], [1])]).map (fun s => s.pairs (some 2))
    = some [(psetTag ++ [0x7f], [1]), (LInField.key .value, leN 8 7), (LInField.key .issueValue, leN 8 0)] := by decide

/-- an output scope reading the legacy spelling writes the PSETv2 spelling; reading both is refused -/
example : ((LOutScope.addPairs trivialKo {} [(ek 0x00, [8, 1])]).map (fun s => s.pairsL (some 2)))
    = some [(pk 0x01, [8, 1])] := by decide
example : LOutScope.addPairs trivialKo {} [(ek 0x00, [8, 1]), (pk 0x01, [8, 1])] = none := by decide

/-- verify() passing on a fully stated output under a library that agrees -/
def agreeZkp : Zkp :=
  { nullZkp with
    generatorParse := fun _ => some [1], generatorGenerateBlinded := fun _ _ => some [1],
    pedersenCommit := fun _ _ _ => some [2], pedersenCommitmentSerialize := fun _ => some [8, 1] }

def fullView : VerifyView :=
  { asset := some [7], assetCommitment := some [0x0a], abf := some [3], assetProof := none, value := some 0,
    valueCommitment := some [8, 1], vbf := some [4], valueProof := none }

example : verifyView agreeZkp fullView = true := by decide
example : verifyView nullZkp fullView = false := by decide

end Embit.Props.C18
