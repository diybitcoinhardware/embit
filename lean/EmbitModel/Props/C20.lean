import EmbitModel.Proofs.Lock
/-
  C20 — concurrent use gives the serial results (PARTIAL: the GIL, ctypes and the C library are outside the model).

  (1) the protocol: for every number of threads, programs of any length and every schedule, a thread that follows the
      discipline (`safe`: native calls only while holding the lock, out-buffers private or — if shared — read only inside
      the lock hold that wrote them) gets the results it gets when run alone; complete schedules give the serial results.
  (2),(3) the facts probed from the loaded binding module on this run and their combination with (1):
      Props/C20Facts.lean (separate module, so that a drifted fact breaks only what depends on it).
  (4) the hypotheses are not vacuous: a shared out-buffer read after the release, and a native call outside the lock,
      each break serialisability in the model (concrete schedules).
-/
namespace Embit.Props.C20
open Embit.Model.Lock

/-! ### (1) the protocol -/

/-- after ANY schedule (any preemptions, complete or not) every thread's results are those of the part of its program
    executed so far, run alone -/
theorem results_prefix (progs : Tid → List Step) (hs : ∀ t, safe t none (progs t) = true) (sched : List Tid) (t : Tid) :
    ∃ pre, progs t = pre ++ (run sched (init progs)).rest t ∧ (run sched (init progs)).res t = solo pre :=
  results_prefix_aux hs sched t

/-- a thread that has finished returns what it returns if run alone -/
theorem results_alone (progs : Tid → List Step) (hs : ∀ t, safe t none (progs t) = true) (sched : List Tid) (t : Tid)
    (hdone : (run sched (init progs)).rest t = []) : (run sched (init progs)).res t = solo (progs t) :=
  results_complete_aux hs sched t hdone

/-- the serial execution (thread 0 to the end, then thread 1, …) never blocks and finishes every thread -/
theorem serial_completes (progs : Tid → List Step) (n : Nat) (hs : ∀ t, safe t none (progs t) = true)
    (hn : ∀ t, n ≤ t → progs t = []) : complete (run (serialSched progs n) (init progs)) :=
  serial_complete_aux hs n hn

/-- NO DEADLOCK: whatever has been scheduled so far (any preemptions), the run can be continued so that every thread
    finishes — so "the schedule completes" is never an empty condition -/
theorem can_always_finish (progs : Tid → List Step) (n : Nat) (hs : ∀ t, safe t none (progs t) = true)
    (hn : ∀ t, n ≤ t → progs t = []) (sched : List Tid) : ∃ ext, complete (run (sched ++ ext) (init progs)) :=
  can_finish_aux hs n hn sched

/-- `solo` is the machine itself running one thread -/
theorem solo_is_run_alone (p : List Step) (t : Tid) (hs : safe t none p = true) :
    (run (List.replicate (ticks p) t) (init (fun u => if u = t then p else []))).res t = solo p := by
  have hsafe : ∀ u, safe u none ((fun u => if u = t then p else []) u) = true := by
    intro u; by_cases h : u = t
    · subst h; simpa using hs
    · simp [h, safe]
  obtain ⟨ls', I, _, _, hdone⟩ := run_thread (progs := fun u => if u = t then p else []) t (ticks p) _ _
    (inv_init _ hsafe) (fun _ _ => rfl) (by simp [ticksLeft, init])
  have := results_complete_aux hsafe (List.replicate (ticks p) t) t hdone
  simpa using this

/-- SERIALISABLE: any number of threads, programs of any length, any schedule that lets every thread finish —
    each thread's results equal those of the serial execution -/
theorem serialisable (progs : Tid → List Step) (n : Nat) (hs : ∀ t, safe t none (progs t) = true)
    (hn : ∀ t, n ≤ t → progs t = []) (sched : List Tid) (hc : complete (run sched (init progs))) (t : Tid) :
    (run sched (init progs)).res t = (run (serialSched progs n) (init progs)).res t := by
  rw [results_complete_aux hs sched t (hc t),
      results_complete_aux hs (serialSched progs n) t (serial_complete_aux hs n hn t)]

/-- the statement in terms of per-function facts: if every function of a table reaches native code only under the lock
    and writes only fresh buffers (and the summaries describe the steps), every program built from the table — any
    number of threads, any number of operations — is serialisable -/
theorem serialisable_of_facts (table : List BindingFn)
    (hcons : ∀ f ∈ table, f.nativeUnderLock = stepsLocked false f.steps ∧ f.outBuffersFresh = stepsFresh f.steps)
    (hfacts : ∀ f ∈ table, f.nativeUnderLock = true ∧ f.outBuffersFresh = true)
    (threads : List (List BindingFn)) (hin : ∀ ops ∈ threads, ∀ f ∈ ops, f ∈ table)
    (sched : List Tid) :
    let progs := progsOf (threads.map (·.map (·.steps)))
    complete (run sched (init progs)) →
    ∀ t, (run sched (init progs)).res t = (run (serialSched progs threads.length) (init progs)).res t :=
  fun hc t => serialisable _ threads.length
    (progsOf_steps_safe threads fun ops hops f hf =>
      have hf' := hin ops hops f hf
      ⟨(hcons f hf').1 ▸ (hfacts f hf').1, (hcons f hf').2 ▸ (hfacts f hf').2⟩)
    (progsOf_steps_beyond threads) sched hc t

/-! ### (4) the hypotheses matter: witnesses on the model -/

/-- `rangeproof_rewind` as it was (DESIGN §6 D32): C writes the blinding factor into the shared constant
    `b"\x00" * 32`, the caller reads it after the lock is released -/
def rewindShared (v : Val) : List Step :=
  [.acquire, .nativeCall "secp256k1_rangeproof_rewind" [(.shared 0, v)], .release, .copyOut (.shared 0)]

def twoRewinds : Tid → List Step
  | 0 => rewindShared 111
  | 1 => rewindShared 222
  | _ => []

/-- T0: rewind … release; T1: rewind … release; T0: copy — thread 0 reads thread 1's blinding factor -/
theorem shared_buffer_breaks_serialisability :
    let sched := [0, 0, 0, 0, 1, 1, 1, 1, 0, 1]
    complete (run sched (init twoRewinds))
    ∧ (run sched (init twoRewinds)).res 0 = [222]
    ∧ (run (serialSched twoRewinds 2) (init twoRewinds)).res 0 = [111]
    ∧ safe 0 none (twoRewinds 0) = false := by
  refine ⟨?_, rfl, rfl, rfl⟩
  intro t
  match t with
  | 0 => rfl
  | 1 => rfl
  | _ + 2 => rfl

/-- even two SEQUENTIAL calls of one thread disturb each other: the first call's result object is the buffer the
    second call writes (the returned bytes object changes under the caller) -/
theorem shared_buffer_aliases_sequential_calls :
    let p : List Step := [.acquire, .nativeCall "rewind" [(.shared 0, 111)], .release,
                          .acquire, .nativeCall "rewind" [(.shared 0, 222)], .release,
                          .copyOut (.shared 0), .copyOut (.shared 0)]
    (run (List.replicate (ticks p) 0) (init (fun t => if t = 0 then p else []))).res 0 = [222, 222] := rfl

/-- the same buffer copied BEFORE the release is harmless (so `outBuffersFresh` is sufficient, not necessary) -/
theorem shared_buffer_copied_under_lock_is_safe (t : Tid) (v : Val) :
    safe t none [.acquire, .nativeCall "rewind" [(.shared 0, v)], .copyOut (.shared 0), .release] = true := by
  simp [safe, okWrite, okRead]

def unlockedCall (t : Tid) (v : Val) : List Step :=
  [.nativeCall "secp256k1_ec_pubkey_create" [(.priv t 0, v)], .copyOut (.priv t 0)]

def twoUnlocked : Tid → List Step
  | 0 => unlockedCall 0 111
  | 1 => unlockedCall 1 222
  | _ => []

/-- a native call outside the lock: two calls overlap in the shared context (ctypes releases the GIL) and thread 0's
    output is garbage although its buffer is private -/
theorem unlocked_native_call_breaks_serialisability :
    let sched := [0, 1, 0, 1, 0, 1]
    complete (run sched (init twoUnlocked))
    ∧ (run sched (init twoUnlocked)).res 0 = [garble 111]
    ∧ (run (serialSched twoUnlocked 2) (init twoUnlocked)).res 0 = [111]
    ∧ safe 0 none (twoUnlocked 0) = false := by
  refine ⟨?_, rfl, rfl, rfl⟩
  intro t
  match t with
  | 0 => rfl
  | 1 => rfl
  | _ + 2 => rfl

/-! ### non-vacuity -/

/-- the hypotheses of `serialisable` are satisfiable by a non-trivial program: three threads, a preempted schedule
    with a blocked acquire, and the schedule completes -/
example :
    let p : Tid → List Step := fun t => if t < 3 then compile t 0
      [.acq, .native "secp256k1_ecdsa_sign" true [⟨.fresh, 0⟩], .rel, .read ⟨.fresh, 0⟩] else []
    (∀ t, safe t none (p t) = true) ∧ complete (run [0, 0, 1, 2, 0, 0, 1, 1, 0, 1, 1, 2, 2, 2, 1, 2, 2] (init p))
      ∧ (run [0, 0, 1, 2, 0, 0, 1, 1, 0, 1, 1, 2, 2, 2, 1, 2, 2] (init p)).res 1 = [token 1 0] := by
  refine ⟨?_, ?_, rfl⟩
  · intro t
    by_cases h : t < 3
    · have := compile_safe t 0 [.acq, .native "secp256k1_ecdsa_sign" true [⟨.fresh, 0⟩], .rel, .read ⟨.fresh, 0⟩] none rfl
      simpa [h] using this
    · simp [h, safe]
  · intro t
    match t with
    | 0 => rfl
    | 1 => rfl
    | 2 => rfl
    | _ + 3 => rfl

-- fairness (every fair schedule of sufficient length completes): proved in Props/C20X.lean (`fair_completes`, `fair_infinite_completes`, `round_robin_completes`)

end Embit.Props.C20
