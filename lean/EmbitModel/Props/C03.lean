import EmbitModel.Proofs.TxRoundtrip
/-
  C03 — Transactions round-trip through the Bitcoin wire format without change.
  Property theorems only. `Model.*` is the model of embit (tied to /repo by the correspondence check),
  `Spec.Wire.*` is the wire format.
-/
namespace Embit.Props.C03
open Embit Model Spec.Wire

/-- serialisation equals the wire encoding (legacy form, BIP144 form exactly when some input carries a
    witness) — for every transaction, no size hypothesis. -/
theorem ser_eq_wire (t : Tx) : Tx.ser t = encode t := Tx.ser_eq_encode t

/-- BIP144 form is used exactly when some input carries a witness -/
theorem ser_form (t : Tx) :
    Tx.ser t = if t.vin.any (fun i => !i.witness.isEmpty) then encodeWitness t else encodeLegacy t :=
  Tx.ser_eq_encode t

/-- txid = reversed double-SHA256 of the witness-stripped encoding, for every hash function -/
theorem txid_spec (sha : Bytes → Bytes) (t : Tx) : Tx.txid sha t = Spec.Wire.txid sha t := by
  have : TxIn.ser = encIn := funext TxIn.ser_eq
  simp [Tx.txid, Tx.hash, Spec.Wire.txid, Tx.hashPreimage, encodeLegacy, this]
  rfl

/-- serialise-then-parse is the identity, field for field -/
theorem parse_ser (t : Tx) (h : WF t) : Tx.parse (Tx.ser t) = some t := Tx.exact.parseAll_ser t h

/-- anything the parser accepts is the wire encoding of the transaction it returns
    (so it re-encodes to the same bytes), and that transaction is well-formed -/
theorem parse_sound (b : Bytes) (t : Tx) (h : Tx.parse b = some t) : Decodes b t :=
  (Tx.exact_wire.parseAll_iff b t).mp h

/-- the parser accepts exactly the wire format -/
theorem parse_iff (b : Bytes) (t : Tx) : Tx.parse b = some t ↔ Decodes b t := Tx.exact_wire.parseAll_iff b t

theorem reencode (b : Bytes) (t : Tx) (h : Tx.parse b = some t) : Tx.ser t = b := Tx.exact.parseAll_iff.reencode h

/-- the wire format is unambiguous: one byte string, one transaction -/
theorem wire_unique (b : Bytes) (t t' : Tx) (h : Decodes b t) (h' : Decodes b t') : t = t' :=
  Tx.exact_wire.parseAll_iff.enc_inj h.1 h'.1 (h.2.trans h'.2.symm)

/-- every proper truncation of a valid encoding is rejected -/
theorem truncated_rejected (b : Bytes) (t : Tx) (h : Decodes b t) (k : Nat) (hk : k < b.length) :
    Tx.parse (b.take k) = none := by
  obtain ⟨hwf, rfl⟩ := h
  exact Tx.exact_wire.truncated t hwf k hk

/-- every extension of a valid encoding by trailing bytes is rejected -/
theorem trailing_rejected (b : Bytes) (t : Tx) (h : Decodes b t) (e : Bytes) (he : e ≠ []) :
    Tx.parse (b ++ e) = none := by
  obtain ⟨hwf, rfl⟩ := h
  exact Tx.exact_wire.trailing t hwf e he

/-- a non-minimal length prefix is never accepted by the CompactSize reader used everywhere -/
theorem compact_canonical (b r : Bytes) (n : Nat) (h : Compact.read b = some (n, r)) :
    b = Compact.enc n ++ r := (Compact.read_sound h).1

/-- a BIP144 encoding whose witnesses are all empty ("superfluous witness record") is rejected:
    what is accepted in the extended form always has a witness -/
theorem superfluous_witness_rejected (b : Bytes) (t : Tx) (h : Tx.parse b = some t)
    (hm : ∃ v rest, b = leN 4 v ++ 0x00 :: rest) : hasWitness t = true := by
  obtain ⟨hwf, he⟩ := parse_sound b t h
  cases hw : hasWitness t with
  | true => rfl
  | false =>
    exfalso
    obtain ⟨v, rest, hb⟩ := hm
    rw [encode, hw] at he
    simp only [Bool.false_eq_true, if_false, encodeLegacy, List.append_assoc] at he
    rw [hb] at he
    exact Compact.enc_append_ne_zero_cons (by have := hwf.nin; omega) _ _ (List.append_inj he (by simp)).2

/-! ### the defect that was repaired (kept as a theorem about the old reader) -/

/-- the lenient reader embit used accepted a truncated and a non-minimal count -/
theorem lenient_accepts_noncanonical :
    Compact.readLenient [0xfd, 0x01, 0x00] = some (1, []) ∧ Compact.readLenient [0xfd, 0x01] = some (1, [])
    ∧ Compact.read [0xfd, 0x01, 0x00] = none ∧ Compact.read [0xfd, 0x01] = none := by
  decide

/-! ### non-vacuity -/

def exLegacy : Tx :=
  { version := 2, locktime := 0,
    vin := [{ txid := List.replicate 32 7, vout := 1, scriptSig := [0x51], sequence := 0xfffffffe, witness := [] }],
    vout := [{ value := 5000, spk := [0x6a] }] }

def exSegwit : Tx :=
  { exLegacy with vin := [{ txid := List.replicate 32 7, vout := 1, scriptSig := [], sequence := 0, witness := [[1, 2], []] }] }

example : WF exLegacy := by
  refine ⟨by decide, by decide, by decide, by decide, by decide, ?_, ?_⟩
  · intro i hi; simp [exLegacy] at hi; subst hi
    exact ⟨by decide, by decide, by decide, by decide, by decide, by simp⟩
  · intro o ho; simp [exLegacy] at ho; subst ho; exact ⟨by decide, by decide⟩

example : Tx.parse (Tx.ser exSegwit) = some exSegwit := by decide
example : Tx.parse (Tx.ser exLegacy) = some exLegacy := by decide
example : hasWitness exSegwit = true ∧ hasWitness exLegacy = false := by decide

end Embit.Props.C03
