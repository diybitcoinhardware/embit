import EmbitModel.Props.C19
import EmbitModel.Generated.AliasFacts
/-
  C19, part 2 — the theorems about the descriptors EXTRACTED from the loaded embit modules
  (`Generated/AliasFacts.lean`, rewritten by `harness/aliasfacts.py` on every run of the check).
  `facts_safe_partial` is the proof obligation that stops building when the code (re)introduces a shared default, a
  memo keyed on nothing, an argument mutation, a shared out-buffer, or anything the translator cannot classify;
  `embit_descriptors_safe` discharges the hypotheses of the theorems of `Props/C19.lean` for the extracted library.
-/
namespace Embit.Props.C19
open Embit Embit.Heap

/-! ### Part 2 — the descriptors of the real code -/

/-- functions that modify an argument BY DOCUMENTED CONTRACT and are therefore outside the property (DESIGN
    Appendix D): the in-place `tweak` variants of the secp256k1 binding (both back ends; the copying variants
    `ec_privkey_add / ec_pubkey_add` exist beside them), sink parameters (a hash object / output pointer that the
    callee exists to write into), and the PSBT scope handed to `sign_input_with_tapkey` / the private `_sign_scope`, which is the
    receiver's own scope being signed, and the slot-set accumulator of the private `count_slot` helpers (one set per
    `sign_with` call, created by the caller for exactly this purpose) -/
def contractMutators : List String := [
  "util.ctypes_secp256k1.ec_privkey_tweak_add",
  "util.ctypes_secp256k1.ec_pubkey_tweak_add",
  "util.ctypes_secp256k1.ec_privkey_tweak_mul",
  "util.ctypes_secp256k1.ec_pubkey_tweak_mul",
  "util.py_secp256k1.ec_privkey_tweak_add(secret)",
  "util.py_secp256k1.ec_pubkey_tweak_add(pub)",
  "util.ctypes_secp256k1.ecdh.<locals>._hashfn(out)",
  "liquid.psetview.PSETView._hash_to(h)",
  "liquid.transaction.AssetIssuance.hash_to(h)",
  "psbt.PSBT.sign_input_with_tapkey(inp)",
  "psbtview.PSBTView.sign_input_with_tapkey(inp)",
  "psbtview.PSBTView._sign_scope(inp)",
  "psbt.count_slot(signed)",
  "psbtview._count_slot(signed)"]

/-- recorded, unrepaired defects that `facts_safe_partial` would have to exclude by name: NONE at present. Until round 6
    this list held the five D31 names (`Descriptor.__init__[k]`, `TapTree.__init__[k]` and three probes: the two
    constructors assigned `k.taproot` on the caller's key objects); the library was repaired (fixes/d31.diff: the flag is
    set on copies), the regenerated table has no such site and the three probes are confirmed safe. The list is kept as
    the (empty) hook the statements below and in Props/C19Complete.lean mention; `knownUnsafe_is_empty` pins it. -/
def knownUnsafe : List String := []

def inScope (s : Site) : Bool := !(contractMutators.contains s.name) && !(knownUnsafe.contains s.name)

/-- no site is excused as a known defect: `inScope` leaves out the contract mutators only -/
theorem knownUnsafe_is_empty : knownUnsafe = [] ∧ ∀ s : Site, inScope s = !(contractMutators.contains s.name) := by
  exact ⟨rfl, fun s => by simp [inScope, knownUnsafe]⟩

set_option maxRecDepth 100000 in
/-- every place of the loaded embit modules where hidden shared state or argument mutation could arise (mutable
    defaults, memos, writes through parameters, constructor writes into argument objects, buffers handed to native
    code, the always-on probes; nothing unclassified) is safe — except the listed contract mutators (hence `_partial`; `knownUnsafe` is
    empty since D31 was repaired, `knownUnsafe_is_empty`; the model-level witness for that class is
    `mutating_method_changes_argument`) -/
theorem facts_safe_partial : ((Gen.Alias.sites.filter inScope).all Site.safe) = true := by
  -- `safe` is tested first: a name is only compared for the rows that are not safe (comparing strings is what costs)
  simp only [List.all_filter, Bool.or_comm (!inScope _)]
  decide +kernel

/-- the facts are not an empty list: the sites the repairs touched are present and classified as repaired -/
theorem facts_cover_the_anchors :
    (["transaction.Transaction.__init__(vin)", "transaction.Transaction.__init__(vout)", "psbt.PSBT.__init__(unknown)",
      "psbt.PSBTScope.__init__(unknown)", "psbt.InputScope.__init__(unknown)", "psbt.OutputScope.__init__(unknown)",
      "script.Witness.__init__(items)", "descriptor.arguments.AllowedDerivation.__init__(indexes)",
      "transaction.Transaction.hash_amounts[_hash_amounts]", "transaction.Transaction.hash_script_pubkeys[_hash_script_pubkeys]",
      "psbtview.PSBTView.hash_amounts[_hash_amounts]", "psbtview.PSBTView.hash_script_pubkeys[_hash_script_pubkeys]",
      "probe:bip39.mnemonic_from_bytes(bytearray)", "probe:Transaction() twice shares no list",
      "probe:PSBT(tx) after unknown[...] set on another PSBT(tx)",
      "probe:rangeproof_rewind twice returns independent blinding factors"].all
      fun n => Gen.Alias.sites.any fun s => s.name == n && s.safe) = true := by
  decide +kernel

/-- the library as extracted: one class per constructor parameter site, one method per memo / argument site -/
def classOfSite (s : Site) : Option ClassDesc :=
  match s.kind with
  | .ctorParam k => some ⟨[k], (Gen.Alias.sites.any fun p =>
      p.name == "probe:PSBT(tx) after unknown[...] set on another PSBT(tx)" && p.safe)⟩
  | _ => none

def methodOfSite (s : Site) : Option MethodDesc :=
  match s.kind with
  | .memo dep _ => some ⟨if dep then .keyedOnNothing else .uncached, false⟩   -- receiver-only memo + invalidation = uncached
  | .memoKeyed => some ⟨.keyedOnArgs, false⟩
  | .argMutation mu => some ⟨.uncached, mu⟩
  | .inPlaceNative mu => some ⟨.uncached, mu⟩
  | .ctorWritesArgObjects => some ⟨.uncached, true⟩
  | _ => none

def embitEnv (f : Nat → List (List Val) → List Val → Val) : Env :=
  { classes := (Gen.Alias.sites.filter inScope).filterMap classOfSite,
    methods := (Gen.Alias.sites.filter inScope).filterMap methodOfSite,
    defaultRef := fun c p => c + p, f := f }

/-- the extracted descriptors satisfy the hypotheses of the theorems of Part 1 (for every digest function `f`): a safe
    site never yields a class storing a default or a source by reference, a memo keyed on nothing, or a mutating method -/
theorem embit_descriptors_safe (f : Nat → List (List Val) → List Val → Val) :
    (embitEnv f).classesSafe = true ∧ (embitEnv f).memosKeyed = true ∧ (embitEnv f).noArgMutation = true := by
  have hsafe : ∀ s ∈ Gen.Alias.sites.filter inScope, s.kind.safe s.probe = true :=
    List.all_eq_true.1 facts_safe_partial
  -- what `classOfSite` takes for `copiesSource` is one of the anchors
  have hprobe : (Gen.Alias.sites.any fun p =>
      p.name == "probe:PSBT(tx) after unknown[...] set on another PSBT(tx)" && p.safe) = true :=
    List.all_eq_true.1 facts_cover_the_anchors _ (List.getElem_mem (n := 14) (by decide))
  have hmethod : ∀ s d, s.kind.safe s.probe = true → methodOfSite s = some d →
      d.memo ≠ .keyedOnNothing ∧ d.mutatesArg = false := by
    intro s d h hd
    unfold methodOfSite at hd
    split at hd <;> rename_i hk <;> simp only [hk, SiteKind.safe] at h <;> cases hd <;> simp_all
  simp only [Env.classesSafe, Env.memosKeyed, Env.noArgMutation, embitEnv, List.all_eq_true, List.mem_filterMap]
  refine ⟨?_, ?_, ?_⟩ <;> rintro d ⟨s, hs, hd⟩ <;> have h := hsafe s hs
  · unfold classOfSite at hd
    split at hd
    · rename_i k hk
      cases hd
      simp only [hk, SiteKind.safe, Bool.and_eq_true] at h
      simpa [hprobe] using h.1
    · cases hd
  · simpa using (hmethod s d h hd).1
  · simpa using (hmethod s d h hd).2

/-- Part 1 instantiated with the extracted descriptors: in every history over the extracted constructors and methods
    (contract mutators excluded; no recorded defect is, `knownUnsafe_is_empty`) answers are functions of receiver and arguments -/
theorem embit_results_depend_only_on_arguments (f : Nat → List (List Val) → List Val → Val)
    (d : Nat) (dflt : Nat → List Val) (h : List Op) (hraw : (h.all fun o => !o.isRaw) = true) (i m k : Nat) :
    answer (embitEnv f) (run (embitEnv f) (init d dflt) h) i m k
      = f m (obs (run (embitEnv f) (init d dflt) h) i) (argObs (run (embitEnv f) (init d dflt) h) k) :=
  result_depends_only_on_receiver_and_args (embitEnv f) (embit_descriptors_safe f).1 (embit_descriptors_safe f).2.1
    d dflt h hraw i m k

end Embit.Props.C19
