import EmbitModel.Proofs.ViewWriteParse
/-
  C05Y — `PSBTView.write_to` equals merge-then-compress in memory (the write path of C05).

  `View.writeToL` (Model/ViewWrite.lean) is `PSBTView.write_to(stream, compress, extra_input_streams,
  extra_output_streams)` with the stream lists the code takes; `View.writeTo` (Model/View.lean, the function the
  `view.write` correspondence op runs) is its special case with at most one stream of each kind
  (`write_to_one_stream`). `Psbt.mergeExtra` is the in-memory procedure: parse everything, `update` every input /
  output scope with the next scope of every extra stream (signatures, derivations …), `clear_metadata` under the
  same compression choice.

  (1) `write_to_eq_memory_v0_partial` / `_v2_partial` — for every byte string `PSBT.parse(b, compress=c)` accepts,
      embedded at any offset of any stream, every reader mode `c` of the view, every write mode `cm`, every list of
      extra input / output streams: what the view writes is the ORIGINAL global scope (byte-identical) followed by
      the serialised scopes of the PSBT merged and compressed in memory — and the view refuses exactly when the
      in-memory procedure refuses (an extra stream that does not parse, runs short, or carries a duplicate key).
      So the scope section of the output is byte-identical to that of `PSBT.write_to` of the in-memory result
      (`written_scopes_eq_ser`). The excluded regions are those of Props/C05X (v0: a PSBTv2 count key in the global
      scope; v2: a missing count key), where the view does not even present the same scopes (witnesses there).
  (2) `write_to_parses_to_memory_v0_partial` / `_v2_partial` — PARSING what the view wrote (with the KEEP_ALL parser)
      gives exactly the in-memory result: `PSBT.parse(written) = mergeExtra(PSBT.parse(b, compress=c))`, every field of
      every scope, the global fields, nothing else. This rests on `scope_roundtrip_in` / `scope_roundtrip_out`: every scope object
      obtained by reading bytes, merging such objects and clearing metadata (`InScope.Canon`) survives
      `write_to` followed by `read_from` unchanged. Version-0 scopes do not carry txid / vout / sequence (value /
      script): the reader takes them from the (byte-identical) global transaction, so for version 0 the parsed result
      is stated as `restoreTx` (merged PSBT with the transaction fields of the original) — equal to the in-memory
      result itself exactly when the merge left those fields alone (`sameTxFields`). An extra stream that smuggles a
      PSBT_IN_PREVIOUS_TXID into a version-0 PSBT changes the in-memory transaction but not the written one
      (witness `v0_extra_txid_not_written`, replayed on embit). No such distinction for version 2.
      Both statements hold for EVERY reader mode of the view: in the memory-saving modes an in-memory scope holds the
      streamed `_utxo` / `_txhash` attributes, which `write_to` never emits, so there the parsed result is the
      in-memory result without them (`eraseHidden`); for KEEP_ALL nothing is hidden.
  All statements hold for every key validator `ko` and hash `sha`.
-/
set_option linter.unusedSimpArgs false
set_option linter.unusedVariables false
namespace Embit.Props.C05Y
open Embit Model Spec.Wire Props.C05X

/-! ### (1) what the view writes -/

/-- version 0 -/
theorem write_to_eq_memory_v0_partial (ko : KeyOps) (sha : Bytes → Bytes) (c : Nat) (pre post b : Bytes) (p : Psbt)
    (h : Psbt.parse ko sha c b = some p)
    (htx : ∃ x, ([0x00], x) ∈ globalKVs b)
    (hcnt : ∀ kv ∈ globalKVs b, kv.1 ≠ [0x04] ∧ kv.1 ≠ [0x05]) :
    ∃ (v : View), View.open (pre ++ (b ++ post)) pre.length = some v
      ∧ ∀ (cm : Nat) (ei eo : List Bytes),
          View.writeToL ko sha (pre ++ (b ++ post)) v c cm ei eo
            = (Psbt.mergeExtra ko sha cm ei eo p).map fun p' =>
                psbtMagic ++ writeKVs (globalKVs b) ++ p'.scopeBytes := by
  obtain ⟨t, v, _, vo, _⟩ := view_of_parse_v0 ko sha c pre post b p h htx hcnt
  exact ⟨v, vo.opened, fun cm ei eo => vo.writeToL cm ei eo⟩

/-- version 2 -/
theorem write_to_eq_memory_v2_partial (ko : KeyOps) (sha : Bytes → Bytes) (c : Nat) (pre post b : Bytes) (p : Psbt)
    (h : Psbt.parse ko sha c b = some p) (hv : p.version = some 2)
    (h4 : ∃ x, ([0x04], x) ∈ globalKVs b) (h5 : ∃ x, ([0x05], x) ∈ globalKVs b) :
    ∃ (v : View), View.open (pre ++ (b ++ post)) pre.length = some v
      ∧ ∀ (cm : Nat) (ei eo : List Bytes),
          View.writeToL ko sha (pre ++ (b ++ post)) v c cm ei eo
            = (Psbt.mergeExtra ko sha cm ei eo p).map fun p' =>
                psbtMagic ++ writeKVs (globalKVs b) ++ p'.scopeBytes := by
  obtain ⟨v, vo, _⟩ := view_of_parse_v2 ko sha c pre post b p h hv h4 h5
  exact ⟨v, vo.opened, fun cm ei eo => vo.writeToL cm ei eo⟩

/-- the one-stream function of Model/View.lean (correspondence op `view.write`) is the list function -/
theorem write_to_one_stream (ko : KeyOps) (sha : Bytes → Bytes) (buf : Bytes) (v : View) (vc cm : Nat)
    (ei eo : Option Bytes) :
    View.writeTo ko sha buf v vc cm ei eo = View.writeToL ko sha buf v vc cm ei.toList eo.toList :=
  View.writeTo_eq_writeToL ko sha buf v vc cm ei eo

/-- the scope section of what the view writes is byte-identical to the scope section `PSBT.write_to` emits for the
    in-memory result (the global sections differ only in that the view copies the original global bytes) -/
theorem written_scopes_eq_ser (p' : Psbt) (gp : List KV) (hg : p'.globalPairs = some gp) :
    Psbt.ser p' = some (psbtMagic ++ writeKVs gp ++ p'.scopeBytes) := by
  simp [Psbt.ser, hg, Psbt.scopeBytes, List.append_assoc]

/-- without extra streams and without compression the view writes the bytes it was opened on (`b` itself) -/
theorem merge_nothing (ko : KeyOps) (sha : Bytes → Bytes) (p : Psbt) :
    Psbt.mergeExtra ko sha 0 [] [] p = some p := by
  have hi : ∀ l : List InScope, mergeIns ko sha 0 l [] = some l := by
    intro l
    induction l with
    | nil => rfl
    | cons s ss ih => simp [mergeIns, updateInFrom, ih, InScope.compressed]
  have ho : ∀ l : List OutScope, mergeOuts ko 0 l [] = some l := by
    intro l
    induction l with
    | nil => rfl
    | cons s ss ih => simp [mergeOuts, updateOutFrom, ih, OutScope.compressed]
  simp [Psbt.mergeExtra, hi, ho]

/-! ### (2) parsing what the view wrote -/

/-- a canonical input scope (without the `_utxo` / `_txhash` attributes of the memory-saving reader, which are never
    written) survives `write_to(version=ver)` followed by `read_from` (seeded with the transaction's fields for
    version 0, unseeded for version 2) unchanged, and every pair it writes is well-framed -/
theorem scope_roundtrip_in (ko : KeyOps) (sha : Bytes → Bytes) (ver : Option Nat) (s : InScope)
    (a : Option Bytes) (b c : Option Nat) (hc : InScope.Canon ko s) (hh : InScope.NoHidden s)
    (htx : if ver = some 2 then (a = none ∧ b = none ∧ c = none) else (s.txid = a ∧ s.vout = b ∧ s.sequence = c)) :
    (∀ kv ∈ s.pairs ver, KVWF kv)
    ∧ InScope.addPairs ko sha 0 { txid := a, vout := b, sequence := c } (s.pairs ver) = some s :=
  ⟨InScope.canon_pairs_wf ko ver s hc, InScope.canon_roundtrip ko sha ver s a b c hc hh htx⟩

theorem scope_roundtrip_out (ko : KeyOps) (ver : Option Nat) (s : OutScope) (a : Option Nat) (b : Option Bytes)
    (hc : OutScope.Canon ko s) (htx : if ver = some 2 then (a = none ∧ b = none) else (s.value = a ∧ s.spk = b)) :
    (∀ kv ∈ s.pairs ver, KVWF kv) ∧ OutScope.addPairs ko { value := a, spk := b } (s.pairs ver) = some s :=
  ⟨OutScope.canon_pairs_wf ko ver s hc, OutScope.canon_roundtrip ko ver s a b hc htx⟩

/-- scopes read from bytes (in any reader mode) are canonical; merging canonical scopes and clearing metadata keeps
    them canonical -/
theorem canon_closed (ko : KeyOps) (sha : Bytes → Bytes) :
    (∀ (c : Nat) (kvs : List KV) (s s' : InScope), InScope.Canon ko s → (∀ kv ∈ kvs, KVWF kv) →
        InScope.addPairs ko sha c s kvs = some s' → InScope.Canon ko s')
    ∧ (∀ s o : InScope, InScope.Canon ko s → InScope.Canon ko o → InScope.Canon ko (s.update o))
    ∧ (∀ (s : InScope) (c : Nat), InScope.Canon ko s → InScope.Canon ko (s.clearMetadata c))
    ∧ InScope.Canon ko {} :=
  ⟨InScope.addPairs_canon_mode ko sha, InScope.update_canon ko, InScope.clearMetadata_canon ko,
    InScope.canon_empty ko⟩

theorem canon_closed_out (ko : KeyOps) :
    (∀ (kvs : List KV) (s s' : OutScope), OutScope.Canon ko s → (∀ kv ∈ kvs, KVWF kv) →
        OutScope.addPairs ko s kvs = some s' → OutScope.Canon ko s')
    ∧ (∀ s o : OutScope, OutScope.Canon ko s → OutScope.Canon ko o → OutScope.Canon ko (s.update o))
    ∧ (∀ (s : OutScope) (c : Nat), OutScope.Canon ko s → OutScope.Canon ko (s.clearMetadata c))
    ∧ OutScope.Canon ko {} :=
  ⟨OutScope.addPairs_canon ko, OutScope.update_canon ko, OutScope.clearMetadata_canon ko, OutScope.canon_empty ko⟩

/-- version 0, EVERY reader mode `c` of the view: the view writes, and what it wrote parses (KEEP_ALL) to the PSBT
    merged and compressed in memory as a reader sees it — without the never-written `_utxo` / `_txhash` attributes
    (`eraseHidden`; nothing to erase when `c = 0`) and with the transaction fields of the unchanged global transaction
    (`restoreTx`) — which for `c = 0` is exactly the in-memory result whenever the merge left those fields alone
    (`sameTxFields`); and the view refuses when the in-memory procedure refuses -/
theorem write_to_parses_to_memory_v0_partial (ko : KeyOps) (sha : Bytes → Bytes) (c : Nat) (pre post b : Bytes)
    (p : Psbt) (h : Psbt.parse ko sha c b = some p)
    (htx : ∃ x, ([0x00], x) ∈ globalKVs b)
    (hcnt : ∀ kv ∈ globalKVs b, kv.1 ≠ [0x04] ∧ kv.1 ≠ [0x05]) :
    ∃ (v : View), View.open (pre ++ (b ++ post)) pre.length = some v
      ∧ ∀ (cm : Nat) (ei eo : List Bytes),
          (∀ p', Psbt.mergeExtra ko sha cm ei eo p = some p' →
            ∃ w, View.writeToL ko sha (pre ++ (b ++ post)) v c cm ei eo = some w
              ∧ Psbt.parse ko sha 0 w = some (p.restoreTx p'.eraseHidden)
              ∧ (c = 0 → Psbt.parse ko sha 0 w = some (p.restoreTx p'))
              ∧ (c = 0 → p.sameTxFields p' = true → Psbt.parse ko sha 0 w = some p'))
          ∧ (Psbt.mergeExtra ko sha cm ei eo p = none →
              View.writeToL ko sha (pre ++ (b ++ post)) v c cm ei eo = none) := by
  obtain ⟨v, ho, hw⟩ := write_to_eq_memory_v0_partial ko sha c pre post b p h htx hcnt
  refine ⟨v, ho, fun cm ei eo => ⟨fun p' hm => ?_, fun hm => ?_⟩⟩
  · refine ⟨_, by rw [hw cm ei eo, hm]; rfl, parse_written_modes ko sha c b p p' cm ei eo h hm, ?_, ?_⟩
    · intro hc0; subst hc0; exact parse_written_total ko sha b p p' cm ei eo h hm
    · intro hc0 hk; subst hc0; exact parse_written ko sha b p p' cm ei eo h hm (fun _ => hk)
  · rw [hw cm ei eo, hm]; rfl

/-- version 2, every reader mode: what the view wrote parses to the in-memory result (minus `_utxo` / `_txhash`;
    exactly the in-memory result for `c = 0`), without any condition on the extra streams -/
theorem write_to_parses_to_memory_v2_partial (ko : KeyOps) (sha : Bytes → Bytes) (c : Nat) (pre post b : Bytes)
    (p : Psbt) (h : Psbt.parse ko sha c b = some p) (hv : p.version = some 2)
    (h4 : ∃ x, ([0x04], x) ∈ globalKVs b) (h5 : ∃ x, ([0x05], x) ∈ globalKVs b) :
    ∃ (v : View), View.open (pre ++ (b ++ post)) pre.length = some v
      ∧ ∀ (cm : Nat) (ei eo : List Bytes),
          (∀ p', Psbt.mergeExtra ko sha cm ei eo p = some p' →
            ∃ w, View.writeToL ko sha (pre ++ (b ++ post)) v c cm ei eo = some w
              ∧ Psbt.parse ko sha 0 w = some p'.eraseHidden
              ∧ (c = 0 → Psbt.parse ko sha 0 w = some p'))
          ∧ (Psbt.mergeExtra ko sha cm ei eo p = none →
              View.writeToL ko sha (pre ++ (b ++ post)) v c cm ei eo = none) := by
  obtain ⟨v, ho, hw⟩ := write_to_eq_memory_v2_partial ko sha c pre post b p h hv h4 h5
  refine ⟨v, ho, fun cm ei eo => ⟨fun p' hm => ?_, fun hm => ?_⟩⟩
  · refine ⟨_, by rw [hw cm ei eo, hm]; rfl, ?_, ?_⟩
    · have := parse_written_modes ko sha c b p p' cm ei eo h hm
      rwa [show p.restoreTx p'.eraseHidden = p'.eraseHidden by simp [Psbt.restoreTx, hv]] at this
    · intro hc0; subst hc0
      exact parse_written ko sha b p p' cm ei eo h hm (fun hne => absurd hv hne)
  · rw [hw cm ei eo, hm]; rfl

/-- for version 2 a reader sees the merged PSBT itself -/
theorem restoreTx_v2 (p p' : Psbt) (hv : p.version = some 2) : p.restoreTx p' = p' := by
  simp [Psbt.restoreTx, hv]

/-- in particular (no extra stream, no compression): writing a view out and parsing the result gives the PSBT the
    original bytes parse to -/
theorem write_to_plain_reparses (ko : KeyOps) (sha : Bytes → Bytes) (b : Bytes) (p : Psbt)
    (h : Psbt.parse ko sha 0 b = some p) :
    Psbt.parse ko sha 0 (psbtMagic ++ writeKVs (globalKVs b) ++ p.scopeBytes) = some p := by
  exact parse_written ko sha b p p 0 [] [] h (merge_nothing ko sha p) (fun _ => p.sameTxFields_self)

/-! ### witness: version 0, an extra stream that carries a previous-txid field -/

/-- an extra input stream with PSBT_IN_PREVIOUS_TXID (a PSBTv2 field) for the version-0 PSBT of C04 -/
def exTxidStream : Bytes := writeKVs [([0x0e], List.replicate 32 9)]

/-- in memory the merge replaces the input's txid; the view's output cannot carry it (version-0 scopes have no
    such field), so what was written parses to the ORIGINAL txid: outside `sameTxFields` the statement fails -/
theorem v0_extra_txid_not_written :
    ((Psbt.parse C04.trivialKo id 0 C04.exPsbtBytes).bind
        (Psbt.mergeExtra C04.trivialKo id 0 [exTxidStream] [])).map (fun p' => p'.inputs.map (·.txid))
      = some [some (List.replicate 32 9)]
    ∧ ((Psbt.parse C04.trivialKo id 0 C04.exPsbtBytes).bind
        (Psbt.mergeExtra C04.trivialKo id 0 [exTxidStream] [])).bind
          (fun p' => (Psbt.parse C04.trivialKo id 0
            (psbtMagic ++ writeKVs (globalKVs C04.exPsbtBytes) ++ p'.scopeBytes)).map
              (fun q => q.inputs.map (·.txid)))
      = some [some (List.replicate 32 7)] := by
  decide +kernel

/-! ### non-vacuity -/

/-- a signature stream for the one-input PSBT of C04: one partial signature, then the separator -/
def exSigStream : Bytes := writeKVs [(0x02 :: List.replicate 33 2, [0x30, 0x01])]

/-- the hypotheses of (1) hold for `C04.exPsbtBytes`, and merging the signature stream under CLEAR_ALL in memory
    succeeds: the result keeps the signature and drops the sighash type and the unknown pair -/
example : (Psbt.parse C04.trivialKo id 0 C04.exPsbtBytes).isSome = true
    ∧ ((Psbt.parse C04.trivialKo id 0 C04.exPsbtBytes).bind
        (Psbt.mergeExtra C04.trivialKo id 1 [exSigStream] [])).map (fun p' => p'.inputs.map (·.pairs none))
        = some [[(0x02 :: List.replicate 33 2, [0x30, 0x01])]] := by
  decide

/-- … and the view at a non-zero offset writes exactly that (evaluated) -/
example : ((View.open ([1, 2, 3] ++ (C04.exPsbtBytes ++ [9])) 3).bind fun v =>
      View.writeToL C04.trivialKo id ([1, 2, 3] ++ (C04.exPsbtBytes ++ [9])) v 0 1 [exSigStream] [])
    = ((Psbt.parse C04.trivialKo id 0 C04.exPsbtBytes).bind
        (Psbt.mergeExtra C04.trivialKo id 1 [exSigStream] [])).map fun p' =>
          psbtMagic ++ writeKVs (globalKVs C04.exPsbtBytes) ++ p'.scopeBytes := by
  decide

/-- two extra input streams are consumed in lock-step, one scope of each per input -/
example : ((Psbt.parse C04.trivialKo id 0 C04.exPsbtBytes).bind
        (Psbt.mergeExtra C04.trivialKo id 0 [exSigStream, writeKVs [([0xf1], [7])]] [])).map
          (fun p' => p'.inputs.map (·.pairs none))
        = some [[(0x02 :: List.replicate 33 2, [0x30, 0x01]), ([0x03], [1, 0, 0, 0]), ([0xf0, 0x01], [0xaa]),
                 ([0xf1], [7])]] := by
  decide

/-- the hypotheses of `write_to_parses_to_memory_v0_partial` are satisfiable: the signature stream leaves the
    transaction fields alone, and the written bytes parse to the merged PSBT (evaluated) -/
example : ((Psbt.parse C04.trivialKo id 0 C04.exPsbtBytes).bind fun p =>
      (Psbt.mergeExtra C04.trivialKo id 1 [exSigStream] [] p).map fun p' =>
        (p.sameTxFields p',
         (Psbt.parse C04.trivialKo id 0 (psbtMagic ++ writeKVs (globalKVs C04.exPsbtBytes) ++ p'.scopeBytes)).map
           (fun q => q.inputs.map (·.pairs none)) == some (p'.inputs.map (·.pairs none))))
    = some (true, true) := by
  decide +kernel

end Embit.Props.C05Y
