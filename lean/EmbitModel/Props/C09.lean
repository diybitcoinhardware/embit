import EmbitModel.Proofs.Bip32Neuter
import EmbitModel.Proofs.Taproot
import EmbitModel.Proofs.PathText
import EmbitModel.Proofs.KeyTables
import EmbitModel.Proofs.KeyToyCurve
/-
  C09 — HD and taproot key derivation follow BIP32/BIP341 and commute with neutering.

  Property theorems only. `Embit.Keys.*` is the model of embit (`bip32.py`, `ec.py`; tied to /repo by the
  correspondence check of harness/props/c09.py), `Spec.Bip32` / `Spec.Bip341` are transcriptions of the BIPs.
  The curve `E`, HMAC-SHA512, HASH160, the tagged hash and the Base58Check text layer are ARBITRARY
  (`EcOps`, `Env`); group structure enters only through the explicit hypothesis `EcLaws E`, hash output lengths
  through explicit hypotheses. The model follows the code after fixes k02, k04, k05.
-/
namespace Embit.Props.C09
open Embit Embit.Keys Embit.Spec

variable {E : EcOps}

/-- private parent: `child` is CKDpriv for every key, chain code and index below 2^32 — including the two
    invalid cases (I_L ≥ n, zero key), which embit reports by raising — wrapped into the HDKey bookkeeping
    (same version, depth + 1, fingerprint = first 4 bytes of HASH160(serP(point(k_par))), child number = i) -/
theorem child_eq_ckd_priv (L : EcLaws E) (env : Env) (hlen : ∀ key msg, (env.hmac512 key msg).length = 64)
    (k : HDKey E) (pk : PrivateKey) (hk : k.key = .priv pk) (hc : pk.compressed = true)
    (hv : seckeyValid E pk.secret = true) (i : Nat) (hi : i < 2 ^ 32) :
    k.child env i =
      (Bip32.CKDpriv E env.hmac512 ⟨pk.secret, k.chainCode⟩ i).bind fun r =>
        HDKey.init env (.priv ⟨r.k, true, Generated.privDefaultNet⟩) r.c (some k.version) (k.depth + 1)
          (Bip32.fingerprint E env.hash160 (Bip32.point E pk.secret)) i :=
  child_priv L env hlen k pk hk hc hv i hi

/-- public parent: `child` is CKDpub (failure for hardened indices, I_L ≥ n, point at infinity) -/
theorem child_eq_ckd_pub (L : EcLaws E) (env : Env) (hlen : ∀ key msg, (env.hmac512 key msg).length = 64)
    (k : HDKey E) (pb : PublicKey E) (hk : k.key = .pub pb) (hc : pb.compressed = true)
    (i : Nat) (hi : i < 2 ^ 32) :
    k.child env i =
      (Bip32.CKDpub E env.hmac512 ⟨pb.point, k.chainCode⟩ i).bind fun r =>
        HDKey.init env (.pub ⟨r.K, true⟩) r.c (some k.version) (k.depth + 1)
          (Bip32.fingerprint E env.hash160 pb.point) i :=
  child_pub L env hlen k pb hk hc i hi

/-- with version bytes that fix the text kind (every SLIP-132 version does, `version_table_says`) the
    bookkeeping never fails below depth 255: the child IS the CKD result -/
theorem child_eq_ckd_priv_total (L : EcLaws E) (env : Env) (hlen : ∀ key msg, (env.hmac512 key msg).length = 64)
    (hh160 : ∀ msg, 4 ≤ (env.hash160 msg).length)
    (k : HDKey E) (pk : PrivateKey) (hk : k.key = .priv pk) (hc : pk.compressed = true)
    (hv : seckeyValid E pk.secret = true) (hd : k.depth < 255) (hA : VersionSays env k.version tPrv)
    (i : Nat) (hi : i < 2 ^ 32) :
    k.child env i =
      (Bip32.CKDpriv E env.hmac512 ⟨pk.secret, k.chainCode⟩ i).map fun r =>
        { key := .priv ⟨r.k, true, Generated.privDefaultNet⟩, chainCode := r.c, version := k.version,
          depth := k.depth + 1, fingerprint := Bip32.fingerprint E env.hash160 (Bip32.point E pk.secret),
          childNumber := i } := by
  rw [child_priv_node L env hlen hh160 k pk hk hc hv hd hA i hi, Bip32.stepPrv, Option.map_map]
  rfl

/-- the `hardened` argument only adds 2^31 to an index below 2^31 -/
theorem child_hardened_flag (env : Env) (k : HDKey E) (i : Nat) (hi : i < 2 ^ 32) :
    k.child env i true = k.child env (if i < 2 ^ 31 then i + 2 ^ 31 else i) := by
  rw [Keys.child_hardened_flag env k i hi]
  congr 1
  unfold normIndex
  rw [hardenedIndex_eq]
  simp

/-- indices from 2^32 on are refused -/
theorem child_index_range (env : Env) (k : HDKey E) (i : Nat) (h : Bool) (hi : 2 ^ 32 ≤ i) : k.child env i h = none := by
  unfold HDKey.child
  rw [if_pos (by omega)]

/-- path derivation is repeated child derivation (a negative element is refused) -/
theorem derive_eq_fold (env : Env) (k : HDKey E) (p : List Int) :
    k.derive env p = p.foldlM (fun c i => if i < 0 then none else c.child env i.toNat) k :=
  derive_eq_foldlM env p k

/-- a text path is parsed, then derived -/
theorem derive_text (env : Env) (k : HDKey E) (t : Text) :
    k.deriveStr env t = (parsePath t).bind (k.derive env) := by
  unfold HDKey.deriveStr
  cases parsePath t <;> rfl

/-- `parse_path(path_to_str(p)) == p` for every list of integers (so in particular for all indices in
    [0, 2^32), hardened ones printed as `…h`) -/
theorem path_text_roundtrip (p : List Int) : parsePath (pathToStr p) = some p := parsePath_pathToStr p

theorem hardened_from_public_refused (env : Env) (k : HDKey E) (hk : k.key.isPrivate = false) (i : Nat) (h : Bool)
    (hh : h = true ∨ 2 ^ 31 ≤ i) : k.child env i h = none :=
  child_pub_hardened env k hk i h hh

/-- depth 255 → 256 cannot be represented: `child` of a depth-255 key RAISES (in the constructor's `to_base58()`:
    `bytes([256])`), for private and public keys, every index -/
theorem depth_overflow (env : Env) (k : HDKey E) (hd : 255 ≤ k.depth) (i : Nat) (h : Bool) : k.child env i h = none :=
  child_depth_overflow env k hd i h

/-- `(child k i).to_public() = child (k.to_public()) i` for every non-hardened index: key, chain code, depth, parent
    fingerprint, child number and version, and the failure cases coincide. Hypotheses: the curve laws, hash output
    lengths, a well-formed private parent, and version bytes that fix the text kind. -/
theorem neuter_commutes (L : EcLaws E) (env : Env) (hlen : ∀ key msg, (env.hmac512 key msg).length = 64)
    (hh160 : ∀ msg, 4 ≤ (env.hash160 msg).length)
    (k : HDKey E) (pk : PrivateKey) (hk : k.key = .priv pk) (hc : pk.compressed = true)
    (hv : seckeyValid E pk.secret = true)
    (hcc : k.chainCode.length = 32) (hfp : k.fingerprint.length = 4) (hcn : k.childNumber < 2 ^ 32)
    (hA : VersionSays env k.version tPrv)
    (hB : ∀ pv, detectPubVersion k.version = some pv → VersionSays env pv tPub) (i : Nat) (hi : i < 2 ^ 31) :
    (k.child env i).bind (fun c => c.toPublic env) = (k.toPublic env).bind (fun K => K.child env i) :=
  neuter_commutes_gen L env hlen hh160 k pk hk hc hv hcc hfp hcn hA hB i hi

/-- the same for the real Base58Check codec (any 4-byte checksum function) and every private SLIP-132 version of
    the generated NETWORKS table: no hypothesis about the text layer is left -/
theorem neuter_commutes_table (L : EcLaws E) (env : Env) (dsha : Bytes → Bytes) (hd : ∀ b, 4 ≤ (dsha b).length)
    (henc : env.b58enc = B58.encodeCheck dsha) (hlen : ∀ key msg, (env.hmac512 key msg).length = 64)
    (hh160 : ∀ msg, 4 ≤ (env.hash160 msg).length)
    (k : HDKey E) (pk : PrivateKey) (hk : k.key = .priv pk) (hc : pk.compressed = true)
    (hv : seckeyValid E pk.secret = true)
    (hcc : k.chainCode.length = 32) (hfp : k.fingerprint.length = 4) (hcn : k.childNumber < 2 ^ 32)
    (net : Generated.KeyNet) (hn : net ∈ Generated.keyNets) (e : String × Bytes × Bool) (he : e ∈ net.versions)
    (hprv : e.2.2 = true) (hver : k.version = e.2.1) (i : Nat) (hi : i < 2 ^ 31) :
    (k.child env i).bind (fun c => c.toPublic env) = (k.toPublic env).bind (fun K => K.child env i) := by
  obtain ⟨hA, hB⟩ := table_pub_says env dsha hd henc net hn e he hprv
  rw [← hver] at hA hB
  exact neuter_commutes_gen L env hlen hh160 k pk hk hc hv hcc hfp hcn hA hB i hi

/-- what `to_public()` returns: the public key of the same scalar, same chain code / depth / fingerprint / child
    number, the version mapped through the network table -/
theorem to_public_spec (env : Env) (k : HDKey E) (pk : PrivateKey) (hk : k.key = .priv pk)
    (hc : pk.compressed = true) (hv : seckeyValid E pk.secret = true)
    (hcc : k.chainCode.length = 32) (hfp : k.fingerprint.length = 4) (hd : k.depth < 256)
    (hcn : k.childNumber < 2 ^ 32) (pv : Bytes) (hpv : detectPubVersion k.version = some pv)
    (hB : VersionSays env pv tPub) :
    k.toPublic env = some { key := .pub ⟨(Bip32.N E ⟨pk.secret, k.chainCode⟩).K, true⟩, chainCode := k.chainCode,
                            version := pv, depth := k.depth, fingerprint := k.fingerprint,
                            childNumber := k.childNumber } :=
  toPublic_some env k pk hk hc hv hcc hfp hd hcn pv hpv hB

/-- the version map of `to_public()` over the generated table: every `?prv` version goes to the `?pub` version of
    the same network and letter -/
theorem to_public_version_table :
    (Generated.keyNets.all fun net => net.prvPub.all fun e => detectPubVersion e.1 == e.2) = true := detect_table

/-- every SLIP-132 version of the generated table fixes the characters [1:4] of the text, so the constructor's
    version test never depends on the payload -/
theorem version_table_says (env : Env) (dsha : Bytes → Bytes) (hd : ∀ b, 4 ≤ (dsha b).length)
    (henc : env.b58enc = B58.encodeCheck dsha) (net : Generated.KeyNet) (hn : net ∈ Generated.keyNets)
    (e : String × Bytes × Bool) (he : e ∈ net.versions) : VersionSays env e.2.1 (kindText e.2.2) :=
  B58.table_versionSays env dsha hd henc net hn e he

/-- tweaking a private key and taking its public key equals tweaking the public key: both Y parities, both
    compression flags, every `h` (also the empty one), failure cases included -/
theorem taproot_commutes (L : EcLaws E) (env : Env) (htag : ∀ t m, (env.tagged t m).length = 32)
    (k : PrivateKey) (hv : seckeyValid E k.secret = true) (h : Bytes) :
    (k.taprootTweak E env h).bind (fun r => r.getPublicKey E)
      = (k.getPublicKey E).bind (fun P => P.taprootTweak env h) :=
  taproot_commutes_gen L env htag k hv h

/-- the tweaked public key is BIP341's output key: `Q = lift_x(x(P)) + int(hash_TapTweak(x(P) ‖ h))·G`, returned as
    the even-Y point with `x(Q)`. (embit also refuses `t = 0`, which BIP341 does not: probability 2^-256.) -/
theorem taproot_eq_bip341 (L : EcLaws E) (env : Env) (htag : ∀ t m, (env.tagged t m).length = 32)
    (k : PublicKey E) (hP : E.isInf k.point = false) (h : Bytes) :
    k.taprootTweak env h =
      if Bip341.tweakOf env.tagged (E.x k.point) h = 0 then none
      else (Bip341.outputPoint E env.tagged (E.x k.point) h).map (fun Q => ⟨evenY E Q, true⟩) :=
  tweakPub_eq L env htag k hP h

/-- … so whatever it returns has even Y, and its x-only encoding is BIP341's `taproot_tweak_pubkey` result -/
theorem taproot_output_key (L : EcLaws E) (env : Env) (htag : ∀ t m, (env.tagged t m).length = 32)
    (k : PublicKey E) (hP : E.isInf k.point = false) (h : Bytes) (r : PublicKey E)
    (hr : k.taprootTweak env h = some r) :
    E.yOdd r.point = false ∧ r.compressed = true ∧
      ∃ par, Bip341.tweakPubkey E env.tagged (E.x k.point) h = some (par, E.x r.point) := by
  rw [tweakPub_eq L env htag k hP h] at hr
  split at hr
  · cases hr
  · cases hq : Bip341.outputPoint E env.tagged (E.x k.point) h with
    | none => simp [hq] at hr
    | some Q =>
      simp only [hq, Option.map_some, Option.some.injEq] at hr
      have hQ : E.isInf Q = false := by
        unfold Bip341.outputPoint at hq
        split at hq
        · cases hq
        · split at hq
          · cases hq
          · simp only at hq
            split at hq
            · cases hq
            · rename_i hni
              have := Option.some.inj hq
              rw [← this]
              simpa using hni
      obtain ⟨h1, h2, _⟩ := evenY_spec L Q hQ
      subst hr
      exact ⟨h1, rfl, E.yOdd Q, by simp [Bip341.tweakPubkey, hq, h2]⟩

/-- the tweaked private key is BIP341's `taproot_tweak_seckey` result `s`, or `n - s` when `s·G` has odd Y (the
    even-Y representative: BIP340 signing negates accordingly anyway) -/
theorem taproot_seckey_eq_bip341 (L : EcLaws E) (env : Env) (htag : ∀ t m, (env.tagged t m).length = 32)
    (k : PrivateKey) (hv : seckeyValid E k.secret = true) (h : Bytes) :
    k.taprootTweak E env h =
      if Bip341.tweakOf env.tagged (E.x (E.mulG k.secret)) h = 0 then none
      else match Bip341.tweakSeckey E env.tagged k.secret h with
        | none => none
        | some s =>
          if s = 0 then none
          else some ⟨if E.yOdd (E.mulG s) then E.n - s else s, true, Generated.privDefaultNet⟩ :=
  tweakPriv_eq L env htag k hv h

-- (the path-level statements — derive = the BIP32 fold with bookkeeping, neutering along non-hardened paths — are in Props/C09X.lean)

/-! ### the defects that were repaired (theorems about the old code) -/

/-- fix k05: the old private derivation called `ec_privkey_add(I_L, k_par)`, which refuses `I_L = 0`; BIP32 and
    the public derivation accept it (`k_i = k_par`) -/
theorem old_child_refused_il_zero (parent : Nat) : HDKey.childOldAdd E parent 0 = none := by
  simp [HDKey.childOldAdd, privkeyAdd, seckeyValid]

theorem child_accepts_il_zero (L : EcLaws E) (pk : PrivateKey) (hv : seckeyValid E pk.secret = true) :
    childPriv E pk 0 = some ⟨pk.secret, true, Generated.privDefaultNet⟩ := by
  have hvv := (seckeyValid_iff E pk.secret).mp hv
  rw [childPriv_eq L pk hv 0]
  have : (0 + pk.secret) % E.n = pk.secret := by rw [Nat.zero_add]; exact Nat.mod_eq_of_lt hvv.2
  rw [this, if_neg (by omega)]

/-- fix k02: the old parity test looked at `self.sec()`, which starts with 04 for an uncompressed key, so the
    secret was negated whatever the parity of Y -/
theorem old_tweak_negates_uncompressed (k : PrivateKey) (hv : seckeyValid E k.secret = true)
    (hu : k.compressed = false) : k.taprootNegateOld E = some true := by
  simp [PrivateKey.taprootNegateOld, PrivateKey.sec, PrivateKey.getPublicKey, pubkeyCreate, hv, PublicKey.sec,
    pubkeySerialize, hu]

/-! ### non-vacuity -/

/-- a toy environment over the seven-element curve: HMAC gives I_L = 2, the tagged hash gives t = 2, and the text
    layer renders the version 0488ade4 as `xprv`, everything else as `xpub` -/
def exEnv : Env where
  hmac512 := fun _ _ => List.replicate 31 0 ++ [2] ++ List.replicate 32 9
  hash160 := fun _ => List.replicate 20 5
  tagged := fun _ _ => List.replicate 31 0 ++ [2]
  b58enc := fun b => 0x78 :: (if b.take 4 = [0x04, 0x88, 0xad, 0xe4] then tPrv else tPub)
  b58dec := fun _ => none

def exKey : HDKey toy :=
  { key := .priv ⟨3, true, 0⟩, chainCode := List.replicate 32 1, version := [0x04, 0x88, 0xad, 0xe4], depth := 0,
    fingerprint := [0, 0, 0, 0], childNumber := 0 }

example : EcLaws toy := toy_laws
example : ∀ key msg, (exEnv.hmac512 key msg).length = 64 := by intro _ _; rfl
example : ∀ msg, 4 ≤ (exEnv.hash160 msg).length := by intro _; simp [exEnv]
example : ∀ t m, (exEnv.tagged t m).length = 32 := by intro _ _; rfl
example : seckeyValid toy 3 = true := by decide
example : VersionSays exEnv exKey.version tPrv := by
  intro rest _; simp [exEnv, exKey, sub14, tPrv]
example : detectPubVersion exKey.version = some [0x04, 0x88, 0xb2, 0x1e] := by decide
example : VersionSays exEnv [0x04, 0x88, 0xb2, 0x1e] tPub := by
  intro rest _; simp [exEnv, sub14, tPub]
/-- the child of the toy key exists (k = 2 + 3 mod 7 = 5), so does its neutered form, and a hardened child too -/
example : ((exKey.child exEnv 0).bind (fun c => c.toPublic exEnv)).isSome = true := by decide
example : (exKey.child exEnv (2 ^ 31)).isSome = true := by decide
example : ((exKey.toPublic exEnv).bind (fun K => K.child exEnv (2 ^ 31))).isSome = false := by decide
example : (exKey.derive exEnv [0]).isSome = true := by decide
/-- … and the next step hits BIP32's invalid case k_i = 2 + 5 mod 7 = 0, reported as failure -/
example : (exKey.derive exEnv [0, 1]).isSome = false := by decide
/-- both parities occur on the toy curve, and the tweak of either succeeds -/
example : toy.yOdd (toy.mulG 3) = true ∧ toy.yOdd (toy.mulG 4) = false := by decide
example : ((⟨3, true, 0⟩ : PrivateKey).taprootTweak toy exEnv []).isSome = true := by decide
example : ((⟨4, false, 0⟩ : PrivateKey).taprootTweak toy exEnv [1, 2]).isSome = true := by decide
example : parsePath (pathToStr [0, 1, 2147483647, 2147483648, 4294967295]) = some [0, 1, 2147483647, 2147483648, 4294967295] :=
  path_text_roundtrip _
example : pathToStr [44 + 2147483648, 0, 5] = [0x6d, 0x2f, 0x34, 0x34, 0x68, 0x2f, 0x30, 0x2f, 0x35] := by
  have d44 : decDigits 44 = [0x34, 0x34] := by
    rw [decDigits_unfold, if_neg (by decide), decDigits_unfold, if_pos (by decide)]; rfl
  have d0 : decDigits 0 = [0x30] := by rw [decDigits_unfold, if_pos (by decide)]; rfl
  have d5 : decDigits 5 = [0x35] := by rw [decDigits_unfold, if_pos (by decide)]; rfl
  simp [pathToStr, showInt, hardenedIndex, d44, d0, d5]

end Embit.Props.C09
