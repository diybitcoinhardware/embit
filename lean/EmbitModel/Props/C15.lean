import EmbitModel.Proofs.Bip39
/-
  C15 — BIP39 mnemonics: entropy round-trip, exact validity, standard seed.
  Property theorems only. `Model.Bip39.*` is the model of embit/bip39.py (tied to the repository by the
  correspondence check), `Spec.Bip39.*` is BIP39 as a statement about bit strings.

  Standing hypotheses, all explicit:
    `hH  : ∀ x, (H x).length = 32`   the hash function returns 32 bytes (nothing else is assumed about SHA-256),
    `hwl : wl.length = 2048`, `hnd : wl.Nodup`   the word list has 2048 distinct entries (checked on the lists
                                                  actually used, on every run, by the harness).
-/
namespace Embit.Props.C15
open Embit Embit.Model.Bip39 Embit.Spec.Bip39

variable {W : Type} [DecidableEq W]
set_option linter.unusedSectionVars false

/-! ### the packing loop -/

/-- **Loop invariant of `mnemonic_to_bytes`.** From a state `(binary_seed, offset)` that holds an `L`-bit string
    of value `N` (⌈L/8⌉ bytes, bits left-aligned, `offset = L mod 8`), packing words whose indices are `idxs`
    succeeds and leaves the state that holds the `L + 11·n`-bit string `N ‖ idx₁ ‖ … ‖ idxₙ`. -/
theorem pack_invariant (wl : List W) (hwl : wl.length = 2048) (ws : List W) (idxs : List Nat)
    (st : Pack) (N L : Nat) (hr : Rep st N L) (hm : ws.mapM (indexOf? wl) = some idxs) :
    ∃ st', packWords wl st ws = some st' ∧ Rep st' (valOf N idxs) (L + 11 * ws.length) :=
  pack_words wl hwl ws idxs st N L hr hm

/-- the same for the whole loop, in terms of bits: afterwards `binary_seed` is the concatenation of the
    11-bit indices, padded with zero bits to a whole number of bytes -/
theorem pack_result_bits (wl : List W) (hwl : wl.length = 2048) (ws : List W) (idxs : List Nat)
    (hm : ws.mapM (indexOf? wl) = some idxs) :
    ∃ st', packWords wl ⟨[], 0⟩ ws = some st' ∧
      bytesToBits st'.seed =
        idxs.flatMap (bitsOfNat 11) ++ List.replicate (8 * st'.seed.length - 11 * ws.length) false ∧
      st'.seed.length = (11 * ws.length + 7) / 8 :=
  pack_result wl hwl ws idxs hm

/-- a word that is not in the list makes the loop raise, at whatever position it stands -/
theorem pack_rejects_unknown_word (wl : List W) (ws : List W) (st : Pack)
    (hm : ws.mapM (indexOf? wl) = none) : packWords wl st ws = none :=
  pack_words_none wl ws st hm

/-! ### `mnemonic_to_bytes` = BIP39 decoding -/

/-- for **every** word sequence: fewer than 12 words are rejected; otherwise the result is that of the bit-string
    rule "multiple of three, every word in the list, trailing bits = leading bits of SHA-256(entropy)" without an
    upper bound on the number of words (this is what embit does beyond 24 words) -/
theorem to_bytes_eq_spec_ext (H : Bytes → Bytes) (hH : ∀ x, (H x).length = 32) (wl : List W)
    (hwl : wl.length = 2048) (ws : List W) :
    toBytes H wl false ws = if ws.length < 12 then none else decodeExt H wl ws :=
  toBytes_eq_decodeExt H hH wl hwl ws

/-- on phrases of 12 to 24 words `mnemonic_to_bytes` *is* BIP39 decoding (same accept/reject, same entropy) -/
theorem to_bytes_eq_spec (H : Bytes → Bytes) (hH : ∀ x, (H x).length = 32) (wl : List W)
    (hwl : wl.length = 2048) (ws : List W) (h12 : 12 ≤ ws.length) (h24 : ws.length ≤ 24) :
    toBytes H wl false ws = decode H wl ws := by
  rw [to_bytes_eq_spec_ext H hH wl hwl, decode]
  simp [h12, h24, show ¬ ws.length < 12 by omega]

/-- **Exact validity.** A phrase of 12 to 24 words is accepted exactly when BIP39 says it is valid. Both
    directions: nothing invalid is accepted (every checksum bit is compared), nothing valid is refused. -/
theorem accepts_iff_valid (H : Bytes → Bytes) (hH : ∀ x, (H x).length = 32) (wl : List W)
    (hwl : wl.length = 2048) (ws : List W) (h12 : 12 ≤ ws.length) (h24 : ws.length ≤ 24) :
    (toBytes H wl false ws).isSome = true ↔ valid H wl ws := by
  rw [to_bytes_eq_spec H hH wl hwl ws h12 h24]; rfl

/-- `mnemonic_is_valid` decides BIP39 validity on 12…24 words -/
theorem is_valid_iff (H : Bytes → Bytes) (hH : ∀ x, (H x).length = 32) (wl : List W)
    (hwl : wl.length = 2048) (ws : List W) (h12 : 12 ≤ ws.length) (h24 : ws.length ≤ 24) :
    isValid H wl ws = true ↔ valid H wl ws :=
  accepts_iff_valid H hH wl hwl ws h12 h24

/-- what the code does outside the property's domain, part 1: short phrases and phrases whose length is not a
    multiple of three are always refused (also with `ignore_checksum=True`) -/
theorem short_or_ragged_rejected (H : Bytes → Bytes) (wl : List W) (ign : Bool) (ws : List W)
    (h : ws.length < 12 ∨ ws.length % 3 ≠ 0) : toBytes H wl ign ws = none := by
  rcases h with h | h <;> simp [toBytes, h]

/-- part 2: there is no upper bound. 27, 30, … words are accepted whenever the extended checksum rule holds
    (here 27 × word 0 under a hash returning zeros gives the 36 zero bytes); BIP39 stops at 24 words. -/
theorem long_phrase_accepted :
    toBytes (fun _ => List.replicate 32 0) (List.range 2048) false (List.replicate 27 0) = some (List.replicate 36 0)
    ∧ decode (fun _ => List.replicate 32 0) (List.range 2048) (List.replicate 27 0) = none := by
  decide +kernel

/-! ### `mnemonic_from_bytes` = BIP39 encoding -/

/-- for every entropy whose length is a multiple of 4 up to 1024 bytes (in particular the five lengths BIP39
    allows) the result is ENT ‖ first ENT/32 bits of SHA-256(ENT), cut into 11-bit groups, looked up in the list -/
theorem from_bytes_eq_spec (H : Bytes → Bytes) (hH : ∀ x, (H x).length = 32) (wl : List W)
    (e : Bytes) (h4 : e.length % 4 = 0) (hmax : e.length ≤ 1024) :
    fromBytes H wl e = encode H wl e :=
  fromBytes_eq_encode H hH wl e h4 hmax

/-- outside the domain: a length that is not a multiple of 4 raises; any other length is accepted — also 0, 4,
    8, 12 (fewer than 12 words, which `mnemonic_to_bytes` refuses) and 36, 40, … (beyond BIP39) -/
theorem from_bytes_ragged_rejected (H : Bytes → Bytes) (wl : List W) (e : Bytes) (h : e.length % 4 ≠ 0) :
    fromBytes H wl e = none := by
  simp [fromBytes, h]

theorem from_bytes_outside_domain :
    fromBytes (fun _ => List.replicate 32 0) (List.range 2048) [] = some []
    ∧ fromBytes (fun _ => List.replicate 32 0) (List.range 2048) [0, 0, 0, 0] = some [0, 0, 0]
    ∧ toBytes (fun _ => List.replicate 32 0) (List.range 2048) false [0, 0, 0] = none := by
  decide +kernel

/-! ### round trips -/

theorem allowed_lengths (e : Bytes) (h : allowedEntropy e) :
    ∃ k, e.length = 4 * k ∧ 4 ≤ k ∧ k ≤ 8 := by
  unfold allowedEntropy at h
  exact ⟨e.length / 4, by omega, by omega, by omega⟩

/-- **Entropy → mnemonic → entropy is the identity**, for the five BIP39 entropy lengths, any 32-byte hash
    function, any list of 2048 distinct words; the mnemonic has 12…24 words and is BIP39-valid. -/
theorem to_from (H : Bytes → Bytes) (hH : ∀ x, (H x).length = 32) (wl : List W)
    (hwl : wl.length = 2048) (hnd : wl.Nodup) (e : Bytes) (he : allowedEntropy e) :
    ∃ ws, fromBytes H wl e = some ws ∧ toBytes H wl false ws = some e ∧
      12 ≤ ws.length ∧ ws.length ≤ 24 ∧ valid H wl ws := by
  obtain ⟨k, hk, hk4, hk8⟩ := allowed_lengths e he
  obtain ⟨hl, hlt, _⟩ := encodeIdx_props H hH e k hk (by omega)
  have hdec := decodeIdx_encodeIdx H hH e k hk (by omega)
  obtain ⟨ws, hws, hlen', hidx'⟩ := lookup_words wl (encodeIdx H e) (fun i hi => hwl ▸ hlt i hi)
  have hidx := hidx' hnd
  have hlen : ws.length = 3 * k := by omega
  have htb : toBytes H wl false ws = some e := by
    rw [to_bytes_eq_spec_ext H hH wl hwl]
    have h12 : ¬ ws.length < 12 := by omega
    rw [if_neg h12]
    simp [decodeExt, hlen, wordIndex_eq, hidx, hdec]
  refine ⟨ws, ?_, htb, by omega, by omega, ?_⟩
  · rw [from_bytes_eq_spec H hH wl e (by omega) (by omega)]; exact hws
  · rw [← accepts_iff_valid H hH wl hwl ws (by omega) (by omega), htb]; rfl

/-- what a successful `mnemonic_to_bytes` tells, unpacked -/
theorem to_bytes_ok_inv (H : Bytes → Bytes) (hH : ∀ x, (H x).length = 32) (wl : List W)
    (hwl : wl.length = 2048) (ws : List W) (e : Bytes) (h : toBytes H wl false ws = some e) :
    12 ≤ ws.length ∧ ws.length % 3 = 0 ∧ ws.length ≤ 768 ∧
    ∃ idxs, ws.mapM (indexOf? wl) = some idxs ∧ decodeIdx H idxs = some e := by
  obtain ⟨k, idxs, hk, h4, h256, hm, hd, _, _⟩ := toBytes_ok H hH wl hwl ws e h
  exact ⟨by omega, by omega, by omega, idxs, hm, hd⟩

/-- **Mnemonic → entropy → mnemonic is the identity** on everything `mnemonic_to_bytes` accepts (in particular
    on every BIP39-valid phrase). No distinctness of the list is needed in this direction. -/
theorem from_to (H : Bytes → Bytes) (hH : ∀ x, (H x).length = 32) (wl : List W)
    (hwl : wl.length = 2048) (ws : List W) (e : Bytes) (h : toBytes H wl false ws = some e) :
    fromBytes H wl e = some ws := by
  obtain ⟨k, idxs, hk, h4, h256, hm, hd, henc, hel⟩ := toBytes_ok H hH wl hwl ws e h
  rw [from_bytes_eq_spec H hH wl e (by omega) (by omega), encode, henc]
  exact words_lookup wl ws idxs hm

/-- for valid phrases, stated with the specification's predicate -/
theorem from_to_valid (H : Bytes → Bytes) (hH : ∀ x, (H x).length = 32) (wl : List W)
    (hwl : wl.length = 2048) (ws : List W) (hv : valid H wl ws) :
    ∃ e, toBytes H wl false ws = some e ∧ allowedEntropy e ∧ fromBytes H wl e = some ws := by
  unfold valid at hv
  have hb : 12 ≤ ws.length ∧ ws.length ≤ 24 := by
    by_cases hb : 12 ≤ ws.length ∧ ws.length ≤ 24
    · exact hb
    · simp [decode, hb] at hv
  obtain ⟨e, he⟩ := Option.isSome_iff_exists.mp hv
  rw [← to_bytes_eq_spec H hH wl hwl ws hb.1 hb.2] at he
  refine ⟨e, he, ?_, from_to H hH wl hwl ws e he⟩
  obtain ⟨k, _, hk, _, _, _, _, _, hel⟩ := toBytes_ok H hH wl hwl ws e he
  unfold allowedEntropy; omega

/-- the decidable rule and the generative definition of BIP39 agree: a phrase is valid exactly when it is the
    mnemonic of some entropy of an allowed length -/
theorem valid_iff_encoding (H : Bytes → Bytes) (hH : ∀ x, (H x).length = 32) (wl : List W)
    (hwl : wl.length = 2048) (hnd : wl.Nodup) (ws : List W) :
    valid H wl ws ↔ ∃ e, allowedEntropy e ∧ encode H wl e = some ws := by
  constructor
  · intro hv
    obtain ⟨e, _, ha, hf⟩ := from_to_valid H hH wl hwl ws hv
    obtain ⟨k, hk, _, _⟩ := allowed_lengths e ha
    exact ⟨e, ha, by rw [← from_bytes_eq_spec H hH wl e (by omega) (by omega)]; exact hf⟩
  · rintro ⟨e, ha, he⟩
    obtain ⟨ws', hf, _, _, _, hv⟩ := to_from H hH wl hwl hnd e ha
    obtain ⟨k, hk, _, _⟩ := allowed_lengths e ha
    rw [from_bytes_eq_spec H hH wl e (by omega) (by omega), he] at hf
    cases hf; exact hv

/-- two accepted phrases with the same entropy are the same phrase -/
theorem to_bytes_injective (H : Bytes → Bytes) (hH : ∀ x, (H x).length = 32) (wl : List W)
    (hwl : wl.length = 2048) (ws ws' : List W) (e : Bytes)
    (h : toBytes H wl false ws = some e) (h' : toBytes H wl false ws' = some e) : ws = ws' := by
  have a := from_to H hH wl hwl ws e h
  have b := from_to H hH wl hwl ws' e h'
  rw [a] at b; exact Option.some.inj b

/-- **Every checksum bit matters.** If `ws` is accepted with entropy `e`, any *other* phrase that carries the same
    entropy bits (that is what `ignore_checksum=True` returns) — i.e. differs from `ws` in checksum bits only, in
    whichever of them — is refused. -/
theorem wrong_checksum_rejected (H : Bytes → Bytes) (hH : ∀ x, (H x).length = 32) (wl : List W)
    (hwl : wl.length = 2048) (ws ws' : List W) (e : Bytes)
    (h : toBytes H wl false ws = some e) (hne : ws' ≠ ws) (hsame : toBytes H wl true ws' = some e) :
    toBytes H wl false ws' = none := by
  cases h' : toBytes H wl false ws' with
  | none => rfl
  | some e' =>
    exfalso
    obtain ⟨h12, h3, hmax, idxs, hm, _⟩ := to_bytes_ok_inv H hH wl hwl ws' e' h'
    have hi := toBytes_ignore H hH wl hwl ws' idxs h3 h12 hmax hm
    have hs := toBytes_some H hH wl hwl false ws' idxs h3 h12 hmax hm
    rw [h'] at hs
    split at hs
    · simp at hs
    · rw [hsame] at hi
      have : e' = e := by
        simp only [Option.some.injEq] at hs hi; rw [hs, hi]
      subst this
      exact hne (to_bytes_injective H hH wl hwl ws' ws e' h' h)

/-- the `ignore_checksum=True` + `mnemonic_from_bytes` idiom ("fix the checksum", see the repository's test):
    for any 12…24 list words, a multiple of three, it yields a valid phrase with the same entropy -/
theorem fix_checksum (H : Bytes → Bytes) (hH : ∀ x, (H x).length = 32) (wl : List W)
    (hwl : wl.length = 2048) (hnd : wl.Nodup) (ws : List W) (idxs : List Nat)
    (h12 : 12 ≤ ws.length) (h24 : ws.length ≤ 24) (h3 : ws.length % 3 = 0)
    (hm : ws.mapM (indexOf? wl) = some idxs) :
    ∃ e ws', toBytes H wl true ws = some e ∧ fromBytes H wl e = some ws' ∧ valid H wl ws' ∧
      toBytes H wl false ws' = some e ∧ ws'.length = ws.length := by
  have hi := toBytes_ignore H hH wl hwl ws idxs h3 h12 (by omega) hm
  obtain ⟨hil, hlt⟩ := mapM_lt wl ws idxs hm
  have hbl : (idxs.flatMap (bitsOfNat 11)).length = 33 * (ws.length / 3) := by
    rw [flatMap_bitsOfNat_length, hil]; omega
  obtain ⟨_, hel⟩ := bytesToBits_bitsToBytes (4 * (ws.length / 3)) (entropyBits idxs)
    (by simp [entropyBits, hbl]; omega)
  have ha : allowedEntropy (bitsToBytes (entropyBits idxs)) := by unfold allowedEntropy; omega
  obtain ⟨ws', hf, ht, _, _, hv⟩ := to_from H hH wl hwl hnd _ ha
  refine ⟨_, ws', hi, hf, hv, ht, ?_⟩
  obtain ⟨k', _, hk', _, _, _, _, _, hel'⟩ := toBytes_ok H hH wl hwl ws' _ ht
  omega

/-! ### seed -/

/-- **Standard seed** (definitional on the model): for a phrase the validation accepts, the seed is
    PBKDF2(password = UTF-8 of the phrase, salt = "mnemonic" ‖ UTF-8 of the passphrase, 2048 rounds, 64 bytes)
    — the BIP39 seed, for strings already in NFKD (embit does not normalise). `pbkdf2` is any function; the
    executable PBKDF2-HMAC-SHA512 of the driver is compared with `hashlib.pbkdf2_hmac` on every run. -/
theorem seed_eq_pbkdf2 (H : Bytes → Bytes) (pbkdf2 : Bytes → Bytes → Nat → Nat → Bytes) (wl : List W)
    (ws : List W) (m pw : Bytes) (h : (toBytes H wl false ws).isSome = true) :
    toSeed H pbkdf2 (some wl) ws m pw = some (Spec.Bip39.seed pbkdf2 m pw) := by
  obtain ⟨e, he⟩ := Option.isSome_iff_exists.mp h
  simp [toSeed, he, Spec.Bip39.seed, Model.Bip39.mnemonicLabel, Spec.Bip39.mnemonicLabel, pbkdf2Rounds]

/-- with a word list, a phrase that `mnemonic_to_bytes` refuses yields no seed -/
theorem seed_rejects_invalid (H : Bytes → Bytes) (pbkdf2 : Bytes → Bytes → Nat → Nat → Bytes) (wl : List W)
    (ws : List W) (m pw : Bytes) (h : toBytes H wl false ws = none) :
    toSeed H pbkdf2 (some wl) ws m pw = none := by
  simp [toSeed, h]

/-- `wordlist=None`: no validation, same derivation -/
theorem seed_unchecked (H : Bytes → Bytes) (pbkdf2 : Bytes → Bytes → Nat → Nat → Bytes)
    (ws : List W) (m pw : Bytes) :
    toSeed H pbkdf2 (none : Option (List W)) ws m pw = some (Spec.Bip39.seed pbkdf2 m pw) := by
  simp [toSeed, Spec.Bip39.seed, Model.Bip39.mnemonicLabel, Spec.Bip39.mnemonicLabel, pbkdf2Rounds]

/-- for valid 12…24-word phrases: seed defined and standard -/
theorem seed_of_valid (H : Bytes → Bytes) (hH : ∀ x, (H x).length = 32) (pbkdf2 : Bytes → Bytes → Nat → Nat → Bytes)
    (wl : List W) (hwl : wl.length = 2048) (ws : List W) (m pw : Bytes) (hv : valid H wl ws) :
    toSeed H pbkdf2 (some wl) ws m pw = some (Spec.Bip39.seed pbkdf2 m pw) := by
  obtain ⟨e, he, _, _⟩ := from_to_valid H hH wl hwl ws hv
  exact seed_eq_pbkdf2 H pbkdf2 wl ws m pw (by rw [he]; rfl)

/-! ### the string layer and `find_candidates` -/

/-- `" ".join(words).strip().split()` gives the words back when no word is empty or contains white space
    (a fact about the list, checked by the harness on the lists used) -/
theorem split_join_words {C : Type} (isSpace : C → Bool) (sp : C) (hsp : isSpace sp = true) (ws : List (List C))
    (hws : ∀ w ∈ ws, w ≠ [] ∧ ∀ c ∈ w, isSpace c = false) : splitWs isSpace [] (joinSp sp ws) = ws :=
  split_join isSpace sp hsp ws hws

/-- `find_candidates` returns the first `nmax` list words with the given prefix, in list order (`nmax ≥ 1`) -/
theorem find_candidates_spec (p : W → Bool) (nmax : Nat) (h : 1 ≤ nmax) (wl : List W) :
    findCandidates p nmax [] wl = (wl.filter p).take nmax := by
  rw [findCandidates_eq p nmax [] wl (by simp; omega)]; simp

/-- quirk outside the property: with `nmax = 0` the loop still lets one match of the first word through -/
theorem find_candidates_nmax_zero : findCandidates (fun _ => true) 0 [] [7, 8] = [7] := by decide

/-! ### non-vacuity: the hypotheses are satisfiable and the statements bite -/

def exH : Bytes → Bytes := fun b => List.replicate 32 (UInt8.ofNat (b.length + (b.headD 0).toNat))
def exList : List Nat := List.range 2048

example : ∀ x, (exH x).length = 32 := by intro x; simp [exH]
example : exList.length = 2048 ∧ exList.Nodup := ⟨by simp [exList], List.nodup_range⟩

/-- entropy `01 00 … 00` (16 bytes): its mnemonic, back to the entropy, valid; the checksum word matters -/
def exEntropy : Bytes := 1 :: List.replicate 15 0
example : allowedEntropy exEntropy := by decide
example : fromBytes exH exList exEntropy = some [8, 0, 0, 0, 0, 0, 0, 0, 0, 0, 0, 1] := by decide +kernel
example : toBytes exH exList false [8, 0, 0, 0, 0, 0, 0, 0, 0, 0, 0, 1] = some exEntropy := by decide +kernel
example : valid exH exList [8, 0, 0, 0, 0, 0, 0, 0, 0, 0, 0, 1] := by decide +kernel
-- each of the four checksum bits flipped: refused; with ignore_checksum the entropy is still read
example : ([0, 3, 5, 9] : List Nat).all (fun last =>
    (toBytes exH exList false [8, 0, 0, 0, 0, 0, 0, 0, 0, 0, 0, last]).isNone &&
    toBytes exH exList true [8, 0, 0, 0, 0, 0, 0, 0, 0, 0, 0, last] == some exEntropy) = true := by decide +kernel
-- an out-of-list word (index 2048 is not in `range 2048`), a wrong length
example : toBytes exH exList false [8, 0, 0, 0, 0, 2048, 0, 0, 0, 0, 0, 1] = none := by decide +kernel
example : toBytes exH exList false [8, 0, 0, 0, 0, 0, 0, 0, 0, 0, 0, 0, 1] = none := by decide +kernel
-- a state satisfying the loop invariant mid-way: 11 bits `00000001000` = two bytes `01 00`, offset 3
example : Rep ⟨[1, 0], 3⟩ 8 11 := by unfold Rep; decide

end Embit.Props.C15
