import EmbitModel.Proofs.SignPolicy
/-
  C02 — PSBT signing adds only valid, authorised signatures for the right digest.
  Decision logic proved here; signature validity, the signed set, counts and the frame condition are proved in
  Props/C02X.lean (and additionally decided on every run by the independent verifier/predicate in
  harness/props/c02.py).
-/
set_option linter.unusedSimpArgs false
namespace Embit.Props.C02
open Embit Model

/-! ### which flag, and whether to sign at all — the rule as the property words it -/

/-- non-taproot inputs have no DEFAULT: it means ALL -/
def norm (taproot : Bool) (f : Nat) : Nat := if !taproot && f = 0 then 1 else f

/-- the input's flag: its own PSBT_IN_SIGHASH_TYPE, else the one the caller asks for, else DEFAULT -/
def effective (authorised inpSighash : Option Nat) (taproot : Bool) : Nat :=
  match inpSighash with
  | some f => norm taproot f
  | none => norm taproot (authorised.getD 0)

/-- ALL and DEFAULT are interchangeable -/
def equivFlag (a b : Nat) : Prop := a = b ∨ ((a = 0 ∨ a = 1) ∧ (b = 0 ∨ b = 1))

/-- the input's flag is one the caller authorised (None = whatever the PSBT requests) -/
def authorisedFlag (authorised inpSighash : Option Nat) (taproot : Bool) : Prop :=
  match authorised with
  | none => True
  | some a => equivFlag (norm taproot a) (effective authorised inpSighash taproot)

/-- an input is signed exactly when its flag is authorised — every combination of caller flag, input flag
    (any natural numbers, not only the eight valid ones) and input kind -/
theorem policy_iff (a r : Option Nat) (t : Bool) : (signPolicy a r t).isSome = true ↔ authorisedFlag a r t := by
  cases a with
  | none => simp [signPolicy, authorisedFlag]
  | some x =>
    rw [signPolicy_some x r t (norm t) rfl (effective (some x) r t) (by cases r <;> rfl)]
    simp only [authorisedFlag, equivFlag]
    generalize effective (some x) r t = e
    generalize norm t x = a
    by_cases h1 : a = e <;> by_cases h2 : e = 0 ∨ e = 1 <;> by_cases h3 : a = 0 ∨ a = 1 <;>
      simp [h1, h2, h3, show e = a ↔ a = e from eq_comm] <;> omega

/-- and it is signed with the input's flag (so the signature's last byte is that flag) -/
theorem policy_flag (a r : Option Nat) (t : Bool) (f : Nat) (h : signPolicy a r t = some f) :
    f = effective a r t := by
  cases a with
  | none => cases r <;> cases t <;> cases h <;> rfl
  | some x =>
    rw [signPolicy_some x r t (norm t) rfl (effective (some x) r t) (by cases r <;> rfl)] at h
    split at h
    · cases h
    · exact (Option.some.inj h).symm

/-- None = sign whatever the PSBT requests -/
theorem policy_none (r : Option Nat) (t : Bool) : signPolicy none r t = some (effective none r t) := by
  cases r <;> cases t <;> simp [signPolicy, effective, norm]

/-- a caller who authorises only ALL/DEFAULT never produces a NONE/SINGLE/ANYONECANPAY signature -/
theorem all_never_signs_weaker (r : Option Nat) (t : Bool) (a f : Nat) (ha : a = 0 ∨ a = 1)
    (h : signPolicy (some a) r t = some f) : f = 0 ∨ f = 1 := by
  have h1 := policy_flag _ _ _ _ h
  have h2 := (policy_iff (some a) r t).mp (by simp [h])
  simp only [authorisedFlag, equivFlag] at h2
  rw [← h1] at h2
  rcases ha with rfl | rfl <;> cases t <;> simp [norm] at h2 <;> omega

/-! ### which digest: algorithm and script code per script type (BIP143 / BIP341 / legacy rule) -/

def p2pkhOf (h20 : Bytes) : Bytes := [0x76, 0xa9, 0x14] ++ h20 ++ [0x88, 0xac]

/-- P2WPKH: BIP143 script code is the P2PKH script of the same hash -/
theorem dispatch_p2wpkh (h20 : Bytes) (hl : h20.length = 20) (wu : Bool) :
    sighashDispatch ([0x00, 0x14] ++ h20) none none wu = (Algo.segwit, p2pkhOf h20) := by
  have : (([0x00, 0x14] : Bytes) ++ h20).length = 22 := by simp [hl]
  simp [sighashDispatch, scriptType, truthy, hl, p2pkhOf]

/-- P2SH-P2WPKH -/
theorem dispatch_p2sh_p2wpkh (h20 s20 : Bytes) (hl : h20.length = 20) (hs : s20.length = 20) (wu : Bool) :
    sighashDispatch ([0xa9, 0x14] ++ s20 ++ [0x87]) none (some ([0x00, 0x14] ++ h20)) wu
      = (Algo.segwit, p2pkhOf h20) := by
  simp [sighashDispatch, scriptType, truthy, hl, hs, p2pkhOf]

/-- P2WSH: script code is the witness script. `hnot` is an explicit exclusion (a witness script of P2WPKH shape, where
    embit deviates from BIP143): see `dispatch_p2wsh_wpkh_shaped_deviates` -/
theorem dispatch_p2wsh (h32 ws : Bytes) (hl : h32.length = 32) (hne : ws ≠ [])
    (hnot : scriptType ws ≠ some "p2wpkh") (wu : Bool) :
    sighashDispatch ([0x00, 0x20] ++ h32) (some ws) none wu = (Algo.segwit, ws) :=
  sighashDispatch_witnessScript _ ws none wu (by simp [scriptType, hl]) hne hnot

/-- P2SH-P2WSH. `hnot`: explicit exclusion, see `dispatch_p2sh_p2wsh_wpkh_shaped_deviates` -/
theorem dispatch_p2sh_p2wsh (s20 h32 ws : Bytes) (hs : s20.length = 20) (hl : h32.length = 32) (hne : ws ≠ [])
    (hnot : scriptType ws ≠ some "p2wpkh") (wu : Bool) :
    sighashDispatch ([0xa9, 0x14] ++ s20 ++ [0x87]) (some ws) (some ([0x00, 0x20] ++ h32)) wu = (Algo.segwit, ws) :=
  sighashDispatch_witnessScript _ ws _ wu (by simp [scriptType, hs]) hne hnot

/-! #### the explicit exclusion `scriptType ws ≠ some "p2wpkh"` (audit A13)

  `dispatch_p2wsh`, `dispatch_p2sh_p2wsh` and `dispatch_p2sh_legacy` exclude a witness script / redeem script that
  itself has the 22-byte P2WPKH shape `0014‖h20`. This is an EXPLICIT EXCLUSION of the property, not a proof gap: in
  that region embit deviates from BIP143. BIP143 prescribes the witness script itself as script code of a P2WSH input;
  embit applies its P2WPKH rewriting to whatever script it selected (`if sc.script_type() == "p2wpkh": sc =
  p2pkh_from_p2wpkh(sc)`) and hashes `76a914‖h20‖88ac` instead. The witness theorems below show the deviation at a
  concrete point inside the excluded region. It is unspendable in practice either way (as a witness script `0014‖h20`
  leaves `h20` on the stack — no signature is ever checked against this digest), so no code change and no finding; the
  exclusion stays a hypothesis of the three theorems. -/

/-- the P2WPKH-shaped witness script `0014‖aa…aa` used by the witnesses -/
def exWpkhShaped : Bytes := [0x00, 0x14] ++ List.replicate 20 0xaa

/-- witness inside the excluded region, P2WSH: the conclusion of `dispatch_p2wsh` FAILS — the script code embit signs
    is the P2PKH conversion, not the witness script BIP143 prescribes (all other hypotheses of `dispatch_p2wsh` hold) -/
theorem dispatch_p2wsh_wpkh_shaped_deviates :
    scriptType exWpkhShaped = some "p2wpkh" ∧ exWpkhShaped ≠ [] ∧ (List.replicate 32 (1 : UInt8)).length = 32
    ∧ sighashDispatch ([0x00, 0x20] ++ List.replicate 32 1) (some exWpkhShaped) none true
        = (Algo.segwit, p2pkhOf (List.replicate 20 0xaa))
    ∧ sighashDispatch ([0x00, 0x20] ++ List.replicate 32 1) (some exWpkhShaped) none true
        ≠ (Algo.segwit, exWpkhShaped) := by decide

/-- the same for P2SH-P2WSH … -/
theorem dispatch_p2sh_p2wsh_wpkh_shaped_deviates :
    sighashDispatch ([0xa9, 0x14] ++ List.replicate 20 2 ++ [0x87]) (some exWpkhShaped)
        (some ([0x00, 0x20] ++ List.replicate 32 1)) false
      = (Algo.segwit, p2pkhOf (List.replicate 20 0xaa))
    ∧ sighashDispatch ([0xa9, 0x14] ++ List.replicate 20 2 ++ [0x87]) (some exWpkhShaped)
        (some ([0x00, 0x20] ++ List.replicate 32 1)) false
      ≠ (Algo.segwit, exWpkhShaped) := by decide

/-- … while for a bare P2SH whose redeem script has that shape the exclusion only separates it from
    `dispatch_p2sh_p2wpkh`: this IS P2SH-P2WPKH (BIP143 digest over the P2PKH script code), not a legacy input -/
theorem dispatch_p2sh_legacy_wpkh_shaped_is_segwit :
    sighashDispatch ([0xa9, 0x14] ++ List.replicate 20 2 ++ [0x87]) none (some exWpkhShaped) false
      = (Algo.segwit, p2pkhOf (List.replicate 20 0xaa)) := by decide

/-- P2PKH: legacy, script code is the scriptPubKey -/
theorem dispatch_p2pkh (h20 : Bytes) (hl : h20.length = 20) :
    sighashDispatch (p2pkhOf h20) none none false = (Algo.legacy, p2pkhOf h20) := by
  simp [sighashDispatch, scriptType, truthy, hl, p2pkhOf]

/-- bare P2SH (e.g. legacy multisig): legacy, script code is the redeem script. `h1` / `h2` separate it from
    P2SH-P2WPKH / P2SH-P2WSH (`dispatch_p2sh_legacy_wpkh_shaped_is_segwit`) -/
theorem dispatch_p2sh_legacy (s20 rs : Bytes) (hs : s20.length = 20) (hne : rs ≠ [])
    (h1 : scriptType rs ≠ some "p2wpkh") (h2 : scriptType rs ≠ some "p2wsh") :
    sighashDispatch ([0xa9, 0x14] ++ s20 ++ [0x87]) none (some rs) false = (Algo.legacy, rs) := by
  have hw : rs.isEmpty = false := by cases rs <;> simp_all
  have hspk : scriptType ([0xa9, 0x14] ++ s20 ++ [0x87]) = some "p2sh" := by simp [scriptType, hs]
  have h1' : (scriptType rs = some "p2wpkh") = False := by simp [h1]
  have h2' : (scriptType rs = some "p2wsh") = False := by simp [h2]
  simp only [sighashDispatch, hspk, truthy, hw, Option.getD_some, h1', h2']
  simp
  intro h; exact absurd h h1

/-- P2TR: always the BIP341 digest -/
theorem dispatch_p2tr (x32 : Bytes) (hl : x32.length = 32) (ws rs : Option Bytes) (wu : Bool) :
    (sighashDispatch ([0x51, 0x20] ++ x32) ws rs wu).1 = Algo.taproot := by
  simp [sighashDispatch, scriptType, hl]

-- added_sigs_valid / signed set / count_eq_added / frame: proved in Props/C02X.lean over the executable model of the
--   whole of `PSBT.sign_with` / `PSBTView.sign_with` (Model/SignWith.lean, Model/SignWithView.lean).

/-! ### non-vacuity -/
example : signPolicy (some 0) (some 0x83) false = none ∧ signPolicy none (some 0x83) false = some 0x83
    ∧ signPolicy (some 0) none false = some 1 ∧ signPolicy (some 1) (some 0) true = some 0 := by decide

end Embit.Props.C02
