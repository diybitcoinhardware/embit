import EmbitModel.Props.C17X
import EmbitModel.Proofs.Desc3
/-
  C17, third part — "the recursion ends by itself" for the descriptor / miniscript / taptree parser, stated so that a
  parser spinning until its fuel is gone would NOT satisfy it.

  `Props/C17X.lean` states fuel-independence (`descriptor_parse_total`: every fuel above |text| gives the same result).
  That is also true of a parser that loops until the fuel is used up and then answers `none`, as long as it does so
  for every fuel. Here the parsers are re-run with a three-valued result (`Model/Desc3.lean`: `ok` / `reject` /
  `outOfFuel`, the last one returned exactly where the fuel counter is 0 and handed up unchanged), and the statements
  are:
    * erasure: forgetting `reject` vs `outOfFuel` gives back the two-valued parsers of `Model/Descriptor.lean`, for
      every input and every fuel (so the three-valued functions are the same parsers, not new ones);
    * with more fuel than characters left, the answer is never `outOfFuel` (hypothesis `NoEmptyKey ops`): every `none`
      of `Desc.parse` is a rejection reached with fuel to spare;
    * the distinction is real: with a key decoder that accepts the empty text, `multi(1,` does give `outOfFuel`, for
      every fuel.
  What this does not say: anything about CPython's recursion limit or time (see the cost statements in C17X).
-/
set_option linter.unusedSimpArgs false
set_option linter.unusedVariables false
namespace Embit.Props.C17Z
open Embit Embit.Model Embit.Model.Descriptor Embit.Model.Cost Embit.Props.C17X

variable {K : Type}

/-! ## erasure: the three-valued parsers are the two-valued ones -/

/-- **`readMs3` is `readMs`** once `reject` and `outOfFuel` are both read as `none` — every key decoder, context,
    fuel and stream; no hypothesis -/
theorem miniscript_read3_erases (ops : KeyOps K) (tap : Bool) (fuel : Nat) (s : Stream) :
    (readMs3 ops tap fuel s).toOption = readMs ops tap fuel s :=
  readMs3_erase ops tap fuel s

/-- **`readTapTree3` is `readTapTree`** once `reject` and `outOfFuel` are both read as `none`; no hypothesis -/
theorem taptree_read3_erases (ops : KeyOps K) (fuel : Nat) (s : Stream) :
    (readTapTree3 ops fuel s).toOption = readTapTree ops fuel s :=
  readTapTree3_erase ops fuel s

/-- **`Desc.readFrom3` is `Desc.readFrom`** once `reject` and `outOfFuel` are both read as `none`; no hypothesis -/
theorem descriptor_read3_erases (ops : KeyOps K) (fuel : Nat) (s : Stream) :
    (Desc.readFrom3 ops fuel s).toOption = Desc.readFrom ops fuel s :=
  readFrom3_erase ops fuel s

/-- **`Desc.parse3` is `Desc.parse`** (the model of `Descriptor.from_string`) once `reject` and `outOfFuel` are both
    read as `none`; no hypothesis -/
theorem descriptor_parse3_erases (ops : KeyOps K) (text : Str) :
    (Desc.parse3 ops text).toOption = Desc.parse ops text :=
  parse3_erase ops text

/-! ## the fuel is never the reason -/

/-- **`Miniscript.read_from` never runs out of fuel**: with more fuel than characters left, the three-valued reader
    answers `ok` or `reject`, never `outOfFuel` (key decoder refuses the empty text) -/
theorem miniscript_never_out_of_fuel (ops : KeyOps K) (hW : NoEmptyKey ops) (tap : Bool) (fuel : Nat) (s : Stream)
    (h : s.rest.length < fuel) : (readMs3 ops tap fuel s).isOutOfFuel = false :=
  (readMs3_settled ops hW tap fuel fuel s h h).2

/-- **`TapTree.read_from` never runs out of fuel**: with more fuel than characters left, the answer is `ok` or
    `reject`, never `outOfFuel` -/
theorem taptree_never_out_of_fuel (ops : KeyOps K) (hW : NoEmptyKey ops) (fuel : Nat) (s : Stream)
    (h : s.rest.length < fuel) : (readTapTree3 ops fuel s).isOutOfFuel = false :=
  (readTapTree3_settled ops hW fuel fuel s h h).2

/-- **`Descriptor.read_from` never runs out of fuel, ∀-form**: read from the start of a text, every fuel above the
    length of the text gives `ok` or `reject` -/
theorem descriptor_never_out_of_fuel_all (ops : KeyOps K) (hW : NoEmptyKey ops) (text : Str) (fuel : Nat)
    (hf : text.length < fuel) : (Desc.readFrom3 ops fuel (Stream.ofStr text)).isOutOfFuel = false :=
  (readFrom3_settled ops hW fuel fuel (Stream.ofStr text) rfl hf hf).2

/-- **`Descriptor.read_from` never runs out of fuel, ∃-form**: there is a fuel, at most `|text| + 1`, with which the
    three-valued reader does not answer `outOfFuel` — a bound on the nesting / loop rounds of the run, which a
    reader spinning until the fuel is gone does not have -/
theorem descriptor_never_out_of_fuel (ops : KeyOps K) (hW : NoEmptyKey ops) (text : Str) :
    ∃ fuel, fuel ≤ text.length + 1 ∧ (Desc.readFrom3 ops fuel (Stream.ofStr text)).isOutOfFuel = false :=
  ⟨text.length + 1, Nat.le_refl _, descriptor_never_out_of_fuel_all ops hW text _ (Nat.lt_succ_self _)⟩

/-- **`Descriptor.from_string` never runs out of fuel**: `Desc.parse3` (fuel `|text| + 1`, as `Desc.parse`) answers
    `ok` or `reject` on every text -/
theorem descriptor_parse3_never_out_of_fuel (ops : KeyOps K) (hW : NoEmptyKey ops) (text : Str) :
    (Desc.parse3 ops text).isOutOfFuel = false :=
  parse3_fuel ops hW text

/-- **a `none` of the model of `Descriptor.from_string` is a rejection, not an exhausted fuel**: whenever
    `Desc.parse` gives `none`, the three-valued run of the same parser with the same fuel gives `reject` -/
theorem descriptor_rejection_is_not_fuel (ops : KeyOps K) (hW : NoEmptyKey ops) (text : Str)
    (h : Desc.parse ops text = none) : Desc.parse3 ops text = .reject :=
  parse3_reject_of_none ops hW text h

/-! ## the distinction is real -/

/-- **with a key decoder that accepts the empty text the argument loop does run out of fuel**, whatever the fuel:
    at the end of the text `multi(1,` the three-valued loop answers `outOfFuel` for every `n` (the two-valued one
    answers `none` there, `C17X.multi_loop_needs_key_check`, indistinguishable from a rejection) -/
theorem lax_decoder_runs_out_of_fuel (b : Str) : ∀ n : Nat,
    readMore3 (fun t => Res.ofOption (readKey laxOps false false t)) n ⟨b, [',']⟩ = .outOfFuel := by
  have hk : readKey laxOps false false ⟨',' :: b, []⟩ = some (⟨none, .obj (), none, false⟩, ⟨b, [',']⟩) := by
    simp [readKey, Stream.read1, Stream.unread, readKeyBody, readUntil, readUntilAux, parseKeyText, laxOps,
      parseAllowed, KeyVal.allowHardened, KeyVal.hasDerive]
  intro n
  induction n with
  | zero => rfl
  | succ n ih =>
    have hk' : Res.ofOption (readKey laxOps false false ⟨',' :: b, []⟩) =
        .ok (⟨none, .obj (), none, false⟩, ⟨b, [',']⟩) := by
      rw [hk]; rfl
    simp only [readMore3, Stream.read1]
    rw [hk']
    simp only [ih]

/-- the whole parser on `wsh(multi(1,` with the lax decoder: `outOfFuel` -/
theorem lax_parse_runs_out_of_fuel : Desc.parse3 laxOps "wsh(multi(1,".toList = .outOfFuel :=
  eq_outOfFuel_of_isOutOfFuel (by decide +kernel)

/-- the same text with a decoder that refuses the empty text: `reject` -/
theorem toy_parse_rejects : Desc.parse3 toyOps "wsh(multi(1,".toList = .reject := by
  apply descriptor_rejection_is_not_fuel toyOps rfl
  have h : (Desc.parse toyOps "wsh(multi(1,".toList).isSome = false := by decide +kernel
  cases hp : Desc.parse toyOps "wsh(multi(1,".toList with
  | none => rfl
  | some d => rw [hp] at h; simp at h

/-! ### non-vacuity -/

example : NoEmptyKey toyOps := rfl
-- more fuel does not help the lax decoder: out of fuel at 40 and at 80
example : (Desc.readFrom3 laxOps 40 (Stream.ofStr "wsh(multi(1,".toList)).isOutOfFuel = true ∧
    (Desc.readFrom3 laxOps 80 (Stream.ofStr "wsh(multi(1,".toList)).isOutOfFuel = true := by decide +kernel
-- an accepted text and two rejected ones with the toy decoder: a value / no value, and never out of fuel
example : (Desc.parse3 toyOps "wsh(and_v(v:pk(A),after(10)))".toList).toOption.isSome = true ∧
    (Desc.parse3 toyOps "wsh(and_v(v:pk(A),after(10)))".toList).isOutOfFuel = false := by decide +kernel
example : (Desc.parse3 toyOps "wsh(multi(1,".toList).toOption.isSome = false ∧
    (Desc.parse3 toyOps "wsh(multi(1,".toList).isOutOfFuel = false := by decide +kernel
example : (Desc.parse3 toyOps "wsh(and_v(and_v(and_v(and_v(".toList).toOption.isSome = false ∧
    (Desc.parse3 toyOps "wsh(and_v(and_v(and_v(and_v(".toList).isOutOfFuel = false := by decide +kernel
-- too little fuel is reported as such (nesting depth 2 needs fuel 2), not as a rejection
example : (readMs3 toyOps false 1 (Stream.ofStr "and_v(v:pk(A),after(10))".toList)).isOutOfFuel = true ∧
    (readMs3 toyOps false 2 (Stream.ofStr "and_v(v:pk(A),after(10))".toList)).toOption.isSome = true := by
  decide +kernel

end Embit.Props.C17Z
