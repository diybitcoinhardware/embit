import EmbitModel.Props.C20
import EmbitModel.Generated.BindingFacts
/-
  C20, part 2 — the per-function facts of embit's binding layer as PROBED from the loaded module on this run
  (harness/bindprobe.py -> Generated/BindingFacts.lean), decided by kernel evaluation, and their combination with the
  protocol theorem of Props/C20.lean.
-/
namespace Embit.Props.C20
open Embit.Model.Lock Embit.Gen.Binding

/-! ### (2) the facts probed from the loaded module on this run -/

set_option maxRecDepth 100000

/-- every function that can reach native code was exercised by the probe, and so was every `_secp.…(…)` call site -/
theorem all_probed : unprobed = [] ∧ ∀ f ∈ bindingFns, f.probed = true := by decide +kernel

/-- the summaries emitted by the probe are the ones the recorded steps give -/
theorem facts_consistent : ∀ f ∈ bindingFns,
    f.callsNative = stepsCallNative f.steps ∧ f.nativeUnderLock = stepsLocked false f.steps
      ∧ f.outBuffersFresh = stepsFresh f.steps := by decide +kernel

/-- every entry point of the native binding runs under the library's lock -/
theorem every_entry_locked : ∀ f ∈ bindingFns, f.callsNative = true → f.nativeUnderLock = true := by decide +kernel

/-- no function lets C write into a buffer that another call or thread can see -/
theorem buffers_fresh : ∀ f ∈ bindingFns, f.outBuffersFresh = true := by decide +kernel

/-- (weaker than `buffers_fresh`, what `safe` really needs) a shared out-buffer is at least copied before the release -/
theorem buffers_private_or_copied : ∀ f ∈ bindingFns, f.outBuffersFresh = true ∨ f.copiesBeforeRelease = true := by
  decide +kernel

/-- no function acquires the (non-reentrant) lock while holding it -/
theorem no_reentrant_acquire : ∀ f ∈ bindingFns, f.lockReentered = false := by decide +kernel

/-! ### (3) protocol + facts -/

/-- programs of binding-backed operations of the probed module: any threads, any operation sequences, any complete
    schedule — the results are the serial ones -/
theorem binding_serialisable (threads : List (List BindingFn))
    (hin : ∀ ops ∈ threads, ∀ f ∈ ops, f ∈ bindingFns ∧ f.callsNative = true) (sched : List Tid) :
    let progs := progsOf (threads.map (·.map (·.steps)))
    complete (run sched (init progs)) →
    ∀ t, (run sched (init progs)).res t = (run (serialSched progs threads.length) (init progs)).res t :=
  serialisable _ threads.length
    (progsOf_table_safe bindingFns (fun f hf => (facts_consistent f hf).2) every_entry_locked buffers_fresh threads hin)
    (progsOf_steps_beyond threads) sched

/-- the probed table is not empty and contains the Liquid unblinding primitive, and it calls native code -/
example : (bindingFns.filter (fun f => f.name == "rangeproof_rewind" && f.callsNative)).length = 1 := by decide +kernel

example : 40 ≤ bindingFns.length := by decide +kernel


end Embit.Props.C20
