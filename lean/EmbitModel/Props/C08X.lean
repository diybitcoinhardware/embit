import EmbitModel.Proofs.SignRecoverable
import EmbitModel.Proofs.ToyCurve
import EmbitModel.Props.C08
/-
  C08X — the two recoverable-signature primitives of C08 (pure-python secp256k1 fallback interchangeable with
  libsecp256k1), which `Props/C08.lean` only corresponded.

  * `ecdsa_recover`: py computes `u1·R − u2·G` with `u1 = s/r`, `u2 = z/r` from its own candidate list and then
    re-verifies the signature under the recovered key; the contract is SEC 1 §4.1.6 `Q = r⁻¹(sR − zG)` with the
    candidate chosen by the recovery id. Relative to `EcLaws E` they return the same bytes or both reject, for ALL
    65-byte structures, messages and recovery ids (wrong lengths, r or s ≥ n, r = 0, s = 0, ids ≥ 4, `r + n ≥ p`,
    abscissas off the curve, a recovered point at infinity included).
  * `ecdsa_sign_recoverable`: py signs and then SEARCHES the recovery id by trial recovery, libsecp256k1 computes it
    from the nonce point. They are proved equal away from an explicit decidable region (`recidSearchSafe`), in
    which the code really differs: witness theorems on the toy curve for both parts of the region. On secp256k1 a
    witness cannot be exhibited: it needs a nonce point with `x(R) ≥ n` (a 2^-128 event; finding such a nonce is
    a discrete-logarithm problem) or `2z + r·d ≡ 0 (mod n)` (2^-256).
-/
namespace Embit.Props.C08X
open Embit Embit.Model Embit.Model.PySecp

variable (E : EcOps) (H : HashOps)

/-- `ecdsa_recover` under both backends: same 64-byte key structure or both reject, for every 65-byte (or
    wrong-length) structure and every message -/
theorem py_eq_contract_ecdsa_recover (L : EcLaws E) (hn : E.n ≤ 2 ^ 256) (hp : E.p ≤ 2 ^ 256) (sig msg : Bytes) :
    ecdsaRecover E sig msg = Spec.Libsecp.ecdsa_recover E sig msg :=
  eq_ecdsa_recover E L hn hp sig msg

/-- the re-verification at the end of py's `ecdsa_recover` never rejects a recovered key: for `R = cG` and
    `Q = r⁻¹(sR − zG)` the verification point `z/s·G + r/s·Q` is `R` (so the two formulations cannot differ there) -/
theorem recovered_key_verifies (L : EcLaws E) (r s z c e : Nat) (hr : 0 < r ∧ r < E.n) (hs : 0 < s ∧ s < E.n)
    (he : (e : ZMod E.n) = (E.invN r : ZMod E.n) * ((s : ZMod E.n) * c - z)) :
    E.add (E.mul (z * E.invN s % E.n) E.g) (E.mul (r * E.invN s % E.n) (E.mul e E.g)) = E.mul c E.g :=
  reverify_point L r s z c e hr hs he

/-- `ecdsa_sign_recoverable` under both backends: same 65 bytes or both reject, for every message and key, away
    from (i) the region of `py_eq_contract_ecdsa_sign_partial` (first valid RFC 6979 candidate gives r = 0 or
    s = 0) and (ii) the region `recidSearchSafe = false`: the nonce point has `x(R) ≥ n` (recovery id 2 or 3), or
    the id is 1 and `2z + r·d ≡ 0 (mod n)`. `FiniteMultiples E`: the points `aG`, `0 < a < n`, are finite. -/
theorem py_eq_contract_ecdsa_sign_recoverable_partial (L : EcLaws E) (hn : E.n < 2 ^ 256) (hodd : E.n % 2 = 1)
    (hp : E.p ≤ 2 ^ 256) (hfinite : FiniteMultiples E) (fuel : Nat) (msg secret : Bytes)
    (hgood : ∀ k, deterministicK H fuel E.n (ofBe secret) (ofBe msg) none = some k →
      (Spec.Ecdsa.signWith E (ofBe secret) (ofBe msg) k).isSome)
    (hsafe : recidSearchSafe E H fuel msg secret = true) :
    ecdsaSignRecoverable E H fuel msg secret = Spec.Libsecp.ecdsa_sign_recoverable E H fuel msg secret := by
  unfold ecdsaSignRecoverable
  rw [eq_ecdsa_sign_partial E H hn hodd fuel msg secret none hgood, eq_pubkey_create]
  unfold Spec.Libsecp.ecdsa_sign Spec.Libsecp.ecdsa_sign_recoverable Spec.Libsecp.ec_pubkey_create
  by_cases hm : msg.length = 32
  swap
  · simp [hm]
  simp only [hm, ne_eq, not_true_eq_false, if_false, Option.map_none, reduceCtorEq]
  cases hsk : Spec.Libsecp.seckey E secret with
  | none => rfl
  | some d =>
    have hd := (seckey_some E secret d hsk).2
    simp only [Option.bind_some]
    cases hsc : Spec.Libsecp.signCore E H fuel d msg none with
    | none => rfl
    | some krs =>
      obtain ⟨k, r, s⟩ := krs
      simp only [Option.map_some, Option.bind_some]
      have hsc' := hsc
      unfold Spec.Libsecp.signCore at hsc'
      obtain ⟨hk1, hk2, hsw⟩ := signAttempts_some H d (ofBe msg) _ _ k r s hsc'
      obtain ⟨xR, yR, hK, hr, hs, hr0, hs0⟩ := signWith_some d (ofBe msg) k r s hsw
      have hnpos := L.n_pos
      have hsn : s < E.n := by rw [hs]; exact Nat.mod_lt _ hnpos
      have hrn : r < E.n := by rw [hr]; exact Nat.mod_lt _ hnpos
      -- the safe region
      unfold recidSearchSafe at hsafe
      rw [← hd.1, hsc] at hsafe
      simp only [hK, Bool.and_eq_true, decide_eq_true_eq, Bool.or_eq_true, bne_iff_ne, ne_eq] at hsafe
      obtain ⟨hxn, hsafe2⟩ := hsafe
      -- the signer's public key is finite
      have hfd := hfinite d hd.2.1 hd.2.2
      cases hpub : Spec.Libsecp.pubkeyStruct E (E.mul d E.g) with
      | none => rw [pubkeyStruct_eq_none] at hpub; rw [hpub] at hfd; cases hfd
      | some pubb =>
        simp only [hK, Option.map_some]
        have hs'n := (normalizeS_range (E := E) s hs0 hsn).2.1
        have hrec : ∀ i, i ≤ 3 →
            ecdsaRecover E (Spec.Libsecp.sigStruct r (Spec.Ecdsa.normalizeS E s) ++ [UInt8.ofNat i]) msg
              = (Spec.Libsecp.recoverPoint E r (Spec.Ecdsa.normalizeS E s) (ofBe msg) i).bind
                  (Spec.Libsecp.pubkeyStruct E) := by
          intro i hi
          rw [eq_ecdsa_recover E L (by omega) hp,
            contract_recover_struct (E := E) (by omega) r _ i hrn hs'n hi msg hm]
        have hright := recover_right L k d (ofBe msg) xR yR r s ⟨by omega, hk2⟩ hK hxn hr
          (by rw [hs, Nat.mul_comm r d]) hr0 hs0 hfd
        have ht01 : nonceRecid E xR yR s = 0 ∨ nonceRecid E xR yR s = 1 := by
          have := (nonceRecid_low (E := E) xR yR s hxn).1
          omega
        show recidSearch E _ msg pubb [0, 1, 2, 3] = some (_ ++ [UInt8.ofNat (nonceRecid E xR yR s)])
        rcases ht01 with ht | ht
        · rw [ht] at hright ⊢
          simp only [recidSearch]
          rw [hrec 0 (by omega), hright]
          simp only [Option.bind_some, hpub, if_true]
        · rw [ht] at hright ⊢
          have hsafe3 : (2 * ofBe msg + r * d) % E.n ≠ 0 := by
            rcases hsafe2 with h | h
            · exact absurd ht h
            · exact h
          obtain ⟨e, he, hed, hefin, hwrong⟩ := recover_wrong L hodd k d (ofBe msg) xR yR r s ⟨by omega, hk2⟩
            hK hxn hr (by rw [hs, Nat.mul_comm r d]) hr0 hs0 ht hsafe3 hfinite
          simp only [recidSearch]
          rw [hrec 0 (by omega), hwrong]
          simp only [Option.bind_some]
          cases hq0 : Spec.Libsecp.pubkeyStruct E (E.mul e E.g) with
          | none => rw [pubkeyStruct_eq_none] at hq0; rw [hq0] at hefin; cases hefin
          | some q0 =>
            have hne : q0 ≠ pubb := by
              intro h
              rw [h] at hq0
              exact hed (pubkeyStruct_inj L hp e d he hd.2.2 pubb hq0 hpub)
            simp only [hne, if_false]
            rw [hrec 1 (by omega), hright]
            simp only [Option.bind_some, hpub, if_true]

/-- the recovery id the contract attaches is the one its own `ecdsa_recover` needs: recovering from the output of
    `ecdsa_sign_recoverable` gives the signer's public key (inside the safe region) -/
theorem recid_recovers_signer (L : EcLaws E) (k d z xR yR r s : Nat) (hk : 0 < k ∧ k < E.n)
    (hK : E.xy (E.mul k E.g) = some (xR, yR)) (hxn : xR < E.n) (hr : r = xR % E.n)
    (hs : s = (E.invN k * (z + r * d)) % E.n) (hr0 : r ≠ 0) (hs0 : s ≠ 0)
    (hfin : (E.xy (E.mul d E.g)).isSome = true) :
    Spec.Libsecp.recoverPoint E r (Spec.Ecdsa.normalizeS E s) z (nonceRecid E xR yR s) = some (E.mul d E.g) :=
  recover_right L k d z xR yR r s hk hK hxn hr hs hr0 hs0 hfin

/-! ### witnesses for the excluded region (toy curve `y² = x³ + 7` over 𝔽₄₃, n = 31; nonce fixed by a constant HMAC) -/

/-- a hash record whose HMAC always returns `k`: RFC 6979 then yields the nonce `k` -/
def constH (k : Nat) : HashOps := { sha256 := id, hmac256 := fun _ _ => beN 32 k }

/-- `x(R) ≥ n`: nonce 3, `R = 3G = (35, 21)`, `r = 4`. libsecp256k1's contract answers with recovery id 3; py tries
    id 0 first, i.e. the abscissa 4, which is not on the curve — `ECPubKey.set` fails and the loop is left by the
    exception -/
theorem sign_recoverable_differs_when_x_ge_n :
    ecdsaSignRecoverable toyCurve (constH 3) 2 (beN 32 1) (beN 32 1) = none ∧
    Spec.Libsecp.ecdsa_sign_recoverable toyCurve (constH 3) 2 (beN 32 1) (beN 32 1)
      = some (leN 32 4 ++ leN 32 12 ++ [3]) ∧
    recidSearchSafe toyCurve (constH 3) 2 (beN 32 1) (beN 32 1) = false := by
  decide +kernel

/-- id 1 with `2z + r·d ≡ 0`: nonce 2, `R = 2G = (7, 7)`, `r = 7`, `d = 3`, `z = 5` (`2·5 + 7·3 = 31`). The wrong
    candidate tried first (id 0) recovers the point at infinity, whose serialisation raises; the contract
    answers id 1 -/
theorem sign_recoverable_differs_when_wrong_candidate_is_infinite :
    ecdsaSignRecoverable toyCurve (constH 2) 2 (beN 32 5) (beN 32 3) = none ∧
    Spec.Libsecp.ecdsa_sign_recoverable toyCurve (constH 2) 2 (beN 32 5) (beN 32 3)
      = some (leN 32 7 ++ leN 32 13 ++ [1]) ∧
    recidSearchSafe toyCurve (constH 2) 2 (beN 32 5) (beN 32 3) = false := by
  decide +kernel

/-- the region `x(R) ≥ n` is an over-approximation: when `r = x(R) − n` happens to be an abscissa too (here
    `R = 15G = (38, 21)`, `r = 7`), py's search gets through ids 0, 1, 2 and finds id 3 as well -/
theorem sign_recoverable_agrees_at_a_lucky_x_ge_n :
    ecdsaSignRecoverable toyCurve (constH 15) 2 (beN 32 6) (beN 32 3)
      = Spec.Libsecp.ecdsa_sign_recoverable toyCurve (constH 15) 2 (beN 32 6) (beN 32 3) ∧
    (Spec.Libsecp.ecdsa_sign_recoverable toyCurve (constH 15) 2 (beN 32 6) (beN 32 3)).isSome = true ∧
    recidSearchSafe toyCurve (constH 15) 2 (beN 32 6) (beN 32 3) = false := by
  decide +kernel

/-! ### non-vacuity -/

example : EcLaws toyCurve := toyCurve_laws
example : FiniteMultiples toyCurve := by
  have H : ∀ a, a < 31 → 0 < a → (toyCurve.xy (toyCurve.mul a toyCurve.g)).isSome = true := by decide +kernel
  intro a h0 h1
  exact H a h1 h0
example : toyCurve.n < 2 ^ 256 ∧ toyCurve.n % 2 = 1 ∧ toyCurve.p ≤ 2 ^ 256 := by decide
/-- inside the safe region both ids occur: id 0 (first candidate) and id 1 (the search goes on past a finite wrong key) -/
example : recidSearchSafe toyCurve (constH 2) 2 (beN 32 6) (beN 32 3) = true ∧
    ecdsaSignRecoverable toyCurve (constH 2) 2 (beN 32 6) (beN 32 3) = some (leN 32 7 ++ leN 32 2 ++ [0]) := by
  decide +kernel
example : recidSearchSafe toyCurve (constH 2) 2 (beN 32 1) (beN 32 3) = true ∧
    ecdsaSignRecoverable toyCurve (constH 2) 2 (beN 32 1) (beN 32 3) = some (leN 32 7 ++ leN 32 11 ++ [1]) := by
  decide +kernel
/-- recovery with id 2 (`x = r + n = 35`): both formulations give the same key structure -/
example : ecdsaRecover toyCurve (leN 32 4 ++ leN 32 5 ++ [2]) (beN 32 9)
    = Spec.Libsecp.ecdsa_recover toyCurve (leN 32 4 ++ leN 32 5 ++ [2]) (beN 32 9) ∧
    (ecdsaRecover toyCurve (leN 32 4 ++ leN 32 5 ++ [2]) (beN 32 9)).isSome = true := by
  decide +kernel
/-- … and both refuse id 0 there (abscissa 4 is not on the curve) and id 2 when `r + n ≥ p` -/
example : ecdsaRecover toyCurve (leN 32 4 ++ leN 32 5 ++ [0]) (beN 32 9) = none ∧
    Spec.Libsecp.ecdsa_recover toyCurve (leN 32 4 ++ leN 32 5 ++ [0]) (beN 32 9) = none ∧
    ecdsaRecover toyCurve (leN 32 12 ++ leN 32 5 ++ [2]) (beN 32 9) = none ∧
    Spec.Libsecp.ecdsa_recover toyCurve (leN 32 12 ++ leN 32 5 ++ [2]) (beN 32 9) = none := by
  decide +kernel

end Embit.Props.C08X
