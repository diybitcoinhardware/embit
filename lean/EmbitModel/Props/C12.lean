import EmbitModel.Proofs.DescChecksum
import EmbitModel.Proofs.DescCommute
import EmbitModel.Proofs.DescText
import EmbitModel.Proofs.DescMs
/-
  C12 — Descriptors print/parse stably and derive the scripts BIP380-386 prescribe.
  Property theorems only. `Model.Descriptor.*` is the model of embit's descriptor code (descriptor.py, arguments.py,
  taptree.py, checksum.py, the text parser of miniscript.py, the script builders of script.py), tied to the repo by
  the correspondence check; `Spec.Descriptor.*` is what BIP380-386 (+BIP341, BIP67, BIP389) prescribe.
  Key objects and hashes are parameters: `KeyOps`, `Hashes`; what is assumed of them is the explicit hypothesis
  `KeyLaws` (C09) / the `text` field of `KeyNormal` (C10/C11) — never an axiom.
-/
namespace Embit.Props.C12
open Embit Embit.Miniscript Embit.Model.Descriptor Embit.Spec.Descriptor

/-- `checksum(desc)` (checksum.py: streaming loop) is the checksum of BIP380 (`descsum_expand` then
    `descsum_polymod` over the symbol list, eight zero symbols, `^ 1`, checksum alphabet) — for every text; both
    reject exactly the texts with a character outside INPUT_CHARSET -/
theorem checksum_eq_bip380 (s : Str) : checksum s = descsumChecksum s := checksum_eq_spec s

/-- `add_checksum(desc)` of a text without `#` is BIP380's `descsum_create(desc)` -/
theorem add_checksum_eq_create (s : Str) (h : s.contains '#' = false) : addChecksum s = descsumCreate s := by
  unfold addChecksum descsumCreate
  simp only [h, Bool.false_eq_true, if_false, checksum_eq_spec]
  cases descsumChecksum s <;> rfl

/-- `add_checksum` applied to its own output changes nothing -/
theorem add_checksum_idempotent (s t : Str) (h : addChecksum s = some t) : addChecksum t = some t :=
  addChecksum_idem s t h

/-- create/verify: the checksum BIP380 creates (= the one embit appends) passes BIP380's `descsum_check`.
    Proof: the eight trailing symbols never reach the feedback taps of the polymod, so they enter it XOR-linearly
    (`round_delta`, `fold_delta`), and packing the eight 5-bit digits of a 40-bit value returns it. -/
theorem checksum_verifies (s cs : Str) (h : descsumChecksum s = some cs) : descsumCheck s cs = true := by
  unfold descsumChecksum at h
  cases he : descsumExpand s with
  | none => simp [he] at h
  | some sym =>
    simp only [he, Option.map_some, Option.some.injEq] at h
    subst h
    let Z := descsumPolymod (sym ++ [0, 0, 0, 0, 0, 0, 0, 0])
    have hZ : Z < 2 ^ 40 := by
      show List.foldl polymodRound 1 (sym ++ [0, 0, 0, 0, 0, 0, 0, 0]) < 2 ^ 40
      have : sym ++ [0, 0, 0, 0, 0, 0, 0, 0] = (sym ++ [0, 0, 0, 0, 0, 0, 0]) ++ [0] := by simp
      rw [this, List.foldl_append]
      exact round_lt _ 0 (by decide)
    have hX : Z ^^^ 1 < 2 ^ 40 := Nat.xor_lt_two_pow hZ (by decide)
    unfold descsumCheck
    simp only [he, List.length_map, checksumSymbols_length, decide_true, Bool.true_and,
      mapFind_symbols _ (checksumSymbols_lt _)]
    show decide (descsumPolymod (sym ++ checksumSymbols (Z ^^^ 1)) = 1) = true
    have key : descsumPolymod (sym ++ checksumSymbols (Z ^^^ 1)) = 1 := by
      unfold descsumPolymod
      rw [List.foldl_append]
      have := fold_delta (checksumSymbols (Z ^^^ 1)) (List.foldl polymodRound 1 sym) 0 0 (by decide)
        (by rw [checksumSymbols_length]; decide) (checksumSymbols_lt _)
      rw [Nat.xor_zero] at this
      rw [this, checksumSymbols_length, pack_symbols _ hX]
      have hz : List.foldl polymodRound (List.foldl polymodRound 1 sym) (List.replicate 8 0) = Z := by
        show _ = List.foldl polymodRound 1 (sym ++ [0, 0, 0, 0, 0, 0, 0, 0])
        rw [List.foldl_append]
        rfl
      rw [hz, ← Nat.xor_assoc, Nat.xor_self, Nat.zero_xor]
    simp [key]

/-- … in particular the text embit produces with `add_checksum` verifies -/
theorem add_checksum_verifies (s t : Str) (hs : s.contains '#' = false) (h : addChecksum s = some t) :
    ∃ cs, t = s ++ '#' :: cs ∧ descsumCheck s cs = true := by
  rw [add_checksum_eq_create s hs] at h
  unfold descsumCreate at h
  cases hc : descsumChecksum s with
  | none => simp [hc] at h
  | some cs =>
    simp only [hc, Option.map_some, Option.some.injEq] at h
    exact ⟨cs, h.symm, checksum_verifies s cs hc⟩

set_option maxRecDepth 100000 in
/-- non-vacuity: BIP380's own example `raw(deadbeef)#89f8spxm` -/
example : checksum ['r', 'a', 'w', '(', 'd', 'e', 'a', 'd', 'b', 'e', 'e', 'f', ')']
    = some ['8', '9', 'f', '8', 's', 'p', 'x', 'm'] := by decide +kernel

variable {K : Type}

/-- SCRIPT = SPEC. For every descriptor object of one of the seven forms (`formOf`), every index below 2^31 and
    every branch: whenever `derive(i, b)` succeeds, `script_pubkey()` of the derived descriptor is the script
    BIP380–386 prescribe for that form (pkh, wpkh, sh(wpkh), sh / wsh / sh(wsh) over the miniscript translation
    table incl. multi / sortedmulti, tr with the BIP341 merkle root and output-key tweak) from the public keys
    `deriveKey k i b` of its key expressions (BIP32 itself = `ops.derive`, abstract: C09).
    `laws`: named hypotheses on the key operations; `hargs`: every pushed key/hash is a direct push and the keys of
    a `sortedmulti` have one length (the hypothesis of C13's template theorem — holds when all keys are compressed). -/
theorem script_eq_spec {ops : KeyOps K} {h : Hashes} {tweakAdd : Bytes → Bytes → Option Bytes}
    (laws : KeyLaws ops h tweakAdd) (d d' : Desc K) (fm : Form K) (i b : Nat) (hi : i < 2 ^ 31)
    (hs : d.Shaped) (hform : formOf d = some fm) (hd : d.derive ops h i (some b) = some d')
    (hargs : ∀ e ∈ d.exprs, ∀ m,
      e.toMs (argBytes h d.taproot (fun k => deriveKey ops k i b)) = some m → m.argsOk = true) :
    d'.scriptPubkey ops h = scriptAt ops h tweakAdd d i b :=
  script_eq_spec_core laws d d' fm i b hi hs hform hd hargs

/-- the miniscript template of `multi` / `sortedmulti` is the BIP383 script (`sortedmulti`: keys in BIP67 order) -/
theorem multi_eq_bip383 (k : Nat) (keys : List Bytes) :
    Spec.Miniscript.scriptBytes (.multi .multi k keys) = multiScript k keys
    ∧ Spec.Miniscript.scriptBytes (.multi .sortedmulti k keys) = sortedmultiScript k keys := by
  constructor <;>
    simp [Spec.Miniscript.scriptBytes, Spec.Miniscript.desugar, Spec.Miniscript.script, Spec.Miniscript.serScript,
      Spec.Miniscript.Elem.ser, multiScript, sortedmultiScript, List.flatMap_append, List.flatMap_map,
      Spec.Miniscript.Op.code, OP_CHECKMULTISIG]

/-- `sortedmulti` is sorted AFTER derivation: the compiled script of the derived expression is the BIP383 script
    over the DERIVED public keys in lexicographic order (not the order of the key expressions, nor of the xpubs) -/
theorem sortedmulti_sorted_after_derivation {ops : KeyOps K} {h : Hashes}
    {tweakAdd : Bytes → Bytes → Option Bytes} (laws : KeyLaws ops h tweakAdd) (k : Nat)
    (keys keys' : List (KeyExpr K)) (i b : Nat) (hi : i < 2 ^ 31)
    (hm : mapOpt (fun ke => ke.derive ops h (some i) (some b)) keys = some keys')
    (hacc : Model.Miniscript.accepts .wsh (DMs.multi .sortedmulti k keys' : DMs K).shape = true)
    (pubs : List Bytes) (hp : mapOpt (fun ke => deriveKey ops ke i b) keys = some pubs)
    (hlen : sameLen pubs = true ∧ ∀ a ∈ pubs, a.length < 76) :
    compileMs ops h false (.multi .sortedmulti k keys') = some (sortedmultiScript k pubs) := by
  have hq : (DMs.multi .sortedmulti k keys : DMs K).toMs (argBytes h false (fun ke => deriveKey ops ke i b))
      = some (.multi .sortedmulti k pubs) := by
    simp only [DMs.toMs]
    have : mapOpt (argBytes h false (fun ke => deriveKey ops ke i b) .pk_k) keys = some pubs := by
      rw [← hp]
      apply mapOpt_congr
      intro x _
      simp only [argBytes, Bool.false_eq_true, if_false]
      cases deriveKey ops x i b <;> rfl
    rw [this]
    rfl
  have := compile_derived_eq laws false (.multi .sortedmulti k keys) (.multi .sortedmulti k keys') i b hi
    (by simp only [DMs.mapKeys, hm, Option.map_some]) (by simpa [ctxOf] using hacc)
    (by
      intro m hmm
      rw [hq] at hmm
      cases hmm
      simp only [Ms.argsOk, Bool.and_eq_true, List.all_eq_true, decide_eq_true_eq]
      exact ⟨hlen.2, hlen.1⟩)
  rw [this, hq]
  simp only [Option.map_some, (multi_eq_bip383 k pubs).2]

/-- the hash `_tweak_helper` computes for a tap tree is BIP341's merkle root over the compiled leaf scripts:
    leaves `TapLeaf(0xc0 ‖ compact_size(len) ‖ script)`, branches `TapBranch` over the two child hashes in
    ascending order -/
theorem taptree_hash_eq_bip341 (ops : KeyOps K) (h : Hashes) (t : TapTree K) :
    (tweakHelper ops h t).map (·.2) =
      (compiledTree ops h t).map (merkleRoot h) := by
  rw [tweakHelper_root]
  induction t with
  | empty => rfl
  | leaf ms =>
    simp only [treeRoot, compiledTree]
    cases compileMs ops h true ms <;> rfl
  | node l r ihl ihr =>
    simp only [treeRoot, compiledTree, ihl, ihr]
    cases compiledTree ops h l <;> cases compiledTree ops h r <;> rfl

/-- … and for a DERIVED tree that root is the root of the specification's resolved tree (leaf scripts = the
    specified scripts over `deriveKey` public keys) -/
theorem taptree_hash_derived_eq_bip341 {ops : KeyOps K} {h : Hashes} {tweakAdd : Bytes → Bytes → Option Bytes}
    (laws : KeyLaws ops h tweakAdd) (t t' : TapTree K) (i b : Nat) (hi : i < 2 ^ 31)
    (ht : t.mapKeys (fun k => k.derive ops h (some i) (some b)) = some t') (hne : t ≠ .empty)
    (hargs : ∀ e ∈ t.leaves, ∀ m, e.toMs (argBytes h true (fun k => deriveKey ops k i b)) = some m →
      m.argsOk = true) :
    t'.tweak ops h = (resolveTree h (fun k => deriveKey ops k i b) t).map (merkleRoot h) :=
  tree_tweak_derived laws t t' i b hi ht hne hargs

/-- CONVERTING TO PUBLIC KEYS FIRST never changes a derived script: if `to_public()` succeeds and the public
    descriptor can be derived at (i, b) (no hardened step after a private key), its script is the script of the
    private descriptor derived at (i, b). Uses C09's neutering laws (`KeyLaws`). -/
theorem to_public_commutes {ops : KeyOps K} {h : Hashes} {tweakAdd : Bytes → Bytes → Option Bytes}
    (laws : KeyLaws ops h tweakAdd) (d dp d1 d2 : Desc K) (i : Nat) (br : Option Nat) (hs : d.Shaped)
    (hp : d.toPublic ops = some dp) (h1 : dp.derive ops h i br = some d1) (h2 : d.derive ops h i br = some d2) :
    d1.scriptPubkey ops h = d2.scriptPubkey ops h :=
  Desc.scripts_agree laws _ _ _ d dp d1 d2 hs hp h1 h2
    (fun k kp k1 k2 _ hkp hk1 hk2 => toPublic_derive_agree laws (some i) br k kp k1 k2 hkp hk1 hk2)

/-- … and neutering AFTER deriving does not change it either -/
theorem derive_then_to_public {ops : KeyOps K} {h : Hashes} {tweakAdd : Bytes → Bytes → Option Bytes}
    (laws : KeyLaws ops h tweakAdd) (d d2 d3 : Desc K) (i : Nat) (br : Option Nat) (hs : d.Shaped)
    (h2 : d.derive ops h i br = some d2) (h3 : d2.toPublic ops = some d3) :
    d3.scriptPubkey ops h = d2.scriptPubkey ops h := by
  refine Desc.scripts_agree laws _ _ _ d d2 d3 d2 hs h2 h3 h2 ?_
  intro k kd k1 k2 _ hkd hk1 hk2
  rw [hkd] at hk2
  cases hk2
  -- k1 = to_public of kd
  rcases KeyExpr.toPublic_cases hk1 with rfl | ⟨key, p, hk, hpub, rfl⟩
  · exact KeyAgree.refl' _ _ rfl
  · exact fragPayload_of_sec _ _ p key rfl hk (laws.sec_toPublic key p hpub)

/-- BRANCHING FIRST never changes a derived script: `branch(b)` then `derive(i)` (with any branch argument) gives
    the script of `derive(i, b)` -/
theorem branch_commutes {ops : KeyOps K} {h : Hashes} {tweakAdd : Bytes → Bytes → Option Bytes}
    (laws : KeyLaws ops h tweakAdd) (d db d1 d2 : Desc K) (i : Nat) (br bn : Option Nat) (hs : d.Shaped)
    (hb : d.branch br = some db) (h1 : db.derive ops h i bn = some d1) (h2 : d.derive ops h i br = some d2) :
    d1.scriptPubkey ops h = d2.scriptPubkey ops h :=
  Desc.scripts_agree laws _ _ _ d db d1 d2 hs hb h1 h2
    (fun k kb k1 k2 _ hkb hk1 hk2 => branch_derive_agree laws i br bn k kb k1 k2 hkb hk1 hk2)

/-- KEY EXPRESSIONS. `Key.read_from` inverts `Key.to_string` in front of `,` or `)`, for every normal key
    expression: optional origin `[fingerprint/path]` (any non-negative elements, hardened printed `h`), the key's
    own text (hex SEC, x-only, WIF, xpub/xprv: whatever the codec of `KeyOps` prints and decodes again),
    derivation steps `/n`, `/nh`, `/*`, `/<a;b;…>` (at most one set, at most one wildcard, hardened only on
    extended private keys, elements below 2^31 before the marker). The stream is left exactly at the delimiter. -/
theorem read_key_expression (ops : KeyOps K) (tap hash : Bool) (k : KeyExpr K) (hn : KeyNormal ops tap hash k)
    (b : Str) (c : Char) (r : Str) (hc : c = ',' ∨ c = ')') :
    ∃ t, showKey ops k = some t ∧
      readKey ops tap hash ⟨b, t ++ c :: r⟩ = some (k, ⟨t.reverse ++ b, c :: r⟩) :=
  (readKey_showKey ops tap hash k hn).imp fun _ h => ⟨h.1, h.2 b _ ⟨c, r, rfl, hc⟩⟩

/-- the `text` hypothesis of `KeyNormal` holds for public keys printed as SEC hex as soon as `PublicKey.parse`
    inverts `sec()` (so for that key form the round trip rests on the modelled hex / dispatch code only) -/
theorem key_text_sec_hex (ops : KeyOps K) (tap hash : Bool) (k : KeyExpr K) (key : K) (hk : k.key = .obj key)
    (hkind : ops.kind key = .pub) (hx : k.xonlyRepr = false)
    (hshape : ∃ x rest, ops.sec key = x :: rest ∧
      ((rest.length = 32 ∧ (x = 2 ∨ x = 3)) ∨ (rest.length = 64 ∧ x = 4)))
    (hparse : ops.parseSec (ops.sec key) = some key) :
    ∃ kt, keyText ops k = some kt ∧ kt.head? ≠ some '[' ∧ kt ≠ [] ∧
      (∀ x ∈ kt, x ≠ ',' ∧ x ≠ ')' ∧ x ≠ '/') ∧
      (if hash then parseKeyHashText ops tap kt else parseKeyText ops tap kt) = some (k.key, k.xonlyRepr) :=
  keyText_pub_sec ops tap hash k key hk hkind hx hshape hparse

/-- PRINT then PARSE, the key-only forms `pkh(K)`, `wpkh(K)`, `sh(wpkh(K))`, `tr(K)`: for every normal key
    expression, `Descriptor.from_string(str(d))` returns `d` itself (same object field for field) -/
theorem print_parse_key_forms (ops : KeyOps K) (f : KeyForm) (k : KeyExpr K) (hn : KeyNormal ops f.tap false k)
    (hlen : ∀ t, showKey ops k = some t → t.length ≥ 4) :
    ∃ text, (f.desc k).print ops = some text ∧ Desc.parse ops text = some (f.desc k) :=
  print_parse_keyForm ops f k hn hlen

/-- … hence printing is stable: print(parse(print d)) = print d, and the reparsed descriptor has the same scripts
    at every index and branch (it is the same descriptor) -/
theorem print_stable_key_forms (ops : KeyOps K) (f : KeyForm) (k : KeyExpr K) (hn : KeyNormal ops f.tap false k)
    (hlen : ∀ t, showKey ops k = some t → t.length ≥ 4) :
    ∃ text, (f.desc k).print ops = some text ∧
      ∃ d', Desc.parse ops text = some d' ∧ d'.print ops = some text ∧
        ∀ (h : Hashes) i b, (d'.derive ops h i b).bind (·.scriptPubkey ops h)
          = ((f.desc k).derive ops h i b).bind (·.scriptPubkey ops h) := by
  obtain ⟨text, h1, h2⟩ := print_parse_key_forms ops f k hn hlen
  exact ⟨text, h1, f.desc k, h2, h1, fun _ _ _ => rfl⟩

/-- MINISCRIPT TEXT. `Miniscript.read_from` inverts `__str__` for every normal expression under any wrappers
    (`asc:` written in one word), with fuel above the expression's size, whatever character follows: operator name,
    wrapper split at `:`, `Key` / `KeyHash` / `Number` / `Raw32` / `Raw20` arguments, the `thresh` / `multi` lists -/
theorem read_miniscript (ops : KeyOps K) (tap : Bool) (e : DMs K) (hn : MsNormal ops tap e) (fuel : Nat)
    (hf : fuel > e.size) (b : Str) (c : Char) (r : Str) :
    ∃ t, showMs ops e = some t ∧ readMs ops tap fuel ⟨b, t ++ c :: r⟩ = some (e, ⟨t.reverse ++ b, c :: r⟩) :=
  (reads_of_roundtrip (readMs_roundtrip ops tap e) hn).imp fun _ h => ⟨h.1, h.2.2 fuel hf b _ trivial⟩

/-- PRINT then PARSE, all seven forms — pkh(K), wpkh(K), sh(wpkh(K)), tr(K), sh(M), wsh(M), sh(wsh(M)),
    tr(K, TREE): for every normal descriptor `Descriptor.from_string(str(d))` returns `d` itself.
    `DescNormal`: normal key expressions (`KeyNormal`), miniscripts that `Descriptor.__init__` / `TapLeaf.__init__`
    accept with arguments in their printable range (`MsNormal`: hash arguments of the right length, multi in its
    context), no empty sub-tree. The parser model runs with fuel = text length + 1, shown sufficient. -/
theorem print_parse (ops : KeyOps K) (d : Desc K) (hn : DescNormal ops d) :
    ∃ text, d.print ops = some text ∧ Desc.parse ops text = some d :=
  print_parse_all ops d hn

/-- … hence PRINT STABILITY: printing the parsed text again gives the same text, and the reparsed descriptor
    derives the same scripts at every index and branch (it is the same descriptor) -/
theorem print_stable (ops : KeyOps K) (d : Desc K) (hn : DescNormal ops d) :
    ∃ text, d.print ops = some text ∧
      ∃ d', Desc.parse ops text = some d' ∧ d'.print ops = some text ∧
        ∀ (h : Hashes) i b, (d'.derive ops h i b).bind (·.scriptPubkey ops h)
          = (d.derive ops h i b).bind (·.scriptPubkey ops h) := by
  obtain ⟨text, h1, h2⟩ := print_parse ops d hn
  exact ⟨text, h1, d, h2, h1, fun _ _ _ => rfl⟩

-- Normalisation of ARBITRARY accepted text (`parse_print_idem`: parse s = some d → print d is accepted and parses to d;
-- the parser only produces `DescNormal` objects) is proved in Props/C12X.lean.

/-! ### non-vacuity: a toy instance of the key operations satisfies the hypotheses -/

/-- keys = their own SEC bytes; derivation keeps the key; neutering is the identity; the output key is the x-only key -/
def toyOps : KeyOps Bytes where
  kind := fun _ => .pub
  parseSec := fun b => some b
  parseXkey := fun _ => none
  parseWif := fun _ => none
  text := fun _ => none
  sec := fun k => k
  isPrivate := fun _ => false
  derive := fun k p => if none ∈ p then none else some k
  toPublic := fun k => some k
  tweak := fun k _ => some (xonlyOf k)

def toyHashes : Hashes := ⟨fun b => b, fun b => b.take 20, fun _ b => b.take 32⟩

example : KeyLaws toyOps toyHashes (fun x _ => some x) := by
  refine ⟨?_, ?_, ?_, ?_⟩
  · intro k path h; simp [toyOps, h]
  · intro k m; rfl
  · intro k p h; simp [toyOps] at h; subst h; rfl
  · intro k p path c c' hp h1 h2
    simp only [toyOps, Option.some.injEq] at hp
    subst hp
    rw [h1] at h2
    cases h2
    rfl

def toyKey : KeyExpr Bytes := ⟨some ⟨[0xd3, 0x4d, 0xb3, 0x3f], [2147483732, 0]⟩, .obj (2 :: List.replicate 32 7), none, false⟩

theorem toyKey_normal : KeyNormal toyOps false false toyKey := by
  refine ⟨?_, ?_, ?_, ?_⟩
  · intro o ho
    simp only [toyKey, Option.some.injEq] at ho
    subst ho
    exact rfl
  · obtain ⟨kt, h1, h2, h3, h4, h5⟩ := keyText_pub_sec toyOps false false toyKey (2 :: List.replicate 32 7) rfl rfl rfl
      ⟨2, List.replicate 32 7, rfl, Or.inl ⟨by simp, Or.inl rfl⟩⟩ rfl
    exact ⟨kt, h1, fun _ => h2, h3, h4, h5⟩
  · intro h; cases h
  · intro ix h; cases h

/-- `wsh(pk([d34db33f/84h/0]02…))` and `sh(wpkh(…))` over the toy key are normal descriptors -/
example : DescNormal toyOps (MsForm.wsh.desc (.key .pk toyKey)) :=
  .msForm .wsh _ (by
    have : (KeyFrag.pk == KeyFrag.pk_h || KeyFrag.pk == KeyFrag.pkh) = false := by decide
    simp only [MsNormal, this]
    exact toyKey_normal) (by decide)

example : DescNormal toyOps (KeyForm.shwpkh.desc toyKey) :=
  .keyForm .shwpkh toyKey toyKey_normal (by
    intro t ht
    obtain ⟨kt, hkt, _, _, _, _⟩ := toyKey_normal.text
    have := showKey_eq toyOps toyKey kt hkt (fun ix hix => by cases hix)
    rw [this] at ht
    simp only [toyKey, Option.map_some, Option.some.injEq] at ht
    subst ht
    have h8 : (showOrigin ⟨[211, 77, 179, 63], [2147483732, 0]⟩).length ≥ 8 := by
      unfold showOrigin
      simp [hexlify]
    simp
    omega)

end Embit.Props.C12
