import EmbitModel.Proofs.Bech32Detect
import EmbitModel.Proofs.Bech32Spec
import EmbitModel.Proofs.Bech32DetectStr
import EmbitModel.Generated.AddrFacts
/-
  C11 — "never yields a script for … a bech32 string with up to four substituted characters":
  the error-detection half, proved from a finite GF(2) rank computation evaluated by the Lean kernel
  (`Detect.topCheck_W` in `Proofs/Bech32Detect.lean`: one `decide +kernel` evaluation of the decision procedure of
  `Proofs/Gf2Pack.lean`, sound by `headP_sound`, over all 109 736 placements of four error positions
  in a window of 89 symbols with the last one fixed, shift-invariance covering the rest).

  What is and is not claimed (DESIGN Appendix D): detection is guaranteed for substitutions that keep the
  checksum *variant* (BECH32 vs BECH32M). Across variants a 4-substitution neighbour exists for every
  BIP350-conformant decoder (`cross_variant_neighbour_exists`), so rejection of those is not demanded.
-/
namespace Embit.Props.C11Detect
open Embit Model Bech32 Detect

/-- the finite rank condition, window 89 (the largest possible: it is false for 90) -/
theorem rank_condition : topCheck 3 (table 89) = true := topCheck_W

/-- words of 5-bit symbols: same polymod (from any start state), equal outside a window of at most 89 symbols,
    at most 4 differing positions inside ⇒ equal. -/
theorem detects_le4_words (s : Nat) (p q u u' : List Nat) (hlen : u.length = u'.length) (hW : u.length ≤ 89)
    (hu : ∀ x ∈ u, x < 32) (hu' : ∀ x ∈ u', x < 32) (hham : hamming u u' ≤ 4)
    (heq : polymodFrom s (p ++ u ++ q) = polymodFrom s (p ++ u' ++ q)) : u = u' :=
  detect_words 89 rank_condition s p q u u' hlen hW hu hu' hham heq

/-- bech32 data parts (checksum symbols included): two data parts of the same length ≤ 89 that verify under the
    same human-readable part with the same checksum variant and differ in at most 4 symbols are equal — i.e. no
    1–4 substitutions inside the data part of a valid string give another string valid for the same variant. -/
theorem detects_le4_same_variant (hrp : List Char) (e : Encoding) (data data' : List Nat)
    (hlen : data.length = data'.length) (hW : data.length ≤ 89)
    (hd : ∀ x ∈ data, x < 32) (hd' : ∀ x ∈ data', x < 32) (hham : hamming data data' ≤ 4)
    (hv : verifyChecksum hrp data = some e) (hv' : verifyChecksum hrp data' = some e) : data = data' := by
  rw [verifyChecksum_eq_some] at hv hv'
  have := detects_le4_words 1 (hrpExpand hrp) [] data data' hlen hW hd hd' hham
  simp only [List.append_nil] at this
  exact this (by unfold polymod at hv hv'; rw [hv, hv'])

/-- … the same for a change of the human-readable part that keeps its length (e.g. `bc` ↔ `tb`): the expanded
    words differ only in the low-bit symbols, so the whole change must fit the 4-symbol budget and 89-symbol window -/
theorem detects_le4_expanded (e : Encoding) (w w' : List Nat) (hlen : w.length = w'.length) (hW : w.length ≤ 89)
    (hw : ∀ x ∈ w, x < 32) (hw' : ∀ x ∈ w', x < 32) (hham : hamming w w' ≤ 4)
    (hv : polymod w = e.const) (hv' : polymod w' = e.const) : w = w' := by
  have := detects_le4_words 1 [] [] w w' hlen hW hw hw' hham
  simp only [List.append_nil, List.nil_append] at this
  exact this (by unfold polymod at hv hv'; rw [hv, hv'])

/-- strings: two strings of the same length that `bech32_decode` accepts with the same checksum variant and the
    same human-readable part and that differ in at most four characters are equal up to case. Hence 1–4
    substituted characters in the data part of a valid string are never accepted under the same variant. -/
theorem detects_le4_strings (s s' : List Char) (e : Encoding) (h : List Char) (d d' : List Nat)
    (hd : bech32Decode s = some (e, h, d)) (hd' : bech32Decode s' = some (e, h, d'))
    (hlen : s.length = s'.length) (hham : charHamming s s' ≤ 4) : lower s = lower s' :=
  detect_strings rank_condition s s' e h d d' hd hd' hlen hham

/-- addresses: let `a` be the address of a standard segwit script on a network of a well-formed table and `s'`
    a string of the same length differing from it in at most four characters (and not just in case). If
    `address_to_scriptpubkey` yields a script for `s'` at all, then either its human-readable part was changed
    into that of another network, or `s'` is valid for the *other* checksum variant (the BIP350 neighbour):
    the same-variant, same-HRP case is impossible, for every hash function. -/
theorem address_le4_substitutions (dsha : Bytes → Bytes) (nets : List Network) (ht : Address.TableOk nets)
    (net : Network) (hmem : net ∈ nets) (ver : Nat) (h : Bytes) (hv : ver ≤ 1)
    (hl : h.length = 20 ∨ h.length = 32) (s' : List Char) (sc : Bytes)
    (hlen : (segwitText net.bech32 ver (Address.convOf h)).length = s'.length)
    (hham : charHamming (segwitText net.bech32 ver (Address.convOf h)) s' ≤ 4)
    (hne : lower (segwitText net.bech32 ver (Address.convOf h)) ≠ lower s')
    (hy : Address.toScript dsha nets s' = some (some sc)) :
    Address.splitOne s' ≠ net.bech32
    ∨ ∃ ver' prog, decode (Address.splitOne s') s' = some (ver', prog) ∧ encOf ver' ≠ encOf ver := by
  have hda := Address.bech32Decode_segwitText net (ht.each net hmem) ver h hv hl
  have hb := Address.toScript_long_some dsha nets s' sc (hlen ▸ Address.segwitText_long net ver h hl) hy
  obtain ⟨_, ver', prog, hdec, _, _⟩ := Address.bech32Branch_yields nets s' sc hb
  by_cases hh : Address.splitOne s' = net.bech32
  · right
    refine ⟨ver', prog, hdec, fun he => ?_⟩
    obtain ⟨_, _, _, _, data, hbd, _⟩ := (decode_eq_some_iff _ s' ver' prog).mp hdec
    rw [hh, he] at hbd
    exact hne (detects_le4_strings _ s' (encOf ver) net.bech32 _ _ hda hbd hlen hham)
  · left; exact hh

/-- Appendix D, made concrete: a valid v0 (BECH32) address and a valid v1 (BECH32M) address, both accepted by the
    model (= BIP173/BIP350), that differ in exactly four characters. "No string within four substitutions of a
    valid address ever decodes" is therefore false for every conformant decoder; C11 demands BIP behaviour. -/
theorem cross_variant_neighbour_exists :
    let a := "bc1qqqqqqqqqqqqqqqqqqqqqqqqqqqqqqqqqqqqqqqqqqqqqqqqqqqqqthqst8".toList
    let b := "bc1pqqqqqqqqqqqqkqqqqqqqqlqqqqqqqqqqqqqqqqqqqeqqqqqqqqqqthqst8".toList
    (decode "bc".toList a).map Prod.fst = some 0 ∧ (decode "bc".toList b).map Prod.fst = some 1
    ∧ a.length = b.length ∧ ((a.zip b).filter (fun x => x.1 != x.2)).length = 4
    ∧ (Address.bech32Branch true Generated.addrNetworks a).map Address.scriptType = some (some .p2wsh)
    ∧ (Address.bech32Branch true Generated.addrNetworks b).map Address.scriptType = some (some .p2tr) := by
  decide +kernel

/-- … and `address_to_scriptpubkey` (fixed code, every hash function) yields a taproot script for that neighbour -/
theorem cross_variant_neighbour_decodes (dsha : Bytes → Bytes) :
    ∃ sc, Address.toScript dsha Generated.addrNetworks
        "bc1pqqqqqqqqqqqqkqqqqqqqqlqqqqqqqqqqqqqqqqqqqeqqqqqqqqqqthqst8".toList = some (some sc)
      ∧ Address.scriptType sc = some .p2tr := by
  have hl : 35 < "bc1pqqqqqqqqqqqqkqqqqqqqqlqqqqqqqqqqqqqqqqqqqeqqqqqqqqqqthqst8".toList.length := by decide +kernel
  rw [Address.toScript_long dsha _ _ hl]
  have h := cross_variant_neighbour_exists.2.2.2.2.2
  cases hb : Address.bech32Branch true Generated.addrNetworks
      "bc1pqqqqqqqqqqqqkqqqqqqqqlqqqqqqqqqqqqqqqqqqqeqqqqqqqqqqthqst8".toList with
  | none => rw [hb] at h; simp at h
  | some sc =>
    rw [hb] at h
    exact ⟨sc, rfl, by simpa using h⟩

-- GOAL (not proved): substitutions of human-readable-part characters that change the three high bits of a character alter two symbols of the expanded word; they are covered by `detects_le4_expanded` only while at most four symbols change in total (for embit's table an unknown HRP is rejected outright by `unknown_hrp_rejected`)

/-! ### non-vacuity -/

example : hamming [1, 2, 3, 4, 5, 6] [1, 9, 3, 4, 7, 6] = 2 := by decide
example : verifyChecksum "a".toList [31, 0, 9, 19, 17, 29] = some .bech32m := by decide +kernel   -- "a1lqfn3a"

end Embit.Props.C11Detect
