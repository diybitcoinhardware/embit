import EmbitModel.Props.C18
import EmbitModel.Proofs.LiquidBalanceLink
import EmbitModel.Proofs.LiquidToyZkp
import EmbitModel.Proofs.LiquidSpecLink
/-
  C18, audit items A9 (I-18.1, I-18.2) and A15 (I-18.6).

  A9. `C18.balance` needs `ZkpLaws Z A`, whose only exhibited instance had `blindSum = none`, and it speaks about free
      variables. Here:
      §1  a non-trivial instance (`Toy2.toyZkp2` over (ℤ/251)², blind-sum COMPUTES the specified factor) of every law,
          and a concrete 2-input / 2-blinded-output / fee PSET on which the whole model `blind` SUCCEEDS, both
          hypotheses of `C18.balance` hold, and its conclusion is recomputed by the kernel;
      §2  `balance_stored`: the balance equation for the commitment bytes STORED in the result of `blind`, parsed with
          the library's own parser; `setLast` = `setLastVbf` on the selected outputs under the explicit decidable
          hypothesis `sel32` (witness for its necessity: `balance_needs_sel32`); the input side in terms of the stated
          scope fields (that is what embit uses — it never opens the utxo commitments in `blind`), and in terms of the
          utxo value fields under the explicit hypothesis `InputsOpen`, discharged from `unblindAccept`.
      Everything stays RELATIVE to `ZkpLaws` (+ `ZkpSerLaws`); nothing is shown for secp256k1-zkp.
  A15. `C18.slip77_spec`, `C18.txseed_def` restate definitions. §3 gives the statements they stand for:
      model = an independent SLIP-0021/0077 spec (`slip77_master_eq_spec`), and what the transaction seed binds
      (`txseed_binds`, with the witness `txseed_counts_not_bound` for what it does NOT bind).
-/
namespace Embit.Props.C18Y
open Embit Model Toy2

/-! ## 1. The laws are jointly satisfiable, with an answering blind-sum (I-18.2) -/

/-- every law of `ZkpLaws` holds for the toy library over (ℤ/251)²: generators `H(t) + abf·G`, commitments
    `v·gen + vbf·G`, and a blind-sum that returns the factor it is specified to return, computed from its arguments -/
theorem toyZkp2_laws : ZkpLaws toyZkp2 toyAlg2 := Toy2.toyZkp2_laws

/-- … and so does the serialise / parse law -/
theorem toyZkp2_serLaws : ZkpSerLaws toyZkp2 toyAlg2 :=
  ZkpSerLaws.of_parse_serialize toyZkp2 toyAlg2 toyZkp2_parse_serialize

/-- the toy blind-sum answers: one input of 10 under (abf 3, vbf 5), outputs 7 and 3 under abfs 2 and 9, first vbf 4 —
    the last factor is 10·3 + 5 − (7·2 + 4) − 3·9 = −10 = 241 (mod 251), whatever stood in the last slot -/
example : toyZkp2.blindSum [10, 7, 3] [[3], [2], [9]] [[5], [4], [77]] 1 = some [241] := by decide

/-- ill-formed calls are refused -/
example : toyZkp2.blindSum [10, 7] [[3], [2]] [[5]] 1 = none := by decide

/-- a toy hash for the examples: a function of the bytes after the two tag-hash copies and of the length (the kernel
    cannot evaluate the tag strings; it never has to, evaluation is lazy) -/
def tsha (b : Bytes) : Bytes := [UInt8.ofNat ((((b.drop 2).map UInt8.toNat).sum + b.length) % 250 + 1)]

theorem tsha_ne_nil (b : Bytes) : tsha b ≠ [] := by simp [tsha]

def A1 : Bytes := List.replicate 32 1
def A2 : Bytes := List.replicate 32 2
def exSeed : Bytes := List.replicate 32 0x11

/-- input 0: an unblinded confidential utxo of 10 × asset A1 (factors 3 / 5; its utxo carries the toy commitment and
    generator of exactly these); input 1: an explicit utxo of 7 × asset A2 -/
def exIns : List BlindIn :=
  [ { txid := List.replicate 32 7, vout := 1, value := some 10, asset := some A1, abf := some [3], vbf := some [5],
      utxoValue := some (.conf [0x08, 32, 35]), utxoAsset := some [0x0a, 204, 3] },
    { txid := List.replicate 32 9, vout := 0, value := none, asset := none, abf := none, vbf := none,
      utxoValue := some (.explicit 7), utxoAsset := some A2 } ]

/-- outputs: 10 × A1 and 6 × A2 to be blinded, an explicit fee of 1 × A2 -/
def exOuts : List BlindOut :=
  [ { spk := [0x51], value := some 10, asset := some A1, blindingPubkey := some [2, 1] },
    { spk := [0x52], value := some 6, asset := some A2, blindingPubkey := some [2, 2] },
    { spk := [], value := some 1, asset := some A2, blindingPubkey := none } ]

/-- what the model `blind` returns with the toy library: factors, commitments, proofs of both blinded outputs; the fee
    output untouched -/
def exRes : List BlindOut :=
  [ { spk := [0x51], value := some 10, asset := some A1, blindingPubkey := some [2, 1], abf := some [92],
      vbf := some [92], assetCommitment := some [0x0a, 204, 92], valueCommitment := some [0x08, 32, 8],
      ecdhPubkey := some [2, 92], rangeProof := some [0x52], surjProof := some [0x50, 0], assetProof := some [0x50, 0],
      valueProof := some [0x52] },
    { spk := [0x52], value := some 6, asset := some A2, blindingPubkey := some [2, 2], abf := some [93],
      vbf := some [222], assetCommitment := some [0x0a, 157, 93], valueCommitment := some [0x08, 189, 27],
      ecdhPubkey := some [2, 93], rangeProof := some [0x52], surjProof := some [0x50, 1], assetProof := some [0x50, 0],
      valueProof := some [0x52] },
    { spk := [], value := some 1, asset := some A2, blindingPubkey := none } ]

/-- the arguments of the blind-sum call in this run -/
def exArgs : SumArgs :=
  { vals := [10, 7, 10, 6], abfs := [[3], zeros32, [92], [93]], vbfs := [[5], zeros32, [92], [93]], nIn := 2 }

/-- the whole data flow of the model `PSET.blind` SUCCEEDS with the toy library (no earlier in-file example had
    `blind … = some`) -/
theorem ex_blind : blind toyZkp2 tsha exSeed exIns exOuts = some exRes := by decide +kernel

theorem ex_sumArgs : sumArgs exIns (assignFactors tsha (txseed tsha exSeed exIns exOuts) 0 exOuts) = some exArgs := by
  decide +kernel

/-- the blind-sum answers `some lastVbf`, and it is the factor stored in the last blinded output -/
theorem ex_blindSum : toyZkp2.blindSum exArgs.vals exArgs.abfs exArgs.vbfs exArgs.nIn = some [222] := by
  decide +kernel

/-- NON-VACUITY of `C18.balance`: both hypotheses (`ZkpLaws`, `blind … = some res`) hold simultaneously -/
example : ∃ a lastVbf, sumArgs exIns (assignFactors tsha (txseed tsha exSeed exIns exOuts) 0 exOuts) = some a
    ∧ toyZkp2.blindSum a.vals a.abfs a.vbfs a.nIn = some lastVbf
    ∧ ([A1, A2, A1, A2].length = a.vals.length →
        let es : List (Entry (ZMod 251)) := mkEntries toyAlg2 a.vals [A1, A2, A1, A2] a.abfs (setLast a.vbfs lastVbf)
        ((es.take a.nIn).map (Entry.commit toyAlg2)).sum - ((es.drop a.nIn).map (Entry.commit toyAlg2)).sum
          = ((es.take a.nIn).map (Entry.plain toyAlg2)).sum - ((es.drop a.nIn).map (Entry.plain toyAlg2)).sum) :=
  C18.balance toyZkp2_laws tsha exSeed exIns exOuts exRes ex_blind [A1, A2, A1, A2]

/-- … and its conclusion, recomputed by the kernel on the concrete numbers: the commitments of the inputs minus the
    commitments of the blinded outputs are the plain amount `1·H(A2)` of the fee, `(157, 0)`; all blinding (second
    coordinate) cancels -/
theorem ex_balance_computes :
    let es : List (Entry (ZMod 251)) :=
      mkEntries toyAlg2 exArgs.vals [A1, A2, A1, A2] exArgs.abfs (setLast exArgs.vbfs [222])
    ((es.take 2).map (Entry.commit toyAlg2)).sum - ((es.drop 2).map (Entry.commit toyAlg2)).sum = (157, 0)
    ∧ ((es.take 2).map (Entry.plain toyAlg2)).sum - ((es.drop 2).map (Entry.plain toyAlg2)).sum = (157, 0)
    ∧ Entry.plain toyAlg2 { v := 1, asset := A2, abf := 0, vbf := 0 } = (157, 0) := by
  decide +kernel

/-! ## 2. Balance for the STORED commitments (I-18.1) -/

section stored
variable {R M : Type} [CommRing R] [AddCommGroup M] [Module R M]

/-- the commitment `blind` stores in a blinded output parses (library parser) to a point that is the commitment of the
    output's own stated value and asset under its own stored factors — `C18.commitment_decodes` composed with the
    data flow of `blind` and the serialise / parse law -/
theorem stored_commitment_opens {Z : Zkp} {A : ZkpAlg R M} (L : ZkpLaws Z A) (S : ZkpSerLaws Z A)
    (sha : Bytes → Bytes) (hsha : ∀ b, sha b ≠ []) (seed : Bytes) (ins : List BlindIn) (outs res : List BlindOut)
    (h : blind Z sha seed ins outs = some res) (h32 : outs.all sel32 = true) (r : BlindOut) (hr : r ∈ res)
    (hs : r.selected = true) :
    ∃ s c, r.valueCommitment = some s ∧ Z.pedersenCommitmentParse s = some c
      ∧ A.point c = Entry.commit A (outEntry A r) :=
  stored_commitment_of_blind L S sha seed ins outs res h r hr hs

/-- the ASSET commitment `blind` stores in a blinded output parses (library generator parser) to `H(asset) + abf·G`
    for the output's own asset and stored factor, under the serialise / parse law for generators (explicit) -/
theorem stored_asset_commitment_opens {Z : Zkp} {A : ZkpAlg R M} (L : ZkpLaws Z A)
    (hgs : ∀ g s, Z.generatorSerialize g = some s → ∃ g', Z.generatorParse s = some g' ∧ A.point g' = A.point g)
    (sha : Bytes → Bytes) (seed : Bytes) (ins : List BlindIn) (outs res : List BlindOut)
    (h : blind Z sha seed ins outs = some res) (r : BlindOut) (hr : r ∈ res) (hs : r.selected = true) :
    ∃ s g, r.assetCommitment = some s ∧ Z.generatorParse s = some g
      ∧ A.point g = A.H (r.asset.getD []) + A.scalar (r.abf.getD []) • A.G :=
  stored_generator_of_blind L hgs sha seed ins outs res h r hr hs

/-- MAIN (A9): Σ commit(inputs counted by `blind`, as STATED in their scopes)
      − Σ_{blinded outputs r of the RESULT} point(parse(r.valueCommitment))
    = Σ plain(inputs) − Σ plain(blinded outputs).
    `storedPoint Z A r` is `A.point` of `Z.pedersenCommitmentParse` of the stored bytes. Hypotheses: the library laws,
    the serialise / parse law, non-empty hashes, and every blinded output has a 32-byte asset (`sel32`, decidable). -/
theorem balance_stored {Z : Zkp} {A : ZkpAlg R M} (L : ZkpLaws Z A) (S : ZkpSerLaws Z A)
    (sha : Bytes → Bytes) (hsha : ∀ b, sha b ≠ []) (seed : Bytes) (ins : List BlindIn) (outs res : List BlindOut)
    (h : blind Z sha seed ins outs = some res) (h32 : outs.all sel32 = true) :
    ((inEntries A ins).map (Entry.commit A)).sum - ((res.filter BlindOut.selected).map (storedPoint Z A)).sum
      = ((inEntries A ins).map (Entry.plain A)).sum
        - ((res.filter BlindOut.selected).map (fun r => Entry.plain A (outEntry A r))).sum :=
  balance_stored_of_blind L S sha hsha seed ins outs res h h32

/-- the tally form (`pedersen_verify_tally`): with value conservation per asset generator — plain inputs = plain blinded
    outputs + plain explicit outputs and fee — the input commitments equal the STORED output commitments plus
    `v·H(asset)` of the explicit outputs and the fee -/
theorem balance_stored_fee {Z : Zkp} {A : ZkpAlg R M} (L : ZkpLaws Z A) (S : ZkpSerLaws Z A)
    (sha : Bytes → Bytes) (hsha : ∀ b, sha b ≠ []) (seed : Bytes) (ins : List BlindIn) (outs res : List BlindOut)
    (h : blind Z sha seed ins outs = some res) (h32 : outs.all sel32 = true) (explicit : List (Entry R))
    (hv : ((inEntries A ins).map (Entry.plain A)).sum
          = ((res.filter BlindOut.selected).map (fun r => Entry.plain A (outEntry A r))).sum
            + (explicit.map (Entry.plain A)).sum) :
    ((inEntries A ins).map (Entry.commit A)).sum
      = ((res.filter BlindOut.selected).map (storedPoint Z A)).sum + (explicit.map (Entry.plain A)).sum := by
  have hb := balance_stored L S sha hsha seed ins outs res h h32
  rw [hv, add_sub_cancel_left] at hb
  exact sub_eq_iff_eq_add'.mp hb

/-- the same with the serialise / parse law in its usual explicit form -/
theorem balance_stored_parse_serialize {Z : Zkp} {A : ZkpAlg R M} (L : ZkpLaws Z A)
    (hps : ∀ c s, Z.pedersenCommitmentSerialize c = some s → Z.pedersenCommitmentParse s = some c)
    (sha : Bytes → Bytes) (hsha : ∀ b, sha b ≠ []) (seed : Bytes) (ins : List BlindIn) (outs res : List BlindOut)
    (h : blind Z sha seed ins outs = some res) (h32 : outs.all sel32 = true) :
    ((inEntries A ins).map (Entry.commit A)).sum - ((res.filter BlindOut.selected).map (storedPoint Z A)).sum
      = ((inEntries A ins).map (Entry.plain A)).sum
        - ((res.filter BlindOut.selected).map (fun r => Entry.plain A (outEntry A r))).sum :=
  balance_stored L (ZkpSerLaws.of_parse_serialize Z A hps) sha hsha seed ins outs res h h32

/-- for a library whose `generator_generate_blinded` refuses asset tags that are not 32 bytes long (embit's wrapper
    does: "Asset should be 32 bytes long"), success of `blind` IMPLIES `sel32` -/
theorem sel32_of_blind (Z : Zkp) (hlen : ∀ asset abf g, Z.generatorGenerateBlinded asset abf = some g → asset.length = 32)
    (sha : Bytes → Bytes) (seed : Bytes) (ins : List BlindIn) (outs res : List BlindOut)
    (h : blind Z sha seed ins outs = some res) : outs.all sel32 = true := by
  obtain ⟨_, _, _, _, _, hall⟩ := C18.blind_deterministic Z sha seed ins outs res h
  rw [List.all_eq_true]
  intro o ho
  obtain ⟨i, hi⟩ := List.getElem?_of_mem ho
  obtain ⟨r, _, _, hsel⟩ := hall i o hi
  by_cases hs : o.selected = true
  · obtain ⟨_, _, _, asset, value, gen, vc, ha, _, hg, _⟩ := hsel hs
    have := hlen asset _ gen hg
    simp [sel32, hs, ha, this]
  · have : o.selected = false := by simpa using hs
    simp [sel32, this]

/-- … so for such a library no side condition on the outputs is left -/
theorem balance_stored_of_len {Z : Zkp} {A : ZkpAlg R M} (L : ZkpLaws Z A) (S : ZkpSerLaws Z A)
    (hlen : ∀ asset abf g, Z.generatorGenerateBlinded asset abf = some g → asset.length = 32)
    (sha : Bytes → Bytes) (hsha : ∀ b, sha b ≠ []) (seed : Bytes) (ins : List BlindIn) (outs res : List BlindOut)
    (h : blind Z sha seed ins outs = some res) :
    ((inEntries A ins).map (Entry.commit A)).sum - ((res.filter BlindOut.selected).map (storedPoint Z A)).sum
      = ((inEntries A ins).map (Entry.plain A)).sum
        - ((res.filter BlindOut.selected).map (fun r => Entry.plain A (outEntry A r))).sum :=
  balance_stored L S sha hsha seed ins outs res h (sel32_of_blind Z hlen sha seed ins outs res h)

/-- `setLast` vs `setLastVbf` (the auditor's remark): under `sel32` the blind-sum lists are the counted inputs
    followed by exactly the blinded outputs, so the LAST LIST ENTRY that `setLast` replaces IS the factor of the last
    SELECTED output that `setLastVbf` replaces — the output part of the list with its last entry replaced is the list
    of the blinded outputs' factors after `setLastVbf`, the input part is untouched -/
theorem setLast_coincides_setLastVbf (sha : Bytes → Bytes) (hsha : ∀ b, sha b ≠ []) (ts : Bytes) (ins : List BlindIn)
    (outs : List BlindOut) (h32 : outs.all sel32 = true) (a : SumArgs) (lv : Bytes)
    (ha : sumArgs ins (assignFactors sha ts 0 outs) = some a)
    (hany : (assignFactors sha ts 0 outs).any BlindOut.selected = true) :
    a.vbfs.length = a.nIn + ((assignFactors sha ts 0 outs).filter BlindOut.selected).length
    ∧ (setLast a.vbfs lv).take a.nIn = a.vbfs.take a.nIn
    ∧ (setLast a.vbfs lv).drop a.nIn
        = ((setLastVbf lv (assignFactors sha ts 0 outs)).filter BlindOut.selected).map (fun o => o.vbf.getD []) :=
  (BalLink.sumArgs_lists sha hsha ts ins outs h32 a lv ha hany).2.2

/-- input side with the utxo's own value field: if the stated data of every counted input open its utxo value
    (`InputsOpen` — embit does NOT check this in `blind` or `verify`, so it is an explicit hypothesis), then
      Σ_{counted inputs} point(utxo value field) − Σ_{blinded outputs} point(parse(stored commitment))
    is the difference of the plain amounts -/
theorem balance_stored_utxo {Z : Zkp} {A : ZkpAlg R M} (L : ZkpLaws Z A) (S : ZkpSerLaws Z A)
    (sha : Bytes → Bytes) (hsha : ∀ b, sha b ≠ []) (seed : Bytes) (ins : List BlindIn) (outs res : List BlindOut)
    (h : blind Z sha seed ins outs = some res) (h32 : outs.all sel32 = true) (hopen : InputsOpen Z A ins) :
    ((countedIns A ins).map (utxoPoint Z A)).sum - ((res.filter BlindOut.selected).map (storedPoint Z A)).sum
      = ((inEntries A ins).map (Entry.plain A)).sum
        - ((res.filter BlindOut.selected).map (fun r => Entry.plain A (outEntry A r))).sum := by
  rw [← inEntries_commit_of_open Z A ins hopen]
  exact balance_stored L S sha hsha seed ins outs res h h32

/-- `InputsOpen` is what `LInputScope.unblind` checks before it stores value / asset / factors: if the two equality
    tests of `unblind` (`C18.unblind_sound`) pass for the input's utxo fields and the data the scope states, the stated
    data open the utxo value commitment -/
theorem input_opens_of_unblind {Z : Zkp} {A : ZkpAlg R M} (L : ZkpLaws Z A) (i : BlindIn) (uv ua : Bytes)
    (v : Nat) (asset abf vbf : Bytes) (hu : i.utxoValue = some (.conf uv))
    (hacc : unblindAccept Z ua uv { value := v, asset := asset, vbf := vbf, abf := abf } = true)
    (e : Entry R) (he : e = { v := v, asset := asset, abf := A.scalar abf, vbf := A.scalar vbf }) :
    utxoPoint Z A i = Entry.commit A e := by
  obtain ⟨gen, cmt, h1, _, h3, h4⟩ := C18.unblind_sound Z ua uv _ hacc
  simp only [] at h1 h3
  simp only [utxoPoint, hu, h4]
  rw [he]
  exact commit_decodes L asset abf vbf gen cmt v h1 h3

end stored

/-! ### the stored-commitment theorems on the concrete run -/

theorem ex_sel32 : exOuts.all sel32 = true := by decide

/-- both blinded outputs of the result carry commitment bytes that parse and open to their own stated data -/
example : ∀ r ∈ exRes, r.selected = true → ∃ s c, r.valueCommitment = some s
    ∧ toyZkp2.pedersenCommitmentParse s = some c ∧ toyAlg2.point c = Entry.commit toyAlg2 (outEntry toyAlg2 r) :=
  fun r hr hs => stored_commitment_opens toyZkp2_laws toyZkp2_serLaws tsha tsha_ne_nil exSeed exIns exOuts exRes
    ex_blind ex_sel32 r hr hs

example : ∀ r ∈ exRes, r.selected = true → ∃ s g, r.assetCommitment = some s ∧ toyZkp2.generatorParse s = some g
    ∧ toyAlg2.point g = toyAlg2.H (r.asset.getD []) + toyAlg2.scalar (r.abf.getD []) • toyAlg2.G :=
  fun r hr hs => stored_asset_commitment_opens toyZkp2_laws
    (fun g s h => ⟨g, toyZkp2_generator_parse_serialize g s h, rfl⟩) tsha exSeed exIns exOuts exRes ex_blind r hr hs

/-- `balance_stored` applies to the concrete run … -/
theorem ex_balance_stored :
    ((inEntries toyAlg2 exIns).map (Entry.commit toyAlg2)).sum
        - ((exRes.filter BlindOut.selected).map (storedPoint toyZkp2 toyAlg2)).sum
      = ((inEntries toyAlg2 exIns).map (Entry.plain toyAlg2)).sum
        - ((exRes.filter BlindOut.selected).map (fun r => Entry.plain toyAlg2 (outEntry toyAlg2 r))).sum :=
  balance_stored toyZkp2_laws toyZkp2_serLaws tsha tsha_ne_nil exSeed exIns exOuts exRes ex_blind ex_sel32

/-- … and the kernel recomputes both sides from the STORED bytes `08 20 08`, `08 bd 1b`: inputs (32,35) + (95,0),
    outputs (32,8) + (189,27), difference (157, 0) = the fee's `1·H(A2)` -/
theorem ex_balance_stored_computes :
    (exRes.filter BlindOut.selected).map (storedPoint toyZkp2 toyAlg2) = [(32, 8), (189, 27)]
    ∧ (inEntries toyAlg2 exIns).map (Entry.commit toyAlg2) = [(32, 35), (95, 0)]
    ∧ ((inEntries toyAlg2 exIns).map (Entry.commit toyAlg2)).sum
        - ((exRes.filter BlindOut.selected).map (storedPoint toyZkp2 toyAlg2)).sum = (157, 0)
    ∧ ((inEntries toyAlg2 exIns).map (Entry.plain toyAlg2)).sum
        - ((exRes.filter BlindOut.selected).map (fun r => Entry.plain toyAlg2 (outEntry toyAlg2 r))).sum = (157, 0) := by
  decide +kernel

/-- the tally form on the concrete run: the explicit fee output `1 × A2` closes the equation -/
example : ((inEntries toyAlg2 exIns).map (Entry.commit toyAlg2)).sum
    = ((exRes.filter BlindOut.selected).map (storedPoint toyZkp2 toyAlg2)).sum
      + ([({ v := 1, asset := A2, abf := 0, vbf := 0 } : Entry (ZMod 251))].map (Entry.plain toyAlg2)).sum :=
  balance_stored_fee toyZkp2_laws toyZkp2_serLaws tsha tsha_ne_nil exSeed exIns exOuts exRes ex_blind ex_sel32 _
    (by decide +kernel)

/-- the inputs of the concrete run open their utxo value fields: input 0 passes the checks of `unblind`, input 1 is
    explicit -/
theorem ex_inputs_open : InputsOpen toyZkp2 toyAlg2 exIns := by
  intro i hi e he
  simp only [exIns, List.mem_cons, List.not_mem_nil, or_false] at hi
  rcases hi with rfl | rfl
  · refine input_opens_of_unblind toyZkp2_laws _ [0x08, 32, 35] [0x0a, 204, 3] 10 A1 [3] [5] rfl (by decide +kernel) e ?_
    have : inEntry toyAlg2 (exIns[0]) = some { v := 10, asset := A1, abf := toyAlg2.scalar [3], vbf := toyAlg2.scalar [5] } := rfl
    exact (Option.some.inj (he.symm.trans this))
  · exact input_opens_explicit toyZkp2 toyAlg2 toyAlg2_zeros _ 7 rfl (Or.inl rfl) rfl rfl rfl e he

/-- `balance_stored_utxo` on the concrete run: utxo value fields of the inputs against stored commitments of the outputs -/
theorem ex_balance_stored_utxo :
    ((countedIns toyAlg2 exIns).map (utxoPoint toyZkp2 toyAlg2)).sum
        - ((exRes.filter BlindOut.selected).map (storedPoint toyZkp2 toyAlg2)).sum
      = ((inEntries toyAlg2 exIns).map (Entry.plain toyAlg2)).sum
        - ((exRes.filter BlindOut.selected).map (fun r => Entry.plain toyAlg2 (outEntry toyAlg2 r))).sum :=
  balance_stored_utxo toyZkp2_laws toyZkp2_serLaws tsha tsha_ne_nil exSeed exIns exOuts exRes ex_blind ex_sel32
    ex_inputs_open

example : (countedIns toyAlg2 exIns).map (utxoPoint toyZkp2 toyAlg2) = [(32, 35), (95, 0)] := by decide +kernel

/-- the toy library has the wrapper's length check, so `sel32` follows from success and no side condition is left -/
example : exOuts.all sel32 = true := sel32_of_blind toyZkp2 toyZkp2_asset_len tsha exSeed exIns exOuts exRes ex_blind

example : ((inEntries toyAlg2 exIns).map (Entry.commit toyAlg2)).sum
        - ((exRes.filter BlindOut.selected).map (storedPoint toyZkp2 toyAlg2)).sum
      = ((inEntries toyAlg2 exIns).map (Entry.plain toyAlg2)).sum
        - ((exRes.filter BlindOut.selected).map (fun r => Entry.plain toyAlg2 (outEntry toyAlg2 r))).sum :=
  balance_stored_of_len toyZkp2_laws toyZkp2_serLaws toyZkp2_asset_len tsha tsha_ne_nil exSeed exIns exOuts exRes ex_blind

/-- `setLast` / `setLastVbf` on the concrete run: the last list entry is the last blinded output's factor -/
example : exArgs.vbfs.length = exArgs.nIn + 2 ∧ (setLast exArgs.vbfs [222]).drop exArgs.nIn = [[92], [222]]
    ∧ ((setLastVbf [222] (assignFactors tsha (txseed tsha exSeed exIns exOuts) 0 exOuts)).filter BlindOut.selected).map
        (fun o => o.vbf.getD []) = [[92], [222]] := by decide +kernel

example := setLast_coincides_setLastVbf tsha tsha_ne_nil (txseed tsha exSeed exIns exOuts) exIns exOuts ex_sel32 exArgs
  [222] ex_sumArgs (by decide +kernel)

/-! ### `sel32` is needed: the witness

  With a law-abiding library that does not check the asset length, an output to be blinded whose asset tag is not 32
  bytes long is left out of the blind-sum lists but still counted in `len(blinding_outs)`: the last INPUT is taken for
  an output, the factor returned belongs to another equation, and the stored commitments do not balance. -/

def badOuts : List BlindOut :=
  [ { spk := [0x51], value := some 10, asset := some A1, blindingPubkey := some [2, 1] },
    { spk := [0x52], value := some 6, asset := some [2], blindingPubkey := some [2, 2] } ]

/-- what the model returns for them -/
def badRes : List BlindOut := (blind toyZkp2NoLen tsha exSeed exIns badOuts).getD []

theorem balance_needs_sel32 :
    ZkpLaws toyZkp2NoLen toyAlg2 ∧ ZkpSerLaws toyZkp2NoLen toyAlg2 ∧ badOuts.all sel32 = false
    ∧ blind toyZkp2NoLen tsha exSeed exIns badOuts = some badRes
    ∧ ((inEntries toyAlg2 exIns).map (Entry.commit toyAlg2)).sum
          - ((badRes.filter BlindOut.selected).map (storedPoint toyZkp2NoLen toyAlg2)).sum
        ≠ ((inEntries toyAlg2 exIns).map (Entry.plain toyAlg2)).sum
          - ((badRes.filter BlindOut.selected).map (fun r => Entry.plain toyAlg2 (outEntry toyAlg2 r))).sum :=
  ⟨toyZkp2NoLen_laws, ZkpSerLaws.of_parse_serialize _ _ toyZkp2NoLen_parse_serialize, by decide, by decide +kernel,
    by decide +kernel⟩

/-- with the toy library that has the wrapper's length check the same call is refused -/
example : blind toyZkp2 tsha exSeed exIns badOuts = none := by decide +kernel

/-! ## 3. What `slip77_spec` and `txseed_def` stand for (A15 / I-18.6) -/

/-- SLIP-77, model = INDEPENDENT spec (Spec/Slip77.lean: SLIP-0021 master node, child node by label, key = `N[32:64]`,
    ASCII literals), for every HMAC-SHA512 stand-in with 64-byte output: embit's `node[32:]` of the inlined derivation
    is the SLIP-0021 key of the node `m/"SLIP-0077"`. (The per-script key `HMAC-SHA256(mbk, script)` has no structure
    a spec could differ in: `slip77BlindingKey = Spec.Slip77.blindingKey` by definition, not restated.) -/
theorem slip77_master_eq_spec (hmac512 : Bytes → Bytes → Bytes) (hlen : ∀ k m, (hmac512 k m).length = 64)
    (seed : Bytes) : slip77Master hmac512 seed = Spec.Slip77.masterBlindingKey hmac512 seed :=
  SpecLink.slip77Master_eq_spec hmac512 hlen seed

/-- the length hypothesis is satisfiable and the theorem is not vacuous: a 64-byte "HMAC" that depends on key and
    message -/
example : slip77Master (fun k m => (k ++ m ++ List.replicate 64 7).take 64) [1, 2, 3]
    = Spec.Slip77.masterBlindingKey (fun k m => (k ++ m ++ List.replicate 64 7).take 64) [1, 2, 3] :=
  slip77_master_eq_spec _ (fun k m => by simp; omega) _

/-- what `PSET.txseed` binds: for a collision-free hash and PSETs with the same number of inputs (32-byte txids,
    seeds of one length), equal transaction seeds mean the same seed, the same outpoints (index mod 2³²) in the same
    order and the same output scripts in the same order -/
theorem txseed_binds (sha : Bytes → Bytes) (hinj : ∀ x y, sha x = sha y → x = y) (seed seed' : Bytes)
    (ins ins' : List BlindIn) (outs outs' : List BlindOut) (hs : seed.length = seed'.length)
    (hn : ins.length = ins'.length) (h1 : ∀ i ∈ ins, i.txid.length = 32) (h2 : ∀ i ∈ ins', i.txid.length = 32)
    (h3 : ∀ o ∈ outs, o.spk.length < 2^64) (h4 : ∀ o ∈ outs', o.spk.length < 2^64)
    (h : txseed sha seed ins outs = txseed sha seed' ins' outs') :
    seed = seed' ∧ ins.map (fun i => (i.txid, i.vout % 2^32)) = ins'.map (fun i => (i.txid, i.vout % 2^32))
      ∧ outs.map (·.spk) = outs'.map (·.spk) :=
  SpecLink.txseed_inj sha hinj seed seed' ins ins' outs outs' hs hn h1 h2 h3 h4 h

/-- hypotheses satisfiable (identity as the collision-free function) -/
example : txseed id exSeed exIns exOuts = txseed id exSeed exIns exOuts ∧ (∀ x y : Bytes, id x = id y → x = y) :=
  ⟨rfl, fun _ _ h => h⟩

def collIn : BlindIn :=
  { txid := (35 :: List.replicate 31 7).reverse, vout := 0x07070707, value := none, asset := none, abf := none,
    vbf := none, utxoValue := none, utxoAsset := none }
def collOut : BlindOut := { spk := List.replicate 35 7, value := none, asset := none, blindingPubkey := none }

/-- what it does NOT bind — the hashed data carries no counts: one input and no output, or no input and one output
    whose 35-byte script spells the outpoint, have the SAME transaction seed for every hash function (so also the same
    blinding factors for output 0). Observation only; not reachable with standard scripts. -/
theorem txseed_counts_not_bound (sha : Bytes → Bytes) (seed : Bytes) :
    txseed sha seed [collIn] [] = txseed sha seed [] [collOut] := by
  have e : collIn.txid.reverse ++ leN 4 collIn.vout = scriptSer collOut.spk := by decide
  simp [txseed, e]

end Embit.Props.C18Y
