import EmbitModel.Proofs.Owns
import EmbitModel.Proofs.DescDerive
/-
  C14 — A descriptor claims a PSBT scope only when the script really is its own.

  `ownsCore keys ty deriveScript scope` is the model of `Descriptor.owns` (Model/Owns.lean; after
  fixes/owns-keeps-looking.diff) over what it reads: per key a `KeyView` (fingerprints, origin path, allowed
  derivation, extended?), the descriptor's script type, `deriveScript i b = self.derive(i, b).script_pubkey()`
  (`none`: raises) and the scope (script, recorded derivations of both PSBT maps in order). The theorems hold for
  EVERY key list, EVERY scope and EVERY `deriveScript`; `desc_*` instantiate them with the C12 descriptor model.
  `Spec.Descriptor.Owned` is the relation in the property's words; `RecordOf k r i b` = record `r` is the metadata
  of key `k` at index `i` on branch `b`.
-/
namespace Embit.Props.C14
open Embit Embit.Model.Descriptor Embit.Spec.Descriptor

/-- SOUNDNESS. `owns` answers True only if the scope has a script, of the descriptor's script type, and some
    recorded derivation is the metadata of one of the descriptor's extended keys at an UNHARDENED index `i` on an
    ALLOWED branch `b` and the script the descriptor derives at (i, b) is the scope's script.
    `hhard`: deriving at a hardened index raises (true of `Descriptor.derive`: `desc_derive_hardened`). -/
theorem owns_sound (keys : List KeyView) (ty : Option SpkType) (ds : Nat → Nat → Option Bytes) (sc : Scope)
    (hwf : ∀ k, k ∈ keys → k.WF) (hhard : ∀ i b, i ≥ 2 ^ 31 → ds i b = none)
    (h : ownsCore keys ty ds sc = some true) :
    Owned keys ds sc ∧ ∃ spk, sc.spk = some spk ∧ scriptType spk = ty := by
  obtain ⟨spk, hspk, hty, r, hr, k, hk, hext, i, b, hc, hd⟩ := ownsCore_true_witness h
  have hcs := KeyView.check_sound (hwf k hk) hc
  -- a hardened index would have made `derive` raise
  have hi : i < 2 ^ 31 := Nat.lt_of_not_le fun hge => by rw [hhard i b hge] at hd; cases hd
  exact ⟨⟨spk, hspk, r, hr, k, hk, hext, i, b, hcs.1, hi, hcs.2, hd⟩, spk, hspk, hty⟩

/-- NEVER CLAIMS. If no recorded derivation is the metadata of an extended key at an unhardened index on an allowed
    branch with the derived script equal to the scope's script, `owns` does not answer True (it answers False, or
    raises when a matching record carries a hardened index) -/
theorem never_claims (keys : List KeyView) (ty : Option SpkType) (ds : Nat → Nat → Option Bytes) (sc : Scope)
    (hwf : ∀ k, k ∈ keys → k.WF) (hhard : ∀ i b, i ≥ 2 ^ 31 → ds i b = none)
    (h : ¬ Owned keys ds sc) : ownsCore keys ty ds sc ≠ some true :=
  fun ht => h (owns_sound keys ty ds sc hwf hhard ht).1

/-- … whose script differs: whatever the records say -/
theorem never_claims_script_differs (keys : List KeyView) (ty : Option SpkType) (ds : Nat → Nat → Option Bytes)
    (sc : Scope) (hwf : ∀ k, k ∈ keys → k.WF) (hhard : ∀ i b, i ≥ 2 ^ 31 → ds i b = none)
    (h : ∀ spk, sc.spk = some spk → ∀ i b, ds i b ≠ some spk) : ownsCore keys ty ds sc ≠ some true := by
  apply never_claims keys ty ds sc hwf hhard
  rintro ⟨spk, hspk, _, _, _, _, _, i, b, _, _, _, hd⟩
  exact h spk hspk i b hd

/-- … whose script is of another type than the descriptor's (same keys under another wrapper) -/
theorem never_claims_other_type (keys : List KeyView) (ty : Option SpkType) (ds : Nat → Nat → Option Bytes)
    (sc : Scope) (spk : Bytes) (hspk : sc.spk = some spk) (h : scriptType spk ≠ ty) :
    ownsCore keys ty ds sc = some false := by
  unfold ownsCore
  simp [hspk, h]

/-- … without a script -/
theorem never_claims_no_script (keys : List KeyView) (ty : Option SpkType) (ds : Nat → Nat → Option Bytes)
    (sc : Scope) (hspk : sc.spk = none) : ownsCore keys ty ds sc = some false := by
  unfold ownsCore
  simp [hspk]

/-- … whose recorded fingerprints are none of its keys' (origin or own) fingerprints -/
theorem never_claims_foreign_fingerprint (keys : List KeyView) (ty : Option SpkType)
    (ds : Nat → Nat → Option Bytes) (sc : Scope) (hwf : ∀ k, k ∈ keys → k.WF)
    (hhard : ∀ i b, i ≥ 2 ^ 31 → ds i b = none)
    (h : ∀ r, r ∈ sc.derivs ++ sc.tapDerivs → ∀ k, k ∈ keys →
      k.fingerprint ≠ some r.fingerprint ∧ k.myFingerprint ≠ some r.fingerprint) :
    ownsCore keys ty ds sc ≠ some true := by
  apply never_claims keys ty ds sc hwf hhard
  rintro ⟨_, _, r, hr, k, hk, _, i, b, ⟨_, _, _, _, hcl⟩, _⟩
  have := h r hr k hk
  cases hcl with
  | inl h1 => exact this.1 h1.1
  | inr h2 => exact this.2 h2.1

/-- … whose recorded paths are not (origin path ++) the key's steps at any index and branch: a wrong origin
    element, a wrong fixed step, a path that is too long or too short, or a branch element outside the key's set
    (`pathAt i b` picks the b-th element OF THE SET, so an element that is not in the set is no instance) -/
theorem never_claims_wrong_path (keys : List KeyView) (ty : Option SpkType) (ds : Nat → Nat → Option Bytes)
    (sc : Scope) (hwf : ∀ k, k ∈ keys → k.WF) (hhard : ∀ i b, i ≥ 2 ^ 31 → ds i b = none)
    (h : ∀ r, r ∈ sc.derivs ++ sc.tapDerivs → ∀ k, k ∈ keys → ∀ i b, ¬ RecordOf k r i b) :
    ownsCore keys ty ds sc ≠ some true := by
  apply never_claims keys ty ds sc hwf hhard
  rintro ⟨_, _, r, hr, k, hk, _, i, b, hrec, _⟩
  exact h r hr k hk i b hrec

/-- the branch element of an instance of the steps is an element of the key's set: a recorded branch outside the
    set is no instance -/
theorem instance_branch_in_set (pre : List Step) (l : List (Option Nat)) (post : List Step) (i b : Nat)
    (p : List Nat) (hp : pathAt i b (pre ++ .set l :: post) = some p) :
    ∃ v, p[pre.length]? = some v ∧ some v ∈ l := by
  induction pre generalizing p with
  | nil =>
    obtain ⟨n, t, _, rfl, hg⟩ := pathAt_cons hp
    exact ⟨n, by simp, List.mem_of_getElem? hg⟩
  | cons s pre ih =>
    obtain ⟨n, t, ht, rfl, _⟩ := pathAt_cons hp
    obtain ⟨v, hv, hm⟩ := ih t ht
    exact ⟨v, by simpa using hv, hm⟩

/-- … whose every matching record carries a HARDENED index: never True (the code raises: `fill` refuses it) -/
theorem never_claims_hardened_index (keys : List KeyView) (ty : Option SpkType) (ds : Nat → Nat → Option Bytes)
    (sc : Scope) (hwf : ∀ k, k ∈ keys → k.WF) (hhard : ∀ i b, i ≥ 2 ^ 31 → ds i b = none)
    (h : ∀ r, r ∈ sc.derivs ++ sc.tapDerivs → ∀ k, k ∈ keys → ∀ i b, RecordOf k r i b → i ≥ 2 ^ 31) :
    ownsCore keys ty ds sc ≠ some true := by
  apply never_claims keys ty ds sc hwf hhard
  rintro ⟨_, _, r, hr, k, hk, _, i, b, hrec, hi, _⟩
  have := h r hr k hk i b hrec
  omega

/-- COMPLETENESS. A scope is claimed when it carries the descriptor's script for (i, b), of the descriptor's
    type, and among its records the metadata at (i, b) of an extended ranged key whose steps fix the branch (it has
    a branch set, or b = 0), provided no matching record makes `derive` raise (`NoRaise`: true when every record
    of the scope is honest metadata at an unhardened index). Other records — foreign, stale, in either PSBT map,
    before or after — do not matter. -/
theorem owns_complete (keys : List KeyView) (ty : Option SpkType) (ds : Nat → Nat → Option Bytes) (sc : Scope)
    (spk : Bytes) (hspk : sc.spk = some spk) (hty : scriptType spk = ty)
    (r : DerivRec) (hr : r ∈ sc.derivs ++ sc.tapDerivs) (k : KeyView) (hk : k ∈ keys) (hext : k.extended = true)
    (ix : List Step) (ha : k.allowed = some ix) (hn : NoDupSteps ix = true) (hw : wildCount ix ≠ 0)
    (i b : Nat) (hb : setCount ix ≠ 0 ∨ b = 0) (hoc : k.OriginConsistent) (hrec : RecordOf k r i b)
    (hds : ds i b = some spk) (hnr : NoRaise keys ds (sc.derivs ++ sc.tapDerivs)) :
    ownsCore keys ty ds sc = some true := by
  have hc := KeyView.check_complete ha hn hw hb hoc hrec
  rw [ownsCore_eq]
  simp only [hspk, hty, ne_eq, not_true_eq_false, if_false]
  exact scanRecords_complete hnr ⟨r, hr, k, hk, hext, i, b, hc, hds⟩

/-- non-vacuity and the defect that was repaired (fixes/owns-keeps-looking.diff): keys `A/0/*` (no branch set) and
    `B/<0;1>/*`, a change output (branch 1, index 5) carrying exactly the two derivations embit itself records.
    The old rule (first matching record decides: `A`'s record matches with branch 0) rejects this honest scope;
    the repaired rule claims it. -/
def exKeys : List KeyView :=
  [ { extended := true, fingerprint := some [1, 1, 1, 1], originPath := [48], myFingerprint := some [9, 9, 9, 1],
      allowed := some [.idx 0, .wild] },
    { extended := true, fingerprint := some [2, 2, 2, 2], originPath := [48], myFingerprint := some [9, 9, 9, 2],
      allowed := some [.set [some 0, some 1], .wild] } ]

def exSpk (b : Nat) : Bytes := [0x00, 0x14] ++ List.replicate 19 0 ++ [UInt8.ofNat b]

def exDerive (i b : Nat) : Option Bytes := if i < 2 ^ 31 ∧ b < 2 then some (exSpk (2 * i + b)) else none

def exScope : Scope :=
  { spk := some (exSpk 11), derivs := [⟨[1, 1, 1, 1], [48, 0, 5]⟩, ⟨[2, 2, 2, 2], [48, 1, 5]⟩], tapDerivs := [] }

theorem old_first_match_rejected_honest_scope :
    ownsCoreOld exKeys (some .p2wpkh) exDerive exScope = some false
    ∧ ownsCore exKeys (some .p2wpkh) exDerive exScope = some true := by
  decide

/-- with adversarially ordered records the old rule also let a stale record hide a correct one; the repaired rule
    does not depend on the order of the records (both orders claimed) -/
theorem order_of_records_irrelevant_example :
    ownsCore exKeys (some .p2wpkh) exDerive { exScope with derivs := exScope.derivs.reverse } = some true
    ∧ ownsCoreOld exKeys (some .p2wpkh) exDerive
        { exScope with derivs := [⟨[2, 2, 2, 2], [48, 1, 6]⟩, ⟨[2, 2, 2, 2], [48, 1, 5]⟩] } = some false
    ∧ ownsCore exKeys (some .p2wpkh) exDerive
        { exScope with derivs := [⟨[2, 2, 2, 2], [48, 1, 6]⟩, ⟨[2, 2, 2, 2], [48, 1, 5]⟩] } = some true := by
  decide

/-- the hypotheses of `owns_sound` / `owns_complete` are satisfiable by the example -/
example : (∀ k, k ∈ exKeys → k.WF) ∧ (∀ i b, i ≥ 2 ^ 31 → exDerive i b = none) := by
  refine ⟨?_, ?_⟩
  · intro k hk ix ha
    simp only [exKeys, List.mem_cons, List.mem_nil_iff, or_false] at hk
    rcases hk with rfl | rfl <;> (simp at ha; subst ha; exact ⟨by decide, by decide⟩)
  · intro i b hi
    simp only [exDerive]
    rw [if_neg]
    omega

/-! ### the descriptor of C12 as the instance -/

/-- `Descriptor.owns` of the C12 model is `ownsCore` over the views of its keys, its script type and its own
    derive-then-script function -/
theorem desc_owns_eq {K : Type} (ops : KeyOps K) (h : Hashes) (d : Desc K) (sc : Scope) :
    d.owns ops h sc = ownsCore (d.keys.map (KeyExpr.view ops h)) d.spkType (d.deriveScript ops h) sc := rfl

/-- `Descriptor.derive` raises on a hardened index as soon as one key has a derivation (every key that can match
    a record has one), so the `hhard` hypothesis holds for descriptors -/
theorem desc_derive_hardened {K : Type} (ops : KeyOps K) (h : Hashes) (d : Desc K)
    (hshape : d.miniscript = none ∨ (d.key = none ∧ d.taptree = .empty))
    (k : KeyExpr K) (hk : k ∈ d.keys) (ix : List Step) (hix : k.deriv = some ix) (i b : Nat) (hi : i ≥ 2 ^ 31) :
    d.deriveScript ops h i b = none :=
  deriveScript_hardened ops h d hshape k hk ix hix i b hi

end Embit.Props.C14
