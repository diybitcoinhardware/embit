import EmbitModel.Props.C04
import EmbitModel.Proofs.ViewScan
import EmbitModel.Props.C05
/-
  C05X — the composed refinement theorem of C05: for every byte string `b` that `PSBT.parse` (KEEP_ALL) accepts,
  embedded at any offset of a stream (`buf = pre ++ (b ++ post)`), the streaming `PSBTView` opened at that offset
  succeeds and every observation through it — counts, version, `vin(i)` / `vout(j)`, locktime, tx version,
  `input(i)` / `output(j)` — equals the corresponding observation of the in-memory PSBT.

  `Model.View` is the model of psbtview.py and `Model.Psbt` the model of psbt.py (tied to /repo by the
  correspondence checks of C04 / C05). The statements hold for every key validator `ko`, every hash `sha`,
  every prefix `pre` and suffix `post`.

  The two theorems are named `_partial` because each excludes, by an explicit decidable hypothesis on the pairs
  of the global scope (`globalKVs b`), a region where the view and the in-memory parser really differ; both
  regions are outside the respective PSBT version's format, and a witness (by `decide`) is given for each:

  * version 0 (`view_refines_parse_v0_partial`): no global pair with key 04 or 05. These key types are not
    defined for a version-0 PSBT; `PSBT.parse` keeps such a pair in `unknown`, but the view's scan does not look
    at the version and reads the value as the input / output count (refusing the stream when the pair comes
    before the unsigned transaction or is not a CompactSize, and OVERRIDING the transaction's count when it comes
    after it) — see `v0_count_key_misread`.
  * version 2 (`view_refines_parse_v2_partial`): the global scope carries both count keys 04 and 05. Without
    them `PSBT.parse` builds a PSBT with no scopes of that kind while the view refuses the stream
    (`None in [..., num_inputs, num_outputs]`); such a stream is not a valid PSBTv2 (BIP370 requires both) —
    see `v2_missing_count_refused`.

  Remark on defaults (version 2): for a missing global tx-version field (02) the view's `tx_version` answers 2,
  exactly like the in-memory `PSBT.tx` (`self.tx_version if not None else 2`) — since the C01X `fix:` commit; before
  it the view answered 0, so `PSBTView.sighash` and `PSBT.sighash` hashed different transactions (finding C01X-D46,
  see Props/C01X.lean). For a missing locktime (03) both sides default to 0. For a missing sequence field
  (10) the view's `vin(i)` defaults to 0xffffffff exactly like `InputScope.vin` (`InScope.vin`).
-/
set_option linter.unusedSimpArgs false
set_option linter.unusedVariables false
namespace Embit.Props.C05X
open Embit Model Spec.Wire

/-- the pairs of the global scope of a PSBT byte string (what lies between the magic and the first separator) -/
def globalKVs (b : Bytes) : List KV :=
  match readKVs (b.drop 5) with
  | some (g, _) => g
  | none => []

theorem globalKVs_eq (g : List KV) (rest : Bytes) (hw : ∀ kv ∈ g, KVWF kv) :
    globalKVs (psbtMagic ++ (writeKVs g ++ rest)) = g := by
  have : (psbtMagic ++ (writeKVs g ++ rest)).drop 5 = writeKVs g ++ rest := by simp [psbtMagic]
  simp [globalKVs, this, readKVs_write g rest hw]

/-! ### (A) version 0 -/

/-- version 0: the view over any stream that embeds an accepted PSBT (global scope with the unsigned transaction
    and without the PSBTv2 count keys) is observationally equal to the parsed PSBT; `t` is the PSBT's transaction -/
theorem view_refines_parse_v0_partial (ko : KeyOps) (sha : Bytes → Bytes) (pre post b : Bytes) (p : Psbt)
    (h : Psbt.parse ko sha 0 b = some p)
    (htx : ∃ x, ([0x00], x) ∈ globalKVs b)
    (hcnt : ∀ kv ∈ globalKVs b, kv.1 ≠ [0x04] ∧ kv.1 ≠ [0x05]) :
    ∃ (t : Tx) (v : View), p.tx = some t ∧ View.open (pre ++ (b ++ post)) pre.length = some v
      ∧ v.numIn = p.inputs.length ∧ v.numOut = p.outputs.length ∧ v.version = p.version
      ∧ (∀ i, View.vin (pre ++ (b ++ post)) v i = t.vin[i]?)
      ∧ (∀ j, View.vout (pre ++ (b ++ post)) v j = t.vout[j]?)
      ∧ View.getLocktime (pre ++ (b ++ post)) v = some t.locktime
      ∧ View.getTxVersion (pre ++ (b ++ post)) v = some t.version
      ∧ (∀ i, View.input ko sha (pre ++ (b ++ post)) v i 0 = p.inputs[i]?)
      ∧ (∀ j, View.output ko (pre ++ (b ++ post)) v j = p.outputs[j]?) := by
  cases hr : readKVs (b.drop 5) with
  | none => simp [globalKVs, hr] at htx
  | some gr =>
    simp only [globalKVs, hr] at htx hcnt
    obtain ⟨t, v, ptx, pr, ob⟩ := presents_v0 ko sha 0 pre post b p h gr.1 gr.2 hr htx hcnt
    exact ⟨t, v, ptx, pr.opened, pr.numIn, pr.numOut, pr.version, ob.vin, ob.vout, ob.locktime, ob.txVersion,
      pr.input, pr.output⟩

/-! ### (B) version 2 -/

/-- version 2: the same for a PSBTv2 whose global scope carries both counts. `vin(i)` / `vout(j)` of the view are
    the transaction input / output the scope itself describes (`InputScope.vin` / `OutputScope.vout`); locktime and
    tx version are the stored global fields (defaults 0 and 2 — those of `PSBT.tx`, see the remark in the file header) -/
theorem view_refines_parse_v2_partial (ko : KeyOps) (sha : Bytes → Bytes) (pre post b : Bytes) (p : Psbt)
    (h : Psbt.parse ko sha 0 b = some p) (hv : p.version = some 2)
    (h4 : ∃ x, ([0x04], x) ∈ globalKVs b) (h5 : ∃ x, ([0x05], x) ∈ globalKVs b) :
    ∃ (v : View), View.open (pre ++ (b ++ post)) pre.length = some v
      ∧ v.numIn = p.inputs.length ∧ v.numOut = p.outputs.length ∧ v.version = p.version
      ∧ (∀ i, View.vin (pre ++ (b ++ post)) v i = (p.inputs[i]?).bind InScope.vin)
      ∧ (∀ j, View.vout (pre ++ (b ++ post)) v j = (p.outputs[j]?).bind OutScope.vout)
      ∧ View.getLocktime (pre ++ (b ++ post)) v = some (p.locktime.getD 0)
      ∧ View.getTxVersion (pre ++ (b ++ post)) v = some (p.txVersion.getD 2)
      ∧ (∀ i, View.input ko sha (pre ++ (b ++ post)) v i 0 = p.inputs[i]?)
      ∧ (∀ j, View.output ko (pre ++ (b ++ post)) v j = p.outputs[j]?) := by
  cases hr : readKVs (b.drop 5) with
  | none => simp [globalKVs, hr] at h4
  | some gr =>
    simp only [globalKVs, hr] at h4 h5
    obtain ⟨v, pr, hvin, hvout, hlt, htv⟩ := presents_v2 ko sha 0 pre post b p h hv gr.1 gr.2 hr h4 h5
    exact ⟨v, pr.opened, pr.numIn, pr.numOut, pr.version, hvin, hvout, hlt, htv, pr.input, pr.output⟩

/-! ### the hypotheses of (A), read off the parsed object -/

/-- for a parsed PSBT that is not version 2 and whose `unknown` map has no key 04 / 05, the hypotheses of
    `view_refines_parse_v0_partial` hold -/
theorem v0_hyps_of_parsed (ko : KeyOps) (sha : Bytes → Bytes) (b : Bytes) (p : Psbt)
    (h : Psbt.parse ko sha 0 b = some p) (hver : p.version ≠ some 2)
    (hunk : ∀ kv ∈ p.unknown, kv.1 ≠ [0x04] ∧ kv.1 ≠ [0x05]) :
    (∃ x, ([0x00], x) ∈ globalKVs b) ∧ ∀ kv ∈ globalKVs b, kv.1 ≠ [0x04] ∧ kv.1 ≠ [0x05] := by
  obtain ⟨g, kin, kout, tx, unk, gs, eb, wg, ws, hgf, hpu, hv, etv, elt, _, eunk, lki, lko, lni, lno, fi, fo, ftx⟩ :=
    parse_decomp ko sha b p h
  have hgk : globalKVs b = g := by rw [eb]; exact globalKVs_eq g _ wg
  rw [hgk]
  obtain ⟨t, rfl⟩ : ∃ t, tx = some t := by
    rcases hv with ⟨e, _⟩ | ⟨_, e⟩
    · exact absurd e hver
    · exact e
  obtain ⟨g1, w, g2, eg, _, _, _, _⟩ := globalFold_split g _ _ _ _ _ hgf
  refine ⟨⟨w, by simp [eg]⟩, ?_⟩
  have hfilter : unk = g.filter notTxVer := by
    have := globalFold_unk g _ _ _ _ _ _ hgf; simpa using this
  have hnd := globalFold_nodup g none none [] _ _ _ hgf (by simp)
  have hfalse : (p.version == some 2) = false := by simp [hver]
  rw [hfalse] at hpu
  have u8 := (parseUnknowns_spec ko false unk _ gs hnd hpu).2.2.2.2.2.2.2
  have key : ∀ kv ∈ g, kv.1 = [0x04] ∨ kv.1 = [0x05] → False := by
    intro kv hkv hk
    have hm : kv ∈ unk := by
      rw [hfilter]; apply List.mem_filter.mpr ⟨hkv, ?_⟩
      rcases hk with e | e <;> simp [notTxVer, e]
    rcases u8 kv hm with ⟨x, d, e1, _⟩ | ⟨c, _⟩ | ⟨c, _⟩ | ⟨c, _⟩ | ⟨c, _⟩ | e1
    · rcases hk with e | e <;> rw [e] at e1 <;> simp at e1
    · simp at c
    · simp at c
    · simp at c
    · simp at c
    · rw [← eunk] at e1
      have := hunk kv e1
      rcases hk with e | e
      · exact this.1 e
      · exact this.2 e
  intro kv hkv
  exact ⟨fun e => key kv hkv (Or.inl e), fun e => key kv hkv (Or.inr e)⟩

/-- (A) with the hypotheses stated on the parsed object -/
theorem view_refines_parsed_v0_partial (ko : KeyOps) (sha : Bytes → Bytes) (pre post b : Bytes) (p : Psbt)
    (h : Psbt.parse ko sha 0 b = some p) (hver : p.version ≠ some 2)
    (hunk : ∀ kv ∈ p.unknown, kv.1 ≠ [0x04] ∧ kv.1 ≠ [0x05]) :
    ∃ (t : Tx) (v : View), p.tx = some t ∧ View.open (pre ++ (b ++ post)) pre.length = some v
      ∧ v.numIn = p.inputs.length ∧ v.numOut = p.outputs.length ∧ v.version = p.version
      ∧ (∀ i, View.vin (pre ++ (b ++ post)) v i = t.vin[i]?)
      ∧ (∀ j, View.vout (pre ++ (b ++ post)) v j = t.vout[j]?)
      ∧ View.getLocktime (pre ++ (b ++ post)) v = some t.locktime
      ∧ View.getTxVersion (pre ++ (b ++ post)) v = some t.version
      ∧ (∀ i, View.input ko sha (pre ++ (b ++ post)) v i 0 = p.inputs[i]?)
      ∧ (∀ j, View.output ko (pre ++ (b ++ post)) v j = p.outputs[j]?) := by
  obtain ⟨h1, h2⟩ := v0_hyps_of_parsed ko sha b p h hver hunk
  exact view_refines_parse_v0_partial ko sha pre post b p h h1 h2

/-! ### witnesses: outside the hypotheses the view and the parser really differ -/

def exTx : Tx :=
  { C03.exLegacy with vin := [{ txid := List.replicate 32 7, vout := 1, scriptSig := [], sequence := 0, witness := [] }] }

/-- a version-0 PSBT (one input, one output) with an extra global pair `04 -> 02` behind the transaction -/
def exV0Count : Bytes :=
  psbtMagic ++ writeKVs [([0x00], Tx.ser exTx), ([0x04], [0x02])] ++ writeKVs [] ++ writeKVs []

/-- the parser keeps the pair as unknown (one input); the view reads it as the input count (two inputs) -/
theorem v0_count_key_misread :
    (Psbt.parse C04.trivialKo id 0 exV0Count).map (fun p => (p.inputs.length, p.unknown)) = some (1, [([0x04], [0x02])])
    ∧ (View.open exV0Count 0).map (·.numIn) = some 2 := by decide

/-- the same pair in front of the transaction: the parser accepts, the view refuses the stream -/
theorem v0_count_key_refused :
    (Psbt.parse C04.trivialKo id 0
      (psbtMagic ++ writeKVs [([0x04], [0x02]), ([0x00], Tx.ser exTx)] ++ writeKVs [] ++ writeKVs [])).isSome = true
    ∧ View.open (psbtMagic ++ writeKVs [([0x04], [0x02]), ([0x00], Tx.ser exTx)] ++ writeKVs [] ++ writeKVs []) 0
        = none := by decide

/-- a version-2 global scope without count fields: the parser builds a PSBT without scopes, the view refuses -/
theorem v2_missing_count_refused :
    (Psbt.parse C04.trivialKo id 0 (psbtMagic ++ writeKVs [([0xfb], [2, 0, 0, 0])])).map
        (fun p => (p.version, p.inputs.length, p.outputs.length)) = some (some 2, 0, 0)
    ∧ View.open (psbtMagic ++ writeKVs [([0xfb], [2, 0, 0, 0])]) 0 = none := by decide

/-! ### non-vacuity -/

/-- the hypotheses of (A) hold for the small version-0 PSBT of C04 (one input with a sighash type and an
    unknown key, one output) -/
example : (Psbt.parse C04.trivialKo id 0 C04.exPsbtBytes).isSome = true
    ∧ (∃ x, ([0x00], x) ∈ globalKVs C04.exPsbtBytes)
    ∧ ∀ kv ∈ globalKVs C04.exPsbtBytes, kv.1 ≠ [0x04] ∧ kv.1 ≠ [0x05] := by
  have hg : globalKVs C04.exPsbtBytes = [([0x00], Tx.ser exTx)] := by decide
  refine ⟨by decide, ⟨Tx.ser exTx, by rw [hg]; simp⟩, ?_⟩
  rw [hg]; intro kv hkv; simp at hkv; subst hkv; decide

/-- … so (A) applies to it at a non-zero stream offset with trailing bytes -/
example : ∃ (p : Psbt) (t : Tx) (v : View), Psbt.parse C04.trivialKo id 0 C04.exPsbtBytes = some p ∧ p.tx = some t
    ∧ View.open ([1, 2, 3] ++ (C04.exPsbtBytes ++ [9])) 3 = some v ∧ v.numIn = p.inputs.length
    ∧ (∀ i, View.input C04.trivialKo id ([1, 2, 3] ++ (C04.exPsbtBytes ++ [9])) v i 0 = p.inputs[i]?) := by
  have hg : globalKVs C04.exPsbtBytes = [([0x00], Tx.ser exTx)] := by decide
  obtain ⟨p, hp⟩ := Option.isSome_iff_exists.mp (show (Psbt.parse C04.trivialKo id 0 C04.exPsbtBytes).isSome = true by decide)
  obtain ⟨t, v, a1, a2, a3, _, _, _, _, _, _, a10, _⟩ :=
    view_refines_parse_v0_partial C04.trivialKo id [1, 2, 3] [9] C04.exPsbtBytes p hp
      ⟨Tx.ser exTx, by rw [hg]; simp⟩ (by rw [hg]; intro kv hkv; simp at hkv; subst hkv; decide)
  exact ⟨p, t, v, hp, a1, a2, a3, a10⟩

/-- a small PSBTv2: tx version, both counts, version; one input (txid, vout, no sequence), one output -/
def exV2Bytes : Bytes :=
  psbtMagic ++ writeKVs [([0x02], [2, 0, 0, 0]), ([0x04], [1]), ([0x05], [1]), ([0xfb], [2, 0, 0, 0])]
    ++ writeKVs [([0x0e], List.replicate 32 7), ([0x0f], [1, 0, 0, 0])]
    ++ writeKVs [([0x03], [0x88, 0x13, 0, 0, 0, 0, 0, 0]), ([0x04], [0x6a])]

/-- the hypotheses of (B) hold for it -/
example : (Psbt.parse C04.trivialKo id 0 exV2Bytes).map (·.version) = some (some 2)
    ∧ (∃ x, ([0x04], x) ∈ globalKVs exV2Bytes) ∧ (∃ x, ([0x05], x) ∈ globalKVs exV2Bytes) := by
  have hg : globalKVs exV2Bytes = [([0x02], [2, 0, 0, 0]), ([0x04], [1]), ([0x05], [1]), ([0xfb], [2, 0, 0, 0])] := by
    decide
  refine ⟨by decide, ⟨[1], by rw [hg]; simp⟩, ⟨[1], by rw [hg]; simp⟩⟩

/-- … and the view's `vin(0)` is the input the scope describes, with the default sequence -/
example : (View.open exV2Bytes 0).bind (fun v => View.vin exV2Bytes v 0)
    = some { txid := List.replicate 32 7, vout := 1, scriptSig := [], sequence := 0xffffffff, witness := [] } := by
  decide

-- write_to_eq_memory: see Props/C05Y.lean.

end Embit.Props.C05X
