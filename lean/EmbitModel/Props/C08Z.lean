import EmbitModel.Props.C08Y
import EmbitModel.Props.C07
import EmbitModel.Props.C02Y
import EmbitModel.Proofs.SecpCardSecp
import EmbitModel.Proofs.SecpCardBridge
/-
  C08Z — the last assumption of Props/C08Y about secp256k1, `#E(𝔽_p) = n`, PROVED. No Hasse bound, no point counting:

    (1) #E ≤ 2p + 1         above every `x` at most two points (`y₁² = y₂² ⇒ y₁ = ± y₂`), plus infinity      `secp256k1_card_le`
    (2) n ∣ #E              Lagrange; `G` has order `n` (`n` prime, `n•G = 0` evaluated by the kernel, `G ≠ 0`)
    (3) 2p + 1 < 3n         the literals                                                                     ⇒ #E ∈ {n, 2n}
    (4) #E is odd           an even group has an element of order two (Cauchy); a point of order two is `(x, 0)`
                            with `x³ = −7`; but `p ≡ 1 (mod 3)` and `(−7)^((p−1)/3) ≢ 1 (mod p)` — ONE 256-bit modular
                            power run by the kernel through the model's `powMod` — so `−7` is not a cube
                            (`x³ = c ≠ 0 ⇒ c^((p−1)/3) = x^(p−1) = 1`, Fermat)         `secp256k1_neg7_not_cube`, `secp256k1_no_two_torsion`
    ⇒ #E = n                                                                                                 `secp256k1_card_eq`

  Hence `EcLaws (pyEcOps secp256k1 n G)` holds with NO hypothesis (`secp256k1_ec_laws_unconditional`): the law structure
  assumed by every theorem of C07 / C08 (and, with `InfUnique` — also proved here — and the bridge of C02Y, of C09 / C10 /
  C02Y) is a THEOREM for the record built from the modelled arithmetic of `embit/util/key.py`. The corollaries below
  restate a few of those theorems at that record, with no curve hypothesis left.
  What is still not proved in Lean: that the fast executable record `Crypto.secpOps` (and libsecp256k1) compute the
  same functions as key.py — that is the correspondence check `ecops.*` of the harness. (Since Props/C08W the driver no
  longer evaluates `Crypto.secpOps` but `Crypto.secpLawful`, which is proved isomorphic to the record below.)
-/
namespace Embit.Props.C08Z
open Embit Embit.Model Embit.Model.PyCurve WeierstrassCurve Embit.Props.C08Y

/-- the record built from key.py's arithmetic on secp256k1 -/
noncomputable abbrev secpE : EcOps := pyEcOps secp256k1 secp256k1N secpG

/-- **`−7` is not a cube modulo `p`** (`p ≡ 1 mod 3`, `(−7)^((p−1)/3) ≠ 1` by kernel evaluation, Fermat) -/
theorem secp256k1_neg7_not_cube (x : ZMod secp256k1.p) : x ^ 3 ≠ -7 := by
  have h := PyCurve.secp256k1_neg7_not_cube x
  intro hx
  apply h
  rw [hx]; push_cast; rfl

/-- no point of secp256k1 has `y = 0`: `x³ + 7` has no root in `𝔽_p` -/
theorem secp256k1_no_root (x : ZMod secp256k1.p) : x ^ 3 + 7 ≠ 0 := fun h =>
  secp256k1_neg7_not_cube x (by linear_combination h)

/-- **secp256k1 has no point of order two**: `2 • P = 0` only for the point at infinity -/
theorem secp256k1_no_two_torsion (P : (W secp256k1).toAffine.Point) (h : 2 • P = 0) : P = 0 :=
  no_two_torsion secp256k1 secp256k1_smooth PyCurve.secp256k1_no_root P h

/-- **#E(𝔽_p) ≤ 2p + 1** (at most two points above every `x`, and infinity) -/
theorem secp256k1_card_le : Nat.card (W secp256k1).toAffine.Point ≤ 2 * secp256k1.p + 1 := card_le secp256k1

/-- **#E(𝔽_p) is odd** (Cauchy's theorem + no point of order two) -/
theorem secp256k1_card_odd : ¬ 2 ∣ Nat.card (W secp256k1).toAffine.Point :=
  card_odd secp256k1 secp256k1_smooth PyCurve.secp256k1_no_root

/-- **#E(𝔽_p) = n** — the curve group of secp256k1 has exactly `n` elements. This was the one remaining
    assumption of Props/C08Y. -/
theorem secp256k1_card_eq : CardEq secp256k1 secp256k1N :=
  cardEq_of_odd secp256k1 (secp256k1_params secp256k1_n_prime) secp256k1_3n secp256k1_card_odd

/-- the same, spelled out -/
theorem secp256k1_card : Nat.card (W secp256k1).toAffine.Point = secp256k1N := secp256k1_card_eq

/-- equivalently: `on_curve`, run on all `p²` reduced pairs, would accept exactly `n − 1` of them -/
theorem secp256k1_point_count : pointCount secp256k1 = secp256k1N :=
  (card_eq_iff_point_count secp256k1 secp256k1_smooth secp256k1N).mp secp256k1_card_eq

/-- **`EcLaws` for secp256k1, no hypothesis**: the record built from key.py's own arithmetic (`add`, `negate`,
    `mul`, `affine`, `on_curve`, `lift_x`, `modinv` as modelled branch for branch and corresponded on every run)
    satisfies every law the C07 / C08 theorems assume. Every ingredient — `p` prime, `n` prime, `n•G = 0`, `#E = n`,
    `7` a non-residue — is proved in Lean (kernel evaluation of the certificates; no axiom beyond the three standard ones). -/
theorem secp256k1_ec_laws_unconditional : EcLaws (pyEcOps secp256k1 secp256k1N secpG) :=
  secp256k1_ec_laws secp256k1_card_eq

/-- **`InfUnique`** (the extra law of Props/C02Y's bridge): `a·G` is the point at infinity only for `n ∣ a` -/
theorem secp256k1_inf_unique : SignWith.InfUnique (pyEcOps secp256k1 secp256k1N secpG) :=
  py_infUnique secp256k1 (secp256k1_params secp256k1_n_prime)

theorem secp256k1_n_le : secpE.n ≤ 2 ^ 256 := by show secp256k1N ≤ 2 ^ 256; decide +kernel

theorem secp256k1_p_le : secpE.p ≤ 2 ^ 256 := by show secp256k1.p ≤ 2 ^ 256; decide +kernel

/-- every element of the curve group is killed by `n`, and is a multiple `k•G`, `k < n` (the group is cyclic) -/
theorem secp256k1_cyclic (P : (W secp256k1).toAffine.Point) :
    secp256k1N • P = 0 ∧ ∃ k, k < secp256k1N ∧ P = k • ι secp256k1 secpG := by
  refine ⟨nsmul_all secp256k1 secp256k1_card_eq P, ?_⟩
  obtain ⟨Q, rfl⟩ := ι_surjective secp256k1 secp256k1_smooth P
  obtain ⟨k, hk, hQ⟩ := secp256k1_ec_laws_unconditional.generated Q
  refine ⟨k, hk, ?_⟩
  have hQ' : Q = eMul secp256k1 secp256k1N k secpG := hQ
  have hp : Params secp256k1 secp256k1N secpG := secp256k1_params secp256k1_n_prime
  rw [hQ']
  exact ι_mul_g secp256k1 hp k

/-- the side condition of C08Y's `pipeline_*` theorems is vacuous on secp256k1 -/
theorem secp256k1_all_points_killed_by_n (P : APt secp256k1) : secp256k1N • ι secp256k1 P = 0 :=
  nsmul_all secp256k1 secp256k1_card_eq (ι secp256k1 P)

/-! ### corollaries: `EcLaws`-relative theorems of C07 / C08 / C02Y at key.py's arithmetic, no curve hypothesis left -/

/-- C08: py's `ec_pubkey_negate` equals the libsecp256k1 contract (C08Y had this under `CardEq`) -/
theorem py_negate_matches_contract_secp256k1 (pub : Bytes) :
    PySecp.ecPubkeyNegate secpE pub = Spec.Libsecp.ec_pubkey_negate secpE pub :=
  C08Y.py_negate_matches_contract_secp256k1 secp256k1_card_eq pub

/-- C07 `ecdsa_correct`: whatever `ecdsa_sign` returns verifies with `ecdsa_verify` under `ec_pubkey_create(secret)`,
    for every hash record `H` — over key.py's secp256k1 arithmetic -/
theorem ecdsa_correct_secp256k1 (H : HashOps) (fuel : Nat) (msg secret : Bytes) (extra : Option Bytes) (sig pub : Bytes)
    (hs : PySecp.ecdsaSign secpE H fuel msg secret extra = some sig) (hpub : PySecp.ecPubkeyCreate secpE secret = some pub) :
    PySecp.ecdsaVerify secpE sig msg pub = some true :=
  C07.ecdsa_correct secpE H secp256k1_ec_laws_unconditional secp256k1_n_le secp256k1_p_le fuel msg secret extra sig pub hs hpub

/-- C07 `schnorr_correct` (BIP340): `sign_schnorr` passes `verify_schnorr` under the x-only key of `key·G` -/
theorem schnorr_correct_secp256k1 (H : HashOps) (key msg : Bytes) (aux : Option Bytes) (sig : Bytes)
    (h : PySecp.signSchnorr secpE H key msg aux = some sig) :
    ∃ px py, secpE.xy (secpE.mul (ofBe key) secpE.g) = some (px, py) ∧
      PySecp.verifySchnorr secpE H (beN 32 px) sig msg = some true :=
  C07.schnorr_correct secpE H secp256k1_ec_laws_unconditional secp256k1_p_le secp256k1_n_le key msg aux sig h

/-- C02Y `bridge_laws`: the curve laws of the key development (C09 / C10) for the bridged record -/
theorem key_laws_secp256k1 : Embit.Keys.EcLaws (SignWith.toKeys secpE) :=
  C02Y.bridge_laws secp256k1_ec_laws_unconditional secp256k1_n_le secp256k1_p_le secp256k1_inf_unique

/-- C02Y `sigLaws_concrete`: the signing environment over key.py's secp256k1 arithmetic satisfies `SigLaws`, for any
    hash functions — so every signature `PSBT.sign_with` adds verifies (C02X / C02Y), with no curve hypothesis -/
theorem sigLaws_secp256k1 (hs : SignWith.Hashes) (fuel : Nat) :
    SignWith.SigLaws (SignWith.opsOf secpE hs fuel) (SignWith.validSecKey secpE) (SignWith.ecdsaVerifySec secpE)
      (SignWith.schnorrVerifyX secpE hs.H) :=
  C02Y.sigLaws_concrete secp256k1_ec_laws_unconditional secp256k1_n_le secp256k1_p_le secp256k1_inf_unique hs fuel

/-- C02Y `sigLaws_standards`: the same against the verifiers written from SEC 1 / BIP340 only -/
theorem sigLaws_standards_secp256k1 (hs : SignWith.Hashes) (fuel : Nat) :
    SignWith.SigLaws (SignWith.opsOf secpE hs fuel) (SignWith.validSecKey secpE) (SignWith.ecdsaVerifySpec secpE)
      (fun xo m sig => Spec.Bip340.verify secpE hs.H xo m sig) :=
  C02Y.sigLaws_standards secp256k1_ec_laws_unconditional secp256k1_n_le secp256k1_p_le secp256k1_inf_unique hs fuel

/-! ### non-vacuity -/

/-- the same chain on the toy curve, where `#E = 31` is also obtained by brute force (`C08Y.toy_card`): the counting
    argument's ingredients are satisfiable and agree with enumeration -/
example : Nat.card (W toy43).toAffine.Point ≤ 2 * 43 + 1 ∧ CardEq toy43 toy43N := ⟨card_le toy43, toy_card⟩
/-- `G` is a point of the group that is not killed by 2 (and the group is not trivial) -/
example : ι secp256k1 secpG ≠ 0 ∧ 2 • ι secp256k1 secpG ≠ 0 :=
  ⟨ι_g_ne secp256k1 (secp256k1_params secp256k1_n_prime),
   fun h => ι_g_ne secp256k1 (secp256k1_params secp256k1_n_prime) (secp256k1_no_two_torsion _ h)⟩
example : EcLaws secpE ∧ SignWith.InfUnique secpE := ⟨secp256k1_ec_laws_unconditional, secp256k1_inf_unique⟩

end Embit.Props.C08Z
