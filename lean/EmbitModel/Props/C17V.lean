import EmbitModel.Proofs.ViewCost
import EmbitModel.Proofs.ViewCost2
/-
  C17, part V — the STREAMING VIEWS terminate promptly: iteration and stream-call bounds of the seeking loops of
  `psbtview.py` / `liquid/psetview.py` (instrumented in `Model/ViewCost.lean`), for EVERY buffer, every start position and
  every claimed count / caller-supplied index. The stream is Python's: `seek` beyond the end never fails.

  The bounds hold because every loop body must really FIND bytes in the buffer before the next iteration (`read` +
  length check, or `compact.read_from`, which raises at the end of the stream). The body of `_skip_input` as it was
  before `fix: PSETView stops at the end of the stream …` only seeks: `old_skip_input_follows_the_claimed_count` shows
  that its loop does exactly as many iterations as the count field says, on a 30-byte stream.
-/
namespace Embit.Props.C17V
open Embit Embit.Model Embit.Model.ViewCost

/-! ### erasure: the instrumented loops are the loops of the C05 model (`Model/View.lean`) -/

/-- the `_skip_output` loop: same outcome as `Model.skipOutputs` (which `GTx.vout` / `GTx.locktime` of the C05 model use) -/
theorem skip_outputs_erases (buf : Bytes) : ∀ (n pos : Nat),
    (skipOutputsC buf n pos).out = (match skipOutputs buf n pos with | some p => .cont () p | none => .fail) := by
  intro n
  induction n with
  | zero => intro pos; simp [skipOutputsC, loop, skipOutputs]
  | succ n ih =>
    intro pos
    simp only [skipOutputsC] at ih ⊢
    unfold loop
    cases h : skipOutputAt buf pos with
    | none =>
      have hb : skipOutputBody buf () pos = (.fail, 3) := by simp [skipOutputBody, h]
      rw [hb]; simp [skipOutputs, h]
    | some p =>
      have hb : skipOutputBody buf () pos = (.cont () p, 4) := by simp [skipOutputBody, h]
      rw [hb]; simp only [skipOutputs, h]; exact ih p

/-- `_skip_scope`: same outcome as `Model.skipScopeAt` of the C05 model for every fuel (out of fuel ↦ `none` there) -/
theorem skip_scope_erases (buf : Bytes) : ∀ (fuel pos : Nat),
    skipScopeAt buf fuel pos = (match (skipScopeC buf fuel pos).out with | .done _ p => some p | _ => none) := by
  intro fuel
  induction fuel with
  | zero => intro pos; simp [skipScopeC, loop, skipScopeAt]
  | succ n ih =>
    intro pos
    simp only [skipScopeC] at ih ⊢
    unfold loop
    cases h : skipStringAt buf pos with
    | none =>
      have hb : skipScopeBody buf () pos = (.fail, 2) := by simp [skipScopeBody, h]
      rw [hb]; simp [skipScopeAt, h]
    | some q =>
      obtain ⟨klen, p1⟩ := q
      by_cases hk : klen = 1
      · have hb : skipScopeBody buf () pos = (.done () p1, 3) := by simp [skipScopeBody, h, hk]
        rw [hb]; simp [skipScopeAt, h, hk]
      · cases h2 : skipStringAt buf p1 with
        | none =>
          have hb : skipScopeBody buf () pos = (.fail, 5) := by simp [skipScopeBody, h, hk, h2]
          rw [hb]; simp [skipScopeAt, h, hk, h2]
        | some q2 =>
          obtain ⟨x, p2⟩ := q2
          have hb : skipScopeBody buf () pos = (.cont () p2, 6) := by simp [skipScopeBody, h, hk, h2]
          rw [hb]; simp only [skipScopeAt, h, hk, h2, if_false]; exact ih p2
-- GOAL (not proved): seek_to_value / PSBTView.view global loop — rounds <= |buf| - pos + 1, steps <= c·|buf| + d with the read_bytes pieces amortised
-- GOAL (not proved): hash_rangeproofs — <= (|buf|+1)·(c·|buf|+d) steps (the loop over num_outputs re-seeks from the first scope)
-- GOAL (not proved): instrumented PSET scope parser and LTransaction.read_from (style of C17Y)

/-! ### `GlobalTransactionView`: `vout(i)` (n = i), `locktime` (n = num_vout) -/

/-- the skip loop does at most `min n ((|buf| - pos)/9 + 1)` iterations and at most 5 stream calls per iteration -/
theorem skip_outputs_linear (buf : Bytes) (n pos : Nat) :
    (skipOutputsC buf n pos).iters ≤ min n ((buf.length - pos) / 9 + 1) ∧
    (skipOutputsC buf n pos).steps ≤ 5 * min n ((buf.length - pos) / 9 + 1) := by
  have := loop_linear (skipOutputBody buf) buf.length 9 9 4 (by omega) (by omega)
    (skipOutputBody_progress buf) (skipOutputBody_cost buf) n () pos
  unfold skipOutputsC
  omega

example : (skipOutputsC (List.replicate 8 0 ++ [0] ++ List.replicate 8 0 ++ [0]) 1000 0).iters = 3 := by decide +kernel

/-! ### `GlobalLTransactionView` -/

/-- `num_vout_offset` as it is: whatever the count field says, at most `(|buf| - vin0 + 46)/41` iterations
    (each iteration but the last found the 36 bytes up to the end of its `vout` field and went on ≥ 41 bytes) -/
theorem num_vout_offset_iterations (buf : Bytes) (numVin vin0 : Nat) :
    (numVoutOffsetLoop true buf numVin vin0).iters ≤ numVin ∧
    41 * (numVoutOffsetLoop true buf numVin vin0).iters ≤ (buf.length - vin0) + 46 ∧
    (numVoutOffsetLoop true buf numVin vin0).steps ≤ 9 * (numVoutOffsetLoop true buf numVin vin0).iters := by
  have := loop_linear (skipInputBody true buf) buf.length 36 41 8 (by omega) (by omega)
    (skipInputBody_progress buf) (skipInputBody_cost true buf) numVin vin0 vin0
  unfold numVoutOffsetLoop
  omega

/-- `GlobalLTransactionView(stream, off).num_vout_offset`: at most `|buf|/41 + 1` iterations and `9·(|buf|/41 + 1) + 4`
    stream calls for EVERY buffer, every offset and every claimed number of inputs -/
theorem num_vout_offset_linear (buf : Bytes) (off : Nat) :
    (numVoutOffsetC true buf off).2.1 ≤ buf.length / 41 + 1 ∧
    (numVoutOffsetC true buf off).2.2 ≤ 9 * (buf.length / 41 + 1) + 4 := by
  unfold numVoutOffsetC
  cases h : compactAt buf (off + 5) with
  | none => simp
  | some q =>
    obtain ⟨n, vin0⟩ := q
    obtain ⟨_, hp⟩ := compactAt_progress h
    obtain ⟨_, h2, h3⟩ := num_vout_offset_iterations buf n vin0
    simp only
    split <;> (simp only; omega)

/-- 30 bytes of a PSET global transaction (version 2, marker 0) that claim 2^28 inputs -/
def hostile30 : Bytes := [2, 0, 0, 0, 0, 0xfe, 0, 0, 0, 0x10] ++ List.replicate 20 0

/-- BEFORE the fix (`_skip_input` only seeks, `seek` beyond the end never fails): once the position is within 32 bytes
    of the end, the loop does exactly as many iterations as the claimed count — no bound in |buf| exists -/
theorem old_skip_input_loop_unbounded (buf : Bytes) : ∀ (n off pos : Nat), buf.length ≤ pos + 32 →
    (loop (skipInputBody false buf) n off pos).iters = n := by
  intro n
  induction n with
  | zero => intro off pos _; simp [loop]
  | succ n ih =>
    intro off pos hl
    have hr : readAt buf (pos + 32) 4 = [] := by simp [readAt, List.drop_eq_nil_of_le hl]
    have hs : skipInputL false buf pos = (some (41, pos + 32 + 0 + 5), 3) := by
      unfold skipInputL; simp only [hr]; simp [ofLe]
    have hb : skipInputBody false buf off pos = (.cont (off + 41) (pos + 32 + 0 + 5), 3) := by
      unfold skipInputBody; rw [hs]
    unfold loop
    rw [hb]
    simp only
    have := ih (off + 41) (pos + 32 + 0 + 5) (by omega)
    omega

theorem num_vout_offset_iters_eq (ce : Bool) (buf : Bytes) (off n v : Nat) (h : compactAt buf (off + 5) = some (n, v)) :
    (numVoutOffsetC ce buf off).2.1 = (numVoutOffsetLoop ce buf n v).iters := by
  unfold numVoutOffsetC
  rw [h]
  simp only
  split <;> rfl

/-- the witness: on the 30-byte stream the old code does 2^28 iterations (and for every other count `n` in the count
    field just as many: `old_skip_input_loop_unbounded`), the code as it is does at most one -/
theorem old_skip_input_follows_the_claimed_count :
    (numVoutOffsetC false hostile30 0).2.1 = 2^28 ∧ hostile30.length = 30 ∧
    (numVoutOffsetC true hostile30 0).2.1 ≤ 1 := by
  have hc : compactAt hostile30 (0 + 5) = some (2^28, 10) := by decide +kernel
  refine ⟨?_, by decide, ?_⟩
  · rw [num_vout_offset_iters_eq false hostile30 0 (2^28) 10 hc]
    exact old_skip_input_loop_unbounded hostile30 (2^28) 10 10 (by decide)
  · have := (num_vout_offset_linear hostile30 0).1
    have hl : hostile30.length = 30 := by decide
    omega

/-- the Liquid `_skip_output` loop of `vout(i)` / `locktime`: at most `min n ((|buf| - pos)/42 + 1)` iterations -/
theorem skip_outputs_liquid_linear (buf : Bytes) (n pos : Nat) :
    (skipOutputsLC buf n pos).iters ≤ min n ((buf.length - pos) / 42 + 1) ∧
    (skipOutputsLC buf n pos).steps ≤ 9 * min n ((buf.length - pos) / 42 + 1) := by
  have := loop_linear (skipOutputLBody buf) buf.length 42 42 8 (by omega) (by omega)
    (skipOutputLBody_progress buf) (skipOutputLBody_cost buf) n () pos
  unfold skipOutputsLC
  omega

/-! ### `PSETView._hash_to` (as fixed) -/

/-- never out of fuel, at most `(|buf| - pos)/32 + 1` iterations and 2 stream calls per iteration, for EVERY length
    prefix `l` -/
theorem hash_to_linear (buf : Bytes) (l pos : Nat) :
    (∀ s p, (hashToC buf l pos).out ≠ .cont s p) ∧
    (hashToC buf l pos).iters ≤ (buf.length - pos) / 32 + 1 ∧
    (hashToC buf l pos).steps ≤ 2 * ((buf.length - pos) / 32 + 1) := by
  have h0 := hashTo_fuel buf (l + 1) l pos (by omega)
  have := loop_linear (hashToBody buf) buf.length 32 32 1 (by omega) (by omega)
    (fun s pos s' p' c h => by obtain ⟨a, b, _, _⟩ := hashToBody_progress buf s pos s' p' c h; exact ⟨a, b⟩)
    (hashToBody_cost buf) (l + 1) l pos
  unfold hashToC
  exact ⟨h0, by omega, by omega⟩

example : (hashToC (List.replicate 40 7) 5000 0).iters = 2 ∧
    (match (hashToC (List.replicate 40 7) 5000 0).out with | .fail => true | _ => false) = true := by decide +kernel

/-! ### `PSBTView._skip_scope` -/

/-- for EVERY fuel: at most `(|buf| - pos)/2 + 1` rounds, 7 stream calls per round; the fuel is never the reason to stop
    when it exceeds that number of rounds -/
theorem skip_scope_linear (buf : Bytes) (fuel pos : Nat) :
    (skipScopeC buf fuel pos).iters ≤ (buf.length - pos) / 2 + 1 ∧
    (skipScopeC buf fuel pos).steps ≤ 7 * ((buf.length - pos) / 2 + 1) ∧
    ((buf.length - pos) / 2 + 1 < fuel → ∀ s p, (skipScopeC buf fuel pos).out ≠ .cont s p) := by
  have := loop_linear (skipScopeBody buf) buf.length 2 2 6 (by omega) (by omega)
    (skipScopeBody_progress buf) (skipScopeBody_cost buf) fuel () pos
  unfold skipScopeC
  refine ⟨by omega, by omega, fun hf s p ho => ?_⟩
  have := loop_exhausted (skipScopeBody buf) fuel () pos s p ho
  omega

example : (match (skipScopeC [1, 7, 1, 9, 0] 10 0).out with | .done _ p => p | _ => 0) = 5 := by decide +kernel

/-! ### `GlobalLTransactionView.vin(i)`: the `_skip_input` loop with the caller's index as counter -/

/-- the loop of `vin(i)`: at most `min i ((|buf| - vin0 + 5)/41 + 1)` iterations, 9 stream calls per iteration,
    for every buffer, start and index -/
theorem vin_skip_loop_linear (buf : Bytes) (i vin0 : Nat) :
    (vinSkipLoop true buf i vin0).iters ≤ min i ((buf.length - vin0 + 5) / 41 + 1) ∧
    (vinSkipLoop true buf i vin0).steps ≤ 9 * min i ((buf.length - vin0 + 5) / 41 + 1) := by
  have := loop_linear (skipInputBody true buf) buf.length 36 41 8 (by omega) (by omega)
    (skipInputBody_progress buf) (skipInputBody_cost true buf) i 0 vin0
  unfold vinSkipLoop
  omega

/-- `GlobalLTransactionView(stream, off).vin(i)` up to the input parser: at most `min i (|buf|/41 + 1)` iterations and
    `9·min i (|buf|/41 + 1) + 4` stream calls for EVERY buffer, offset, index and claimed number of inputs -/
theorem vin_seek_linear (buf : Bytes) (off i : Nat) :
    (vinSeekC true buf off i).2.1 ≤ min i (buf.length / 41 + 1) ∧
    (vinSeekC true buf off i).2.2 ≤ 9 * min i (buf.length / 41 + 1) + 4 := by
  unfold vinSeekC
  cases h : compactAt buf (off + 5) with
  | none => simp
  | some q =>
    obtain ⟨n, vin0⟩ := q
    obtain ⟨_, hp⟩ := compactAt_progress h
    obtain ⟨h2, h3⟩ := vin_skip_loop_linear buf i vin0
    simp only
    split
    · simp
    · split <;> (simp only; omega)

/-- the code BEFORE the fix: `vin(i)` does exactly `i` iterations once the position is within 32 bytes of the end -/
theorem old_vin_skip_loop_unbounded (buf : Bytes) (i vin0 : Nat) (h : buf.length ≤ vin0 + 32) :
    (vinSkipLoop false buf i vin0).iters = i :=
  old_skip_input_loop_unbounded buf i 0 vin0 h

example : (vinSeekC true hostile30 0 1000).2.1 = 1 ∧ (vinSeekC true hostile30 0 1000).1 = none := by decide +kernel
example : (vinSeekC true ([2, 0, 0, 0, 0, 2] ++ List.replicate 82 0) 0 1).1 = some 47 := by decide +kernel

/-! ### `PSBTView.seek_to_scope(n)`: the nested loop, amortised -/

/-- a `_skip_scope` that returns has walked over what it counted: `2·rounds ≤ (p - pos) + 1`, and it stands inside the
    buffer, at least one byte further. Hence a `_skip_scope` started AT or PAST the end of the stream never returns
    (it raises: `compact.read_from` finds no byte) -/
theorem skip_scope_consumes (buf : Bytes) (fuel pos : Nat) (a : Unit) (p : Nat)
    (h : (skipScopeC buf fuel pos).out = .done a p) :
    2 * (skipScopeC buf fuel pos).iters + pos ≤ p + 1 ∧ pos + 1 ≤ p ∧ p ≤ buf.length := by
  unfold skipScopeC at h ⊢
  have h1 := loop_done_progress (skipScopeBody buf) 2 1
    (fun s pos s' p' c hb => (skipScopeBody_progress buf s pos s' p' c hb).2)
    (fun s pos a p' c hb => (skipScopeBody_done buf s pos a p' c hb).1) fuel () pos a p h
  have h2 := loop_done_inv (skipScopeBody buf) (fun q => q ≤ buf.length)
    (fun s pos a p' c hb => (skipScopeBody_done buf s pos a p' c hb).2) fuel () pos a p h
  have h3 : 1 ≤ (loop (skipScopeBody buf) fuel () pos).iters := by
    cases fuel with
    | zero => simp [loop] at h
    | succ m => unfold loop; split <;> (simp only; omega)
  omega

/-- the invariant of the outer loop (every fuel, every n, every start) -/
theorem seek_scopes_invariant (buf : Bytes) (fuel : Nat) : ∀ (n pos : Nat),
    (seekScopesC buf fuel n pos).scopes ≤ n ∧
    (seekScopesC buf fuel n pos).steps ≤ 7 * (seekScopesC buf fuel n pos).rounds + (seekScopesC buf fuel n pos).scopes ∧
    (buf.length < pos → (seekScopesC buf fuel n pos).scopes ≤ 1 ∧
      (seekScopesC buf fuel n pos).rounds ≤ (seekScopesC buf fuel n pos).scopes) ∧
    (pos ≤ buf.length → (seekScopesC buf fuel n pos).scopes + pos ≤ buf.length + 1 ∧
      2 * (seekScopesC buf fuel n pos).rounds + pos ≤ buf.length + (seekScopesC buf fuel n pos).scopes + 1) := by
  intro n
  induction n with
  | zero => intro pos; simp [seekScopesC]; omega
  | succ n ih =>
    intro pos
    have := loop_linear (skipScopeBody buf) buf.length 2 2 6 (by omega) (by omega)
      (skipScopeBody_progress buf) (skipScopeBody_cost buf) fuel () pos
    unfold seekScopesC
    simp only
    split
    · rename_i a p ho
      obtain ⟨c1, c2, c3⟩ := skip_scope_consumes buf fuel pos a p ho
      obtain ⟨i1, i2, _, i4⟩ := ih p
      obtain ⟨i5, i6⟩ := i4 c3
      unfold skipScopeC at c1 ⊢
      simp only
      refine ⟨by omega, by omega, fun hl => by omega, fun hl => by omega⟩
    · unfold skipScopeC
      simp only
      refine ⟨by omega, by omega, fun hl => by omega, fun hl => by omega⟩

/-- `seek_to_scope(n)` (the loop from `pos = first_scope`), for EVERY buffer, start, n and fuel:
    * `_skip_scope` is called at most `min n (|buf| - pos + 1)` times — past the end of the stream `_skip_scope` raises, so `n`
      enters only through that minimum;
    * the inner rounds of ALL these calls together: `2·rounds ≤ (|buf| - pos) + scopes + 1`, hence `rounds ≤ |buf| - pos + 1`;
    * steps ≤ 7·rounds + scopes, hence `2·steps ≤ 7·(|buf| - pos) + 9·min n (|buf| - pos + 1) + 7` and
      `steps ≤ 8·(|buf| - pos + 1)` whatever n. -/
theorem seek_scopes_linear (buf : Bytes) (fuel n pos : Nat) :
    (seekScopesC buf fuel n pos).scopes ≤ min n (buf.length - pos + 1) ∧
    2 * (seekScopesC buf fuel n pos).rounds ≤ (buf.length - pos) + (seekScopesC buf fuel n pos).scopes + 1 ∧
    (seekScopesC buf fuel n pos).rounds ≤ buf.length - pos + 1 ∧
    2 * (seekScopesC buf fuel n pos).steps ≤ 7 * (buf.length - pos) + 9 * min n (buf.length - pos + 1) + 7 ∧
    (seekScopesC buf fuel n pos).steps ≤ 8 * (buf.length - pos + 1) := by
  obtain ⟨h1, h2, h3, h4⟩ := seek_scopes_invariant buf fuel n pos
  by_cases hl : buf.length < pos
  · obtain ⟨a, b⟩ := h3 hl
    omega
  · obtain ⟨a, b⟩ := h4 (by omega)
    omega

/-- `seek_to_scope(n)` with its `seek(first_scope)` -/
theorem seek_to_scope_linear (buf : Bytes) (first n : Nat) :
    (seekToScopeC buf first n).scopes ≤ min n (buf.length - first + 1) ∧
    (seekToScopeC buf first n).rounds ≤ buf.length - first + 1 ∧
    2 * (seekToScopeC buf first n).steps ≤ 7 * (buf.length - first) + 9 * min n (buf.length - first + 1) + 9 ∧
    (seekToScopeC buf first n).steps ≤ 8 * (buf.length - first + 1) + 1 := by
  obtain ⟨h1, _, h3, h4, h5⟩ := seek_scopes_linear buf (buf.length + 2) n first
  unfold seekToScopeC
  simp only
  omega

/-- past the end: started at or beyond `|buf|` with n ≥ 1, the first `_skip_scope` raises after one round -/
theorem seek_scopes_past_end (buf : Bytes) (fuel n pos : Nat) (h : buf.length ≤ pos) :
    (seekScopesC buf (fuel + 1) (n + 1) pos).pos = none ∧ (seekScopesC buf (fuel + 1) (n + 1) pos).scopes = 1 ∧
    (seekScopesC buf (fuel + 1) (n + 1) pos).rounds = 1 := by
  have hc : compactAt buf pos = none := by
    cases hq : compactAt buf pos with
    | none => rfl
    | some q => obtain ⟨v, p⟩ := q; have := (compactAt_progress hq).1; omega
  have hb : skipScopeBody buf () pos = (.fail, 2) := by simp [skipScopeBody, skipStringAt, hc]
  have hr : (skipScopeC buf (fuel + 1) pos) = ⟨.fail, 1, 1 + 2⟩ := by
    unfold skipScopeC loop; rw [hb]
  unfold seekScopesC
  simp [hr]

/-- ERASURE: the position reached is that of `View.scopeOffset.go` of the C05 model when both use the same inner fuel -/
theorem seek_scopes_erases (buf : Bytes) : ∀ (n pos : Nat),
    (seekScopesC buf (buf.length + 1) n pos).pos = View.scopeOffset.go buf n pos := by
  intro n
  induction n with
  | zero => intro pos; simp [seekScopesC, View.scopeOffset.go]
  | succ n ih =>
    intro pos
    have he := skip_scope_erases buf (buf.length + 1) pos
    unfold seekScopesC View.scopeOffset.go
    rw [he]
    simp only
    cases ho : (skipScopeC buf (buf.length + 1) pos).out with
    | done a p => simp only; exact ih p
    | cont s p => simp
    | fail => simp

-- two scopes (one pair + separator, separator), then the end: n = 1000 stops at the third call
example : (seekToScopeC [1, 7, 1, 9, 0, 0] 0 1000).scopes = 3 ∧ (seekToScopeC [1, 7, 1, 9, 0, 0] 0 1000).rounds = 4 ∧
    (seekToScopeC [1, 7, 1, 9, 0, 0] 0 2).pos = some 6 := by decide +kernel

end Embit.Props.C17V
