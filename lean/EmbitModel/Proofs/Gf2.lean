/-
  GF(2) linear algebra on `Nat`-encoded bit vectors: words of `w`-bit symbols against a table of groups of `w`
  vectors (group `i` = the effect of each bit of the symbol at position `i`), and the rank condition
  `Good w n G`: at most `n` non-zero symbols, one per group, never combine the group vectors to zero.
  `Good` is established group by group (`Good.cons`) from any linear map that eliminates one group (`Kills`).
-/
namespace Embit.Gf2

def comb : List Bool → List Nat → Nat
  | b :: c, v :: g => (if b then v else 0) ^^^ comb c g
  | _, _ => 0

def bits5 (x : Nat) : List Bool := [x.testBit 0, x.testBit 1, x.testBit 2, x.testBit 3, x.testBit 4]

def bitsN (w x : Nat) : List Bool := (List.range w).map x.testBit

theorem bits5_eq (x : Nat) : bits5 x = bitsN 5 x := rfl

def synG (w : Nat) : List Nat → List (List Nat) → Nat
  | x :: r, g :: G => comb (bitsN w x) g ^^^ synG w r G
  | _, _ => 0

def weight : List Nat → Nat
  | [] => 0
  | x :: r => (if x = 0 then 0 else 1) + weight r

def Good (w n : Nat) (G : List (List Nat)) : Prop :=
  ∀ r : List Nat, r.length ≤ G.length → (∀ x ∈ r, x < 2 ^ w) → weight r ≤ n → synG w r G = 0 → ∀ x ∈ r, x = 0

def Indep (w : Nat) (g : List Nat) : Prop := ∀ x, x < 2 ^ w → comb (bitsN w x) g = 0 → x = 0

theorem bits5_length (x : Nat) : (bits5 x).length = 5 := rfl

theorem bitsN_length (w x : Nat) : (bitsN w x).length = w := by simp [bitsN]

theorem bitsN_zero (w : Nat) : ∀ b ∈ bitsN w 0, b = false := by simp [bitsN]

theorem bitsN_false {w x : Nat} (hx : x < 2 ^ w) (h : ∀ b ∈ bitsN w x, b = false) : x = 0 := by
  apply Nat.eq_of_testBit_eq
  intro i
  rw [Nat.zero_testBit]
  by_cases hi : i < w
  · exact h _ (List.mem_map.mpr ⟨i, List.mem_range.mpr hi, rfl⟩)
  · exact Nat.testBit_lt_two_pow (Nat.lt_of_lt_of_le hx (Nat.pow_le_pow_right (by decide) (by omega)))

theorem weight_zero (r : List Nat) (h : weight r = 0) : ∀ x ∈ r, x = 0 := by
  induction r with
  | nil => simp
  | cons y r ih =>
    simp only [weight] at h
    by_cases hy : y = 0
    · simpa [hy] using ih (by simpa [hy] using h)
    · simp [hy] at h

theorem weight_append (a b : List Nat) : weight (a ++ b) = weight a + weight b := by
  induction a with
  | nil => simp [weight]
  | cons x xs ih => simp [weight, ih]; omega

theorem weight_reverse (r : List Nat) : weight r.reverse = weight r := by
  induction r with
  | nil => rfl
  | cons x xs ih => simp [weight_append, weight, ih]; omega

theorem weight_replicate_zero (n : Nat) : weight (List.replicate n 0) = 0 := by
  induction n with
  | zero => rfl
  | succ n ih => simp [List.replicate_succ, weight, ih]

theorem comb_all_false (c : List Bool) (g : List Nat) (h : ∀ b ∈ c, b = false) : comb c g = 0 := by
  induction c generalizing g with
  | nil => simp [comb]
  | cons b c ih =>
    cases g with
    | nil => simp [comb]
    | cons u g => simp [comb, h b (by simp), ih g (fun x hx => h x (by simp [hx]))]

theorem synG_all_zero (w : Nat) (r : List Nat) (G : List (List Nat)) (h : ∀ x ∈ r, x = 0) : synG w r G = 0 := by
  induction r generalizing G with
  | nil => simp [synG]
  | cons x r ih =>
    cases G with
    | nil => simp [synG]
    | cons g G =>
      obtain rfl : x = 0 := h x (by simp)
      simp [synG, ih G (fun y hy => h y (by simp [hy])), comb_all_false _ _ (bitsN_zero w)]

theorem comb_mapLin (f : Nat → Nat) (hf : ∀ a b, f (a ^^^ b) = f a ^^^ f b) (h0 : f 0 = 0)
    (c : List Bool) (g : List Nat) : comb c (g.map f) = f (comb c g) := by
  induction c generalizing g with
  | nil => simp [comb, h0]
  | cons b c ih =>
    cases g with
    | nil => simp [comb, h0]
    | cons u g =>
      simp only [List.map_cons, comb, hf, ih]
      cases b <;> simp [h0]

theorem synG_mapLin (f : Nat → Nat) (hf : ∀ a b, f (a ^^^ b) = f a ^^^ f b) (h0 : f 0 = 0) (w : Nat)
    (r : List Nat) (G : List (List Nat)) : synG w r (G.map (List.map f)) = f (synG w r G) := by
  induction r generalizing G with
  | nil => simp [synG, h0]
  | cons x r ih =>
    cases G with
    | nil => simp [synG, h0]
    | cons g G => simp only [List.map_cons, synG, hf, ih, comb_mapLin f hf h0]

/-- clear bit `p` of `u` using `v` (bit test written with kernel-accelerated operations) -/
def elim (v p u : Nat) : Nat := Nat.xor u (Nat.mul (Nat.mod (Nat.shiftRight u p) 2) v)

theorem bit_iff (u p : Nat) : (u >>> p) % 2 = 1 ↔ u.testBit p = true := by
  unfold Nat.testBit
  rw [Nat.and_comm, Nat.and_one_is_mod]
  simp only [bne_iff_ne, ne_eq]
  omega

theorem elim_def (v p u : Nat) : elim v p u = if u.testBit p then u ^^^ v else u := by
  show u ^^^ (((u >>> p) % 2) * v) = _
  have := bit_iff u p
  have : (u >>> p) % 2 = 0 ∨ (u >>> p) % 2 = 1 := by omega
  rcases this with h | h <;> simp_all

theorem elim_xor (v p a b : Nat) : elim v p (a ^^^ b) = elim v p a ^^^ elim v p b := by
  simp only [elim_def, Nat.testBit_xor]
  cases a.testBit p <;> cases b.testBit p <;> simp
  · rw [Nat.xor_assoc]
  · rw [Nat.xor_assoc, Nat.xor_assoc, Nat.xor_comm b v]
  · rw [Nat.xor_assoc, ← Nat.xor_assoc v b v, Nat.xor_comm v b, Nat.xor_assoc b v v, Nat.xor_self, Nat.xor_zero]

theorem elim_zero (v p : Nat) : elim v p 0 = 0 := by simp [elim_def]

theorem elim_self (v p : Nat) (h : v.testBit p = true) : elim v p v = 0 := by simp [elim_def, h]

theorem elim_lt {v p u n : Nat} (hv : v < 2 ^ n) (hu : u < 2 ^ n) : elim v p u < 2 ^ n := by
  rw [elim_def]; split
  · exact Nat.xor_lt_two_pow hu hv
  · exact hu

/-- `E` is linear, vanishes on the span of `g`, and only the trivial combination of `g` vanishes:
    what eliminating the vectors of `g` one after another achieves -/
structure Kills (E : Nat → Nat) (g : List Nat) : Prop where
  xor : ∀ a b, E (a ^^^ b) = E a ^^^ E b
  zero : E 0 = 0
  sound : ∀ (c : List Bool) (s : Nat), c.length ≤ g.length → comb c g ^^^ s = 0 →
    E s = 0 ∧ (s = 0 → ∀ b ∈ c, b = false)

theorem Kills.nil : Kills id [] where
  xor _ _ := rfl
  zero := rfl
  sound c s hc h := by
    obtain rfl : c = [] := List.eq_nil_of_length_eq_zero (by simpa using hc)
    simpa [comb] using h

/-- one elimination step: a non-zero vector `v` with pivot bit `p`, then the rest of the group reduced by it -/
theorem Kills.cons {E : Nat → Nat} {v p : Nat} {g : List Nat} (hp : v.testBit p = true)
    (hE : Kills E (g.map (elim v p))) : Kills (E ∘ elim v p) (v :: g) where
  xor a b := by simp [elim_xor, hE.xor]
  zero := by simp [elim_zero, hE.zero]
  sound c s hc h := by
    cases c with
    | nil =>
      have hs : s = 0 := by simpa [comb] using h
      simp [hs, elim_zero, hE.zero]
    | cons b c =>
      simp only [comb] at h
      have hbv : elim v p (if b then v else 0) = 0 := by cases b <;> simp [elim_zero, elim_self v p hp]
      have h' := congrArg (elim v p) h
      rw [elim_xor, elim_xor, hbv, Nat.zero_xor, elim_zero, ← comb_mapLin _ (elim_xor v p) (elim_zero v p)] at h'
      obtain ⟨r1, r2⟩ := hE.sound c (elim v p s) (by simpa using hc) h'
      refine ⟨r1, fun hs => ?_⟩
      have hcf := r2 (by rw [hs, elim_zero])
      rw [comb_all_false c g hcf, hs, Nat.xor_zero, Nat.xor_zero] at h
      have hb : b = false := by
        cases b
        · rfl
        · simp only [if_true] at h; rw [h] at hp; simp at hp
      simpa [hb] using hcf

theorem Good.zero (w : Nat) (G : List (List Nat)) : Good w 0 G :=
  fun r _ _ hw _ => weight_zero r (by omega)

theorem Good.nil (w n : Nat) : Good w n [] := by
  intro r hl _ _ _
  obtain rfl : r = [] := List.eq_nil_of_length_eq_zero (by simpa using hl)
  simp

theorem Good.tail {w n : Nat} {g : List Nat} {G : List (List Nat)} (h : Good w n (g :: G)) : Good w n G := by
  intro r hl hlt hw hs x hx
  exact h (0 :: r) (by simpa using hl) (by simpa using ⟨Nat.two_pow_pos w, hlt⟩) (by simpa [weight] using hw)
    (by simpa [synG, comb_all_false _ _ (bitsN_zero w)] using hs) x (by simp [hx])

/-- a word that uses the first group is a word of smaller weight over the reduced groups -/
theorem Kills.head {w n : Nat} {g : List Nat} {G : List (List Nat)} {E : Nat → Nat} (hg : g.length = w)
    (hE : Kills E g) (hn : Good w n (G.map (List.map E))) {x : Nat} {r : List Nat} (hx : x < 2 ^ w)
    (hrl : r.length ≤ G.length) (hrlt : ∀ y ∈ r, y < 2 ^ w) (hw : weight (x :: r) ≤ n + 1)
    (hs : synG w (x :: r) (g :: G) = 0) : x = 0 := by
  by_cases hx0 : x = 0
  · exact hx0
  have hw' : weight r ≤ n := by simp [weight, hx0] at hw; omega
  obtain ⟨s1, s2⟩ := hE.sound (bitsN w x) _ (by simp [bitsN_length, hg]) hs
  rw [← synG_mapLin E hE.xor hE.zero] at s1
  have hr0 := hn r (by simpa using hrl) hrlt hw' s1
  exact bitsN_false hx (s2 (synG_all_zero w r G hr0))

/-- a word either skips the first group or uses it -/
theorem Good.cons_of_head {w n : Nat} {g : List Nat} {G : List (List Nat)}
    (hh : ∀ {x : Nat} {r : List Nat}, x < 2 ^ w → r.length ≤ G.length → (∀ y ∈ r, y < 2 ^ w) →
      weight (x :: r) ≤ n + 1 → synG w (x :: r) (g :: G) = 0 → x = 0)
    (hG : Good w (n + 1) G) : Good w (n + 1) (g :: G) := by
  intro r hl hlt hw hs
  cases r with
  | nil => simp
  | cons x r =>
    have hrlt : ∀ y ∈ r, y < 2 ^ w := fun y hy => hlt y (by simp [hy])
    have hrl : r.length ≤ G.length := by simpa using hl
    obtain rfl := hh (hlt x (by simp)) hrl hrlt hw hs
    rw [synG, comb_all_false _ _ (bitsN_zero w), Nat.zero_xor] at hs
    simpa using hG r hrl hrlt (by simpa [weight] using hw) hs

theorem Good.cons {w n : Nat} {g : List Nat} {G : List (List Nat)} {E : Nat → Nat} (hg : g.length = w)
    (hE : Kills E g) (hG : Good w (n + 1) G) (hn : Good w n (G.map (List.map E))) : Good w (n + 1) (g :: G) :=
  Good.cons_of_head (hE.head hg hn) hG

theorem Good.one {w : Nat} {G : List (List Nat)} (h : ∀ g ∈ G, Indep w g) : Good w 1 G := by
  induction G with
  | nil => exact Good.nil w 1
  | cons g G ih =>
    intro r hl hlt hw hs
    cases r with
    | nil => simp
    | cons x r =>
      have hrlt : ∀ y ∈ r, y < 2 ^ w := fun y hy => hlt y (by simp [hy])
      simp only [synG] at hs
      by_cases hx : x = 0
      · subst hx
        rw [comb_all_false _ _ (bitsN_zero w), Nat.zero_xor] at hs
        simpa using ih (fun g hg => h g (by simp [hg])) r (by simpa using hl) hrlt (by simpa [weight] using hw) hs
      · have hr0 := weight_zero r (by simp [weight, hx] at hw; omega)
        rw [synG_all_zero w r G hr0, Nat.xor_zero] at hs
        exact absurd (h g (by simp) x (hlt x (by simp)) hs) hx

end Embit.Gf2
