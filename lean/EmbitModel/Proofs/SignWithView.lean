import EmbitModel.Model.SignWithView
import EmbitModel.Proofs.SignWithSound
import EmbitModel.Proofs.SignWithRun
/-
  The stream model `viewSignWith` (PSBTView.sign_with). A pass over an input depends on the digest function only through
  its values on the frame (`signInput_congr`), so the digests the view takes over the unsigned PSBT are those over the
  PSBT as it stands and a call is a `Run` of cells, input by input: the ghost PSBT of signed copies obeys the same trace
  discipline, justification and completeness as the in-memory model. The bytes written are the signature fields of
  that PSBT (Mathlib-free).
-/
namespace Embit.Model.SignWith
open Embit Embit.Model

variable {HD : Type}

theorem signLeaves_congr (O : Ops HD) (dg dg' : Digest) (s0 : InScope) (hd : ∀ t, core t = core s0 → dg t = dg' t)
    (sk : Bytes) (f : Nat) (xo : Bytes) (l : List (Bytes × Bytes)) (seen : List Slot) (s : InScope)
    (hc : core s = core s0) :
    signLeaves O dg sk f xo seen l s = signLeaves O dg' sk f xo seen l s := by
  induction l generalizing seen s with
  | nil => rfl
  | cons e r ih =>
    obtain ⟨ctrl, sc⟩ := e
    unfold signLeaves
    rw [hd s hc]
    split
    · exact ih seen s hc
    · split
      · rfl
      · dsimp only
        split
        · rfl
        · split
          · rfl
          · have key : ∀ ts, core { s with tapSigs := ts } = core s0 := fun _ => hc
            rw [ih _ _ (key _)]

theorem signTapKey_congr (O : Ops HD) (dg dg' : Digest) (s0 : InScope) (hd : ∀ t, core t = core s0 → dg t = dg' t)
    (sk : Bytes) (c : Bool) (f : Nat) (seen : List Slot) (s : InScope) (hc : core s = core s0) :
    signTapKey O dg sk c f seen s = signTapKey O dg' sk c f seen s := by
  unfold signTapKey
  rw [hd s hc]
  split
  · rfl
  · split
    · rfl
    · split
      · rfl
      · split
        · rfl
        · exact signLeaves_congr O dg dg' s0 hd sk f _ _ seen s hc

theorem signTapDerived_congr (O : Ops HD) (dg dg' : Digest) (s0 : InScope) (hd : ∀ t, core t = core s0 → dg t = dg' t)
    (f : Nat) (l : List (Bytes × Bytes)) (seen : List Slot) (s : InScope) (hc : core s = core s0) :
    signTapDerived O dg f seen l s = signTapDerived O dg' f seen l s := by
  induction l generalizing seen s with
  | nil => rfl
  | cons e r ih =>
    obtain ⟨prv, pub⟩ := e
    unfold signTapDerived
    rw [signTapKey_congr O dg dg' s0 hd prv true f seen s hc]
    cases h1 : signTapKey O dg' prv true f seen s with
    | none => rfl
    | some r1 =>
      obtain ⟨s1, k1, w1⟩ := r1
      have hc1 : core s1 = core s0 := by rw [(signTapKey_tr h1).core, hc]
      dsimp only
      rw [ih _ s1 hc1]

theorem signInput_congr (O : Ops HD) (sg : Single HD) (auth : Option Nat) (dg dg' : Digest) (seen : List Slot)
    (s : InScope) (hd : ∀ t, core t = core s → dg t = dg' t) :
    signInput O sg auth dg seen s = signInput O sg auth dg' seen s := by
  unfold signInput
  rw [hd s rfl]
  split
  · rfl
  · dsimp only
    split
    · rfl
    · split
      · rfl
      · split
        · rw [signTapKey_congr O dg dg' s hd _ _ _ seen s rfl]
          cases h1 : signTapKey O dg' (Single.secret O sg) sg.compressed _ seen s with
          | none => rfl
          | some r1 =>
            obtain ⟨s1, k1, w1⟩ := r1
            have hc1 : core s1 = core s := (signTapKey_tr h1).core
            dsimp only
            rw [signTapDerived_congr O dg dg' s hd _ _ _ s1 hc1]
        · rfl

theorem dgOf_congr (O : Ops HD) (p0 q : Psbt) (hq : pcore q = pcore p0) (i : Nat) (s : InScope)
    (hs : q.inputs[i]? = some s) : ∀ t, core t = core s → dgOf O q i t = dgOf O p0 i t := by
  intro t ht
  obtain ⟨s0, hs0, hc0⟩ := pcore_get hq i s hs
  funext f leaf
  show psbtSighash O.sha (Psbt.setInput q i t) i f leaf = psbtSighash O.sha (Psbt.setInput p0 i t) i f leaf
  apply psbtSighash_congr
  rw [pcore_setInput q i s t hs ht, pcore_setInput p0 i s0 t hs0 (ht.trans hc0), hq]

section AllKeys
variable {O : Ops HD} {auth : Option Nat} {dg : Digest} {seen : List Slot} {sg : Single HD} {ks keys : List (Single HD)}
  {s s' : InScope} {n : Nat} {ws : List (Slot × Bytes)} {G : List (Nat × Slot)} {p0 q : Psbt} {i : Nat}

theorem signInputKeys_cons_some (h : signInputKeys O auth dg seen (sg :: ks) s = some (s', n, ws)) :
    ∃ s1 n1 w1 n2 w2, signInput O sg auth dg seen s = some (s1, n1, w1) ∧
      signInputKeys O auth dg (seen ++ w1.map Prod.fst) ks s1 = some (s', n2, w2) ∧ n = n1 + n2 ∧ ws = w1 ++ w2 := by
  unfold signInputKeys at h
  split at h
  · cases h
  · rename_i s1 n1 w1 h1
    split at h
    · cases h
    · rename_i s2 n2 w2 h2
      cases h
      exact ⟨s1, n1, w1, n2, w2, h1, h2, rfl, rfl⟩

/-- all keys `ks` on input `i`, digests over `p0` as the stream variant takes them: a column of cells -/
theorem signInputKeys_run (hks : ∀ k ∈ ks, k ∈ keys) (hq : pcore q = pcore p0) (hs : q.inputs[i]? = some s)
    (h : signInputKeys O auth (dgOf O p0 i) (slotsOf G i) ks s = some (s', n, ws)) :
    Run O auth keys G q (Psbt.setInput q i s') n (ws.map (fun w => (i, w))) (ks.map (·, i)) := by
  induction ks generalizing G q s n ws with
  | nil => cases h; rw [setInput_self q i _ hs]; exact .nil _ _
  | cons k r ih =>
    obtain ⟨s1, n1, w1, n2, w2, h1, h2, rfl, rfl⟩ := signInputKeys_cons_some h
    rw [← signInput_congr O k auth _ _ _ s (dgOf_congr O p0 q hq i s hs)] at h1
    rw [← slotsOf_input_same i w1, ← slotsOf_append] at h2
    have r2 := ih (fun k hk => hks k (List.mem_cons_of_mem _ hk))
      ((pcore_setInput q i s s1 hs (signInput_tr _ _ _ _ _ _ _ _ _ h1).core).trans hq) (setInput_get q i s s1 hs) h2
    rw [setInput_setInput] at r2
    rw [List.map_append]
    exact .cell (hks k List.mem_cons_self) hs h1 r2

end AllKeys

/-- the bytes `sign_input` writes for input scope `s` whose signed copy is `s'` -/
def viewScopeBytes (keys : List (Single HD)) (auth : Option Nat) (s s' : InScope) : Bytes :=
  if (keys.filter Single.isPrivate).isEmpty then [] else
  match s.utxo with
  | none => []
  | some u =>
    match signPolicy auth s.sighashType (isTaprootSpk u.spk) with
    | none => []
    | some _ => kvBytes (sigPairs s' (isTaprootSpk u.spk))

theorem viewSignInput_spec (O : Ops HD) (keys : List (Single HD)) (auth : Option Nat) (dg : Digest) (s : InScope)
    (b : Bytes) (s' : InScope) (n : Nat) (ws : List (Slot × Bytes))
    (h : viewSignInput O keys auth dg s = some (b, s', n, ws)) :
    signInputKeys O auth dg [] (keys.filter Single.isPrivate) s = some (s', n, ws) ∧ b = viewScopeBytes keys auth s s' := by
  unfold viewSignInput at h
  dsimp only at h
  split at h
  · cases h
  · rename_i s1 n1 w1 h1
    split at h
    · rename_i he
      simp only [Option.some.injEq, Prod.mk.injEq] at h; obtain ⟨rfl, rfl, rfl, rfl⟩ := h
      exact ⟨h1, by simp [viewScopeBytes, he]⟩
    · rename_i he
      split at h
      · cases h
      · rename_i u hu
        split at h
        · rename_i hp
          simp only [Option.some.injEq, Prod.mk.injEq] at h; obtain ⟨rfl, rfl, rfl, rfl⟩ := h
          exact ⟨h1, by simp [viewScopeBytes, he, hu, hp]⟩
        · rename_i f hp
          simp only [Option.some.injEq, Prod.mk.injEq] at h; obtain ⟨rfl, rfl, rfl, rfl⟩ := h
          exact ⟨h1, by simp [viewScopeBytes, he, hu, hp]⟩

/-- the bytes `sign_with` writes: per input the signature fields of the signed copy, then a separator -/
def viewStream (keys : List (Single HD)) (auth : Option Nat) : List InScope → List InScope → Bytes
  | s :: r, s' :: r' => viewScopeBytes keys auth s s' ++ [0x00] ++ viewStream keys auth r r'
  | _, _ => []

theorem slotsOf_lt (G : List (Nat × Slot)) (i : Nat) (h : ∀ e ∈ G, e.1 < i) : slotsOf G i = [] :=
  filterMap_index_nil G i fun e he => Nat.ne_of_lt (h e he)

section Stream
variable {O : Ops HD} {keys : List (Single HD)} {auth : Option Nat} {p q : Psbt} {i n : Nat} {s : InScope}
  {r pre ss : List InScope} {b : Bytes} {ws : List Write} {G : List (Nat × Slot)}

theorem viewSignFrom_cons_some (h : viewSignFrom O keys auth p i (s :: r) = some (b, ss, n, ws)) :
    ∃ s1 n1 w1 b2 ss2 n2 w2,
      signInputKeys O auth (dgOf O p i) [] (keys.filter Single.isPrivate) s = some (s1, n1, w1) ∧
      viewSignFrom O keys auth p (i + 1) r = some (b2, ss2, n2, w2) ∧
      b = viewScopeBytes keys auth s s1 ++ [0x00] ++ b2 ∧ ss = s1 :: ss2 ∧ n = n1 + n2 ∧
      ws = w1.map (fun w => (i, w)) ++ w2 := by
  unfold viewSignFrom at h
  split at h
  · cases h
  · rename_i b1 s1 n1 w1 h1
    split at h
    · cases h
    · rename_i b2 ss2 n2 w2 h2
      cases h
      obtain ⟨hk1, rfl⟩ := viewSignInput_spec O keys auth _ s b1 s1 n1 w1 h1
      exact ⟨s1, n1, w1, b2, ss2, n2, w2, hk1, h2, rfl, rfl, rfl, rfl⟩

theorem viewSignFrom_stream {l : List InScope} (h : viewSignFrom O keys auth p i l = some (b, ss, n, ws)) :
    b = viewStream keys auth l ss := by
  induction l generalizing i b ss n ws with
  | nil => cases h; rfl
  | cons s r ih =>
    obtain ⟨s1, n1, w1, b2, ss2, n2, w2, _, h2, rfl, rfl, _, _⟩ := viewSignFrom_cons_some h
    rw [viewStream, ← ih h2]

/-- the loop of the stream variant: input by input, each input under all private keys -/
theorem viewSignFrom_run {l : List InScope} (hq : pcore q = pcore p) (hin : q.inputs = pre ++ l)
    (hG : ∀ e ∈ G, e.1 < pre.length) (h : viewSignFrom O keys auth p pre.length l = some (b, ss, n, ws)) :
    Run O auth keys G q { q with inputs := pre ++ ss } n ws
      ((List.range' pre.length l.length).flatMap fun i => (keys.filter Single.isPrivate).map (·, i)) := by
  induction l generalizing pre G q b ss n ws with
  | nil =>
    cases h
    rw [← hin]
    exact .nil G q
  | cons s r ih =>
    obtain ⟨s1, n1, w1, b2, ss2, n2, w2, h1, h2, rfl, rfl, rfl, rfl⟩ := viewSignFrom_cons_some h
    have hs : q.inputs[pre.length]? = some s := by rw [hin]; simp
    -- the view starts every input with `seen = []`: no slot of this input has been filed before
    rw [← slotsOf_lt G _ hG] at h1
    have r1 := signInputKeys_run (fun k hk => (List.mem_filter.mp hk).1) hq hs h1
    have hset : Psbt.setInput q pre.length s1 = { q with inputs := (pre ++ [s1]) ++ r } := by
      simp [Psbt.setInput, hin]
    have r := r1.append (ih (pre := pre ++ [s1]) (r1.ptr.pcore.trans hq) (by rw [hset])
      (fun e he => by
        rcases List.mem_append.mp he with he | he
        · have := hG e he; simp; omega
        · rw [slots_of_input] at he; obtain ⟨w, _, rfl⟩ := List.mem_map.mp he; simp)
      (by simpa using h2))
    simpa [hset, List.range'_succ] using r

end Stream

theorem viewSignWith_run (O : Ops HD) (signer : Signer HD) (auth : Option Nat) (p : Psbt) (b : Bytes) (n : Nat)
    (p' : Psbt) (ws : List Write) (h : viewSignWith O signer auth p = some (b, n, p', ws)) :
    Run O auth signer.keys [] p p' n ws
        ((List.range' 0 p.inputs.length).flatMap fun i => (signer.keys.filter Single.isPrivate).map (·, i)) ∧
      b = viewStream signer.keys auth p.inputs p'.inputs := by
  unfold viewSignWith at h
  split at h
  · cases h
  · rename_i b0 ss n0 ws0 h0
    cases h
    exact ⟨viewSignFrom_run (pre := []) rfl rfl nofun h0, viewSignFrom_stream h0⟩

theorem viewSignWith_spec (O : Ops HD) (OL : OrderLaws O) (signer : Signer HD) (auth : Option Nat) (p : Psbt)
    (b : Bytes) (n : Nat) (p' : Psbt) (ws : List Write) (h : viewSignWith O signer auth p = some (b, n, p', ws)) :
    PTr [] p p' n ws ∧ b = viewStream signer.keys auth p.inputs p'.inputs ∧
    (∀ w ∈ ws, ∃ sg ∈ signer.keys, JustifiedAt O sg auth p w) ∧
    (∀ sg ∈ signer.keys, sg.isPrivate = true → ∀ (i : Nat) s u f, p.inputs[i]? = some s → s.utxo = some u →
      signPolicy auth s.sighashType (isTaprootSpk u.spk) = some f →
      ∃ s', p'.inputs[i]? = some s' ∧ InputDone O sg s u s') := by
  obtain ⟨r, hb⟩ := viewSignWith_run O signer auth p b n p' ws h
  refine ⟨r.ptr, hb, r.just OL, fun sg hsg hp i s u f hs hu hpol => r.complete OL (sg, i) ?_ s u f hs hu hpol⟩
  exact List.mem_flatMap.mpr
    ⟨i, List.mem_range'_1.mpr ⟨Nat.zero_le _, by simpa using (List.getElem?_eq_some_iff.mp hs).1⟩,
      List.mem_map.mpr ⟨sg, List.mem_filter.mpr ⟨hsg, hp⟩, rfl⟩⟩

end Embit.Model.SignWith
