import EmbitModel.Proofs.LiquidBalance
import Mathlib.Data.ZMod.Basic
import Mathlib.Algebra.Module.Prod
/-
  C18: a NON-TRIVIAL toy commitment library satisfying every law of `ZkpLaws`, with a blind-sum
  that actually computes the specified scalar.

  Scalars: ℤ/251. Points: (ℤ/251)², a module over the scalars; the blinding generator is `G = (0, 1)`, the asset
  generators are `H(t) = (h(t), 0)`: the first coordinate of a commitment carries the plain amount, the second the
  blinding term. All library functions are plain `Nat` arithmetic mod 251 on one- / two-byte strings, so the kernel
  evaluates them (`decide`); the laws are proved by casting into `ZMod 251`.

  This is a TOY: it shows that the laws are jointly satisfiable together with a successful `blind`, nothing about
  libsecp256k1-zkp. Its range / surjection "proofs" are placeholders (no law speaks about them).
-/
namespace Embit.Toy2
open Embit Model

def q : Nat := 251

/-- a byte string as a scalar: big-endian, reduced mod 251 -/
def sc (b : Bytes) : Nat := ofBe b % q
/-- scalar `x` as a byte string (one byte) -/
def enc1 (x : Nat) : Bytes := [UInt8.ofNat (x % q)]
/-- the point `(x, y)` as its internal representation (two bytes) -/
def enc2 (x y : Nat) : Bytes := [UInt8.ofNat (x % q), UInt8.ofNat (y % q)]
def px : Bytes → Nat
  | x :: _ => x.toNat
  | _ => 0
def py : Bytes → Nat
  | _ :: y :: _ => y.toNat
  | _ => 0
/-- "hash to curve": the asset tag, big-endian, mod 251, in the first coordinate -/
def hTag (t : Bytes) : Nat := ofBe t % q

/-- the blinding terms `v·abf + vbf` over the three argument lists (zipped) -/
def termsN : List Nat → List Bytes → List Bytes → List Nat
  | v :: vs, a :: as, b :: bs => (v * sc a + sc b) :: termsN vs as bs
  | _, _, _ => []

/-- `pedersen_blind_generator_blind_sum`: refuses ill-formed calls (lists of different lengths, no output), otherwise
    returns the last value blinding factor `Σ_in (v·abf + vbf) − Σ_out' (v·abf + vbf) − v_last·abf_last`, computed
    from its arguments (the last entry of `vbfs` is ignored — the C function overwrites it) -/
def blindSum2 (vals : List Nat) (abfs vbfs : List Bytes) (nIn : Nat) : Option Bytes :=
  if vals.length = abfs.length ∧ abfs.length = vbfs.length ∧ nIn < vals.length then
    let T := termsN vals abfs (setLast vbfs [])
    some (enc1 ((T.take nIn).sum + (q - (T.drop nIn).sum % q)))
  else none

def tagged (p : UInt8) (b : Bytes) : Option Bytes := if b.length = 2 then some (p :: b) else none
def untag (p : UInt8) : Bytes → Option Bytes
  | p' :: b => if p' = p ∧ b.length = 2 then some b else none
  | [] => none

def toyZkp2 : Zkp where
  generatorParse := untag 0x0a
  generatorSerialize := tagged 0x0a
  generatorGenerate := fun t => some (enc2 (hTag t) 0)
  generatorGenerateBlinded := fun t r => if t.length = 32 then some (enc2 (hTag t) (sc r)) else none
  pedersenCommit := fun vbf v gen => some (enc2 (v * px gen) (v * py gen + sc vbf))
  pedersenCommitmentParse := untag 0x08
  pedersenCommitmentSerialize := tagged 0x08
  blindSum := blindSum2
  surjectionproofParse := fun b => some b
  surjectionproofSerialize := fun b => some b
  surjectionproofVerify := fun _ _ _ => false
  surjectionproofInitialize := fun tags asset _ _ _ => (tags.findIdx? (· == asset)).map (fun i => ([0x50], i))
  surjectionproofGenerate := fun proof idx _ _ _ _ => some (proof ++ [UInt8.ofNat idx])
  rangeproofVerify := fun _ _ _ _ => none
  rangeproofSign := fun _ _ _ _ _ _ _ _ _ _ => some [0x52]
  pubkeyOfSecret := fun s => some (0x02 :: s)
  ecdhNonce := fun pk n => some (pk ++ n)

def toyAlg2 : ZkpAlg (ZMod 251) (ZMod 251 × ZMod 251) where
  G := (0, 1)
  H := fun t => ((hTag t : ZMod 251), 0)
  scalar := fun b => (sc b : ZMod 251)
  point := fun b => ((px b : ZMod 251), (py b : ZMod 251))

theorem cast_mod_q (x : Nat) : ((x % q : Nat) : ZMod 251) = (x : ZMod 251) := ZMod.natCast_mod x 251

theorem px_enc2 (x y : Nat) : px (enc2 x y) = x % q := by
  have : x % q < 251 := Nat.mod_lt _ (by decide)
  simp only [px, enc2, UInt8.toNat_ofNat']
  omega

theorem py_enc2 (x y : Nat) : py (enc2 x y) = y % q := by
  have : y % q < 251 := Nat.mod_lt _ (by decide)
  simp only [py, enc2, UInt8.toNat_ofNat']
  omega

theorem point_enc2 (x y : Nat) : toyAlg2.point (enc2 x y) = ((x : ZMod 251), (y : ZMod 251)) := by
  simp only [toyAlg2, px_enc2, py_enc2, cast_mod_q]

theorem sc_nil : sc [] = 0 := by decide

theorem sc_enc1 (x : Nat) : sc (enc1 x) = x % q := by
  have : x % q < 251 := Nat.mod_lt _ (by decide)
  simp only [sc, enc1, ofBe, List.reverse_cons, List.reverse_nil, List.nil_append, ofLe, UInt8.toNat_ofNat']
  simp only [q] at *
  omega

theorem termsOf_cast (vals : List Nat) (abfs vbfs : List Bytes) :
    termsOf toyAlg2 vals abfs vbfs = (termsN vals abfs vbfs).map (Nat.cast : Nat → ZMod 251) := by
  induction vals generalizing abfs vbfs with
  | nil => simp [termsOf, termsN]
  | cons v vs ih =>
    cases abfs with
    | nil => simp [termsOf, termsN]
    | cons a as =>
      cases vbfs with
      | nil => simp [termsOf, termsN]
      | cons b bs =>
        simp only [termsOf, termsN, List.map_cons, ih]
        simp [toyAlg2]

theorem setLast_cons_cons (b b' : Bytes) (bs : List Bytes) (x : Bytes) :
    setLast (b :: b' :: bs) x = b :: setLast (b' :: bs) x := by
  simp [setLast]

/-- with lists of one length `n ≥ 1`, the terms with the last factor replaced by `x` are a fixed list followed by
    `c + sc x` -/
theorem termsN_setLast (vals : List Nat) (abfs vbfs : List Bytes) (h1 : vals.length = abfs.length)
    (h2 : abfs.length = vbfs.length) (h3 : 0 < vals.length) :
    ∃ T c, T.length + 1 = vals.length ∧ ∀ x, termsN vals abfs (setLast vbfs x) = T ++ [c + sc x] := by
  induction vals generalizing abfs vbfs with
  | nil => simp at h3
  | cons v vs ih =>
    cases abfs with
    | nil => simp at h1
    | cons a as =>
      cases vbfs with
      | nil => simp at h2
      | cons b bs =>
        cases vs with
        | nil =>
          have has : as = [] := by simpa using h1.symm
          have hbs : bs = [] := by subst has; simpa using h2.symm
          subst has; subst hbs
          exact ⟨[], v * sc a, by simp, fun x => by simp [setLast, termsN]⟩
        | cons v' vs' =>
          cases as with
          | nil => simp at h1
          | cons a' as' =>
            cases bs with
            | nil => simp at h2
            | cons b' bs' =>
              obtain ⟨T, c, hT, hx⟩ := ih (a' :: as') (b' :: bs') (by simpa using h1) (by simpa using h2) (by simp)
              refine ⟨(v * sc a + sc b) :: T, c, by simp at hT ⊢; omega, fun x => ?_⟩
              rw [setLast_cons_cons, termsN, hx x]
              rfl

theorem sum_map_cast (l : List Nat) : (l.map (Nat.cast : Nat → ZMod 251)).sum = ((l.sum : Nat) : ZMod 251) := by
  induction l with
  | nil => simp
  | cons a r ih => simp [ih]

theorem toy_blindSum_law (vals : List Nat) (abfs vbfs : List Bytes) (nIn : Nat) (r : Bytes)
    (h : blindSum2 vals abfs vbfs nIn = some r) :
    ((termsOf toyAlg2 vals abfs (setLast vbfs r)).take nIn).sum
      = ((termsOf toyAlg2 vals abfs (setLast vbfs r)).drop nIn).sum := by
  unfold blindSum2 at h
  split at h
  · rename_i hc
    obtain ⟨h1, h2, h3⟩ := hc
    obtain ⟨T, c, hT, hx⟩ := termsN_setLast vals abfs vbfs h1 h2 (by omega)
    simp only [Option.some.injEq] at h
    have hle : nIn ≤ T.length := by omega
    rw [hx [], sc_nil, List.take_append_of_le_length hle, List.drop_append_of_le_length hle] at h
    subst h
    rw [termsOf_cast, hx, ← List.map_take, ← List.map_drop, List.take_append_of_le_length hle,
      List.drop_append_of_le_length hle, sum_map_cast, sum_map_cast, sc_enc1]
    simp only [List.sum_append, List.sum_cons, List.sum_nil, Nat.add_zero]
    generalize (List.take nIn T).sum = a
    generalize (List.drop nIn T).sum = d
    have hlt : (d + c) % q ≤ q := Nat.le_of_lt (Nat.mod_lt _ (by decide))
    push_cast [cast_mod_q, Nat.cast_sub hlt]
    have hq : ((q : Nat) : ZMod 251) = 0 := by
      simp only [q]; exact ZMod.natCast_self 251
    rw [hq]
    ring
  · simp at h

theorem toyZkp2_laws : ZkpLaws toyZkp2 toyAlg2 where
  generator := by
    intro asset abf g h
    simp only [toyZkp2] at h
    split at h
    · obtain rfl := Option.some.inj h
      rw [point_enc2]
      simp [toyAlg2]
    · simp at h
  commit := by
    intro vbf v gen c h
    simp only [toyZkp2] at h
    obtain rfl := Option.some.inj h
    rw [point_enc2]
    simp [toyAlg2]
  blindSum := toy_blindSum_law

theorem untag_tagged (p : UInt8) (b s : Bytes) (h : tagged p b = some s) : untag p s = some b := by
  unfold tagged at h
  split at h
  · rename_i hl
    obtain rfl := Option.some.inj h
    simp [untag, hl]
  · simp at h

theorem toyZkp2_parse_serialize (c s : Bytes) (h : toyZkp2.pedersenCommitmentSerialize c = some s) :
    toyZkp2.pedersenCommitmentParse s = some c := untag_tagged 0x08 c s h

theorem toyZkp2_generator_parse_serialize (g s : Bytes) (h : toyZkp2.generatorSerialize g = some s) :
    toyZkp2.generatorParse s = some g := untag_tagged 0x0a g s h

/-- the wrapper's length check on the asset tag -/
theorem toyZkp2_asset_len (asset abf g : Bytes) (h : toyZkp2.generatorGenerateBlinded asset abf = some g) :
    asset.length = 32 := by
  simp only [toyZkp2] at h
  split at h
  · assumption
  · simp at h

/-- the same library WITHOUT the length check on the asset tag (used only for the witness that `blind` needs it) -/
def toyZkp2NoLen : Zkp :=
  { toyZkp2 with generatorGenerateBlinded := fun t r => some (enc2 (hTag t) (sc r))
                 surjectionproofInitialize := fun _ _ _ _ _ => some ([0x50], 0) }

theorem toyZkp2NoLen_laws : ZkpLaws toyZkp2NoLen toyAlg2 where
  generator := by
    intro asset abf g h
    simp only [toyZkp2NoLen] at h
    obtain rfl := Option.some.inj h
    rw [point_enc2]
    simp [toyAlg2]
  commit := toyZkp2_laws.commit
  blindSum := toyZkp2_laws.blindSum

theorem toyZkp2NoLen_parse_serialize (c s : Bytes) (h : toyZkp2NoLen.pedersenCommitmentSerialize c = some s) :
    toyZkp2NoLen.pedersenCommitmentParse s = some c := toyZkp2_parse_serialize c s h

theorem toyAlg2_zeros : toyAlg2.scalar zeros32 = 0 := by
  have : sc zeros32 = 0 := by decide
  simp [toyAlg2, this]

end Embit.Toy2
