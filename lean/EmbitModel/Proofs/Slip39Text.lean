import Mathlib.Tactic.Ring
import EmbitModel.Proofs.Slip39Rs
import EmbitModel.Proofs.BasicBytes
import EmbitModel.Proofs.DigitsBridge
/-
  The share text format as arithmetic: ten-bit words and the number they spell, the four header words as
  functions of the header fields, `Share.mnemonic` as header words ++ value words ++ checksum, and
  `Share.parse (Share.mnemonic s) = some s` for every well-formed share.
-/
namespace Embit.Model.Slip39
open Embit.Digits

theorem or_eq_add (a b i : Nat) (h : b < 2 ^ i) : (a <<< i) ||| b = a * 2 ^ i + b := by
  rw [← Nat.shiftLeft_add_eq_or_of_lt h, Nat.shiftLeft_eq]

theorem pow1024 (m : Nat) : (2 : Nat) ^ (10 * m) = 1024 ^ m := by rw [Nat.pow_mul]

theorem wordsOfBits_length (A w : Nat) : (wordsOfBits A w).length = w := by simp [wordsOfBits]

theorem wordsOfBits_lt (A w : Nat) : ∀ d ∈ wordsOfBits A w, d < 1024 := by
  rw [wordsOfBits_eq]; exact fixedBE_lt (by decide) w A

theorem valueOfWords_append (a b : List Nat) (h : ∀ w ∈ a ++ b, w < 1024) :
    valueOfWords (a ++ b) = valueOfWords a * 1024 ^ b.length + valueOfWords b := by
  rw [valueOfWords_eq _ h, ofBE_append, valueOfWords_eq a fun w hw => h w (List.mem_append_left _ hw),
    valueOfWords_eq b fun w hw => h w (List.mem_append_right _ hw)]

theorem valueOfWords_lt (ws : List Nat) (h : ∀ w ∈ ws, w < 1024) : valueOfWords ws < 1024 ^ ws.length := by
  rw [valueOfWords_eq ws h]; exact ofBE_lt (by decide) ws h

theorem valueOfWords_wordsOfBits (A w : Nat) : valueOfWords (wordsOfBits A w) = A % 1024 ^ w := by
  rw [valueOfWords_eq _ (wordsOfBits_lt A w), wordsOfBits_eq, ofBE_fixedBE]

theorem wordsOfBits_valueOfWords (ws : List Nat) (h : ∀ w ∈ ws, w < 1024) (hi : Nat) :
    wordsOfBits (hi * 1024 ^ ws.length + valueOfWords ws) ws.length = ws := by
  rw [wordsOfBits_eq, valueOfWords_eq ws h, ← fixedBE_mod, Nat.add_comm, Nat.add_mul_mod_self_right, fixedBE_mod,
    fixedBE_ofBE (by decide) ws h]

theorem wordsOfBits_add (hi lo k m : Nat) (h : lo < 1024 ^ m) :
    wordsOfBits (hi * 1024 ^ m + lo) (k + m) = wordsOfBits hi k ++ wordsOfBits lo m := by
  rw [wordsOfBits_eq, wordsOfBits_eq, wordsOfBits_eq, fixedBE_mul_add _ _ _ _ h]

/-- well-formed share fields: what `Share.__init__` enforces, plus the field widths of the text format -/
structure Share.WF (s : Share) : Prop where
  init : s.initOk = true
  id : s.id < 2 ^ 15
  exp : s.exponent < 32
  sbl16 : s.shareBitLength % 16 = 0
  sbl128 : 128 ≤ s.shareBitLength

theorem Share.initOk_iff (s : Share) :
    s.initOk = true ↔
      s.groupIndex ≤ 15 ∧ 1 ≤ s.groupThreshold ∧ s.groupThreshold ≤ s.groupCount ∧ 1 ≤ s.groupCount ∧
      s.groupCount ≤ 16 ∧ s.memberIndex ≤ 15 ∧ 1 ≤ s.memberThreshold ∧ s.memberThreshold ≤ 16 ∧
      s.value < 256 ^ (s.shareBitLength / 8) := by
  simp only [Share.initOk, Bool.and_eq_true, Bool.not_eq_true', decide_eq_false_iff_not, Bool.or_eq_false_iff,
    decide_eq_true_eq, Nat.not_lt, and_assoc]

theorem Share.WF.value_lt {s : Share} (h : s.WF) (m : Nat)
    (hm : (10 - s.shareBitLength % 10) % 10 + s.shareBitLength = 10 * m) :
    s.value < 2 ^ s.shareBitLength ∧ s.value < 1024 ^ m := by
  have hval := ((Share.initOk_iff s).mp h.init).2.2.2.2.2.2.2.2
  have h8 : 8 * (s.shareBitLength / 8) = s.shareBitLength := by have := h.sbl16; omega
  rw [pow256, h8] at hval
  exact ⟨hval, by rw [← pow1024]; exact Nat.lt_of_lt_of_le hval (Nat.pow_le_pow_right (by decide) (by omega))⟩

theorem headerOf_arith (i0 i1 i2 i3 L V : Nat) (h1 : i1 < 1024) (h3 : i3 < 1024) :
    headerOf i0 i1 i2 i3 L V =
      ⟨L, i0 * 32 + i1 / 32, i1 % 32, i2 / 64, i2 / 4 % 16 + 1, i2 % 4 * 4 + i3 / 256 + 1, i3 / 16 % 16, i3 % 16 + 1, V⟩ := by
  have a31 : ∀ x : Nat, x &&& 31 = x % 32 := fun x => Nat.and_two_pow_sub_one_eq_mod x 5
  have a15 : ∀ x : Nat, x &&& 15 = x % 16 := fun x => Nat.and_two_pow_sub_one_eq_mod x 4
  have a3 : ∀ x : Nat, x &&& 3 = x % 4 := fun x => Nat.and_two_pow_sub_one_eq_mod x 2
  have fid : (i0 <<< 5) ||| (i1 >>> 5) = i0 * 32 + i1 / 32 := by
    rw [or_eq_add _ _ 5 (by rw [Nat.shiftRight_eq_div_pow]; omega), Nat.shiftRight_eq_div_pow]; norm_num
  have fgc : ((i2 &&& 3) <<< 2) ||| (i3 >>> 8) = i2 % 4 * 4 + i3 / 256 := by
    rw [a3, or_eq_add _ _ 2 (by rw [Nat.shiftRight_eq_div_pow]; omega), Nat.shiftRight_eq_div_pow]; norm_num
  simp only [headerOf, fid, fgc, a31, a15]
  simp only [Nat.shiftRight_eq_div_pow]

/-- the four ten-bit words that carry the header: id(15) exponent(5) | group index(4) group threshold − 1 (4)
    group count − 1 (4) member index(4) member threshold − 1 (4) -/
def Share.headerWords (s : Share) : List Nat :=
  [s.id / 32, s.id % 32 * 32 + s.exponent,
   s.groupIndex * 64 + (s.groupThreshold - 1) * 4 + (s.groupCount - 1) / 4,
   (s.groupCount - 1) % 4 * 256 + s.memberIndex * 16 + (s.memberThreshold - 1)]

theorem headerWords_lt (s : Share) (h : s.WF) : ∀ w ∈ s.headerWords, w < 1024 := by
  obtain ⟨hgi, hgt1, hgt, hgc1, hgc, hmi, hmt1, hmt, _⟩ := (Share.initOk_iff s).mp h.init
  have hid := h.id
  have he := h.exp
  intro w hw
  simp only [Share.headerWords, List.mem_cons, List.not_mem_nil, or_false] at hw
  omega

theorem headerOf_headerWords (s : Share) (h : s.WF) (L V : Nat) :
    headerOf (s.id / 32) (s.id % 32 * 32 + s.exponent)
      (s.groupIndex * 64 + (s.groupThreshold - 1) * 4 + (s.groupCount - 1) / 4)
      ((s.groupCount - 1) % 4 * 256 + s.memberIndex * 16 + (s.memberThreshold - 1)) L V =
      { s with shareBitLength := L, value := V } := by
  obtain ⟨hgi, hgt1, hgt, hgc1, hgc, hmi, hmt1, hmt, _⟩ := (Share.initOk_iff s).mp h.init
  have he := h.exp
  rw [headerOf_arith _ _ _ _ _ _ (by omega) (by omega)]
  simp only [Share.mk.injEq, true_and, and_true]
  omega

theorem headerWords_headerOf (i0 i1 i2 i3 L V : Nat) (h1 : i1 < 1024) (h3 : i3 < 1024) :
    (headerOf i0 i1 i2 i3 L V).headerWords = [i0, i1, i2, i3] := by
  rw [headerOf_arith _ _ _ _ _ _ h1 h3]
  simp only [Share.headerWords, Nat.add_sub_cancel, List.cons.injEq, and_true]
  omega

theorem valueOfWords_four (a b c d : Nat) (ha : a < 1024) (hb : b < 1024) (hc : c < 1024) (hd : d < 1024) :
    valueOfWords [a, b, c, d] = ((a * 1024 + b) * 1024 + c) * 1024 + d := by
  rw [valueOfWords_eq _ (by simp [ha, hb, hc, hd])]; simp [ofBE]

theorem valueOfWords_headerWords (s : Share) (h : s.WF) :
    valueOfWords s.headerWords =
      (((((s.id * 32 + s.exponent) * 16 + s.groupIndex) * 16 + (s.groupThreshold - 1)) * 16 + (s.groupCount - 1)) * 16 +
        s.memberIndex) * 16 + (s.memberThreshold - 1) := by
  obtain ⟨hgi, hgt1, hgt, hgc1, hgc, hmi, hmt1, hmt, _⟩ := (Share.initOk_iff s).mp h.init
  have hid := h.id
  have he := h.exp
  rw [Share.headerWords, valueOfWords_four _ _ _ _ (by omega) (by omega) (by omega) (by omega)]
  omega

theorem allBits_eq (s : Share) (h : s.WF) (m : Nat)
    (hm : (10 - s.shareBitLength % 10) % 10 + s.shareBitLength = 10 * m) :
    s.allBits = valueOfWords s.headerWords * 1024 ^ m + s.value := by
  obtain ⟨hgi, hgt1, hgt, hgc1, hgc, hmi, hmt1, hmt, _⟩ := (Share.initOk_iff s).mp h.init
  simp only [Share.allBits]
  rw [or_eq_add _ _ 5 h.exp, or_eq_add _ _ 4 (by omega), or_eq_add _ _ 4 (by omega), or_eq_add _ _ 4 (by omega),
    or_eq_add _ _ 4 (by omega), or_eq_add _ _ 4 (by omega), hm,
    or_eq_add _ _ (10 * m) (by rw [pow1024]; exact (h.value_lt m hm).2), pow1024, valueOfWords_headerWords s h]
  rfl

theorem mnemonic_words (s : Share) (h : s.WF) (m : Nat)
    (hm : (10 - s.shareBitLength % 10) % 10 + s.shareBitLength = 10 * m) :
    s.mnemonic = (s.headerWords ++ wordsOfBits s.value m) ++
      rs1024Create csShamir (s.headerWords ++ wordsOfBits s.value m) := by
  have hq : ((10 - s.shareBitLength % 10) % 10 + s.shareBitLength) / 10 = m := by omega
  have hw : wordsOfBits (valueOfWords s.headerWords) 4 = s.headerWords := by
    have := wordsOfBits_valueOfWords s.headerWords (headerWords_lt s h) 0
    rwa [Nat.zero_mul, Nat.zero_add] at this
  unfold Share.mnemonic
  simp only [hq]
  rw [allBits_eq s h m hm, wordsOfBits_add _ _ 4 m (h.value_lt m hm).2, hw]

theorem parse_cons (i0 i1 i2 i3 : Nat) (vw chk : List Nat) (hchk : chk.length = 3)
    (hv : rs1024Verify csShamir (i0 :: i1 :: i2 :: i3 :: (vw ++ chk)) = true) :
    Share.parse (i0 :: i1 :: i2 :: i3 :: (vw ++ chk)) =
      if valueOfWords vw >>> (vw.length * 10 / 16 * 16) = 0 ∧ 128 ≤ vw.length * 10 / 16 * 16 ∧
          vw.length * 10 - vw.length * 10 / 16 * 16 ≤ 8
      then Share.new? (headerOf i0 i1 i2 i3 (vw.length * 10 / 16 * 16) (valueOfWords vw)) else none := by
  unfold Share.parse
  have e7 : (i0 :: i1 :: i2 :: i3 :: (vw ++ chk)).length - 7 = vw.length := by
    simp only [List.length_cons, List.length_append, hchk]; omega
  have e3 : (vw ++ chk).length - 3 = vw.length := by rw [List.length_append, hchk]; omega
  have c0 : ¬ ((i0 :: i1 :: i2 :: i3 :: (vw ++ chk)).length < 7) := by
    simp only [List.length_cons, List.length_append, hchk]; omega
  simp only [hv, Bool.not_true, Bool.false_eq_true, if_false, c0, e7, e3, List.take_left', ne_eq, ite_not]
  split_ifs <;> first | rfl | omega

theorem share_text_roundtrip (s : Share) (h : s.WF) : Share.parse s.mnemonic = some s := by
  have h16 := h.sbl16
  have h128 := h.sbl128
  obtain ⟨m, hm⟩ : ∃ m, (10 - s.shareBitLength % 10) % 10 + s.shareBitLength = 10 * m :=
    ⟨((10 - s.shareBitLength % 10) % 10 + s.shareBitLength) / 10, by omega⟩
  obtain ⟨hvL, hvm⟩ := h.value_lt m hm
  rw [mnemonic_words s h m hm]
  have hver := rs1024_create_verify csShamir (s.headerWords ++ wordsOfBits s.value m)
  have hval : valueOfWords (wordsOfBits s.value m) = s.value := by
    rw [valueOfWords_wordsOfBits, Nat.mod_eq_of_lt hvm]
  have hsbl : m * 10 / 16 * 16 = s.shareBitLength := by omega
  have hp := parse_cons _ _ _ _ (wordsOfBits s.value m) _ rfl hver
  rw [wordsOfBits_length, hval, hsbl, headerOf_headerWords s h,
    if_pos ⟨by rw [Nat.shiftRight_eq_div_pow]; exact Nat.div_eq_of_lt hvL, h128, by omega⟩] at hp
  refine hp.trans ?_
  show Share.new? s = some s
  rw [Share.new?, if_pos h.init]

end Embit.Model.Slip39
