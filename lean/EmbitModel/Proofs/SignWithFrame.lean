import EmbitModel.Proofs.SignWithTrace
/-
  What applying a trace of writes does to a scope / a PSBT: slot contents afterwards, keys kept, other inputs untouched
  (Mathlib-free). Together with `signWith_tr` this gives the frame theorems of C02X.
-/
namespace Embit.Model.SignWith
open Embit Embit.Model

variable {HD : Type}

theorem slotValue_applySlot (s : InScope) (w : Slot × Bytes) (sl : Slot) :
    slotValue (applySlot s w) sl = if sl = w.1 then some w.2 else slotValue s sl := by
  obtain ⟨sl', v⟩ := w
  cases sl' with
  | partialSig k =>
    cases sl with
    | partialSig k' =>
      simp only [applySlot, slotValue, lookup_setKV, Slot.partialSig.injEq]
    | tapScriptSig k' => simp [applySlot, slotValue]
    | tapKeySig => simp [applySlot, slotValue]
  | tapScriptSig k =>
    cases sl with
    | partialSig k' => simp [applySlot, slotValue]
    | tapScriptSig k' =>
      simp only [applySlot, slotValue, lookup_setKV, Slot.tapScriptSig.injEq]
    | tapKeySig => simp [applySlot, slotValue]
  | tapKeySig =>
    cases sl with
    | partialSig k' => simp [applySlot, slotValue]
    | tapScriptSig k' => simp [applySlot, slotValue]
    | tapKeySig => simp [applySlot, slotValue]

theorem slotValue_applySlot_self (s : InScope) (w : Slot × Bytes) : (slotValue (applySlot s w) w.1).isSome = true := by
  rw [slotValue_applySlot, if_pos rfl]; rfl

theorem slotValue_applySlots (s : InScope) (ws : List (Slot × Bytes)) (sl : Slot) (v : Bytes)
    (h : slotValue (applySlots s ws) sl = some v) : slotValue s sl = some v ∨ (sl, v) ∈ ws := by
  induction ws generalizing s with
  | nil => exact Or.inl h
  | cons w r ih =>
    simp only [applySlots, List.foldl_cons] at h
    rcases ih (applySlot s w) h with h1 | h1
    · rw [slotValue_applySlot] at h1
      split at h1
      · rename_i heq
        cases h1
        exact Or.inr (by rw [heq]; exact List.mem_cons_self)
      · exact Or.inl h1
    · exact Or.inr (List.mem_cons_of_mem _ h1)

theorem slotValue_applySlots_untouched (s : InScope) (ws : List (Slot × Bytes)) (sl : Slot)
    (h : ∀ w ∈ ws, w.1 ≠ sl) : slotValue (applySlots s ws) sl = slotValue s sl := by
  induction ws generalizing s with
  | nil => rfl
  | cons w r ih =>
    simp only [applySlots, List.foldl_cons]
    have := ih (applySlot s w) (fun w' hw' => h w' (List.mem_cons_of_mem _ hw'))
    simp only [applySlots] at this
    rw [this, slotValue_applySlot]
    have hne : sl ≠ w.1 := fun e => h w List.mem_cons_self e.symm
    simp [hne]

theorem slotValue_applySlots_isSome (s : InScope) (ws : List (Slot × Bytes)) (sl : Slot)
    (h : (slotValue s sl).isSome = true) : (slotValue (applySlots s ws) sl).isSome = true := by
  induction ws generalizing s with
  | nil => exact h
  | cons w r ih =>
    simp only [applySlots, List.foldl_cons]
    apply ih
    rw [slotValue_applySlot]
    split
    · rfl
    · exact h

theorem slotValue_applySlots_written (s : InScope) (ws : List (Slot × Bytes)) (sl : Slot) (v : Bytes)
    (h : (sl, v) ∈ ws) : ∃ v', (sl, v') ∈ ws ∧ slotValue (applySlots s ws) sl = some v' := by
  induction ws generalizing s v with
  | nil => cases h
  | cons w r ih =>
    simp only [applySlots, List.foldl_cons]
    by_cases hr : ∃ v2, (sl, v2) ∈ r
    · obtain ⟨v2, hv2⟩ := hr
      obtain ⟨v', h1, h2⟩ := ih (applySlot s w) v2 hv2
      exact ⟨v', List.mem_cons_of_mem _ h1, h2⟩
    · have hw : w = (sl, v) := by
        rcases List.mem_cons.mp h with h1 | h1
        · exact h1.symm
        · exact absurd ⟨v, h1⟩ hr
      refine ⟨v, h, ?_⟩
      have := slotValue_applySlots_untouched (applySlot s w) r sl (by
        intro w' hw' heq
        exact hr ⟨w'.2, by rw [← heq]; exact hw'⟩)
      simp only [applySlots] at this
      rw [this, slotValue_applySlot, hw]
      simp

theorem finalWitness_applySlots (s : InScope) (ws : List (Slot × Bytes)) :
    (applySlots s ws).finalWitness = s.finalWitness
      ∨ ∃ v, (Slot.tapKeySig, v) ∈ ws ∧ (applySlots s ws).finalWitness = some [v] := by
  induction ws generalizing s with
  | nil => exact Or.inl rfl
  | cons w r ih =>
    simp only [applySlots, List.foldl_cons]
    rcases ih (applySlot s w) with h | ⟨v, hv, h⟩
    · obtain ⟨sl, v⟩ := w
      cases sl with
      | partialSig k => exact Or.inl h
      | tapScriptSig k => exact Or.inl h
      | tapKeySig => exact Or.inr ⟨v, List.mem_cons_self, h⟩
    · exact Or.inr ⟨v, List.mem_cons_of_mem _ hv, h⟩

theorem keys_setKV_prefix (k v : Bytes) (l : List (Bytes × Bytes)) : l.map Prod.fst <+: (setKV k v l).map Prod.fst := by
  rw [keys_setKV]
  split
  · exact List.prefix_refl _
  · exact List.prefix_append _ _

theorem sigKeys_applySlot (s : InScope) (w : Slot × Bytes) :
    s.partialSigs.map Prod.fst <+: (applySlot s w).partialSigs.map Prod.fst ∧
    s.tapSigs.map Prod.fst <+: (applySlot s w).tapSigs.map Prod.fst := by
  obtain ⟨sl, v⟩ := w
  cases sl with
  | partialSig k => exact ⟨keys_setKV_prefix k v _, List.prefix_refl _⟩
  | tapScriptSig k => exact ⟨List.prefix_refl _, keys_setKV_prefix k v _⟩
  | tapKeySig => exact ⟨List.prefix_refl _, List.prefix_refl _⟩

theorem sigKeys_applySlots (s : InScope) (ws : List (Slot × Bytes)) :
    s.partialSigs.map Prod.fst <+: (applySlots s ws).partialSigs.map Prod.fst ∧
    s.tapSigs.map Prod.fst <+: (applySlots s ws).tapSigs.map Prod.fst := by
  induction ws generalizing s with
  | nil => exact ⟨List.prefix_refl _, List.prefix_refl _⟩
  | cons w r ih =>
    obtain ⟨h1, h2⟩ := sigKeys_applySlot s w
    obtain ⟨h3, h4⟩ := ih (applySlot s w)
    exact ⟨h1.trans h3, h2.trans h4⟩

def writesOf (ws : List Write) (i : Nat) : List (Slot × Bytes) :=
  ws.filterMap (fun w => if w.1 = i then some w.2 else none)

theorem mem_writesOf (ws : List Write) (i : Nat) (w : Slot × Bytes) : w ∈ writesOf ws i ↔ (i, w) ∈ ws :=
  mem_filterMap_index ws i w

theorem setInput_get_ne (p : Psbt) (i j : Nat) (t : InScope) (h : i ≠ j) :
    (Psbt.setInput p i t).inputs[j]? = p.inputs[j]? := by
  simp [Psbt.setInput, h]

theorem applyWrites_get (p : Psbt) (ws : List Write) (i : Nat) :
    (applyWrites p ws).inputs[i]? = (p.inputs[i]?).map (fun s => applySlots s (writesOf ws i)) := by
  induction ws generalizing p with
  | nil => simp [applyWrites, writesOf, applySlots]
  | cons w r ih =>
    simp only [applyWrites, List.foldl_cons] at ih ⊢
    rw [ih]
    obtain ⟨j, w'⟩ := w
    unfold applyWrite
    dsimp only
    cases hj : p.inputs[j]? with
    | none =>
      dsimp only
      by_cases hji : j = i
      · subst hji; simp [hj]
      · simp [writesOf, hji]
    | some s =>
      dsimp only
      by_cases hji : j = i
      · subst hji
        rw [setInput_get p j s _ hj, hj]
        simp [writesOf, applySlots]
      · rw [setInput_get_ne p j i _ hji]
        simp [writesOf, hji]

theorem applyWrites_inputs_length (p : Psbt) (ws : List Write) :
    (applyWrites p ws).inputs.length = p.inputs.length :=
  pcore_inputs_length (pcore_applyWrites p ws)

theorem PTr.scope {G : List (Nat × Slot)} {p p' : Psbt} {n : Nat} {ws : List Write} (t : PTr G p p' n ws) (i : Nat)
    (s s' : InScope) (hs : p.inputs[i]? = some s) (hs' : p'.inputs[i]? = some s') :
    s' = applySlots s (writesOf ws i) := by
  have := applyWrites_get p ws i
  rw [← t.app, hs', hs] at this
  exact Option.some.inj this

end Embit.Model.SignWith
