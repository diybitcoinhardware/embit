import EmbitModel.Proofs.PsetSerParse
/-
  C18 (deepening): serialise-then-parse of version-0 ("elements") PSET objects. Output scopes are seeded with script,
  asset and the value (integer or raw commitment) of the global transaction and write the legacy spellings; the whole
  object must carry its transaction (`LPsetWF0.tx`).
  The scopes may carry the parts of the global transaction kept by fix `d53` (peg-in flag, issuance, output nonce).
  `read_value` never looks at these parts, so every fold over pairs commutes with setting them (`withParts` /
  `withNonce`), and the statements about scopes with EMPTY kept parts are reused on the scope with the parts cleared.
-/
set_option linter.unusedSimpArgs false
set_option linter.unusedVariables false
namespace Embit
open Model Spec.LWire

/-- the scope `read_from` starts with for a version-0 output: script, asset, and the value as an integer or as the raw
    commitment (`LOutputScope(vout=vout)`) -/
def Model.LOutScope.seedOf0 (s : LOutScope) : LOutScope :=
  { base := { value := s.base.value, spk := s.base.spk }, valueConf := s.valueConf,
    lf := match lget s.lf .asset with | some a => [(.asset, a)] | none => [] }

structure LOutWF0 (ko : KeyOps) (s : LOutScope) : Prop where
  typed : OutWF ko s.base.typed
  typedNL : ∀ kv ∈ s.base.typed.pairs (some 2), isLiquidKey kv.1 = false
  unknown : ∀ kv ∈ s.base.unknown, KVWF kv ∧
    ((isLiquidKey kv.1 = false ∧ unkKeyOut kv.1 = true) ∨ (isLiquidKey kv.1 = true ∧ LOutField.ofKey kv.1 = none))
  unknownNodup : (s.base.unknown.map Prod.fst).Nodup
  lf : ∀ e ∈ s.lf, lenOK e.1.len e.2 = true ∧ Fits e.2
  asset : (lget s.lf .asset).isSome = true
  /-- (fix `d53`) the scope keeps no nonce of a global transaction beside its fields -/
  txNonce : s.txNonce = none

theorem LOutScope.addPairs_pairs0 (ko : KeyOps) (ver : Option Nat) (hv : ver ≠ some 2) (s : LOutScope) (h : LOutWF0 ko s) :
    LOutScope.addPairs ko s.seedOf0 (s.pairsL ver) = some s.norm := by
  obtain ⟨a, ha⟩ := Option.isSome_iff_exists.mp h.asset
  have hb : (ver == some 2) = false := by simp [hv]
  -- the liquid fields after the asset, which version 0 does not write: the seed holds it
  have hord : LOutField.order = LOutField.asset :: LOutField.order.tail := by decide
  have hnd : LOutField.order.tail.Nodup := by decide
  have hnotin : LOutField.asset ∉ LOutField.order.tail := by decide
  have hlp : s.lpairs ver = LOutField.order.tail.filterMap (fun f => (lget s.lf f).map (fun v => (f.key false, v))) := by
    unfold LOutScope.lpairs
    rw [hord]
    simp only [List.filterMap_cons, hb, Bool.not_false, Bool.and_true, decide_true, if_true, List.tail_cons]
    apply filterMap_congr'
    intro f hf
    have hfa : f ≠ LOutField.asset := fun e => hnotin (e ▸ hf)
    simp [hfa]
  have hpairs : s.pairsL ver = s.base.typed.pairs ver ++ (s.base.unknown
      ++ LOutField.order.tail.filterMap (fun f => (lget s.lf f).map (fun v => (f.key false, v)))) := by
    rw [LOutScope.pairsL, OutScope.pairs_typed, hlp, List.append_assoc]
  rw [hpairs, LOutScope.addPairs_written ko ver false LOutField.order.tail hnd s s.seedOf0 h.typed h.typedNL h.unknown
    h.unknownNodup h.lf (by simp [LOutScope.seedOf0, OutScope.seedOf, hv, OutScope.typed]) (fun e => absurd e hv)
    (fun f hf => by
      have hfa : f ≠ LOutField.asset := fun e => hnotin (e ▸ hf)
      simp only [LOutScope.seedOf0, ha, lget, hfa.symm, if_false])]
  simp only [LOutScope.norm, LOutScope.normLf, LOutScope.seedOf0, ha]
  have e : LOutField.order.filterMap (fun f => (lget s.lf f).map (fun v => (f, v)))
      = (LOutField.asset, a) :: LOutField.order.tail.filterMap (fun f => (lget s.lf f).map (fun v => (f, v))) := by
    conv => lhs; rw [hord]
    simp [ha]
  rw [e]
  have hn := h.txNonce
  cases s with
  | mk b vc lf tn =>
    simp only at hn
    subst hn
    rfl

def Model.LInScope.withParts (a : Bool) (b : Option Issuance) (s : LInScope) : LInScope :=
  { s with isPegin := a, txIssuance := b }

def Model.LOutScope.withNonce (n : Option Bytes) (s : LOutScope) : LOutScope := { s with txNonce := n }

def Model.LInScope.clr (s : LInScope) : LInScope := s.withParts false none
def Model.LOutScope.clr (s : LOutScope) : LOutScope := s.withNonce none

theorem LInScope.Step.withParts {ko : KeyOps} {s s' : LInScope} {k v : Bytes} (a : Bool) (b : Option Issuance)
    (h : LInScope.Step ko s v k s') : LInScope.Step ko (s.withParts a b) v k (s'.withParts a b) := by
  cases h with
  | sep => exact .sep
  | nonWitnessUtxo hn ht => exact .nonWitnessUtxo hn ht
  | witnessUtxo hn ho => exact .witnessUtxo hn ho
  | base hk hb => exact .base hk hb
  | field f hn hl hp => exact .field f hn hl hp
  | unknown hl hf hn => exact .unknown hl hf hn

theorem LInScope.addPair_withParts (ko : KeyOps) (a : Bool) (b : Option Issuance) (s : LInScope) (k v : Bytes) :
    LInScope.addPair ko (s.withParts a b) k v = (LInScope.addPair ko s k v).map (LInScope.withParts a b) := by
  cases h : LInScope.addPair ko s k v with
  | some s' => exact ((LInScope.addPair_step h).withParts a b).addPair
  | none =>
    cases h' : LInScope.addPair ko (s.withParts a b) k v with
    | none => rfl
    | some s'' =>
      -- setting the parts back gives a step of `s` itself
      have := ((LInScope.addPair_step h').withParts s.isPegin s.txIssuance).addPair
      rw [show (s.withParts a b).withParts s.isPegin s.txIssuance = s from rfl, h] at this
      cases this

theorem LInScope.addPairs_withParts (ko : KeyOps) (a : Bool) (b : Option Issuance) (kvs : List KV) (s : LInScope) :
    LInScope.addPairs ko (s.withParts a b) kvs = (LInScope.addPairs ko s kvs).map (LInScope.withParts a b) := by
  simp only [LInScope.addPairs_eq_foldlM]
  exact foldlM_map (LInScope.withParts a b) (Q := fun _ => True)
    (fun s kv _ => LInScope.addPair_withParts ko a b s kv.1 kv.2) kvs s (fun _ _ => trivial)

theorem LOutScope.Step.withNonce {ko : KeyOps} {s s' : LOutScope} {k v : Bytes} (n : Option Bytes)
    (h : LOutScope.Step ko s v k s') : LOutScope.Step ko (s.withNonce n) v k (s'.withNonce n) := by
  cases h with
  | base hl hc hb => exact .base hl hc hb
  | field f sp hn hl => exact .field f sp hn hl
  | unknown hl hf hn => exact .unknown hl hf hn

theorem LOutScope.addPair_withNonce (ko : KeyOps) (n : Option Bytes) (s : LOutScope) (k v : Bytes) :
    LOutScope.addPair ko (s.withNonce n) k v = (LOutScope.addPair ko s k v).map (LOutScope.withNonce n) := by
  cases h : LOutScope.addPair ko s k v with
  | some s' => exact ((LOutScope.addPair_step h).withNonce n).addPair
  | none =>
    cases h' : LOutScope.addPair ko (s.withNonce n) k v with
    | none => rfl
    | some s'' =>
      have := ((LOutScope.addPair_step h').withNonce s.txNonce).addPair
      rw [show (s.withNonce n).withNonce s.txNonce = s from rfl, h] at this
      cases this

theorem LOutScope.addPairs_withNonce (ko : KeyOps) (n : Option Bytes) (kvs : List KV) (s : LOutScope) :
    LOutScope.addPairs ko (s.withNonce n) kvs = (LOutScope.addPairs ko s kvs).map (LOutScope.withNonce n) := by
  simp only [LOutScope.addPairs_eq_foldlM]
  exact foldlM_map (LOutScope.withNonce n) (Q := fun _ => True)
    (fun s kv _ => LOutScope.addPair_withNonce ko n s kv.1 kv.2) kvs s (fun _ _ => trivial)

/-- the scope `read_from` starts with, kept parts included (`LInputScope(vin=vin)`, fix `d53`) -/
def Model.LInScope.seedOfK (version : Option Nat) (s : LInScope) : LInScope :=
  (LInScope.seedOf version s).withParts s.isPegin s.txIssuance

def Model.LOutScope.seedOf0K (s : LOutScope) : LOutScope := s.seedOf0.withNonce s.txNonce

theorem LInScope.pairs_clr (s : LInScope) (ver : Option Nat) : s.clr.pairs ver = s.pairs ver := rfl
theorem LOutScope.pairsL_clr (s : LOutScope) (ver : Option Nat) : s.clr.pairsL ver = s.pairsL ver := rfl
theorem LInScope.seedOf_clr (s : LInScope) (ver : Option Nat) : LInScope.seedOf ver s.clr = LInScope.seedOf ver s := rfl
theorem LOutScope.seedOf0_clr (s : LOutScope) : s.clr.seedOf0 = s.seedOf0 := rfl

theorem LInScope.norm_clr_withParts (s : LInScope) : s.clr.norm.withParts s.isPegin s.txIssuance = s.norm := rfl
theorem LOutScope.norm_clr_withNonce (s : LOutScope) : s.clr.norm.withNonce s.txNonce = s.norm := rfl

theorem LInScope.addPairs_pairsK (ko : KeyOps) (ver : Option Nat) (s : LInScope) (h : LInWF ko s.clr) :
    LInScope.addPairs ko (LInScope.seedOfK ver s) (s.pairs ver) = some s.norm := by
  have := LInScope.addPairs_pairs ko ver s.clr h
  rw [LInScope.pairs_clr, LInScope.seedOf_clr] at this
  rw [LInScope.seedOfK, LInScope.addPairs_withParts, this]
  simp [LInScope.norm_clr_withParts]

theorem LOutScope.addPairs_pairs0K (ko : KeyOps) (ver : Option Nat) (hv : ver ≠ some 2) (s : LOutScope)
    (h : LOutWF0 ko s.clr) :
    LOutScope.addPairs ko s.seedOf0K (s.pairsL ver) = some s.norm := by
  have := LOutScope.addPairs_pairs0 ko ver hv s.clr h
  rw [LOutScope.pairsL_clr, LOutScope.seedOf0_clr] at this
  rw [LOutScope.seedOf0K, LOutScope.addPairs_withNonce, this]
  simp [LOutScope.norm_clr_withNonce]

theorem optAll_length {α : Type} : ∀ (l : List (Option α)) (r : List α), optAll l = some r → r.length = l.length := by
  intro l
  induction l with
  | nil => intro r h; simp [optAll] at h; subst h; rfl
  | cons a l ih =>
    intro r h
    cases a with
    | none => simp [optAll] at h
    | some x =>
      simp only [optAll] at h
      cases hr : optAll l with
      | none => simp [hr] at h
      | some xs => simp [hr] at h; subst h; simp [ih xs hr]

theorem optAll_mem {α : Type} : ∀ (l : List (Option α)) (r : List α), optAll l = some r → ∀ x ∈ r, some x ∈ l := by
  intro l
  induction l with
  | nil => intro r h; simp [optAll] at h; subst h; simp
  | cons a l ih =>
    intro r h
    cases a with
    | none => simp [optAll] at h
    | some x =>
      simp only [optAll] at h
      cases hr : optAll l with
      | none => simp [hr] at h
      | some xs =>
        simp [hr] at h; subst h
        intro y hy
        simp at hy
        rcases hy with rfl | hy
        · simp
        · exact List.mem_cons_of_mem _ (ih xs hr y hy)

theorem LPset.tx_shape (p : LPset) (t : LTx) (h : p.tx = some t) :
    LUnsigned t ∧ t.vin.length = p.inputs.length ∧ t.vout.length = p.outputs.length := by
  unfold LPset.tx at h
  split at h
  · rename_i vin vout hi ho
    simp at h; subst h
    refine ⟨?_, by simpa using optAll_length _ _ hi, by simpa using optAll_length _ _ ho⟩
    intro i hi'
    have := optAll_mem _ _ hi i hi'
    simp only [List.mem_map] at this
    obtain ⟨s, _, hs⟩ := this
    unfold LInScope.vin at hs
    split at hs
    · simp at hs; subst hs; rfl
    · simp at hs
  · simp at h

/-- the transaction `PSET.tx` builds carries no witness (so the check of fix `b4` accepts it) -/
theorem LPset.tx_noWitness (p : LPset) (t : LTx) (h : p.tx = some t) : LTx.hasWitness t = false := by
  unfold LPset.tx at h
  split at h
  · rename_i vin vout hi ho
    simp at h; subst h
    simp only [LTx.hasWitness, Bool.or_eq_false_iff, List.any_eq_false]
    constructor
    · intro i hi'
      have := optAll_mem _ _ hi i hi'
      simp only [List.mem_map] at this
      obtain ⟨s, _, hs⟩ := this
      unfold LInScope.vin at hs
      split at hs
      · simp at hs; subst hs; simp [LInWitness.isEmpty]
      · simp at hs
    · intro o ho'
      have := optAll_mem _ _ ho o ho'
      simp only [List.mem_map] at this
      obtain ⟨s, _, hs⟩ := this
      unfold LOutScope.vout at hs
      simp only [] at hs
      split at hs
      · simp at hs; subst hs; simp [LOutWitness.isEmpty]
      · simp at hs
  · simp at h

theorem lglobalFold_tx_step (t : LTx) (hwf : WF t) (hu : LUnsigned t) (hnw : LTx.hasWitness t = false)
    (ver : Option Nat) (unk rest : List KV) :
    lglobalFold none ver unk (([0x00], LTx.ser t) :: rest) = lglobalFold (some t) ver unk rest := by
  have h1 := LTx.parse_ser t hwf
  have h2 : (t.vin.any fun i => !i.scriptSig.isEmpty) = false := by
    rw [List.any_eq_false]
    intro i hi
    simp [hu i hi]
  simp [lglobalFold, h1, h2, hnw]

/-- well-formed version-0 PSET object. `tx`: the object carries its transaction — it is well-formed, fits the framing,
    agrees with the stored version / locktime — and the seeds `read_from` derives from that transaction are the seeds of
    the object's scopes (decidable; for outputs this says: script, asset and value-or-commitment of the scope are the
    ones its own `vout` reports). -/
structure LPsetWF0 (ko : KeyOps) (p : LPset) : Prop where
  version : p.version ≠ some 2
  versionLt : OptP (· < 2^32) p.version
  xpubs : ∀ e ∈ p.xpubs, ko.validXpub e.1 = true ∧ Fits (0x01 :: e.1) ∧ DerivWF e.2
  xpubsNodup : (p.xpubs.map Prod.fst).Nodup
  unknown : ∀ kv ∈ p.unknown, KVWF kv ∧ unkKeyGlobal false kv.1 = true
  unknownNodup : (p.unknown.map Prod.fst).Nodup
  ins : ∀ s ∈ p.inputs, LInWF ko s
  outs : ∀ s ∈ p.outputs, LOutWF0 ko s
  tx : ∃ t, p.tx = some t ∧ WF t ∧ Fits (LTx.ser t) ∧ p.txVersion = some t.version ∧ p.locktime = some t.locktime
    ∧ (∀ (j : Nat) (s : LInScope), p.inputs[j]? = some s → lseedIn (some t) j = LInScope.seedOf p.version s)
    ∧ (∀ (j : Nat) (s : LOutScope), p.outputs[j]? = some s → lseedOut (some t) j = s.seedOf0)

/-- well-formed version-0 PSET object whose scopes may keep parts of the global transaction (fix `d53`): as `LPsetWF0`,
    scope well-formedness taken with the kept parts cleared, seeds WITH the kept parts. -/
structure LPsetWF0K (ko : KeyOps) (p : LPset) : Prop where
  version : p.version ≠ some 2
  versionLt : OptP (· < 2^32) p.version
  xpubs : ∀ e ∈ p.xpubs, ko.validXpub e.1 = true ∧ Fits (0x01 :: e.1) ∧ DerivWF e.2
  xpubsNodup : (p.xpubs.map Prod.fst).Nodup
  unknown : ∀ kv ∈ p.unknown, KVWF kv ∧ unkKeyGlobal false kv.1 = true
  unknownNodup : (p.unknown.map Prod.fst).Nodup
  ins : ∀ s ∈ p.inputs, LInWF ko s.clr
  outs : ∀ s ∈ p.outputs, LOutWF0 ko s.clr
  tx : ∃ t, p.tx = some t ∧ WF t ∧ Fits (LTx.ser t) ∧ p.txVersion = some t.version ∧ p.locktime = some t.locktime
    ∧ (∀ (j : Nat) (s : LInScope), p.inputs[j]? = some s → lseedIn (some t) j = LInScope.seedOfK p.version s)
    ∧ (∀ (j : Nat) (s : LOutScope), p.outputs[j]? = some s → lseedOut (some t) j = s.seedOf0K)

theorem LPset.parse_ser_v0K (ko : KeyOps) (p : LPset) (h : LPsetWF0K ko p) :
    ∃ b, LPset.ser p = some b ∧ LPset.parse ko b = some p.norm := by
  obtain ⟨t, ht, twf, tfit, tv, tl, sin, sout⟩ := h.tx
  obtain ⟨tun, tni, tno⟩ := LPset.tx_shape p t ht
  have hv := h.version
  have hisv2 : (p.version == some 2) = false := by simp [hv]
  have hver := h.versionLt
  let xp : List KV := p.xpubs.map (fun e => (0x01 :: e.1, Deriv.ser e.2))
  obtain ⟨gw0, gw1, gw2, gw3, hpu⟩ := globalWritten ko false p.xpubs [] p.unknown (lgstate0 (some t))
    { txVersion := p.txVersion, locktime := p.locktime, nin := some p.inputs.length, nout := some p.outputs.length,
      xpubs := p.xpubs, unknown := [] }
    h.xpubs h.xpubsNodup nofun .nil (fun _ => rfl) h.unknown h.unknownNodup
    (by rw [tv, tl, ← tni, ← tno]; simp [parseUnknowns, lgstate0]) p.version hver
  simp only [List.append_nil] at gw0 gw1 gw3 hpu
  have hgf : lglobalFold none none []
      (([0x00], LTx.ser t) :: (xp ++ optKV [0xfb] (p.version.map (leN 4)) ++ p.unknown))
      = some (some t, p.version, xp ++ p.unknown) := by
    rw [lglobalFold_tx_step t twf tun (LPset.tx_noWitness p t ht)]
    exact lglobalFold_written (some t) p.version hver xp p.unknown gw1 gw2 gw3
  have hins := readLIns_write ko (some t) p.version p.inputs 0
    (p.outputs.flatMap (fun s => writeKVs (s.pairsL p.version)) ++ [])
    (fun s hs => LInScope.pairs_wf ko p.version s.clr (h.ins s hs))
    (fun j s hj => by
      rw [Nat.zero_add, sin j s hj]
      exact LInScope.addPairs_pairsK ko p.version s (h.ins s (List.mem_of_getElem? hj)))
  have houts := readLOuts_write ko (some t) p.version p.outputs 0 []
    (fun s hs => LOutScope.pairsL_wf ko p.version s.clr (h.outs s hs).typed (h.outs s hs).unknown (h.outs s hs).lf)
    (fun j s hj => by
      rw [Nat.zero_add, sout j s hj]
      exact LOutScope.addPairs_pairs0K ko p.version hv s (h.outs s (List.mem_of_getElem? hj)))
  have hwf : ∀ kv ∈ (([0x00], LTx.ser t) :: (xp ++ optKV [0xfb] (p.version.map (leN 4)) ++ p.unknown) : List KV),
      KVWF kv := by
    intro kv hkv
    rcases List.mem_cons.mp hkv with rfl | hkv
    · exact ⟨by simp, by simp, tfit⟩
    · exact gw0 kv hkv
  have hparse := LPset.parse_of_parts ko _ _ (some t) p.version _ _ (p.inputs.map LInScope.norm)
    (p.outputs.map LOutScope.norm) _ hwf hgf (by simp [hv]) (by simp) (by simpa [hisv2] using hpu)
    (by simpa using hins) (by simpa using houts)
  refine ⟨_, ?_, hparse⟩
  have hfits : LTx.serOpt t = some (LTx.ser t) := by simp [LTx.serOpt, LTx.fits_of_wf t twf]
  have hgp : p.globalPairs = some (([0x00], LTx.ser t) :: (xp ++ optKV [0xfb] (p.version.map (leN 4)) ++ p.unknown)) := by
    simp only [LPset.globalPairs, hisv2, Bool.not_false, if_true, ht, Option.bind_some, hfits, Option.map_some,
      Bool.false_eq_true, if_false, List.append_nil]
    simp [xp]
  have hop : ∀ s ∈ p.outputs, s.pairs p.version = some (s.pairsL p.version) := by
    intro s hs
    simp [LOutScope.pairs_eq, hv]
  rw [LPset.ser_of_globalPairs p _ hgp hop]
  simp [List.append_assoc]


theorem LPsetWF0.toK {ko : KeyOps} {p : LPset} (h : LPsetWF0 ko p) : LPsetWF0K ko p := by
  obtain ⟨t, a1, a2, a3, a4, a5, a6, a7⟩ := h.tx
  have ci : ∀ s ∈ p.inputs, s.clr = s := by
    intro s hs
    obtain ⟨e1, e2⟩ := (h.ins s hs).txparts
    cases s with
    | mk b n w lf ip ti => simp only at e1 e2; subst e1; subst e2; rfl
  have co : ∀ s ∈ p.outputs, s.clr = s := by
    intro s hs
    have e := (h.outs s hs).txNonce
    cases s with
    | mk b vc lf tn => simp only at e; subst e; rfl
  refine ⟨h.version, h.versionLt, h.xpubs, h.xpubsNodup, h.unknown, h.unknownNodup,
    fun s hs => by rw [ci s hs]; exact h.ins s hs, fun s hs => by rw [co s hs]; exact h.outs s hs,
    t, a1, a2, a3, a4, a5, ?_, ?_⟩
  · intro j s hj
    have hs := List.mem_of_getElem? hj
    obtain ⟨e1, e2⟩ := (h.ins s hs).txparts
    rw [a6 j s hj, LInScope.seedOfK, e1, e2]
    unfold LInScope.seedOf LInScope.withParts
    split <;> rfl
  · intro j s hj
    have hs := List.mem_of_getElem? hj
    rw [a7 j s hj, LOutScope.seedOf0K, (h.outs s hs).txNonce]
    rfl

theorem LPset.parse_ser_v0 (ko : KeyOps) (p : LPset) (h : LPsetWF0 ko p) :
    ∃ b, LPset.ser p = some b ∧ LPset.parse ko b = some p.norm :=
  LPset.parse_ser_v0K ko p h.toK

end Embit
