import EmbitModel.Proofs.Lock
/-
  C20 — fairness: helper lemmas.

  Measure: `totalLeft s n` = the scheduler ticks threads `0 … n-1` still need (`ticksLeft`, which counts a native call
  as two ticks). One tick of thread `t` either leaves the state untouched (`t` has finished, or it stands in front of an
  `acquire` while somebody holds the lock — a BLOCKED ACQUIRE IS NOT PROGRESS) or lowers the measure by exactly one.
  In a state that is not complete some thread is enabled (the lock holder if there is one — it can always progress —,
  otherwise any unfinished thread). Hence a window of the schedule in which every thread that is still unfinished at
  the end of the window has been given a tick lowers the measure, and `W * totalLeft` ticks of a `W`-fair schedule
  finish every thread.
-/
namespace Embit.Model.Lock

def totalLeft (s : State) : Nat → Nat
  | 0 => 0
  | n + 1 => totalLeft s n + ticksLeft s n

/-- the ticks all programs need when never blocked: the length of the serial schedule -/
def totalTicks (progs : Tid → List Step) : Nat → Nat
  | 0 => 0
  | n + 1 => totalTicks progs n + ticks (progs n)

theorem totalLeft_init (progs : Tid → List Step) (n : Nat) : totalLeft (init progs) n = totalTicks progs n := by
  induction n with
  | zero => rfl
  | succ n ih =>
    simp only [totalLeft, totalTicks, ih]
    simp [ticksLeft, init]

theorem serialSched_length (progs : Tid → List Step) (n : Nat) : (serialSched progs n).length = totalTicks progs n := by
  induction n with
  | zero => rfl
  | succ n ih => simp [serialSched, totalTicks, ih]

theorem step_mid_other (t t' : Tid) (s : State) (h : t' ≠ t) : (step t s).mid t' = s.mid t' := by
  unfold step
  split <;> (try split) <;> first | rfl | simp [upd_other _ _ h]

theorem ticksLeft_step_other (t t' : Tid) (s : State) (h : t' ≠ t) : ticksLeft (step t s) t' = ticksLeft s t' := by
  simp [ticksLeft, step_rest_other t t' s h, step_mid_other t t' s h]

theorem totalLeft_congr (s s' : State) (n : Nat) (h : ∀ t, t < n → ticksLeft s' t = ticksLeft s t) :
    totalLeft s' n = totalLeft s n := by
  induction n with
  | zero => rfl
  | succ n ih =>
    simp only [totalLeft]
    rw [ih (fun t ht => h t (by omega)), h n (by omega)]

theorem totalLeft_dec (s s' : State) (t : Tid)
    (hother : ∀ t', t' ≠ t → ticksLeft s' t' = ticksLeft s t') (hdec : ticksLeft s' t + 1 = ticksLeft s t) :
    ∀ n, t < n → totalLeft s' n + 1 = totalLeft s n := by
  intro n
  induction n with
  | zero => intro ht; exact absurd ht (Nat.not_lt_zero _)
  | succ n ih =>
    intro ht
    simp only [totalLeft]
    by_cases h : t = n
    · rw [← h, totalLeft_congr s s' t (fun t' ht' => hother t' (Nat.ne_of_lt ht'))]
      omega
    · have hlt : t < n := Nat.lt_of_le_of_ne (Nat.le_of_lt_succ ht) h
      have := ih hlt
      rw [hother n (fun h' => h h'.symm)]
      omega

theorem step_of_done (t : Tid) (s : State) (h : s.rest t = []) : step t s = s := by
  simp [step, h]

theorem ticksLeft_pos {progs : Tid → List Step} {s : State} {ls : Tid → Local} (I : Inv progs s ls) (t : Tid)
    (h : s.rest t ≠ []) : 0 < ticksLeft s t := by
  rcases Nat.eq_zero_or_pos (ticksLeft s t) with h0 | h0
  · exact absurd (done_of_ticksLeft_zero I t h0) h
  · exact h0

/-- in terms of the total: a tick leaves the state alone or lowers the total by exactly one -/
theorem step_total {progs : Tid → List Step} {s : State} {ls : Tid → Local} (I : Inv progs s ls) (n : Nat)
    (hn : ∀ t, n ≤ t → progs t = []) (t : Tid) :
    step t s = s ∨ totalLeft (step t s) n + 1 = totalLeft s n := by
  rcases step_dichotomy I t with ⟨h, _⟩ | h
  · exact Or.inl h
  · by_cases hd : s.rest t = []
    · exact Or.inl (step_of_done t s hd)
    · right
      exact totalLeft_dec s (step t s) t (fun t' ht' => ticksLeft_step_other t t' s ht') h n
        (unfinished_lt I n hn t hd)

/-- a schedule never raises the total, and leaves the state alone when it does not lower it -/
theorem run_total {progs : Tid → List Step} (n : Nat) (hn : ∀ t, n ≤ t → progs t = []) (w : List Tid) :
    ∀ (s : State) (ls : Tid → Local), Inv progs s ls → run w s = s ∨ totalLeft (run w s) n < totalLeft s n := by
  induction w with
  | nil => intro s ls _; exact Or.inl rfl
  | cons t r ih =>
    intro s ls I
    rw [run_cons]
    rcases step_total I n hn t with h | h
    · rw [h]; exact ih s ls I
    · rcases ih (step t s) _ (inv_step t I) with h' | h'
      · rw [h']; right; omega
      · right; omega

theorem run_total_le {progs : Tid → List Step} (n : Nat) (hn : ∀ t, n ≤ t → progs t = []) (w : List Tid)
    (s : State) (ls : Tid → Local) (I : Inv progs s ls) : totalLeft (run w s) n ≤ totalLeft s n := by
  rcases run_total n hn w s ls I with h | h
  · rw [h]; exact Nat.le_refl _
  · exact Nat.le_of_lt h

/-- a state that is not complete has an ENABLED thread: unfinished, and its next tick does work. It is the lock holder
    when the lock is held (the holder can always progress), any unfinished thread otherwise. -/
theorem exists_enabled {progs : Tid → List Step} {s : State} {ls : Tid → Local} (I : Inv progs s ls)
    (hnc : ¬ complete s) : ∃ e, s.rest e ≠ [] ∧ ticksLeft (step e s) e + 1 = ticksLeft s e := by
  have pick : ∃ e, s.rest e ≠ [] ∧ (s.lock = none ∨ s.lock = some e) := by
    cases hl : s.lock with
    | some o =>
      refine ⟨o, fun h => ?_, .inr rfl⟩
      have ho := (I.lock o).2 hl
      simp [hold_none_of_done I h] at ho
    | none =>
      obtain ⟨u, hu⟩ := Classical.not_forall.1 (hnc : ¬ ∀ t, s.rest t = [])
      exact ⟨u, hu, .inl rfl⟩
  obtain ⟨e, hrest, hl⟩ := pick
  have hpos := ticksLeft_pos I e hrest
  obtain ⟨k, hk⟩ : ∃ k, ticksLeft s e = k + 1 := ⟨ticksLeft s e - 1, by omega⟩
  exact ⟨e, hrest, by rw [progress I e (fun t' h => I.hold_none hl h) k hk, hk]⟩

theorem window_with_enabled {progs : Tid → List Step} (n : Nat) (hn : ∀ t, n ≤ t → progs t = []) (e : Tid)
    (w : List Tid) : ∀ (s : State) (ls : Tid → Local), Inv progs s ls → s.rest e ≠ [] →
      ticksLeft (step e s) e + 1 = ticksLeft s e → e ∈ w → totalLeft (run w s) n < totalLeft s n := by
  induction w with
  | nil => intro s ls _ _ _ h; cases h
  | cons t r ih =>
    intro s ls I hrest hen hmem
    rw [run_cons]
    rcases step_total I n hn t with h | h
    · -- the tick of `t` did nothing: `t` is not the enabled thread
      have hne : t ≠ e := by
        intro heq; subst heq; rw [h] at hen; omega
      have hmem' : e ∈ r := by
        rcases List.mem_cons.1 hmem with h' | h'
        · exact absurd h'.symm hne
        · exact h'
      rw [h]; exact ih s ls I hrest hen hmem'
    · have := run_total_le n hn r (step t s) _ (inv_step t I)
      omega

/-- a window in which every thread still unfinished at its END has had a tick lowers the total (unless everything is
    finished already) -/
theorem fair_window {progs : Tid → List Step} (n : Nat) (hn : ∀ t, n ≤ t → progs t = []) (w : List Tid)
    (s : State) (ls : Tid → Local) (I : Inv progs s ls) (hnc : ¬ complete s)
    (hfair : ∀ t, (run w s).rest t ≠ [] → t ∈ w) : totalLeft (run w s) n < totalLeft s n := by
  rcases run_total n hn w s ls I with h | h
  · obtain ⟨e, hrest, hen⟩ := exists_enabled I hnc
    exact window_with_enabled n hn e w s ls I hrest hen (hfair e (by rw [h]; exact hrest))
  · exact h

theorem complete_of_total_zero {progs : Tid → List Step} {s : State} {ls : Tid → Local} (I : Inv progs s ls) (n : Nat)
    (hn : ∀ t, n ≤ t → progs t = []) (h : totalLeft s n = 0) : complete s := by
  intro t
  apply Classical.byContradiction
  intro hne
  have hlt := unfinished_lt I n hn t hne
  have hpos := ticksLeft_pos I t hne
  have : ∀ m, t < m → ticksLeft s t ≤ totalLeft s m := by
    intro m
    induction m with
    | zero => intro h; exact absurd h (Nat.not_lt_zero _)
    | succ m ih =>
      intro hm
      simp only [totalLeft]
      by_cases h' : t = m
      · rw [← h']; omega
      · have := ih (Nat.lt_of_le_of_ne (Nat.le_of_lt_succ hm) h'); omega
  have := this n hlt
  omega

theorem run_of_complete (w : List Tid) (s : State) (h : complete s) : run w s = s := by
  induction w with
  | nil => rfl
  | cons t r ih => rw [run_cons, step_of_done t s (h t)]; exact ih

/-- `fairFrom W s sched`: in every window of `W` consecutive ticks of `sched` (started in state `s`), every thread
    that is still unfinished at the end of the window has been scheduled at least once. Threads that have finished
    need not be scheduled; being scheduled while blocked counts as being scheduled, not as progress. -/
def fairFrom (W : Nat) (s : State) (sched : List Tid) : Prop :=
  ∀ i t, i + W ≤ sched.length → (run (sched.take (i + W)) s).rest t ≠ [] → t ∈ (sched.drop i).take W

theorem fairFrom_drop (W : Nat) (s : State) (sched : List Tid) (hW : W ≤ sched.length) (h : fairFrom W s sched) :
    fairFrom W (run (sched.take W) s) (sched.drop W) := by
  intro i t hi hrest
  have hlen : i + W ≤ sched.length - W := by simpa using hi
  have h1 : sched.take (W + i + W) = sched.take W ++ (sched.drop W).take (i + W) := by
    rw [show W + i + W = W + (i + W) by omega, List.take_add]
  have := h (W + i) t (by omega) (by rw [h1, run_append]; exact hrest)
  rw [← List.drop_drop] at this
  exact this

/-- the core: from any reachable state, `W * k` ticks of a `W`-fair schedule finish everything when at most `k` ticks
    of work are left -/
theorem fair_completes_from {progs : Tid → List Step} (n : Nat) (hn : ∀ t, n ≤ t → progs t = []) (W : Nat) :
    ∀ (k : Nat) (s : State) (ls : Tid → Local) (sched : List Tid), Inv progs s ls → totalLeft s n ≤ k →
      fairFrom W s sched → W * k ≤ sched.length → complete (run sched s) := by
  intro k
  induction k with
  | zero =>
    intro s ls sched I hk _ _
    have hc := complete_of_total_zero I n hn (by omega)
    rw [run_of_complete sched s hc]; exact hc
  | succ k ih =>
    intro s ls sched I hk hfair hlen
    by_cases hc : complete s
    · rw [run_of_complete sched s hc]; exact hc
    · have hW : W ≤ sched.length := by
        have : W ≤ W * (k + 1) := Nat.le_mul_of_pos_right W (by omega)
        omega
      have hwin := fair_window n hn (sched.take W) s ls I hc
        (fun t ht => by
          have := hfair 0 t (by simpa using hW) (by simpa using ht)
          simpa using this)
      have I' := inv_run (sched.take W) I
      have := ih (run (sched.take W) s) _ (sched.drop W) I' (by omega) (fairFrom_drop W s sched hW hfair)
        (by simp only [List.length_drop]; rw [Nat.mul_succ] at hlen; omega)
      rw [← run_append, List.take_append_drop] at this
      exact this

def pref (σ : Nat → Tid) (k : Nat) : List Tid := (List.range k).map σ

theorem pref_length (σ : Nat → Tid) (k : Nat) : (pref σ k).length = k := by simp [pref]

theorem pref_take (σ : Nat → Tid) (k m : Nat) (h : m ≤ k) : (pref σ k).take m = pref σ m := by
  simp [pref, ← List.map_take, List.take_range, Nat.min_eq_left h]

theorem pref_getElem (σ : Nat → Tid) (k j : Nat) (h : j < (pref σ k).length) : (pref σ k)[j] = σ j := by
  simp [pref]

theorem mem_window (l : List Tid) (i W j : Nat) (h1 : i ≤ j) (h2 : j < i + W) (h3 : j < l.length) :
    l[j] ∈ (l.drop i).take W := by
  apply List.mem_iff_getElem.2
  refine ⟨j - i, ?_, ?_⟩
  · simp only [List.length_take, List.length_drop]; omega
  · simp only [List.getElem_take, List.getElem_drop]
    congr 1; omega

/-- `fairInf W s σ`: the infinite schedule `σ` gives, in every window of `W` ticks, a tick to every thread that is
    still unfinished at the end of the window -/
def fairInf (W : Nat) (s : State) (σ : Nat → Tid) : Prop :=
  ∀ i t, (run (pref σ (i + W)) s).rest t ≠ [] → ∃ j, i ≤ j ∧ j < i + W ∧ σ j = t

theorem fairFrom_of_fairInf (W : Nat) (s : State) (σ : Nat → Tid) (h : fairInf W s σ) (k : Nat) :
    fairFrom W s (pref σ k) := by
  intro i t hi hrest
  rw [pref_length] at hi
  rw [pref_take σ k (i + W) hi] at hrest
  obtain ⟨j, h1, h2, h3⟩ := h i t hrest
  have hj : j < (pref σ k).length := by rw [pref_length]; omega
  have := mem_window (pref σ k) i W j h1 h2 hj
  rw [pref_getElem, h3] at this
  exact this

/-- round robin over `n` threads: every window of `n` ticks contains every thread below `n` -/
theorem round_robin_window (n i t : Nat) (ht : t < n) : ∃ j, i ≤ j ∧ j < i + n ∧ j % n = t := by
  have hn : 0 < n := by omega
  have hr : i % n < n := Nat.mod_lt i hn
  have hi : n * (i / n) + i % n = i := Nat.div_add_mod i n
  by_cases h : i % n ≤ t
  · refine ⟨n * (i / n) + t, by omega, by omega, ?_⟩
    rw [Nat.mul_add_mod, Nat.mod_eq_of_lt ht]
  · refine ⟨n * (i / n + 1) + t, ?_, ?_, ?_⟩
    · rw [Nat.mul_add, Nat.mul_one]; omega
    · rw [Nat.mul_add, Nat.mul_one]; omega
    · rw [Nat.mul_add_mod, Nat.mod_eq_of_lt ht]

end Embit.Model.Lock
