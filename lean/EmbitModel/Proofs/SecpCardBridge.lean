import EmbitModel.Proofs.SecpCardBound
import EmbitModel.Proofs.EcBridge
/-
  Consequences of `ord G = n` alone (no cardinality needed) for the record `pyEcOps C n g`:
  `InfUnique` — the extra law the bridge to the key development (C09 / C10, Props/C02Y) needs — and
  "no point of order two" in the form used by Props/C08Z.
-/
namespace Embit.Model.PyCurve
open WeierstrassCurve

variable (C : Curve) [Fact C.p.Prime] {n : ℕ} {g : APt C}

/-- **`InfUnique` for key.py's arithmetic**: `a·G` has no affine coordinates only when `n ∣ a` (`ord G = n`) -/
theorem py_infUnique (hp : Params C n g) : SignWith.InfUnique (pyEcOps C n g) := by
  intro a h
  have h' : eXY C (eMul C n a g) = none := h
  rw [xy_val, val_none_iff, ι_mul_g C hp] at h'
  have hd := addOrderOf_dvd_of_nsmul_eq_zero h'
  rw [addOrderOf_g C hp] at hd
  exact Nat.mod_eq_zero_of_dvd hd

theorem no_two_torsion (hs : Smooth C)
    (hroot : ∀ x : ZMod C.p, x ^ 3 + (C.a : ZMod C.p) * x + (C.b : ZMod C.p) ≠ 0)
    (P : (W C).toAffine.Point) (h2 : 2 • P = 0) : P = 0 := by
  by_contra h0
  obtain ⟨x, hx⟩ := two_torsion_y C hs P h0 h2
  exact hroot x hx

end Embit.Model.PyCurve
