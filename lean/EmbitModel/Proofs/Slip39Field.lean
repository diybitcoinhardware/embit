import Mathlib.Algebra.Field.Defs
import EmbitModel.Proofs.Slip39Tables
/-
  GF(256) as a Mathlib `Field`: carrier = numbers below 256, addition = XOR, multiplication = the spec's
  carry-less multiplication modulo x^8+x^4+x^3+x+1 (= multiplication through embit's exp/log tables).
  Group laws come from the tables (Z/255 transported by exp/log), distributivity from the XOR-linearity of
  carry-less multiplication (structural, no case enumeration); that the two multiplications agree follows from
  `expL (i + 1) = expL i · 3` (255 table rows) by induction along the powers of 3.
-/
namespace Embit.Model.Slip39
open Embit.Spec.Slip39 (gfMul clmul xtime)

theorem xtime_xor (m poly a b : Nat) : xtime m poly (a ^^^ b) = xtime m poly a ^^^ xtime m poly b := by
  unfold xtime
  simp only [Nat.shiftLeft_xor_distrib, Nat.testBit_xor]
  cases h1 : (a <<< 1).testBit m <;> cases h2 : (b <<< 1).testBit m <;> simp
  · ac_rfl
  · ac_rfl
  · rw [show a <<< 1 ^^^ poly ^^^ (b <<< 1 ^^^ poly) = a <<< 1 ^^^ b <<< 1 ^^^ (poly ^^^ poly) by ac_rfl]
    simp

theorem clmul_xor (m poly n a b c : Nat) :
    clmul m poly n (a ^^^ b) c = clmul m poly n a c ^^^ clmul m poly n b c := by
  induction n generalizing a b c with
  | zero => simp [clmul]
  | succ n ih =>
    simp only [clmul, xtime_xor, ih]
    cases c.testBit 0 <;> simp
    · ac_rfl

theorem gfMul_xor_left (a b c : Nat) : gfMul (a ^^^ b) c = gfMul a c ^^^ gfMul b c := clmul_xor _ _ _ _ _ _

theorem xtime_zero (m poly : Nat) : xtime m poly 0 = 0 := by simp [xtime]

theorem clmul_zero_right (m poly n a : Nat) : clmul m poly n a 0 = 0 := by
  induction n generalizing a with
  | zero => rfl
  | succ n ih => simp [clmul, ih]

theorem clmul_xtime (m poly n a b : Nat) : clmul m poly n (xtime m poly a) b = xtime m poly (clmul m poly n a b) := by
  induction n generalizing a b with
  | zero => simp [clmul, xtime_zero]
  | succ n ih =>
    simp only [clmul, ih, xtime_xor]
    cases b.testBit 0 <;> simp [xtime_zero]

theorem gfMul_three (a : Nat) : gfMul a 3 = a ^^^ xtime 8 0x11B a := by
  have h3 : (3 : Nat).testBit 0 = true := by decide
  have h1 : (1 : Nat).testBit 0 = true := by decide
  simp [gfMul, clmul, h3, h1]

theorem gfMul_zero_left (b : Nat) : gfMul 0 b = 0 := by
  have := gfMul_xor_left 0 0 b
  rwa [Nat.xor_self, Nat.xor_self] at this

theorem gfMul_one_left : ∀ b < 256, gfMul 1 b = b := by decide +kernel

/-- along the powers of the generator 3: `(g^i · 3) · b = (g^i · b) · 3`, because multiplication by 3 is
    `y ↦ y ^^^ xtime y` and both parts commute with multiplication by `b`; the table says what `· 3` does -/
theorem gfMul_expL (i : Nat) (hi : i < 255) (b : Nat) (hb : b < 256) : gfMul (expL i) b = mulL (expL i) b := by
  have hexp : ∀ k, k < 255 → expL k ≠ 0 := fun k hk => Nat.pos_iff_ne_zero.mp (expL_facts k hk).1
  have hlog : ∀ k, k < 255 → logL (expL k) = k := fun k hk => (expL_facts k hk).2.2
  by_cases hb0 : b = 0
  · subst hb0
    rw [mulL, if_pos (Or.inr rfl)]
    exact clmul_zero_right _ _ _ _
  obtain ⟨hlb, heb⟩ := logL_facts b hb hb0
  have hmul : ∀ k, k < 255 → mulL (expL k) b = expL ((k + logL b) % 255) := fun k hk => by
    rw [mulL, if_neg (by simp [hexp k hk, hb0]), hlog k hk]
  induction i with
  | zero => rw [hmul 0 hi, Nat.zero_add, Nat.mod_eq_of_lt hlb, heb, expL_zero, gfMul_one_left b hb]
  | succ i ih =>
    have hi' : i < 255 := by omega
    have e := expL_step i hi'
    rw [Nat.mod_eq_of_lt hi] at e
    have step : gfMul (expL (i + 1)) b = gfMul (gfMul (expL i) b) 3 := by
      rw [e, gfMul_three, gfMul_three, gfMul_xor_left, gfMul, gfMul, clmul_xtime]
    rw [step, ih hi', hmul i hi', hmul (i + 1) hi, ← expL_step _ (Nat.mod_lt _ (by decide))]
    congr 1
    omega

theorem mulL_eq_gfMul (a b : Nat) (ha : a < 256) (hb : b < 256) : mulL a b = gfMul a b := by
  by_cases ha0 : a = 0
  · rw [ha0, gfMul_zero_left, mulL, if_pos (Or.inl rfl)]
  · obtain ⟨hl, he⟩ := logL_facts a ha ha0
    rw [← he, gfMul_expL _ hl b hb]

theorem mulL_comm (a b : Nat) : mulL a b = mulL b a := by
  unfold mulL; simp only [Nat.add_comm, Or.comm]

theorem mulL_zero_left (b : Nat) : mulL 0 b = 0 := by simp [mulL]
theorem mulL_zero_right (a : Nat) : mulL a 0 = 0 := by simp [mulL]

theorem mulL_nz {a b : Nat} (ha : a ≠ 0) (hb : b ≠ 0) : mulL a b = expL ((logL a + logL b) % 255) := by
  simp [mulL, ha, hb]

theorem mulL_pos {a b : Nat} (ha : a ≠ 0) (hb : b ≠ 0) : mulL a b ≠ 0 := by
  rw [mulL_nz ha hb]; exact expL_ne _

theorem mulL_lt (a b : Nat) : mulL a b < 256 := by
  unfold mulL
  split
  · decide
  · exact expL_lt _

theorem logL_mulL {a b : Nat} (ha : a ≠ 0) (hb : b ≠ 0) : logL (mulL a b) = (logL a + logL b) % 255 := by
  rw [mulL_nz ha hb, logL_expL]

theorem mulL_assoc (a b c : Nat) : mulL (mulL a b) c = mulL a (mulL b c) := by
  by_cases ha : a = 0
  · simp [ha, mulL_zero_left]
  by_cases hb : b = 0
  · simp [hb, mulL_zero_left, mulL_zero_right]
  by_cases hc : c = 0
  · simp [hc, mulL_zero_right]
  rw [mulL_nz (mulL_pos ha hb) hc, mulL_nz ha (mulL_pos hb hc), logL_mulL ha hb, logL_mulL hb hc]
  congr 1
  omega

theorem logL_one : logL 1 = 0 := by decide +kernel

theorem mulL_one (a : Nat) (ha : a < 256) : mulL a 1 = a := by
  by_cases h0 : a = 0
  · simp [h0, mulL_zero_left]
  rw [mulL_nz h0 (by decide), logL_one, Nat.add_zero]
  have := logL_facts a ha h0
  rw [Nat.mod_eq_of_lt this.1]; exact this.2


theorem invL_lt (a : Nat) : invL a < 256 := by
  unfold invL; split
  · decide
  · exact expL_lt _

theorem invL_ne_zero {a : Nat} (ha : a ≠ 0) : invL a ≠ 0 := by
  rw [invL, if_neg ha]; exact expL_ne _

theorem mulL_invL {a : Nat} (ha : a ≠ 0) (hlt : a < 256) : mulL a (invL a) = 1 := by
  rw [mulL_nz ha (invL_ne_zero ha)]
  have hl := (logL_facts a hlt ha).1
  have : logL (invL a) = (255 - logL a) % 255 := by rw [invL, if_neg ha, logL_expL]
  rw [this]
  have : (logL a + (255 - logL a) % 255) % 255 = 0 := by omega
  rw [this, expL_zero]

/-- the spec's inverse a^254 is inversion through the tables: with `a = exp[l]`, each squaring doubles the logarithm,
    and the product of the seven squares has logarithm `254·l ≡ 255 − l (mod 255)` -/
theorem gfInv_eq_invL : ∀ a < 256, Spec.Slip39.gfInv a = invL a := by
  intro a ha
  by_cases h0 : a = 0
  · subst h0; rfl
  obtain ⟨hl, he⟩ := logL_facts a ha h0
  have hmul : ∀ i j, gfMul (expL (i % 255)) (expL (j % 255)) = expL ((i + j) % 255) := fun i j => by
    rw [← mulL_eq_gfMul _ _ (expL_lt _) (expL_lt _), mulL_nz (expL_ne _) (expL_ne _), logL_expL, logL_expL,
      ← Nat.add_mod]
  calc Spec.Slip39.gfInv a = Spec.Slip39.gfInv (expL (logL a % 255)) := by rw [Nat.mod_eq_of_lt hl, he]
    _ = expL ((255 - logL a) % 255) := by simp only [Spec.Slip39.gfInv, hmul]; exact congrArg expL (by omega)
    _ = invL a := by rw [invL, if_neg h0]

theorem xor_lt_256 {a b : Nat} (ha : a < 256) (hb : b < 256) : a ^^^ b < 256 :=
  Nat.xor_lt_two_pow (n := 8) ha hb

theorem mulL_xor_left (a b c : Nat) (ha : a < 256) (hb : b < 256) (hc : c < 256) :
    mulL (a ^^^ b) c = mulL a c ^^^ mulL b c := by
  rw [mulL_eq_gfMul _ _ (xor_lt_256 ha hb) hc, mulL_eq_gfMul _ _ ha hc, mulL_eq_gfMul _ _ hb hc, gfMul_xor_left]

@[ext] structure GF256 where
  val : Nat
  lt : val < 256

namespace GF256

instance : DecidableEq GF256 := fun a b =>
  if h : a.val = b.val then isTrue (GF256.ext h) else isFalse (fun e => h (e ▸ rfl))

def ofNat (n : Nat) : GF256 := ⟨n % 256, Nat.mod_lt _ (by decide)⟩

instance : Add GF256 := ⟨fun a b => ⟨a.val ^^^ b.val, xor_lt_256 a.lt b.lt⟩⟩
instance : Zero GF256 := ⟨⟨0, by decide⟩⟩
instance : One GF256 := ⟨⟨1, by decide⟩⟩
instance : Neg GF256 := ⟨fun a => a⟩
instance : Mul GF256 := ⟨fun a b => ⟨mulL a.val b.val, mulL_lt _ _⟩⟩
instance : Inv GF256 := ⟨fun a => ⟨invL a.val, invL_lt _⟩⟩

@[simp] theorem add_val (a b : GF256) : (a + b).val = a.val ^^^ b.val := rfl
@[simp] theorem mul_val (a b : GF256) : (a * b).val = mulL a.val b.val := rfl
@[simp] theorem zero_val : (0 : GF256).val = 0 := rfl
@[simp] theorem one_val : (1 : GF256).val = 1 := rfl
@[simp] theorem neg_eq (a : GF256) : -a = a := rfl
@[simp] theorem inv_val (a : GF256) : (a⁻¹).val = invL a.val := rfl

instance instField : Field GF256 where
  add_assoc a b c := by ext; simp [Nat.xor_assoc]
  zero_add a := by ext; simp
  add_zero a := by ext; simp
  nsmul := nsmulRec
  zsmul := zsmulRec
  neg_add_cancel a := by ext; simp
  add_comm a b := by ext; simp [Nat.xor_comm]
  mul_assoc a b c := by ext; simp [mulL_assoc]
  one_mul a := by ext; simp; rw [mulL_comm]; exact mulL_one _ a.lt
  mul_one a := by ext; simp; exact mulL_one _ a.lt
  zero_mul a := by ext; simp [mulL_zero_left]
  mul_zero a := by ext; simp [mulL_zero_right]
  left_distrib a b c := by
    ext; simp
    rw [mulL_comm, mulL_xor_left _ _ _ b.lt c.lt a.lt, mulL_comm b.val, mulL_comm c.val]
  right_distrib a b c := by ext; simp; exact mulL_xor_left _ _ _ a.lt b.lt c.lt
  mul_comm a b := by ext; simp [mulL_comm]
  exists_pair_ne := ⟨0, 1, by intro h; have := congrArg GF256.val h; simp at this⟩
  mul_inv_cancel a ha := by
    ext; simp
    apply mulL_invL _ a.lt
    intro h; apply ha; ext; simpa using h
  inv_zero := by ext; simp [invL]
  nnqsmul := _
  nnqsmul_def := fun _ _ => rfl
  qsmul := _
  qsmul_def := fun _ _ => rfl

theorem sub_eq_add (a b : GF256) : a - b = a + b := by
  rw [sub_eq_add_neg]; rfl

end GF256

end Embit.Model.Slip39
