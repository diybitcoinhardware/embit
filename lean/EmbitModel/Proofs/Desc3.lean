import EmbitModel.Proofs.CostDesc
import EmbitModel.Model.Desc3
/-
  The three-valued parsers of `Model/Desc3.lean`:
    1. erasure — forgetting the difference between `reject` and `outOfFuel` gives back the parsers of
       `Model/Descriptor.lean` (no hypothesis);
    2. when the fuel exceeds the text that is left (`NoEmptyKey ops`), the answer is the same for every such fuel and
       is never `outOfFuel` (`…_settled`): a `none` of the original parsers at such a fuel is a rejection, not an
       exhausted fuel — a termination statement that a parser spinning until the fuel is gone would not satisfy.
       Fuel independence of the two-valued parsers (`readMs_fuel`, `readTapTree_fuel`, `readFrom_fuel`) follows by erasure.
-/
set_option linter.unusedSimpArgs false
set_option linter.unusedVariables false
namespace Embit.Model.Cost
open Embit Embit.Miniscript Embit.Model.Descriptor

variable {K : Type}

@[simp] theorem toOption_ofOption {α : Type} (o : Option α) : (Res.ofOption o).toOption = o := by
  cases o <;> rfl

@[simp] theorem isOutOfFuel_ofOption {α : Type} (o : Option α) : (Res.ofOption o).isOutOfFuel = false := by
  cases o <;> rfl

theorem ofOption_ok {α : Type} {o : Option α} {x : α} (h : Res.ofOption o = .ok x) : o = some x := by
  cases o with
  | none => simp [Res.ofOption] at h
  | some y => simp [Res.ofOption] at h; rw [h]

theorem toOption_of_ok {α : Type} {r : Res α} {x : α} (h : r = .ok x) : r.toOption = some x := by
  subst h; rfl

theorem toOption_ite {α : Type} (c : Prop) [Decidable c] (x : α) :
    (if c then Res.ok x else Res.reject).toOption = if c then some x else none := by
  split <;> rfl

theorem eq_outOfFuel_of_isOutOfFuel {α : Type} {r : Res α} (h : r.isOutOfFuel = true) : r = .outOfFuel := by
  cases r with
  | ok x => simp [Res.isOutOfFuel] at h
  | reject => simp [Res.isOutOfFuel] at h
  | outOfFuel => rfl

theorem reject_of_none {α : Type} {r : Res α} (h1 : r.toOption = none) (h2 : r.isOutOfFuel = false) :
    r = .reject := by
  cases r with
  | ok x => simp [Res.toOption] at h1
  | reject => rfl
  | outOfFuel => simp [Res.isOutOfFuel] at h2

theorem readMore3_erase {α : Type} (p3 : Stream → Res (α × Stream)) (p : Stream → Option (α × Stream))
    (h : ∀ t, (p3 t).toOption = p t) :
    ∀ (n : Nat) (s : Stream), (readMore3 p3 n s).toOption = readMore p n s := by
  intro n
  induction n with
  | zero => intro s; rfl
  | succ n ih =>
    intro s
    simp only [readMore3, readMore]
    generalize hr : s.read1 = q
    obtain ⟨first, s1⟩ := q
    cases first with
    | none => rfl
    | some c =>
      by_cases h1 : c = ','
      · subst h1
        simp only []
        rw [← h s1]
        cases hp : p3 s1 with
        | outOfFuel => rfl
        | reject => rfl
        | ok r =>
          obtain ⟨x, s2⟩ := r
          simp only [Res.toOption]
          rw [← ih s2]
          cases readMore3 p3 n s2 <;> rfl
      · by_cases h2 : c = ')'
        · subst h2; rfl
        · simp [h1, h2, Res.toOption]

/-! `toOption` commutes with what the readers are made of -/

theorem toOption_bind {α β : Type} (r : Res (α × Stream)) (k : α → Stream → Res β) :
    (Res.bind r k).toOption = obind none r.toOption fun x s => (k x s).toOption := by
  cases r <;> rfl

theorem toOption_obind {α β : Type} (r : Option (α × Stream)) (k : α → Stream → Res β) :
    (obind .reject r k).toOption = obind none r fun x s => (k x s).toOption := by
  cases r <;> rfl

theorem toOption_obindS {β : Type} (r : Option Stream) (k : Stream → Res β) :
    (obindS .reject r k).toOption = obindS none r fun s => (k s).toOption := by
  cases r <;> rfl

theorem readMsBody3_erase (ops : KeyOps K) (tap : Bool) (sub3 : Stream → Res (DMs K × Stream))
    (sub : Stream → Option (DMs K × Stream)) (h : ∀ t, (sub3 t).toOption = sub t) (fuel : Nat) (op : Str)
    (s : Stream) : (readMsBody3 ops tap sub3 fuel op s).toOption = readMsBody ops tap sub fuel op s := by
  rw [readMsBody3_eq, readMsBody_eq, opCases_eq, opCases_eq]
  cases opOf op with
  | none => rfl
  | some o =>
    have hk : ∀ t, (Res.ofOption (readKey ops tap false t)).toOption = readKey ops tap false t :=
      fun t => toOption_ofOption _
    cases o <;>
      (simp only [Op.reader, RM.thn, RM.othn, RM.comma, RM.close, RM.ret, RM.guard, resRM, optRM, toOption_bind,
        toOption_obind, toOption_obindS, toOption_ofOption, toOption_ite, h, readMore3_erase _ _ h,
        readMore3_erase _ _ hk]; rfl)

theorem readMs3_erase (ops : KeyOps K) (tap : Bool) :
    ∀ (fuel : Nat) (s : Stream), (readMs3 ops tap fuel s).toOption = readMs ops tap fuel s := by
  intro fuel
  induction fuel with
  | zero => intro s; rfl
  | succ fuel ih =>
    intro s
    simp only [readMs3, readMs]
    generalize hq : readUntil ['('] s = q1
    obtain ⟨opw, ch, s1⟩ := q1
    generalize (if opw.contains ':' = true then
        match splitOn ':' opw with
        | [w, o] => some (w, o)
        | _ => none
      else some ([], opw)) = sp
    cases sp with
    | none => rfl
    | some wo =>
      obtain ⟨w, o⟩ := wo
      by_cases hc : ch = some '('
      · subst hc
        simp only [ne_eq, not_true_eq_false, if_false]
        rw [← readMsBody3_erase ops tap (readMs3 ops tap fuel) (readMs ops tap fuel) ih fuel o s1]
        cases readMsBody3 ops tap (readMs3 ops tap fuel) fuel o s1 with
        | outOfFuel => rfl
        | reject => rfl
        | ok r => exact toOption_ofOption _
      · simp [hc, Res.toOption]

theorem readTapTree3_erase (ops : KeyOps K) :
    ∀ (fuel : Nat) (s : Stream), (readTapTree3 ops fuel s).toOption = readTapTree ops fuel s := by
  intro fuel
  induction fuel with
  | zero => intro s; rfl
  | succ fuel ih =>
    intro s
    simp only [readTapTree3, readTapTree]
    generalize hr : s.read1 = q
    obtain ⟨first, s1⟩ := q
    cases first with
    | none => rfl
    | some c =>
      by_cases hc : c = '{'
      · subst hc
        simp only [if_true]
        rw [← ih s1]
        cases hl : readTapTree3 ops fuel s1 with
        | outOfFuel => rfl
        | reject => rfl
        | ok r =>
          obtain ⟨left, s2⟩ := r
          simp only [Res.toOption]
          generalize hr2 : s2.read1 = q2
          obtain ⟨c2, s3⟩ := q2
          cases c2 with
          | none => rfl
          | some c2 =>
            by_cases h1 : c2 = '}'
            · subst h1; rfl
            · by_cases h2 : c2 = ','
              · subst h2
                simp only []
                rw [← ih s3]
                cases readTapTree3 ops fuel s3 with
                | outOfFuel => rfl
                | reject => rfl
                | ok r2 => exact toOption_ofOption _
              · simp [h1, h2, Res.toOption]
      · simp only [hc, if_false]
        cases s1.unread with
        | none => rfl
        | some s2 =>
          simp only []
          rw [← readMs3_erase ops true (fuel + 1) s2]
          cases readMs3 ops true (fuel + 1) s2 with
          | outOfFuel => rfl
          | reject => rfl
          | ok r =>
            obtain ⟨ms, s3⟩ := r
            simp only [Res.toOption]
            exact toOption_ite _ _

theorem readFrom3_erase (ops : KeyOps K) (fuel : Nat) (s : Stream) :
    (Desc.readFrom3 ops fuel s).toOption = Desc.readFrom ops fuel s := by
  unfold Desc.readFrom3 Desc.readFrom
  cases hh : readHead s with
  | none => rfl
  | some r =>
    obtain ⟨hd, s1⟩ := r
    cases hd with
    | tr =>
      simp only []
      cases hk : readKey ops true false s1 with
      | none => rfl
      | some rk =>
        obtain ⟨key, s2⟩ := rk
        simp only []
        generalize hr : s2.read1 = q
        obtain ⟨c, s3⟩ := q
        by_cases hc : c = some ','
        · subst hc
          simp only [if_true]
          rw [← readTapTree3_erase ops fuel s3]
          cases readTapTree3 ops fuel s3 with
          | outOfFuel => rfl
          | reject => rfl
          | ok r2 => exact toOption_ofOption _
        · simp only [hc, if_false]
          cases s3.unread with
          | none => rfl
          | some s4 => exact toOption_ofOption _
    | shwsh | wsh | sh =>
      simp only []
      rw [← readMs3_erase ops false fuel s1]
      cases readMs3 ops false fuel s1 with
      | outOfFuel => rfl
      | reject => rfl
      | ok r2 =>
        obtain ⟨ms, s2⟩ := r2
        simp only [Res.toOption]
        cases expectClose _ s2 with
        | none => rfl
        | some s3 => simp only []; exact toOption_ite _ _
    | shwpkh | wpkh | pkh =>
      simp only []
      cases readKey ops false false s1 with
      | none => rfl
      | some rk => simp

theorem parse3_erase (ops : KeyOps K) (text : Str) : (Desc.parse3 ops text).toOption = Desc.parse ops text := by
  unfold Desc.parse3 Desc.parse
  rw [← readFrom3_erase ops (text.length + 1) (Stream.ofStr text)]
  cases Desc.readFrom3 ops (text.length + 1) (Stream.ofStr text) with
  | outOfFuel => rfl
  | reject => rfl
  | ok r =>
    obtain ⟨d, s⟩ := r
    simp only [Res.toOption]
    cases s.rest with
    | nil => rfl
    | cons c r => simp only []; exact toOption_ite _ _

theorem readMs3_ok (ops : KeyOps K) (tap : Bool) (fuel : Nat) {t t' : Stream} {x : DMs K}
    (h : readMs3 ops tap fuel t = .ok (x, t')) : readMs ops tap fuel t = some (x, t') := by
  rw [← readMs3_erase]; exact toOption_of_ok h

theorem readTapTree3_ok (ops : KeyOps K) (fuel : Nat) {t t' : Stream} {x : TapTree K}
    (h : readTapTree3 ops fuel t = .ok (x, t')) : readTapTree ops fuel t = some (x, t') := by
  rw [← readTapTree3_erase]; exact toOption_of_ok h

abbrev Settled {α : Type} (r1 r2 : Res α) : Prop := r1 = r2 ∧ r1.isOutOfFuel = false

/-- on texts of at most `n` characters the two readers agree, do not run out of fuel and leave no more text than
    they found -/
def Settles {α : Type} (n : Nat) (p1 p2 : Stream → Res (α × Stream)) : Prop :=
  ∀ s, R s ≤ n → Settled (p1 s) (p2 s) ∧ ∀ x s', p1 s = .ok (x, s') → R s' ≤ R s

namespace Settles
variable {α β : Type} {n : Nat} {p1 p2 : Stream → Res (α × Stream)} {q1 q2 : α → Stream → Res (β × Stream)}

theorem thn (hp : Settles n p1 p2) (hq : ∀ x, Settles n (q1 x) (q2 x)) :
    Settles n (resRM.thn p1 q1) (resRM.thn p2 q2) := fun s hs => by
  obtain ⟨⟨e, no⟩, m⟩ := hp s hs
  simp only [RM.thn, resRM, ← e]
  cases h : p1 s with
  | outOfFuel => rw [h] at no; cases no
  | reject => exact ⟨⟨rfl, rfl⟩, nofun⟩
  | ok r =>
    have l := m r.1 r.2 h
    obtain ⟨a, k⟩ := hq r.1 r.2 (by omega)
    exact ⟨a, fun y s' e => by have := k y s' e; omega⟩

theorem othn {p : Stream → Option (α × Stream)} (hp : ∀ s x s', p s = some (x, s') → R s' ≤ R s)
    (hq : ∀ x, Settles n (q1 x) (q2 x)) : Settles n (resRM.othn p q1) (resRM.othn p q2) := fun s hs => by
  simp only [RM.othn]
  cases h : p s with
  | none => exact ⟨⟨rfl, rfl⟩, nofun⟩
  | some r =>
    have l := hp s r.1 r.2 h
    obtain ⟨a, k⟩ := hq r.1 r.2 (by omega)
    exact ⟨a, fun y s' e => by have := k y s' e; omega⟩

theorem comma {q1 q2 : Stream → Res (β × Stream)} (hq : Settles n q1 q2) :
    Settles n (resRM.comma q1) (resRM.comma q2) := fun s hs => by
  simp only [RM.comma]
  cases h : expectChar ',' s with
  | none => exact ⟨⟨rfl, rfl⟩, nofun⟩
  | some t =>
    have l := expectChar_R h
    obtain ⟨a, k⟩ := hq t (by omega)
    exact ⟨a, fun y s' e => by have := k y s' e; omega⟩

/-- a reader without fuel is settled -/
theorem lift {p : Stream → Option (α × Stream)} (hp : ∀ s x s', p s = some (x, s') → R s' ≤ R s) :
    Settles n (fun s => resRM.lift (p s)) (fun s => resRM.lift (p s)) := fun s _ =>
  ⟨⟨rfl, isOutOfFuel_ofOption _⟩, fun x s' e => hp s x s' (ofOption_ok e)⟩

theorem close (a : α) : Settles n (resRM.close a) (resRM.close a) :=
  lift (p := fun s => (expectChar ')' s).map fun t => (a, t)) fun s x s' e => by have := close_R e; omega

theorem ret (a : α) : Settles n (resRM.ret a) (resRM.ret a) := fun s _ =>
  ⟨⟨rfl, rfl⟩, fun x s' e => by cases e; exact Nat.le_refl _⟩

theorem guard (b : Bool) (a : α) : Settles n (resRM.guard b a) (resRM.guard b a) := by
  cases b
  · exact fun s _ => ⟨⟨rfl, rfl⟩, nofun⟩
  · exact ret a
end Settles

/-- the argument loop: with more fuel than text left, neither the fuel of the loop nor that of the item reader
    matters, provided the two item readers are settled on such texts -/
theorem readMore3_settled {α : Type} {p1 p2 : Stream → Res (α × Stream)} :
    ∀ (f1 f2 n : Nat), n < f1 → n < f2 → Settles n p1 p2 → Settles n (readMore3 p1 f1) (readMore3 p2 f2) := by
  intro f1
  induction f1 with
  | zero => intro f2 n h1; omega
  | succ f1 ih =>
    intro f2 n h1 h2 hp s hs
    cases f2 with
    | zero => omega
    | succ f2 =>
      simp only [readMore3]
      generalize hr : s.read1 = q
      obtain ⟨first, s1⟩ := q
      cases first with
      | none => exact ⟨⟨rfl, rfl⟩, nofun⟩
      | some c =>
        have e1 := read1_R hr
        split
        · rename_i s1' heq
          simp at heq
          obtain ⟨rfl, rfl⟩ := heq
          obtain ⟨⟨e, no⟩, m⟩ := hp s1 (by omega)
          rw [← e]
          cases h : p1 s1 with
          | outOfFuel => rw [h] at no; cases no
          | reject => exact ⟨⟨rfl, rfl⟩, nofun⟩
          | ok r =>
            obtain ⟨x, s2⟩ := r
            have l := m x s2 h
            obtain ⟨⟨e', no'⟩, m'⟩ := ih f2 (n - 1) (by omega) (by omega) (fun t ht => hp t (by omega)) s2 (by omega)
            simp only []
            rw [← e']
            cases hm : readMore3 p1 f1 s2 with
            | outOfFuel => rw [hm] at no'; cases no'
            | reject => exact ⟨⟨rfl, rfl⟩, nofun⟩
            | ok r2 => exact ⟨⟨rfl, rfl⟩, fun xs s' e => by cases e; have := m' _ _ hm; omega⟩
        · rename_i s1' heq
          simp at heq
          obtain ⟨rfl, rfl⟩ := heq
          exact ⟨⟨rfl, rfl⟩, fun xs s' e => by cases e; omega⟩
        · exact ⟨⟨rfl, rfl⟩, nofun⟩

theorem readMsBody3_settled (ops : KeyOps K) (hW : NoEmptyKey ops) (tap : Bool)
    (sub1 sub2 : Stream → Res (DMs K × Stream))
    (hmono : ∀ t x t', sub1 t = .ok (x, t') → R t' + 1 ≤ R t) (f1 f2 : Nat) (op : Str) (s : Stream)
    (h1 : R s < f1) (h2 : R s < f2) (hag : ∀ t, R t ≤ R s → Settled (sub1 t) (sub2 t)) :
    Settled (readMsBody3 ops tap sub1 f1 op s) (readMsBody3 ops tap sub2 f2 op s) := by
  rw [readMsBody3_eq, readMsBody3_eq, opCases_eq, opCases_eq]
  cases opOf op with
  | none => exact ⟨rfl, rfl⟩
  | some o =>
    have S : Settles (R s) sub1 sub2 := fun t ht => ⟨hag t ht, fun x t' e => by have := hmono t x t' e; omega⟩
    have N : ∀ s n s', readNumber s = some (n, s') → R s' ≤ R s := fun s n s' e => ((readNumber_cost s).2 n s' e).1
    refine ((?_ : Settles (R s) (o.reader resRM ops tap sub1 f1) (o.reader resRM ops tap sub2 f2)) s (Nat.le_refl _)).1
    cases o with
    | key f => exact .othn (readKey_mono ops hW tap _) fun k => .close _
    | time f => exact .othn N fun k => .close _
    | hash f => exact .othn (fun _ _ _ => readRaw_R) fun h => .close _
    | andor => exact S.thn fun x => (S.thn fun y => (S.thn fun z => .close _).comma).comma
    | bin f => exact S.thn fun x => (S.thn fun y => .close _).comma
    | thresh => exact .othn N fun k => (readMore3_settled f1 f2 _ h1 h2 S).thn fun xs => .ret _
    | multi f =>
      exact .othn N fun k => (readMore3_settled f1 f2 _ h1 h2 (.lift (readKey_mono ops hW tap false))).thn fun keys =>
        .guard _ _

theorem readMs3_settled (ops : KeyOps K) (hW : NoEmptyKey ops) (tap : Bool) :
    ∀ (f1 f2 : Nat) (s : Stream), R s < f1 → R s < f2 → Settled (readMs3 ops tap f1 s) (readMs3 ops tap f2 s) := by
  intro f1
  induction f1 with
  | zero => intro f2 s h1; omega
  | succ f1 ih =>
    intro f2 s h1 h2
    cases f2 with
    | zero => omega
    | succ f2 =>
      simp only [readMs3]
      generalize hq : readUntil ['('] s = q1
      obtain ⟨opw, ch, s1⟩ := q1
      have e1 := readUntil_R hq
      split
      · exact ⟨rfl, rfl⟩
      · rename_i w o hsp
        by_cases hc : ch = some '('
        · subst hc
          simp only [ne_eq, not_true_eq_false, if_false]
          simp only [seekIf] at e1
          simp at e1
          obtain ⟨e, no⟩ := readMsBody3_settled ops hW tap (readMs3 ops tap f1) (readMs3 ops tap f2)
            (fun t x t' h => readMs_mono ops hW tap f1 t x t' (readMs3_ok ops tap f1 h)) f1 f2 o s1
            (by omega) (by omega) (fun t ht => ih f2 t (by omega) (by omega))
          rw [← e]
          cases hm : readMsBody3 ops tap (readMs3 ops tap f1) f1 o s1 with
          | outOfFuel => rw [hm] at no; cases no
          | reject => exact ⟨rfl, rfl⟩
          | ok r => exact ⟨rfl, isOutOfFuel_ofOption _⟩
        · simp only [ne_eq, hc, not_false_eq_true, if_true]
          exact ⟨rfl, rfl⟩

theorem readTapTree3_settled (ops : KeyOps K) (hW : NoEmptyKey ops) :
    ∀ (f1 f2 : Nat) (s : Stream), R s < f1 → R s < f2 →
      Settled (readTapTree3 ops f1 s) (readTapTree3 ops f2 s) := by
  intro f1
  induction f1 with
  | zero => intro f2 s h1; omega
  | succ f1 ih =>
    intro f2 s h1 h2
    cases f2 with
    | zero => omega
    | succ f2 =>
      simp only [readTapTree3]
      generalize hr : s.read1 = q
      obtain ⟨first, s1⟩ := q
      cases first with
      | none => exact ⟨rfl, rfl⟩
      | some c =>
        have e1 := read1_R hr
        by_cases hc : c = '{'
        · subst hc
          simp only [if_true]
          obtain ⟨e, no⟩ := ih f2 s1 (by omega) (by omega)
          rw [← e]
          cases hl : readTapTree3 ops f1 s1 with
          | outOfFuel => rw [hl] at no; cases no
          | reject => exact ⟨rfl, rfl⟩
          | ok r =>
            obtain ⟨left, s2⟩ := r
            have m1 := readTapTree_mono ops hW _ _ _ _ (readTapTree3_ok ops f1 hl)
            simp only []
            generalize hr2 : s2.read1 = q2
            obtain ⟨c2, s3⟩ := q2
            cases c2 with
            | none => exact ⟨rfl, rfl⟩
            | some c2 =>
              have e2 := read1_R hr2
              split
              · exact ⟨rfl, rfl⟩
              · rename_i s3' heq
                simp at heq
                obtain ⟨rfl, rfl⟩ := heq
                obtain ⟨e, no⟩ := ih f2 s3 (by omega) (by omega)
                rw [← e]
                cases hl2 : readTapTree3 ops f1 s3 with
                | outOfFuel => rw [hl2] at no; cases no
                | reject => exact ⟨rfl, rfl⟩
                | ok r2 => exact ⟨rfl, isOutOfFuel_ofOption _⟩
              · exact ⟨rfl, rfl⟩
        · simp only [hc, if_false]
          have hu := unread_read1 hr
          simp only [hu]
          obtain ⟨e, no⟩ := readMs3_settled ops hW true (f1 + 1) (f2 + 1) s (by omega) (by omega)
          rw [← e]
          cases hm : readMs3 ops true (f1 + 1) s with
          | outOfFuel => rw [hm] at no; cases no
          | reject => exact ⟨rfl, rfl⟩
          | ok r =>
            obtain ⟨ms, s3⟩ := r
            simp only []
            exact ⟨rfl, by split <;> rfl⟩

theorem readFrom3_settled (ops : KeyOps K) (hW : NoEmptyKey ops) (f1 f2 : Nat) (s : Stream) (hb : s.back = [])
    (h1 : R s < f1) (h2 : R s < f2) : Settled (Desc.readFrom3 ops f1 s) (Desc.readFrom3 ops f2 s) := by
  unfold Desc.readFrom3
  cases hh : readHead s with
  | none => exact ⟨rfl, rfl⟩
  | some r =>
    obtain ⟨hd, s1⟩ := r
    have e0 := readHead_R0 hh hb
    cases hd with
    | tr =>
      simp only []
      cases hk : readKey ops true false s1 with
      | none => exact ⟨rfl, rfl⟩
      | some rk =>
        obtain ⟨key, s2⟩ := rk
        have a1 := readKey_mono ops hW _ _ _ _ _ hk
        simp only []
        generalize hr : s2.read1 = q
        obtain ⟨c, s3⟩ := q
        by_cases hc : c = some ','
        · subst hc
          have e1 := read1_R hr
          simp only [if_true]
          obtain ⟨e, no⟩ := readTapTree3_settled ops hW f1 f2 s3 (by omega) (by omega)
          rw [← e]
          cases hm : readTapTree3 ops f1 s3 with
          | outOfFuel => rw [hm] at no; cases no
          | reject => exact ⟨rfl, rfl⟩
          | ok r2 => exact ⟨rfl, isOutOfFuel_ofOption _⟩
        · simp only [hc, if_false]
          cases s3.unread with
          | none => exact ⟨rfl, rfl⟩
          | some s4 => exact ⟨rfl, isOutOfFuel_ofOption _⟩
    | shwsh | wsh | sh =>
      simp only []
      obtain ⟨e, no⟩ := readMs3_settled ops hW false f1 f2 s1 (by omega) (by omega)
      rw [← e]
      cases hm : readMs3 ops false f1 s1 with
      | outOfFuel => rw [hm] at no; cases no
      | reject => exact ⟨rfl, rfl⟩
      | ok r2 =>
        obtain ⟨ms, s2⟩ := r2
        simp only []
        cases expectClose _ s2 with
        | none => exact ⟨rfl, rfl⟩
        | some s3 => simp only []; exact ⟨rfl, by split <;> rfl⟩
    | shwpkh | wpkh | pkh =>
      simp only []
      cases readKey ops false false s1 with
      | none => exact ⟨rfl, rfl⟩
      | some rk => exact ⟨rfl, isOutOfFuel_ofOption _⟩

theorem readMs_fuel (ops : KeyOps K) (hW : NoEmptyKey ops) (tap : Bool) (f1 f2 : Nat) (s : Stream)
    (h1 : R s < f1) (h2 : R s < f2) : readMs ops tap f1 s = readMs ops tap f2 s := by
  rw [← readMs3_erase, ← readMs3_erase, (readMs3_settled ops hW tap f1 f2 s h1 h2).1]

theorem readTapTree_fuel (ops : KeyOps K) (hW : NoEmptyKey ops) (f1 f2 : Nat) (s : Stream)
    (h1 : R s < f1) (h2 : R s < f2) : readTapTree ops f1 s = readTapTree ops f2 s := by
  rw [← readTapTree3_erase, ← readTapTree3_erase, (readTapTree3_settled ops hW f1 f2 s h1 h2).1]

theorem readFrom_fuel (ops : KeyOps K) (hW : NoEmptyKey ops) (f1 f2 : Nat) (s : Stream) (hb : s.back = [])
    (h1 : R s < f1) (h2 : R s < f2) : Desc.readFrom ops f1 s = Desc.readFrom ops f2 s := by
  rw [← readFrom3_erase, ← readFrom3_erase, (readFrom3_settled ops hW f1 f2 s hb h1 h2).1]

/-- **`Descriptor.from_string` never runs out of fuel**: the model's fuel `|text| + 1` is not used up on any text -/
theorem parse3_fuel (ops : KeyOps K) (hW : NoEmptyKey ops) (text : Str) :
    (Desc.parse3 ops text).isOutOfFuel = false := by
  unfold Desc.parse3
  have i := (readFrom3_settled ops hW (text.length + 1) (text.length + 1) (Stream.ofStr text) rfl
    (Nat.lt_succ_self _) (Nat.lt_succ_self _)).2
  cases hm : Desc.readFrom3 ops (text.length + 1) (Stream.ofStr text) with
  | outOfFuel => rw [hm] at i; exact i
  | reject => rfl
  | ok r =>
    obtain ⟨d, s⟩ := r
    simp only []
    cases s.rest with
    | nil => rfl
    | cons c r => simp only []; split <;> rfl

theorem parse3_reject_of_none (ops : KeyOps K) (hW : NoEmptyKey ops) (text : Str)
    (h : Desc.parse ops text = none) : Desc.parse3 ops text = .reject :=
  reject_of_none (by rw [parse3_erase]; exact h) (parse3_fuel ops hW text)

end Embit.Model.Cost
