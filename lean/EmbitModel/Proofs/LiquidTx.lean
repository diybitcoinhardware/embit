import EmbitModel.Spec.LiquidWire
import EmbitModel.Proofs.Tx
import EmbitModel.Proofs.BasicBytes
/-
  C18 helper lemmas, field level: every Liquid field codec is inverted by its reader on well-formed values, and
  every reader is sound (accepts only encodings of well-formed values).
-/
namespace Embit
open Model Spec.LWire

theorem readBe_beN (k v : Nat) (r : Bytes) (h : v < 256 ^ k) :
    readBe k (beN k v ++ r) = some (v, r) := by
  have := takeN_append (beN k v) r
  simp only [beN_length] at this
  simp [readBe, this, ofBe_beN k v h]

theorem readBe_sound {k v : Nat} {b r : Bytes} (h : readBe k b = some (v, r)) :
    b = beN k v ++ r ∧ v < 256 ^ k := by
  unfold readBe at h
  split at h
  · rename_i x r' hx
    simp at h; obtain ⟨h1, h2⟩ := h; subst h1; subst h2
    obtain ⟨hb, hl⟩ := takeN_sound hx
    subst hl
    refine ⟨by rw [beN_ofBe]; exact hb, ?_⟩
    have := ofLe_lt x.reverse
    simpa [ofBe] using this
  · simp at h

theorem takeN_one_cons (c : UInt8) (r : Bytes) : takeN 1 (c :: r) = some ([c], r) := by
  simp [takeN]

theorem takeN_one_sound {b x r : Bytes} (h : takeN 1 b = some (x, r)) : ∃ c, x = [c] ∧ b = c :: r := by
  obtain ⟨hb, hl⟩ := takeN_sound h
  match x, hl with
  | [c], _ => exact ⟨c, rfl, by simpa using hb⟩

theorem takeN_len {n : Nat} (x r : Bytes) (h : x.length = n) : takeN n (x ++ r) = some (x, r) := by
  subst h; exact takeN_append x r

theorem Commit.ser_eq (c : Commit) : Commit.ser c = encAmount c := by
  cases c <;> rfl

theorem Commit.read_ser (c : Commit) (r : Bytes) (h : WFCommit c) :
    Commit.read (Commit.ser c ++ r) = some (c, r) := by
  cases c with
  | null => simp [Commit.read, Commit.ser, takeN]
  | explicit v =>
    have := readBe_beN 8 v r (by simpa [WFCommit] using h)
    simp [Commit.read, Commit.ser, takeN, this]
  | conf b =>
    obtain ⟨hl, h0, h1⟩ := h
    match b, hl with
    | c :: t, hl =>
      have ht : t.length = 32 := by simpa using hl
      have hc0 : c ≠ 0 := by simpa using h0
      have hc1 : c ≠ 1 := by simpa using h1
      have := takeN_len t r ht
      simp [Commit.read, Commit.ser, takeN_one_cons, hc0, hc1, this]

theorem Commit.read_sound {b r : Bytes} {c : Commit} (h : Commit.read b = some (c, r)) :
    b = Commit.ser c ++ r ∧ WFCommit c := by
  unfold Commit.read at h
  split at h
  · simp at h
  · rename_i x r1 h1
    obtain ⟨c0, rfl, rfl⟩ := takeN_one_sound h1
    split at h
    · rename_i hz
      simp at h; obtain ⟨rfl, rfl⟩ := h
      simp at hz; subst hz
      simp [Commit.ser, WFCommit]
    · rename_i hz
      split at h
      · rename_i ho
        split at h
        · simp at h
        · rename_i v r' hv
          simp at h; obtain ⟨rfl, rfl⟩ := h
          obtain ⟨e, l⟩ := readBe_sound hv
          simp at ho; subst ho
          refine ⟨by simp [Commit.ser, e], by simpa [WFCommit] using l⟩
      · rename_i ho
        split at h
        · simp at h
        · rename_i x r' hx
          simp at h; obtain ⟨rfl, rfl⟩ := h
          obtain ⟨e, l⟩ := takeN_sound hx
          refine ⟨by simp [Commit.ser, e], ?_⟩
          simp at hz ho
          simp [WFCommit, l, hz, ho]

theorem Issuance.ser_eq (a : Issuance) : Issuance.ser a = encIssuance a := by
  simp [Issuance.ser, encIssuance, Commit.ser_eq]

theorem Issuance.read_ser (a : Issuance) (r : Bytes) (h : WFIssuance a) :
    Issuance.read (Issuance.ser a ++ r) = some (a, r) := by
  have t1 := takeN_len a.nonce (a.entropy ++ (Commit.ser a.amount ++ (Commit.ser a.token ++ r))) h.nonce
  have t2 := takeN_len a.entropy (Commit.ser a.amount ++ (Commit.ser a.token ++ r)) h.entropy
  have t3 := Commit.read_ser a.amount (Commit.ser a.token ++ r) h.amount
  have t4 := Commit.read_ser a.token r h.token
  simp only [Issuance.read, Issuance.ser, List.append_assoc, t1, t2, t3, t4]

theorem Issuance.read_sound {b r : Bytes} {a : Issuance} (h : Issuance.read b = some (a, r)) :
    b = Issuance.ser a ++ r ∧ WFIssuance a := by
  unfold Issuance.read at h
  -- one `split` per field; a field that fails to read contradicts `h`
  repeat' split at h
  all_goals try (simp at h; done)
  rename_i n r1 h1 _ e r2 h2 _ am r3 h3 _ tk r4 h4
  obtain ⟨rfl, rfl⟩ := Prod.mk.inj (Option.some.inj h)
  obtain ⟨e1, l1⟩ := takeN_sound h1
  obtain ⟨e2, l2⟩ := takeN_sound h2
  obtain ⟨e3, l3⟩ := Commit.read_sound h3
  obtain ⟨e4, l4⟩ := Commit.read_sound h4
  exact ⟨by simp [Issuance.ser, e1, e2, e3, e4, List.append_assoc], ⟨l1, l2, l3, l4⟩⟩

theorem LInWitness.ser_eq (w : LInWitness) : LInWitness.ser w = encInWitness w := rfl
theorem LOutWitness.ser_eq (w : LOutWitness) : LOutWitness.ser w = encOutWitness w := rfl
theorem LInWitness.isEmpty_eq (w : LInWitness) : LInWitness.isEmpty w = inWitnessNull w := rfl
theorem LOutWitness.isEmpty_eq (w : LOutWitness) : LOutWitness.isEmpty w = outWitnessNull w := rfl

theorem LInWitness.read_ser (w : LInWitness) (r : Bytes) (h : WFInWitness w) :
    LInWitness.read (LInWitness.ser w ++ r) = some (w, r) := by
  have t1 := scriptRead_ser w.amountProof
    (scriptSer w.tokenProof ++ (witnessSer w.scriptWitness ++ (witnessSer w.peginWitness ++ r))) h.amountProof
  have t2 := scriptRead_ser w.tokenProof (witnessSer w.scriptWitness ++ (witnessSer w.peginWitness ++ r)) h.tokenProof
  have t3 := witnessRead_ser w.scriptWitness (witnessSer w.peginWitness ++ r) h.script.1 h.script.2
  have t4 := witnessRead_ser w.peginWitness r h.pegin.1 h.pegin.2
  simp only [LInWitness.read, LInWitness.ser, proofSer, proofRead, List.append_assoc, t1, t2, t3, t4]

theorem LInWitness.read_sound {b r : Bytes} {w : LInWitness} (h : LInWitness.read b = some (w, r)) :
    b = LInWitness.ser w ++ r ∧ WFInWitness w := by
  unfold LInWitness.read at h
  repeat' split at h
  all_goals try (simp at h; done)
  rename_i a r1 h1 _ t r2 h2 _ s r3 h3 _ p r4 h4
  obtain ⟨rfl, rfl⟩ := Prod.mk.inj (Option.some.inj h)
  obtain ⟨e1, l1⟩ := scriptRead_sound h1
  obtain ⟨e2, l2⟩ := scriptRead_sound h2
  obtain ⟨e3, l3, m3⟩ := witnessRead_sound h3
  obtain ⟨e4, l4, m4⟩ := witnessRead_sound h4
  exact ⟨by simp [LInWitness.ser, proofSer, e1, e2, e3, e4, List.append_assoc], ⟨l1, l2, ⟨l3, m3⟩, ⟨l4, m4⟩⟩⟩

theorem LOutWitness.read_ser (w : LOutWitness) (r : Bytes) (h : WFOutWitness w) :
    LOutWitness.read (LOutWitness.ser w ++ r) = some (w, r) := by
  have t1 := scriptRead_ser w.surjProof (scriptSer w.rangeProof ++ r) h.surj
  have t2 := scriptRead_ser w.rangeProof r h.range
  simp only [LOutWitness.read, LOutWitness.ser, proofSer, proofRead, List.append_assoc, t1, t2]

theorem LOutWitness.read_sound {b r : Bytes} {w : LOutWitness} (h : LOutWitness.read b = some (w, r)) :
    b = LOutWitness.ser w ++ r ∧ WFOutWitness w := by
  unfold LOutWitness.read at h
  repeat' split at h
  all_goals try (simp at h; done)
  rename_i s r1 h1 _ p r2 h2
  obtain ⟨rfl, rfl⟩ := Prod.mk.inj (Option.some.inj h)
  obtain ⟨e1, l1⟩ := scriptRead_sound h1
  obtain ⟨e2, l2⟩ := scriptRead_sound h2
  exact ⟨by simp [LOutWitness.ser, proofSer, e1, e2, List.append_assoc], ⟨l1, l2⟩⟩

/-- what the reader recovers from the flagged index of a well-formed input -/
theorem wireVout_decode (i : LTxIn) (h : WFIndex i) :
    LTxIn.wireVout i < 2 ^ 32 ∧
    (LTxIn.wireVout i = 0xFFFFFFFF → i.vout = 0xFFFFFFFF ∧ i.isPegin = false ∧ i.issuance = none) ∧
    (LTxIn.wireVout i ≠ 0xFFFFFFFF →
      (LTxIn.wireVout i / 2 ^ 31 % 2 = 1 ↔ i.issuance.isSome = true) ∧ LTxIn.wireVout i % 2 ^ 30 = i.vout
      ∧ (LTxIn.wireVout i / 2 ^ 30 % 2 = 1 ↔ i.isPegin = true)) := by
  unfold LTxIn.wireVout
  rcases h with ⟨h1, h2⟩ | ⟨h1, h2, h3⟩
  · cases hi : i.issuance <;> cases hp : i.isPegin <;>
      simp only [hi, hp, Option.isSome_none, Option.isSome_some, if_true, if_false, Bool.false_eq_true, and_true,
        and_false, not_false_eq_true, reduceCtorEq, iff_false, iff_true] at h2 ⊢ <;> omega
  · rw [h1, h2, h3]; decide

theorem LTxIn.read_ser (i : LTxIn) (r : Bytes) (h : WFIn i) :
    LTxIn.read (LTxIn.ser i ++ r) = some ({ i with witness := {} }, r) := by
  obtain ⟨hw, hnull, hflag⟩ := wireVout_decode i h.index
  have t1 := fun rest => takeN_len i.txid.reverse rest (n := 32) (by simp [h.txid])
  have t2 := fun rest => readLe_leN 4 (LTxIn.wireVout i) rest (by omega)
  have t3 := fun rest => scriptRead_ser i.scriptSig rest h.script
  have t4 := fun rest => readLe_leN 4 i.sequence rest (by have := h.sequence; omega)
  have t5 := fun a ha => Issuance.read_ser a r (h.issuance a ha)
  generalize hwv : LTxIn.wireVout i = w at *
  obtain ⟨txid, vout, ss, sq, pg, iss, wit⟩ := i
  simp only [LTxIn.read, LTxIn.ser, List.append_assoc, hwv, t1, t2, t3, t4, List.reverse_reverse]
  by_cases hn : w = 0xFFFFFFFF
  · obtain ⟨rfl, rfl, rfl⟩ := hnull hn
    simp [hn]
  · obtain ⟨f31, rfl, f30⟩ := hflag hn
    cases iss with
    | none => simp [-Nat.reducePow, hn, f31, f30]
    | some a => simp [-Nat.reducePow, hn, f31, f30, t5 a rfl]

theorem wfInWitness_default : WFInWitness {} := ⟨by simp, by simp, ⟨by simp, by simp⟩, ⟨by simp, by simp⟩⟩

theorem LTxIn.read_sound {b r : Bytes} {i : LTxIn} (h : LTxIn.read b = some (i, r)) :
    b = LTxIn.ser i ++ r ∧ WFIn i ∧ i.witness = {} := by
  unfold LTxIn.read at h
  split at h
  · simp at h
  · rename_i t r1 h1
    split at h
    · simp at h
    · rename_i vout r2 h2
      split at h
      · simp at h
      · rename_i ss r3 h3
        split at h
        · simp at h
        · rename_i sq r4 h4
          obtain ⟨e1, l1⟩ := takeN_sound h1
          obtain ⟨e2, l2⟩ := readLe_sound h2
          obtain ⟨e3, l3⟩ := scriptRead_sound h3
          obtain ⟨e4, l4⟩ := readLe_sound h4
          split at h
          · rename_i hcb
            simp at h; obtain ⟨rfl, rfl⟩ := h
            refine ⟨?_, ⟨by simp [l1], Or.inr ⟨hcb, rfl, rfl⟩, l3, by simpa using l4, by simp, wfInWitness_default⟩, rfl⟩
            simp [LTxIn.ser, LTxIn.wireVout, e1, e2, e3, e4, List.append_assoc]
          · rename_i hcb
            split at h
            · rename_i hiss
              split at h
              · simp at h
              · rename_i a r5 h5
                obtain ⟨e5, l5⟩ := Issuance.read_sound h5
                simp at h; obtain ⟨rfl, rfl⟩ := h
                refine ⟨?_, ⟨by simp [l1], Or.inl ⟨by simp; omega, ?_⟩, l3, by simpa using l4, ?_, wfInWitness_default⟩, rfl⟩
                · have hw : vout % 2^30 + 2^31 + (if decide (vout / 2^30 % 2 = 1) = true then 2^30 else 0) = vout := by
                    by_cases hp : vout / 2^30 % 2 = 1 <;> simp [hp] <;> omega
                  simp only [LTxIn.ser, LTxIn.wireVout, Option.isSome_some, if_true, hw]
                  simp [e1, e2, e3, e4, e5, List.append_assoc]
                · simp only [Option.isSome_some, and_true, decide_eq_true_eq]
                  omega
                · intro a' ha'; simp at ha'; subst ha'; exact l5
            · rename_i hiss
              simp at h; obtain ⟨rfl, rfl⟩ := h
              refine ⟨?_, ⟨by simp [l1], Or.inl ⟨by simp; omega, by simp⟩, l3, by simpa using l4, by simp, wfInWitness_default⟩, rfl⟩
              have hw : vout % 2^30 + 0 + (if decide (vout / 2^30 % 2 = 1) = true then 2^30 else 0) = vout := by
                by_cases hp : vout / 2^30 % 2 = 1 <;> simp [hp] <;> omega
              simp only [LTxIn.ser, LTxIn.wireVout, Option.isSome_none, Bool.false_eq_true, if_false, hw]
              simp [e1, e2, e3, e4, List.append_assoc]

theorem normAsset_explicit (a : Bytes) (h : a.length = 32) : normAsset (1 :: a) = a := by
  simp [normAsset, h]

theorem normAsset_other (a : Bytes) (h : a.head? ≠ some 1) : normAsset a = a := by
  unfold normAsset
  split
  · rfl
  · rename_i c rest
    have : c ≠ 1 := by simpa using h
    simp [this]

/-- what the reader's normalisation returns is an asset the writer re-encodes to the bytes read -/
theorem normAsset_wf (a : Bytes) (h : a.length = 33) :
    WFAsset (normAsset a) ∧ (if (normAsset a).length = 32 then [1] else []) ++ normAsset a = a := by
  unfold normAsset
  split
  · simp at h
  · rename_i c rest
    have hr : rest.length = 32 := by simpa using h
    by_cases hc : c = 1
    · subst hc; simp [hr, WFAsset]
    · simp [hc, WFAsset, hr]

theorem LValue.ser_eq (v : LValue) : LValue.ser v = encValue v := by cases v <;> rfl
theorem nonceSer_eq (n : Option Bytes) (h : WFNonce n) : nonceSer n = encNonce n := by
  cases n with
  | none => rfl
  | some x =>
    have : x ≠ [] := by intro e; subst e; simp [WFNonce] at h
    simp [nonceSer, encNonce, this]

theorem readValueAfter_ser (v : LValue) (r : Bytes) (h : WFValue v) :
    ∃ c t, LValue.ser v = c :: t ∧ readValueAfter c (t ++ r) = some (v, r) := by
  cases v with
  | explicit x =>
    exact ⟨1, beN 8 x, rfl, by simp [readValueAfter, readBe_beN 8 x r (by simpa [WFValue] using h)]⟩
  | conf b =>
    obtain ⟨hl, h1⟩ := h
    match b, hl with
    | c :: t, hl =>
      have ht : t.length = 32 := by simpa using hl
      have hc1 : c ≠ 1 := by simpa using h1
      exact ⟨c, t, rfl, by simp [readValueAfter, hc1, takeN_len t r ht]⟩

theorem readValueAfter_sound {c : UInt8} {b r : Bytes} {v : LValue} (h : readValueAfter c b = some (v, r)) :
    c :: b = LValue.ser v ++ r ∧ WFValue v := by
  unfold readValueAfter at h
  split at h
  · rename_i hc
    subst hc
    split at h
    · simp at h
    · rename_i x r' hx
      simp at h; obtain ⟨rfl, rfl⟩ := h
      obtain ⟨ex, lx⟩ := readBe_sound hx
      exact ⟨by simp [LValue.ser, ex], by simpa [WFValue] using lx⟩
  · rename_i hc
    split at h
    · simp at h
    · rename_i x r' hx
      simp at h; obtain ⟨rfl, rfl⟩ := h
      obtain ⟨ex, lx⟩ := takeN_sound hx
      exact ⟨by simp [LValue.ser, ex], by simp [WFValue, lx, hc]⟩

theorem readNonceAfter_ser (n : Option Bytes) (r : Bytes) (h : WFNonce n) :
    ∃ c t, nonceSer n = c :: t ∧ readNonceAfter c (t ++ r) = some (n, r) := by
  cases n with
  | none => exact ⟨0, [], rfl, by simp [readNonceAfter]⟩
  | some x =>
    obtain ⟨hl, h0⟩ := h
    match x, hl with
    | c :: t, hl =>
      have ht : t.length = 32 := by simpa using hl
      have hc0 : c ≠ 0 := by simpa using h0
      exact ⟨c, t, by simp [nonceSer], by simp [readNonceAfter, hc0, takeN_len t r ht]⟩

theorem readNonceAfter_sound {c : UInt8} {b r : Bytes} {n : Option Bytes} (h : readNonceAfter c b = some (n, r)) :
    c :: b = nonceSer n ++ r ∧ WFNonce n := by
  unfold readNonceAfter at h
  split at h
  · rename_i hc
    subst hc
    simp at h; obtain ⟨rfl, rfl⟩ := h
    simp [nonceSer, WFNonce]
  · rename_i hc
    split at h
    · simp at h
    · rename_i x r' hx
      simp at h; obtain ⟨rfl, rfl⟩ := h
      obtain ⟨ex, lx⟩ := takeN_sound hx
      exact ⟨by simp [nonceSer, ex], by simp [WFNonce, lx, hc]⟩

theorem LTxOut.read_ser (o : LTxOut) (r : Bytes) (h : WFOut o) :
    LTxOut.read (LTxOut.ser o ++ r) = some ({ o with witness := {} }, r) := by
  obtain ⟨asset, value, nonce, spk, wit⟩ := o
  have t4 : scriptRead (scriptSer spk ++ r) = some (spk, r) := scriptRead_ser spk r h.script
  have hA : ∃ a33 : Bytes, a33.length = 33 ∧ (if asset.length = 32 then [1] else []) ++ asset = a33 ∧ normAsset a33 = asset := by
    rcases h.asset with h32 | ⟨h33, hh⟩
    · exact ⟨1 :: asset, by simp [h32], by simp [h32], normAsset_explicit asset h32⟩
    · exact ⟨asset, h33, by simp [h33], normAsset_other asset hh⟩
  obtain ⟨a33, la, ea, na⟩ := hA
  have t1 : ∀ rest, takeN 33 (a33 ++ rest) = some (a33, rest) := fun rest => takeN_len a33 rest la
  obtain ⟨c2, tn, en, rn⟩ := readNonceAfter_ser nonce (scriptSer spk ++ r) h.nonce
  obtain ⟨c1, tv, ev, rv⟩ := readValueAfter_ser value (c2 :: (tn ++ (scriptSer spk ++ r))) h.value
  have e : LTxOut.ser { asset := asset, value := value, nonce := nonce, spk := spk, witness := wit } ++ r
      = a33 ++ (c1 :: (tv ++ (c2 :: (tn ++ (scriptSer spk ++ r))))) := by
    simp only [LTxOut.ser, List.append_assoc]
    rw [en, ev, ← List.append_assoc, ea]
    simp
  rw [e]
  simp only [LTxOut.read, t1, rv, rn, t4, na]

theorem LTxOut.read_sound {b r : Bytes} {o : LTxOut} (h : LTxOut.read b = some (o, r)) :
    b = LTxOut.ser o ++ r ∧ WFOut o ∧ o.witness = {} := by
  unfold LTxOut.read at h
  repeat' split at h
  all_goals try (simp at h; done)
  rename_i a _ c1 r2 h1 _ v _ c2 r4 hv _ n r5 hn _ s r6 h6
  obtain ⟨rfl, rfl⟩ := Prod.mk.inj (Option.some.inj h)
  obtain ⟨e1, l1⟩ := takeN_sound h1
  obtain ⟨ev, wv⟩ := readValueAfter_sound hv
  obtain ⟨en, wn⟩ := readNonceAfter_sound hn
  obtain ⟨e6, l6⟩ := scriptRead_sound h6
  obtain ⟨wa, ea⟩ := normAsset_wf a l1
  refine ⟨?_, ⟨wa, wv, wn, l6, ⟨by simp, by simp⟩⟩, rfl⟩
  simp only [LTxOut.ser, List.append_assoc]
  rw [← List.append_assoc, ea, e1, ev, en, e6]

end Embit
