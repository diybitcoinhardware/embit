import EmbitModel.Proofs.SignWithJust
import EmbitModel.Proofs.SignWithFrame
/-
  Completeness of `SignWith.signInput` as far as the code provides it: after a successful pass over an authorised input
  every key the signer controls there has an entry in its slot (`InputDone`), and later writes keep it (Mathlib-free).
-/
namespace Embit.Model.SignWith
open Embit Embit.Model

variable {HD : Type}

theorem Tr.isSome {seen : List Slot} {s s' : InScope} {k : Nat} {ws : List (Slot × Bytes)} (t : Tr seen s s' k ws)
    (sl : Slot)
    (h : (slotValue s sl).isSome = true) : (slotValue s' sl).isSome = true := by
  rw [t.app]; exact slotValue_applySlots_isSome s ws sl h

theorem derivedPairs_complete (O : Ops HD) (sg : Single HD) (tap : Bool) (l : List (Bytes × Deriv))
    (kps : List (Bytes × Bytes)) (h : derivedPairs O sg tap l = some kps) (pub : Bytes) (d : Deriv) (k : HD)
    (hm : (pub, d) ∈ l) (hd : sg.deriveFor O d.path = some (some k)) : (O.hdSecret k, pub) ∈ kps := by
  induction l generalizing kps with
  | nil => cases hm
  | cons a r ih =>
    obtain ⟨pub', d'⟩ := a
    unfold derivedPairs at h
    rw [List.mem_cons] at hm
    split at h
    · cases h
    · rename_i hskip
      rcases hm with hm | hm
      · cases hm; rw [hd] at hskip; cases hskip
      · exact ih kps h hm
    · rename_i k' hk'
      split at h
      · cases h
      · split at h
        · cases h
        · rename_i l' hl'
          simp only [Option.some.injEq] at h; subst h
          rcases hm with hm | hm
          · cases hm
            rw [hd] at hk'
            cases hk'
            exact List.mem_cons_self
          · exact List.mem_cons_of_mem _ (ih l' hl' hm)

theorem controls_mem (O : Ops HD) (OL : OrderLaws O) (sg : Single HD) (tap : Bool) (s : InScope)
    (kps0 : List (Bytes × Bytes))
    (h : derivedPairs O sg tap (O.orderD (dedup (candidateDerivs O sg s))) = some kps0) (sk pub : Bytes)
    (hc : Controls O sg tap s sk pub) : (sk, pub) ∈ O.orderK (dedup kps0) := by
  obtain ⟨fp, d, k, h1, h2, h3, h4, h5, _⟩ := hc
  have hm : (pub, d) ∈ O.orderD (dedup (candidateDerivs O sg s)) :=
    (OL.permD _).mem_iff.mpr ((mem_dedup _ _).mpr (mem_candidateDerivs.mpr ⟨fp, h1, h2, h3⟩))
  have := derivedPairs_complete O sg tap _ kps0 h pub d k hm h4
  rw [h5] at this
  exact (OL.permK _).mem_iff.mpr ((mem_dedup _ _).mpr this)

section ScopeComplete
variable {O : Ops HD} {dg : Digest} {sk : Bytes} {c : Bool} {f : Nat} {xo : Bytes} {seen : List Slot}
  {s s' s0 : InScope} {u : TxOut} {k : Nat} {ws : List (Slot × Bytes)} {l : List (Bytes × Bytes)} {hh sc rootpub : Bytes}

theorem signLeaves_complete (h : signLeaves O dg sk f xo seen l s = some (s', k, ws)) :
    ∀ ctrl sc lv, (ctrl, sc) ∈ l → isInfix xo sc = true → sc.getLast? = some lv →
      (slotValue s' (.tapScriptSig (xo ++ leafHashOf O sc lv))).isSome = true := by
  induction l generalizing seen s s' k ws with
  | nil => exact fun ctrl sc lv hm => nomatch hm
  | cons e r ih =>
    intro ctrl sc lv hm hin hlv
    rcases signLeaves_cons_some h with ⟨hnot, h⟩ | ⟨lv0, hh, sig, k2, ws2, _, hlv0, _, _, hrec, rfl, rfl⟩ <;>
      rcases List.mem_cons.mp hm with rfl | hm
    · rw [hin] at hnot; cases hnot
    · exact ih h ctrl sc lv hm hin hlv
    · obtain rfl : lv = lv0 := Option.some.inj (hlv.symm.trans hlv0)
      exact (signLeaves_tr hrec).isSome _ (slotValue_applySlot_self s (_, _))
    · exact ih hrec ctrl sc lv hm hin hlv

/-- what `sign_input_with_tapkey(key)` guarantees about the scope afterwards -/
def TapDone (O : Ops HD) (s0 : InScope) (u : TxOut) (sk : Bytes) (c : Bool) (s' : InScope) : Prop :=
  ∀ tsk, O.tapTweak sk (s0.tapMerkleRoot.getD []) = some tsk →
    (isInfix (xonlyOfSec (O.secOf tsk true)) u.spk = true → ∃ v, s'.finalWitness = some [v]) ∧
    (isInfix (xonlyOfSec (O.secOf tsk true)) u.spk = false →
      ∀ ctrl sc lv, (ctrl, sc) ∈ s0.tapScripts → isInfix (xonlyOfSec (O.secOf sk c)) sc = true →
        sc.getLast? = some lv →
        (slotValue s' (.tapScriptSig (xonlyOfSec (O.secOf sk c) ++ leafHashOf O sc lv))).isSome = true)

theorem TapDone.mono {s' s'' : InScope}
    (t : s'' = applySlots s' ws) (h : TapDone O s0 u sk c s') : TapDone O s0 u sk c s'' := by
  intro tsk htw
  obtain ⟨h1, h2⟩ := h tsk htw
  refine ⟨fun hin => ?_, fun hin ctrl sc lv hm hi hl => ?_⟩
  · rw [t]
    rcases finalWitness_applySlots s' ws with h3 | ⟨v, _, h3⟩
    · rw [h3]; exact h1 hin
    · exact ⟨v, h3⟩
  · rw [t]; exact slotValue_applySlots_isSome s' ws _ (h2 hin ctrl sc lv hm hi hl)

theorem signTapKey_complete (hu : s0.utxo = some u) (htap : isTaprootSpk u.spk = true) (hc : core s = core s0)
    (h : signTapKey O dg sk c f seen s = some (s', k, ws)) :
    TapDone O s0 u sk c s' := by
  have hf := core_fields hc
  obtain ⟨u', hu', hrun⟩ := signTapKey_some h
  obtain rfl : u' = u := Option.some.inj (by rw [← hu', hf.1, hu])
  rcases hrun with ⟨hn, _⟩ | ⟨tsk, _, htw, hrun⟩
  · rw [htap] at hn; cases hn
  · intro tsk' htw'
    obtain rfl : tsk = tsk' := Option.some.inj (by rw [← htw, hf.2.2.2.1, htw'])
    rcases hrun with ⟨hin, hh, sig, _, _, rfl, _, _⟩ | ⟨hin, h⟩
    · exact ⟨fun _ => ⟨_, rfl⟩, fun hnot => by rw [hin] at hnot; cases hnot⟩
    · rw [hf.2.2.2.2.1] at h
      exact ⟨fun hyes => (by rw [hin] at hyes; cases hyes), fun _ => signLeaves_complete h⟩

theorem signTapDerived_complete (hu : s0.utxo = some u) (htap : isTaprootSpk u.spk = true) (hc : core s = core s0)
    (h : signTapDerived O dg f seen l s = some (s', k, ws)) :
    ∀ e ∈ l, TapDone O s0 u e.1 true s' := by
  induction l generalizing seen s s' k ws with
  | nil => exact fun e he => nomatch he
  | cons a r ih =>
    obtain ⟨s1, k1, w1, k2, w2, h1, h2, rfl, rfl⟩ := signTapDerived_cons_some h
    intro e he
    rcases List.mem_cons.mp he with rfl | he
    · exact (signTapKey_complete hu htap hc h1).mono (signTapDerived_tr h2).app
    · exact ih ((signTapKey_tr h1).core.trans hc) h2 e he

theorem signEcdsaRoot_complete (h : signEcdsaRoot O sk c f hh sc seen s = some (s', k, ws))
    (hin : isInfix (O.secOf sk c) sc = true ∨ isInfix (O.hash160 (O.secOf sk c)) sc = true) :
    (slotValue s' (.partialSig (O.secOf sk c))).isSome = true := by
  rcases signEcdsaRoot_some h with ⟨hnot, _⟩ | ⟨_, sig, _, rfl, _, _⟩
  · rw [Bool.or_eq_false_iff] at hnot
    rcases hin with hin | hin
    · rw [hnot.1] at hin; cases hin
    · rw [hnot.2] at hin; cases hin
  · exact slotValue_applySlot_self s (_, _)

theorem signEcdsaDerived_complete (h : signEcdsaDerived O rootpub f hh seen l s = some (s', k, ws)) :
    ∀ e ∈ l, (slotValue s' (.partialSig e.2)).isSome = true := by
  induction l generalizing seen s s' k ws with
  | nil => exact fun e he => nomatch he
  | cons a r ih =>
    intro e he
    rcases signEcdsaDerived_cons_some h with ⟨_, hhas, h⟩ | ⟨sig, k2, ws2, _, hrec, rfl, rfl⟩ <;>
      rcases List.mem_cons.mp he with rfl | he
    · exact (signEcdsaDerived_tr h).isSome _ hhas
    · exact ih h e he
    · exact (signEcdsaDerived_tr hrec).isSome _ (slotValue_applySlot_self s (_, _))
    · exact ih hrec e he

end ScopeComplete

/-- what one pass of one key over one authorised input guarantees -/
def InputDone (O : Ops HD) (sg : Single HD) (s : InScope) (u : TxOut) (s' : InScope) : Prop :=
  (isTaprootSpk u.spk = false →
    ((isInfix (O.secOf (sg.secret O) sg.compressed) (scriptOf s u.spk) = true
        ∨ isInfix (O.hash160 (O.secOf (sg.secret O) sg.compressed)) (scriptOf s u.spk) = true) →
      (slotValue s' (.partialSig (O.secOf (sg.secret O) sg.compressed))).isSome = true) ∧
    ∀ sk pub, Controls O sg false s sk pub → (slotValue s' (.partialSig pub)).isSome = true) ∧
  (isTaprootSpk u.spk = true → ∀ sk c, OwnKey O sg s sk c → TapDone O s u sk c s')

theorem InputDone.mono {O : Ops HD} {sg : Single HD} {s : InScope} {u : TxOut} {s' s'' : InScope}
    {ws : List (Slot × Bytes)} (t : s'' = applySlots s' ws) (h : InputDone O sg s u s') : InputDone O sg s u s'' := by
  refine ⟨fun hn => ?_, fun ht sk c ho => (h.2 ht sk c ho).mono t⟩
  obtain ⟨h1, h2⟩ := h.1 hn
  exact ⟨fun hin => by rw [t]; exact slotValue_applySlots_isSome s' ws _ (h1 hin),
    fun sk pub hc => by rw [t]; exact slotValue_applySlots_isSome s' ws _ (h2 sk pub hc)⟩

/-- `InputDone O sg s u s'` reads `s` only through fields `core` keeps: it is the same proposition for `s` and `core s` -/
theorem InputDone.core {O : Ops HD} {sg : Single HD} {s t : InScope} {u : TxOut} {s' : InScope}
    (hc : core s = core t) (h : InputDone O sg s u s') : InputDone O sg t u s' := by
  have h' : InputDone O sg (SignWith.core s) u s' := h
  rw [hc] at h'
  exact h'

theorem signInput_complete (O : Ops HD) (OL : OrderLaws O) (sg : Single HD) (auth : Option Nat) (dg : Digest)
    (s : InScope) (u : TxOut) (hu : s.utxo = some u) (f : Nat)
    (hpol : signPolicy auth s.sighashType (isTaprootSpk u.spk) = some f) (seen : List Slot) (s' : InScope) (k : Nat)
    (ws : List (Slot × Bytes)) (h : signInput O sg auth dg seen s = some (s', k, ws)) :
    InputDone O sg s u s' := by
  obtain ⟨u', hu', hrun⟩ := signInput_some h
  obtain rfl : u' = u := Option.some.inj (by rw [← hu', hu])
  rcases hrun with ⟨hnone, _⟩ | ⟨f', kps0, s1, k1, w1, k2, w2, _, hkps, _, _, hrun⟩
  · rw [hpol] at hnone; cases hnone
  · have hmem := controls_mem O OL sg _ s kps0 hkps
    rcases hrun with ⟨htap, h1, h2⟩ | ⟨htap, hh, _, h1, h2⟩ <;> rw [htap] at hmem
    · refine ⟨fun hn => (by rw [htap] at hn; cases hn), fun _ sk c ho => ?_⟩
      rcases ho with ⟨rfl, rfl⟩ | ⟨rfl, pub, hctl⟩
      · exact (signTapKey_complete hu htap rfl h1).mono (signTapDerived_tr h2).app
      · exact signTapDerived_complete hu htap (signTapKey_tr h1).core h2 (sk, pub) (hmem sk pub hctl)
    · refine ⟨fun _ => ⟨fun hin => ?_, fun sk pub hctl => ?_⟩, fun ht => by rw [htap] at ht; cases ht⟩
      · exact (signEcdsaDerived_tr h2).isSome _ (signEcdsaRoot_complete h1 hin)
      · exact signEcdsaDerived_complete h2 (sk, pub) (hmem sk pub hctl)

theorem inputDone_applyWrites {O : Ops HD} {sg : Single HD} {s : InScope} {u : TxOut} {p : Psbt} {i : Nat}
    {s' : InScope} (hs : p.inputs[i]? = some s') (h : InputDone O sg s u s') (ws : List Write) :
    ∃ s'', (applyWrites p ws).inputs[i]? = some s'' ∧ InputDone O sg s u s'' := by
  rw [applyWrites_get, hs]
  exact ⟨_, rfl, h.mono rfl⟩

end Embit.Model.SignWith
