import EmbitModel.Proofs.EcLaws
import EmbitModel.Model.SignWithOps
/-
  The bridge between the two curve records: the laws of the signature development (`Embit.EcLaws E`, C07 / C08)
  imply the laws of the key development (`Embit.Keys.EcLaws (toKeys E)`, C09 / C10) — every field — given the two size
  bounds both developments carry anyway (`n ≤ 2^256`, `p ≤ 2^256`) and ONE extra law that `Embit.EcLaws` lacks:

    `InfUnique E` : a multiple `a·G` without affine coordinates has `a ≡ 0 (mod n)`

  (the point at infinity is the only point without coordinates). `Embit.EcLaws` cannot give it: its coordinate laws
  speak about finite points only, so a structure in which some `a·G`, `a ≢ 0`, is declared coordinate-less (together
  with its negative) satisfies every field of `Embit.EcLaws`. The converse direction (`0·G` has no coordinates) IS
  derivable: `−(0·G) = n·G = 0·G`, and a finite point is never its own negative because `p` is odd.
-/
namespace Embit.Model.SignWith
open Embit

def InfUnique (E : Embit.EcOps) : Prop := ∀ a, E.xy (E.mul a E.g) = none → a % E.n = 0

variable {E : Embit.EcOps}

/-- `0·G` is the point at infinity (derived: it is its own negative, `p` is odd, `y ≠ 0`) -/
theorem xy_mul_zero (L : Embit.EcLaws E) : E.xy (E.mul 0 E.g) = none := by
  have hneg : E.neg (E.mul 0 E.g) = E.mul 0 E.g := by
    rw [L.neg_mul 0 (Nat.zero_le _), Nat.sub_zero, ← L.mul_mod E.n, Nat.mod_self]
  cases h : E.xy (E.mul 0 E.g) with
  | none => rfl
  | some xy =>
    obtain ⟨x, y⟩ := xy
    have h2 := L.xy_neg _ x y h
    rw [hneg, h] at h2
    obtain ⟨_, _, hy0, hyp⟩ := L.xy_range _ x y h
    have hp := L.p_odd
    simp only [Option.some.injEq, Prod.mk.injEq, true_and] at h2
    omega

theorem xy_mul_of_mod (L : Embit.EcLaws E) (a : Nat) (h : a % E.n = 0) : E.xy (E.mul a E.g) = none := by
  rw [← L.mul_mod a, h]; exact xy_mul_zero L

theorem add_comm_of_laws (L : Embit.EcLaws E) (P Q : E.Pt) : E.add P Q = E.add Q P := by
  obtain ⟨a, _, rfl⟩ := L.generated P
  obtain ⟨b, _, rfl⟩ := L.generated Q
  rw [L.mul_add, L.mul_add, Nat.add_comm]

theorem toKeys_isInf (P : E.Pt) : (toKeys E).isInf P = (E.xy P).isNone := rfl
theorem toKeys_x (P : E.Pt) (x y : Nat) (h : E.xy P = some (x, y)) : (toKeys E).x P = x := by
  show (match E.xy P with | some (x, _) => x | none => 0) = x
  rw [h]
theorem toKeys_y (P : E.Pt) (x y : Nat) (h : E.xy P = some (x, y)) : (toKeys E).y P = y := by
  show (match E.xy P with | some (_, y) => y | none => 0) = y
  rw [h]

theorem toKeys_finite (P : E.Pt) (h : (toKeys E).isInf P = false) :
    E.xy P = some ((toKeys E).x P, (toKeys E).y P) := by
  cases hxy : E.xy P with
  | none => simp [toKeys_isInf, hxy] at h
  | some xy =>
    obtain ⟨x, y⟩ := xy
    rw [toKeys_x P x y hxy, toKeys_y P x y hxy]

theorem toKeys_finite_of (P : E.Pt) (x y : Nat) (h : E.xy P = some (x, y)) : (toKeys E).isInf P = false := by
  rw [toKeys_isInf, h]; rfl

theorem toKeys_yOdd (P : E.Pt) (x y : Nat) (h : E.xy P = some (x, y)) :
    (toKeys E).yOdd P = (y % 2 == 1) := by
  unfold Embit.Keys.EcOps.yOdd
  rw [toKeys_y P x y h]

theorem toKeys_laws (L : Embit.EcLaws E) (hn : E.n ≤ 2 ^ 256) (hp : E.p ≤ 2 ^ 256) (hinf : InfUnique E) :
    Embit.Keys.EcLaws (toKeys E) where
  n_pos := L.n_pos
  n_le := hn
  add_comm := add_comm_of_laws L
  mulG_add := L.mul_add
  mulG_mod := L.mul_mod
  mulG_inf := by
    intro a
    show (E.xy (E.mul a E.g)).isNone = true ↔ a % E.n = 0
    rw [Option.isNone_iff_eq_none]
    exact ⟨hinf a, xy_mul_of_mod L a⟩
  neg_mulG := L.neg_mul
  neg_neg := L.neg_neg
  neg_inf := by
    intro P
    show (E.xy (E.neg P)).isNone = (E.xy P).isNone
    cases h : E.xy P with
    | none => rw [L.xy_neg_none P h]
    | some xy =>
      obtain ⟨x, y⟩ := xy
      rw [L.xy_neg P x y h]; rfl
  coord_lt := by
    intro P hP
    have h := toKeys_finite P hP
    obtain ⟨_, hx, _, hy⟩ := L.xy_range P _ _ h
    omega
  x_neg := by
    intro P hP
    have h := toKeys_finite P hP
    exact toKeys_x (E.neg P) _ _ (L.xy_neg P _ _ h)
  yOdd_neg := by
    intro P hP
    have h := toKeys_finite P hP
    obtain ⟨_, _, hy0, hyp⟩ := L.xy_range P _ _ h
    have hodd := L.p_odd
    have e1 := toKeys_yOdd P _ _ h
    have e2 := toKeys_yOdd (E.neg P) _ _ (L.xy_neg P _ _ h)
    show (toKeys E).yOdd (E.neg P) = !(toKeys E).yOdd P
    rw [e1, e2]
    generalize (toKeys E).y P = y at *
    rcases Nat.mod_two_eq_zero_or_one y with hy | hy
    · have : (E.p - y) % 2 = 1 := by omega
      simp [hy, this]
    · have : (E.p - y) % 2 = 0 := by omega
      simp [hy, this]
  liftX_of := by
    intro P hP
    have h := toKeys_finite P hP
    have e1 := toKeys_yOdd P _ _ h
    show E.liftX ((toKeys E).x P) = some (if (toKeys E).yOdd P then E.neg P else P)
    rw [e1]
    rcases Nat.mod_two_eq_zero_or_one ((toKeys E).y P) with hy | hy
    · rw [L.liftX_even P _ _ h hy, hy]; rfl
    · have hneg := L.neg_parity P _ _ h
      rw [L.liftX_even (E.neg P) _ _ hneg.1 (hneg.2.mpr hy), hy]; rfl
  liftX_sound := by
    intro v P h
    obtain ⟨y, hxy, hy⟩ := L.liftX_sound v P h
    refine ⟨toKeys_finite_of P v y hxy, toKeys_x P v y hxy, ?_⟩
    rw [toKeys_yOdd P v y hxy, hy]; rfl
  ofXY_of := by
    intro P hP
    have h := toKeys_finite P hP
    obtain ⟨_, hx, _, hy⟩ := L.xy_range P _ _ h
    show (if (toKeys E).x P < E.p ∧ (toKeys E).y P < E.p then E.ofXY ((toKeys E).x P) ((toKeys E).y P) else none) = some P
    rw [if_pos ⟨hx, hy⟩]
    exact L.ofXY_xy P _ _ h
  ofXY_sound := by
    intro a b P h
    change (if a < E.p ∧ b < E.p then E.ofXY a b else none) = some P at h
    split at h
    · rename_i hab
      have hxy := L.xy_ofXY P a b hab.1 hab.2 h
      exact ⟨toKeys_finite_of P a b hxy, toKeys_x P a b hxy, toKeys_y P a b hxy⟩
    · cases h

/-- conversely the extra law is a consequence of the key laws of the bridged record (it is exactly the forward
    direction of their `mulG_inf`): the bridge theorem needs nothing more -/
theorem infUnique_of_keyLaws (K : Embit.Keys.EcLaws (toKeys E)) : InfUnique E := by
  intro a h
  apply (K.mulG_inf a).mp
  show (E.xy (E.mul a E.g)).isNone = true
  rw [h]; rfl

theorem mul_finite (hinf : InfUnique E) (d : Nat) (hd : 0 < d ∧ d < E.n) :
    ∃ x y, E.xy (E.mul d E.g) = some (x, y) := by
  cases h : E.xy (E.mul d E.g) with
  | none =>
    have := hinf d h
    rw [Nat.mod_eq_of_lt hd.2] at this
    omega
  | some xy => exact ⟨xy.1, xy.2, rfl⟩

end Embit.Model.SignWith
