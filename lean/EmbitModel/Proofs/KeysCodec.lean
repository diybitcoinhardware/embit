import EmbitModel.Proofs.HdInit
import EmbitModel.Proofs.SecSpec
/-
  WIF round trip; for the extended keys the layout of the 78 bytes, the key field read back, and the key with the
  default network (`normNet`). The extended-key round trip itself is in `Proofs/KeysSound.lean` (`xkey_exact`).
-/
namespace Embit.Keys
open Embit

variable {E : EcOps}

/-- every network's WIF prefix is one byte, and the network loop of `from_wif` finds a network with that prefix -/
def wifTableOk : Bool :=
  (List.range Generated.keyNets.length).all fun i =>
    match netWif i with
    | none => false
    | some pre =>
      pre.length == 1 &&
        (match wifNetwork pre with
         | some j => netWif j == some pre
         | none => false)

theorem wifTable_ok : wifTableOk = true := by decide

theorem wif_table (net : Nat) (pre : Bytes) (h : netWif net = some pre) :
    pre.length = 1 ∧ ∃ j, wifNetwork pre = some j ∧ netWif j = some pre := by
  have hlt : net < Generated.keyNets.length := by
    unfold netWif at h
    cases hg : Generated.keyNets[net]? with
    | none => simp [hg] at h
    | some x => exact (List.getElem?_eq_some_iff.mp hg).1
  have := wifTable_ok
  unfold wifTableOk at this
  rw [List.all_eq_true] at this
  have := this net (List.mem_range.mpr hlt)
  rw [h] at this
  simp only [Bool.and_eq_true, beq_iff_eq] at this
  refine ⟨this.1, ?_⟩
  cases hw : wifNetwork pre with
  | none => simp [hw] at this
  | some j =>
    simp only [hw, beq_iff_eq] at this
    exact ⟨j, rfl, this.2⟩

theorem wif_eq_spec (env : Env) (k : PrivateKey) (pre : Bytes) (h : netWif k.network = some pre) :
    k.wif env = some (Spec.KeyEnc.wif env.b58enc pre k.secret k.compressed) := by
  simp [PrivateKey.wif, h, Spec.KeyEnc.wif, Spec.KeyEnc.wifPayload]

/-- decoding a WIF payload `prefix ‖ secret ‖ [01]` -/
theorem fromWif_payload (L : EcLaws E) (env : Env) (t : Text) (pre : Bytes) (d : Nat) (c : Bool) (j : Nat)
    (hdec : env.b58dec t = some (Spec.KeyEnc.wifPayload pre d c)) (hpre : pre.length = 1)
    (hj : wifNetwork pre = some j) (hv : seckeyValid E d = true) :
    PrivateKey.fromWif E env t = some ⟨d, c, j⟩ := by
  have hd := valid_lt E L hv
  obtain ⟨p0, rfl⟩ : ∃ p0, pre = [p0] := by
    cases pre with
    | nil => simp at hpre
    | cons a r => cases r with
      | nil => exact ⟨a, rfl⟩
      | cons _ _ => simp at hpre
  unfold PrivateKey.fromWif
  rw [hdec]
  cases c
  · simp [Spec.KeyEnc.wifPayload, hj, List.take_of_length_le, PrivateKey.init, ofBe_beN32 _ hd, hv]
  · have hlast : (p0 :: (beN 32 d ++ [1])).getLast? = some 1 := by
      rw [← List.cons_append, List.getLast?_append]; simp
    simp [Spec.KeyEnc.wifPayload, hj, PrivateKey.init, ofBe_beN32 _ hd, hv, hlast]

theorem layout (a f c cc key rest : Bytes) (d : UInt8) (la : a.length = 4) (lf : f.length = 4) (lc : c.length = 4)
    (lcc : cc.length = 32) (lk : key.length = 33) :
    let s := a ++ (d :: (f ++ (c ++ (cc ++ (key ++ rest)))))
    let s2 := f ++ (c ++ (cc ++ (key ++ rest)))
    s.take 4 = a ∧ s.drop 4 = d :: s2 ∧ s2.take 4 = f ∧ (s2.drop 4).take 4 = c ∧ (s2.drop 8).take 32 = cc
      ∧ (s2.drop 40).take 33 = key ∧ (s2.drop 40).drop 33 = rest := by
  intro s s2
  have h1 : f.drop 40 = [] := List.drop_eq_nil_of_le (by omega)
  have h2 : c.drop 36 = [] := List.drop_eq_nil_of_le (by omega)
  have h3 : f.drop 73 = [] := List.drop_eq_nil_of_le (by omega)
  have h4 : c.drop 69 = [] := List.drop_eq_nil_of_le (by omega)
  refine ⟨?_, ?_, ?_, ?_, ?_, ?_, ?_⟩ <;>
    simp [s, s2, List.take_append, List.drop_append, la, lf, lc, lcc, lk, h1, h2]

def KeyObj.Valid (E : EcOps) : KeyObj E → Prop
  | .priv k => seckeyValid E k.secret = true ∧ k.compressed = true
  | .pub k => E.isInf k.point = false ∧ k.compressed = true

/-- the private key as `HDKey.parse` rebuilds it: `PrivateKey(secret)` with the default network -/
def KeyObj.normNet : KeyObj E → KeyObj E
  | .priv k => .priv ⟨k.secret, k.compressed, Generated.privDefaultNet⟩
  | .pub k => .pub k

def HDKey.normNet (k : HDKey E) : HDKey E := { k with key := k.key.normNet }

def keyField (key : KeyObj E) : Bytes := (if key.isPrivate then [0x00] else []) ++ key.serialize

theorem keyField_length (key : KeyObj E) (h : key.Valid E) : (keyField key).length = 33 := by
  cases key with
  | priv k => simp [keyField, KeyObj.isPrivate, KeyObj.serialize, PrivateKey.serialize]
  | pub k =>
    simp only [KeyObj.Valid] at h
    simp [keyField, KeyObj.isPrivate, KeyObj.serialize, PublicKey.sec, pubkeySerialize_length, h.2]

theorem readKeyField_keyField (L : EcLaws E) (key : KeyObj E) (h : key.Valid E) :
    ∃ k0 kr, keyField key = k0 :: kr ∧ readKeyField E k0 kr = some key.normNet := by
  cases key with
  | priv k =>
    simp only [KeyObj.Valid] at h
    refine ⟨0x00, beN 32 k.secret, by simp [keyField, KeyObj.isPrivate, KeyObj.serialize, PrivateKey.serialize], ?_⟩
    have hd := valid_lt E L h.1
    simp [readKeyField, PrivateKey.parse, PrivateKey.init, List.take_of_length_le, ofBe_beN32 _ hd, h.1, KeyObj.normNet, h.2]
  | pub k =>
    simp only [KeyObj.Valid] at h
    have hp := parse_sec L k h.1
    obtain ⟨P, c⟩ := k
    simp only at h
    obtain ⟨hP, rfl⟩ := h
    cases hy : E.yOdd P
    · refine ⟨0x02, beN 32 (E.x P), by simp [keyField, KeyObj.isPrivate, KeyObj.serialize, PublicKey.sec, pubkeySerialize, hy], ?_⟩
      simp only [PublicKey.sec, pubkeySerialize, hy, if_true, Bool.false_eq_true, if_false] at hp
      have : ((2:UInt8) = 0) = False := by simp
      simp only [readKeyField, this, if_false, hp, Option.map_some, KeyObj.normNet]
    · refine ⟨0x03, beN 32 (E.x P), by simp [keyField, KeyObj.isPrivate, KeyObj.serialize, PublicKey.sec, pubkeySerialize, hy], ?_⟩
      simp only [PublicKey.sec, pubkeySerialize, hy, if_true] at hp
      have : ((3:UInt8) = 0) = False := by simp
      simp only [readKeyField, this, if_false, hp, Option.map_some, KeyObj.normNet]

theorem serialize_layout (k : HDKey E) (hd : k.depth < 256) (hcn : k.childNumber < 2 ^ 32) :
    k.serialize = some (k.version ++ (UInt8.ofNat k.depth :: (k.fingerprint ++ (beN 4 k.childNumber
      ++ (k.chainCode ++ (keyField k.key ++ [])))))) := by
  simp [HDKey.serialize, hd, hcn, keyField]

theorem normNet_serialize (key : KeyObj E) : key.normNet.serialize = key.serialize := by
  cases key <;> rfl

theorem normNet_isPrivate (key : KeyObj E) : key.normNet.isPrivate = key.isPrivate := by
  cases key <;> rfl

theorem normNet_privUncompressed (key : KeyObj E) : key.normNet.privUncompressed = key.privUncompressed := by
  cases key <;> rfl

theorem HDKey.normNet_serialize (k : HDKey E) : k.normNet.serialize = k.serialize := by
  simp [HDKey.serialize, HDKey.normNet, Keys.normNet_serialize, normNet_isPrivate]

end Embit.Keys
