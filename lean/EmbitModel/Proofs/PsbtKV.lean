import EmbitModel.Model.Psbt
import EmbitModel.Proofs.Tx
/-
  C04 helper lemmas, key-value layer and field codecs.
-/
namespace Embit
open Model

theorem serString_eq (s : Bytes) : serString s = scriptSer s := rfl

theorem readString_ser (s r : Bytes) (h : s.length < 2^64) : readString (serString s ++ r) = some (s, r) :=
  scriptRead_ser s r h

theorem readString_sound {b s r : Bytes} (h : readString b = some (s, r)) :
    b = serString s ++ r ∧ s.length < 2^64 := scriptRead_sound h

theorem serString_length_pos (s : Bytes) : 0 < (serString s).length := by
  have := Compact.enc_length_pos s.length
  simp [serString]; omega

def KVWF (kv : KV) : Prop := kv.1 ≠ [] ∧ kv.1.length < 2^64 ∧ kv.2.length < 2^64

theorem readKVsFuel_write (kvs : List KV) (r : Bytes) (fuel : Nat) (hf : kvs.length + 1 ≤ fuel)
    (h : ∀ kv ∈ kvs, KVWF kv) : readKVsFuel fuel (writeKVs kvs ++ r) = some (kvs, r) := by
  induction kvs generalizing fuel with
  | nil =>
    cases fuel with
    | zero => omega
    | succ f =>
      have : readString (0 :: r) = some ([], r) := by
        have := readString_ser [] r (by decide)
        simpa [serString, Compact.enc] using this
      simp [readKVsFuel, writeKVs, this]
  | cons kv kvs ih =>
    cases fuel with
    | zero => omega
    | succ f =>
      obtain ⟨hne, hk, hv⟩ := h kv (by simp)
      have ih' := ih f (by simp at hf; omega) (fun x hx => h x (by simp [hx]))
      have e : writeKVs (kv :: kvs) ++ r
          = serString kv.1 ++ (serString kv.2 ++ (writeKVs kvs ++ r)) := by
        simp [writeKVs, List.append_assoc]
      have hne' : kv.1.isEmpty = false := by
        cases hkv : kv.1 with
        | nil => exact absurd hkv hne
        | cons _ _ => rfl
      rw [e]
      simp [readKVsFuel, readString_ser _ _ hk, readString_ser _ _ hv, hne', ih']

theorem length_le_flatMap_length {α : Type} (f : α → Bytes) :
    ∀ (l : List α), (∀ x ∈ l, 1 ≤ (f x).length) → l.length ≤ (l.flatMap f).length := by
  intro l
  induction l with
  | nil => intro _; exact Nat.le_refl _
  | cons x xs ih =>
    intro h
    have := ih (fun y hy => h y (List.mem_cons_of_mem _ hy))
    have := h x List.mem_cons_self
    simp only [List.flatMap_cons, List.length_append, List.length_cons]; omega

theorem writeKVs_length (kvs : List KV) : kvs.length < (writeKVs kvs).length := by
  induction kvs with
  | nil => simp [writeKVs]
  | cons kv kvs ih =>
    have h1 := serString_length_pos kv.1
    have h2 := serString_length_pos kv.2
    simp [writeKVs] at ih ⊢
    omega

theorem readKVs_write (kvs : List KV) (r : Bytes) (h : ∀ kv ∈ kvs, KVWF kv) :
    readKVs (writeKVs kvs ++ r) = some (kvs, r) := by
  unfold readKVs
  apply readKVsFuel_write kvs r _ _ h
  have := writeKVs_length kvs
  simp; omega

theorem readKVsFuel_sound (fuel : Nat) : ∀ (b : Bytes) (kvs : List KV) (r : Bytes),
    readKVsFuel fuel b = some (kvs, r) → b = writeKVs kvs ++ r ∧ ∀ kv ∈ kvs, KVWF kv := by
  induction fuel with
  | zero => intro b kvs r h; simp [readKVsFuel] at h
  | succ f ih =>
    intro b kvs r h
    simp only [readKVsFuel] at h
    split at h
    · simp at h
    · rename_i k r1 hk
      obtain ⟨e1, l1⟩ := readString_sound hk
      split at h
      · rename_i hemp
        simp at h; obtain ⟨h1, h2⟩ := h; subst h1; subst h2
        have : k = [] := by simpa using hemp
        subst this
        simp [e1, writeKVs, serString, Compact.enc]
      · rename_i hemp
        split at h
        · simp at h
        · rename_i v r2 hv
          obtain ⟨e2, l2⟩ := readString_sound hv
          split at h
          · simp at h
          · rename_i kvs' r3 hrec
            simp at h; obtain ⟨h1, h2⟩ := h; subst h1; subst h2
            obtain ⟨e3, w3⟩ := ih _ _ _ hrec
            refine ⟨by simp [e1, e2, e3, writeKVs, List.append_assoc], ?_⟩
            intro kv hkv
            simp at hkv
            rcases hkv with rfl | hkv
            · refine ⟨?_, l1, l2⟩
              intro hnil; simp at hemp; exact hemp hnil
            · exact w3 kv hkv

theorem readKVs_sound {b : Bytes} {kvs : List KV} {r : Bytes} (h : readKVs b = some (kvs, r)) :
    b = writeKVs kvs ++ r ∧ ∀ kv ∈ kvs, KVWF kv := readKVsFuel_sound _ _ _ _ h

theorem ofLe_lt32 {v : Bytes} (h : v.length = 4) : ofLe v < 2^32 := by
  have := ofLe_lt v; rw [h] at this; omega

theorem ofLe_lt64 {v : Bytes} (h : v.length = 8) : ofLe v < 2^64 := by
  have := ofLe_lt v; rw [h] at this; omega

theorem chunks4_ser (fuel : Nat) (b : Bytes) (p : List Nat) (h : chunks4 fuel b = some p) :
    p.flatMap (leN 4) = b := by
  induction fuel generalizing b p with
  | zero => simp [chunks4] at h
  | succ f ih =>
    simp only [chunks4] at h
    split at h
    · rename_i he
      simp at h; subst h
      have : b = [] := by simpa using he
      simp [this]
    · split at h
      · simp at h
      · rename_i hl
        split at h
        · simp at h
        · rename_i rest hr
          simp at h; subst h
          have := ih _ _ hr
          have ht : (b.take 4).length = 4 := by simp; omega
          have := leN_ofLe (b.take 4)
          rw [ht] at this
          simp [List.flatMap_cons, *]

theorem Deriv.ser_parse {v : Bytes} {d : Deriv} (h : Deriv.parse v = some d) : Deriv.ser d = v := by
  unfold Deriv.parse at h
  split at h
  · simp at h
  · rename_i p hp
    simp at h; subst h
    simp [Deriv.ser, chunks4_ser _ _ _ hp]

theorem takeN32_flatten (n : Nat) (b : Bytes) (hs : List Bytes) (r : Bytes)
    (h : readMany (takeN 32) n b = some (hs, r)) : b = hs.flatten ++ r ∧ hs.length = n := by
  have := readMany_sound (takeN 32) id (fun _ => True)
    (fun b x r hx => ⟨(takeN_sound hx).1, trivial⟩) n b hs r h
  refine ⟨?_, this.2.1⟩
  have e : hs.flatMap id = hs.flatten := by simp [List.flatMap_def]
  rw [← e]; exact this.1

theorem tapDeriv_ser_parse {v : Bytes} {x : List Bytes × Deriv} (h : tapDerivParse v = some x) :
    tapDerivSer x = v := by
  unfold tapDerivParse at h
  split at h
  · simp at h
  · rename_i n r hn
    obtain ⟨e1, _⟩ := Compact.read_sound hn
    split at h
    · simp at h
    · rename_i hs r2 hh
      obtain ⟨e2, l2⟩ := takeN32_flatten _ _ _ _ hh
      split at h
      · simp at h
      · rename_i d hd
        simp at h; subst h
        simp [tapDerivSer, Deriv.ser_parse hd, e1, e2, l2, List.append_assoc]

theorem parseAll_TxOut_ser {v : Bytes} {o : TxOut} (h : parseAll TxOut.read v = some o) : TxOut.ser o = v :=
  TxOut.exact.parseAll_iff.reencode h

theorem parseAll_TxOut_wf {v : Bytes} {o : TxOut} (h : parseAll TxOut.read v = some o) : Spec.Wire.WFOut o :=
  TxOut.exact.parseAll_iff.valid h

theorem parseAll_witness_ser {v : Bytes} {w : List Bytes} (h : parseAll witnessRead v = some w) :
    witnessSer w = v :=
  witnessRead_exact.parseAll_iff.reencode h

theorem parseAll_witness_wf {v : Bytes} {w : List Bytes} (h : parseAll witnessRead v = some w) :
    w.length < 2^64 ∧ ∀ d ∈ w, d.length < 2^64 :=
  witnessRead_exact.parseAll_iff.valid h

theorem parseAll_compact {v : Bytes} {n : Nat} (h : parseAll Compact.read v = some n) : Compact.enc n = v :=
  Compact.exact.parseAll_iff.reencode h

theorem parseAll_compact_lt {v : Bytes} {n : Nat} (h : parseAll Compact.read v = some n) : n < 2^64 :=
  Compact.exact.parseAll_iff.valid h

theorem parseAll_compact_enc (n : Nat) (h : n < 2^64) : parseAll Compact.read (Compact.enc n) = some n :=
  Compact.exact.parseAll_ser n h

end Embit
