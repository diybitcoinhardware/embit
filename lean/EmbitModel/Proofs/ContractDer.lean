import EmbitModel.Proofs.Contract
/-
  libsecp256k1's lenient DER parser vs the strict parser of the pure-python fallback:
  what py accepts, libsecp parses to the same pair; what libsecp parses to a verifiable pair (r, s ≠ 0) is strict DER.
-/
namespace Embit
open Embit.Model Embit.Model.Der Embit.Model.PySecp Embit.Spec.Der
open Embit.Spec.Libsecp (readLen readInt parseDerRS)

variable (E : EcOps)

theorem readLen_short (b1 : UInt8) (rest : Bytes) (h : b1.toNat < 0x80) :
    readLen (b1 :: rest) = some (b1.toNat, rest) := by
  have : b1 ≠ 0xFF := by intro hc; subst hc; simp at h
  simp only [readLen, this, h, if_true, if_false]

theorem readLen_sound (b : Bytes) (l : Nat) (rest' : Bytes) (h : readLen b = some (l, rest')) (hl : l < 0x80) :
    ∃ b1, b = b1 :: rest' ∧ b1.toNat = l := by
  cases b with
  | nil => cases h
  | cons b1 rest =>
    by_cases hs : b1.toNat < 0x80
    · rw [readLen_short b1 rest hs] at h
      simp only [Option.some.injEq, Prod.mk.injEq] at h
      exact ⟨b1, by rw [h.2], h.1⟩
    · -- the long form only yields lengths ≥ 0x80
      simp only [readLen, hs, if_false, Option.ite_none_left_eq_some, Option.some.injEq, Prod.mk.injEq] at h
      omega

open Embit.Spec.Libsecp (excessivePadding significant isNegative contentValue)

theorem significant_cons (c0 : UInt8) (ctl : Bytes) :
    significant (c0 :: ctl) = if c0 = 0x00 then ctl else c0 :: ctl := rfl

theorem ofBe_significant (c : Bytes) : ofBe (significant c) = ofBe c := by
  cases c with
  | nil => rfl
  | cons c0 ctl =>
    rw [significant_cons]
    split
    · rename_i h; subst h; rw [ofBe_cons]; simp
    · rfl

theorem strict_content (hn : E.n ≤ 2 ^ 256) (x : Bytes) (v : Nat) (hx : IsDerInt x v) (hxl : x.length ≤ 33)
    (hv : v < E.n) : excessivePadding x = false ∧ contentValue E x = v := by
  obtain ⟨hval, hne, hpos, hmin⟩ := hx
  cases x with
  | nil => exact absurd rfl hne
  | cons c0 ctl =>
    have hc0 := hpos c0 (by simp)
    have hFF : ¬ c0 = 0xFF := by intro hc; subst hc; simp at hc0
    constructor
    · cases ctl with
      | nil => rfl
      | cons c1 ctl' =>
        unfold excessivePadding
        by_cases hz : c0 = 0
        · have := hmin c0 c1 (by simp) (by simp) hz
          have h1 : ¬ c1.toNat < 0x80 := by omega
          simp [hz, h1]
        · simp [hz, hFF]
    · unfold contentValue
      rw [ofBe_significant, hval]
      have hneg : isNegative (c0 :: ctl) = false := by simp [isNegative]; omega
      have hlen : ¬ (significant (c0 :: ctl)).length > 32 := by
        rw [significant_cons]
        split
        · simp at hxl; omega
        · rename_i hz
          intro hgt
          have hl33 : ctl.length = 32 := by simp at hxl hgt; omega
          rw [ofBe_cons] at hval
          have hc1 : 1 ≤ c0.toNat := by
            rcases Nat.eq_zero_or_pos c0.toNat with h | h
            · exfalso; apply hz; exact UInt8.toNat_inj.mp (by simpa using h)
            · exact h
          have : 1 * 256 ^ ctl.length ≤ c0.toNat * 256 ^ ctl.length := Nat.mul_le_mul_right _ hc1
          rw [hl33, pow256] at this
          rw [hl33, pow256] at hval
          omega
      have : ¬ (isNegative (c0 :: ctl) = true ∨ (significant (c0 :: ctl)).length > 32 ∨ v ≥ E.n) := by
        rw [hneg]; simp only [Bool.false_eq_true, false_or]; omega
      rw [if_neg this]

theorem content_strict (c : Bytes) (v : Nat) (hpad : excessivePadding c = false) (hv : contentValue E c = v)
    (hv0 : v ≠ 0) : IsDerInt c v ∧ c.length ≤ 33 ∧ v < E.n := by
  unfold contentValue at hv
  split at hv
  · exact absurd hv.symm hv0
  · rename_i hgood
    have hneg : isNegative c = false := by
      cases h : isNegative c with
      | false => rfl
      | true => exact absurd (Or.inl h) hgood
    have hlen : (significant c).length ≤ 32 := by
      by_contra hh; apply hgood; right; left; omega
    have hlt : v < E.n := by
      by_contra hh; apply hgood; right; right; rw [hv]; omega
    rw [ofBe_significant] at hv
    cases c with
    | nil => simp [ofBe, ofLe] at hv; exact absurd hv.symm hv0
    | cons c0 ctl =>
      have hc0 : c0.toNat < 0x80 := by simp [isNegative] at hneg; omega
      refine ⟨⟨hv, by simp, ?_, ?_⟩, ?_, hlt⟩
      · intro a ha; simp at ha; subst ha; exact hc0
      · intro a b ha hb ha0
        simp at ha; subst ha
        cases ctl with
        | nil => simp at hb
        | cons c1 ctl' =>
          simp at hb; subst hb
          unfold excessivePadding at hpad
          by_contra hlow
          have : c1.toNat < 0x80 := by omega
          simp [ha0, this] at hpad
      · rw [significant_cons] at hlen
        split at hlen
        · simp; omega
        · simp at hlen ⊢; omega

theorem readInt_strict (hn : E.n ≤ 2 ^ 256) (x tail : Bytes) (v : Nat) (hx : IsDerInt x v) (hxl : x.length ≤ 33)
    (hv : v < E.n) : readInt E (0x02 :: UInt8.ofNat x.length :: (x ++ tail)) = some (v, tail) := by
  have hL : (UInt8.ofNat x.length).toNat = x.length := by rw [UInt8.toNat_ofNat']; omega
  have hne : x.length ≠ 0 := by
    have := hx.nonempty; cases x with | nil => exact absurd rfl this | cons _ _ => simp
  obtain ⟨hp, hc⟩ := strict_content E hn x v hx hxl hv
  unfold readInt
  simp only []
  rw [readLen_short _ _ (by rw [hL]; omega)]
  simp only [hL]
  have h1 : ¬ (x.length = 0 ∨ x.length > (x ++ tail).length) := by
    simp only [List.length_append]; omega
  rw [if_neg h1, List.take_left' rfl, List.drop_left' rfl, hp, hc]
  simp

theorem readInt_some (b : Bytes) (v : Nat) (rest' : Bytes) (h : readInt E b = some (v, rest')) :
    ∃ rest l body, b = 0x02 :: rest ∧ readLen rest = some (l, body) ∧ l ≠ 0 ∧ l ≤ body.length ∧
      excessivePadding (body.take l) = false ∧ contentValue E (body.take l) = v ∧ body.drop l = rest' := by
  unfold readInt at h
  split at h
  · rename_i rest
    cases hl : readLen rest with
    | none => rw [hl] at h; cases h
    | some lb =>
      obtain ⟨l, body⟩ := lb
      simp only [hl, Option.ite_none_left_eq_some, Option.some.injEq, Prod.mk.injEq, Bool.not_eq_true] at h
      exact ⟨rest, l, body, rfl, hl, by omega, by omega, h.2.1, h.2.2.1, h.2.2.2⟩
  · cases h

theorem readInt_sound (b : Bytes) (v : Nat) (rest' : Bytes) (h : readInt E b = some (v, rest')) (hv : v ≠ 0) :
    ∃ x, IsDerInt x v ∧ x.length ≤ 33 ∧ v < E.n ∧ b = 0x02 :: UInt8.ofNat x.length :: (x ++ rest') := by
  obtain ⟨rest, l, body, rfl, hlen, _, hl, hpad, hval, hrest⟩ := readInt_some E b v rest' h
  obtain ⟨hder, hl33, hlt⟩ := content_strict E (body.take l) v hpad hval hv
  have hclen : (body.take l).length = l := by simp; omega
  obtain ⟨b1, hb1, hb1n⟩ := readLen_sound rest l body hlen (by omega)
  refine ⟨body.take l, hder, hl33, hlt, ?_⟩
  subst hb1n
  rw [hb1, hclen, UInt8.ofNat_toNat, ← hrest, List.take_append_drop]

theorem contentValue_le (c : Bytes) : contentValue E c < E.n ∨ contentValue E c = 0 := by
  unfold contentValue
  split
  · right; rfl
  · rename_i h; left; omega

theorem readInt_le (b : Bytes) (v : Nat) (rest : Bytes) (h : readInt E b = some (v, rest)) : v < E.n ∨ v = 0 := by
  obtain ⟨_, _, _, _, _, _, _, _, rfl, _⟩ := readInt_some E b v rest h
  exact contentValue_le E _

theorem contract_parses_strict (hn : E.n ≤ 2 ^ 256) (r s : Nat) (hr : r < E.n) (hs : s < E.n) :
    parseDerRS E (serRS r s) = some (r, s) := by
  have hxl := derInt_length_le_33 r (by omega)
  have hyl := derInt_length_le_33 s (by omega)
  unfold serRS parseDerRS
  have hL : (UInt8.ofNat (4 + (derInt r).length + (derInt s).length)).toNat
      = 4 + (derInt r).length + (derInt s).length := by rw [UInt8.toNat_ofNat']; omega
  simp only []
  rw [readLen_short _ _ (by rw [hL]; omega)]
  simp only [hL]
  have hlen : ¬ 4 + (derInt r).length + (derInt s).length ≠
      (0x02 :: UInt8.ofNat (derInt r).length :: (derInt r ++ 0x02 :: UInt8.ofNat (derInt s).length :: derInt s)).length := by
    simp; omega
  simp only [hlen, if_false]
  rw [readInt_strict E hn (derInt r) _ r (derInt_isDer r) hxl hr]
  simp only []
  have := readInt_strict E hn (derInt s) [] s (derInt_isDer s) hyl hs
  rw [List.append_nil] at this
  rw [this]
  simp

theorem parseDerRS_some (der : Bytes) (r s : Nat) (h : parseDerRS E der = some (r, s)) :
    ∃ rest body b1, der = 0x30 :: rest ∧ readLen rest = some (body.length, body) ∧
      readInt E body = some (r, b1) ∧ readInt E b1 = some (s, []) := by
  unfold parseDerRS at h
  split at h
  · rename_i rest
    cases hL : readLen rest with
    | none => rw [hL] at h; cases h
    | some Lb =>
      obtain ⟨L, body⟩ := Lb
      simp only [hL, Option.ite_none_left_eq_some, Decidable.not_not] at h
      obtain ⟨rfl, h⟩ := h
      cases hr : readInt E body with
      | none => rw [hr] at h; cases h
      | some rb =>
        obtain ⟨r', b1⟩ := rb
        simp only [hr] at h
        cases hs : readInt E b1 with
        | none => rw [hs] at h; cases h
        | some sb =>
          obtain ⟨s', b2⟩ := sb
          simp only [hs, Option.ite_some_none_eq_some, Prod.mk.injEq, List.isEmpty_iff] at h
          obtain ⟨rfl, rfl, rfl⟩ := h
          exact ⟨rest, body, b1, rfl, hL, hr, hs⟩
  · cases h

theorem strict_of_contract (der : Bytes) (r s : Nat) (h : parseDerRS E der = some (r, s)) (hr : r ≠ 0) (hs : s ≠ 0) :
    parseRS der = some (r, s) ∧ r < E.n ∧ s < E.n := by
  obtain ⟨rest, body, b1, rfl, hL, hri, hsi⟩ := parseDerRS_some E der r s h
  obtain ⟨x, hx, hxl, hrn, hbody⟩ := readInt_sound E body r b1 hri hr
  obtain ⟨y, hy, hyl, hsn, hb1⟩ := readInt_sound E b1 s [] hsi hs
  rw [List.append_nil] at hb1
  have hLval : body.length = 4 + x.length + y.length := by rw [hbody, hb1]; simp; omega
  obtain ⟨bL, hrest, hbLn⟩ := readLen_sound rest _ body hL (by omega)
  refine ⟨?_, hrn, hsn⟩
  rw [hrest, ← UInt8.ofNat_toNat (x := bL), hbLn, hLval, hbody, hb1]
  exact parseRS_complete x y r s hx hy hxl hyl

theorem parseDerRS_le (der : Bytes) (r s : Nat) (h : parseDerRS E der = some (r, s)) :
    (r < E.n ∨ r = 0) ∧ (s < E.n ∨ s = 0) := by
  obtain ⟨_, _, _, _, _, hri, hsi⟩ := parseDerRS_some E der r s h
  exact ⟨readInt_le E _ _ _ hri, readInt_le E _ _ _ hsi⟩

end Embit
