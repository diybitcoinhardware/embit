import EmbitModel.Proofs.PsbtScope
/-
  C04: lifting the one-step lemmas to whole scopes and to `PSBT.parse` (KEEP_ALL mode).
-/
set_option linter.unusedSimpArgs false
set_option linter.unusedVariables false
namespace Embit
open Model

def InSeeded (s : InScope) : Prop := s.txid.isSome ∧ s.vout.isSome ∧ s.sequence.isSome
def OutSeeded (s : OutScope) : Prop := s.value.isSome ∧ s.spk.isSome

theorem InSeeded.addPair {ko : KeyOps} {sha : Bytes → Bytes} {c : Nat} {s s1 : InScope} {k v : Bytes} (hs : InSeeded s)
    (h : InScope.addPair ko sha c s k v = some s1) : InSeeded s1 := by
  obtain ⟨_, e1, e2, e3⟩ := InScope.addPair_seeded ko sha c s s1 k v hs h
  exact ⟨e1 ▸ hs.1, e2 ▸ hs.2.1, e3 ▸ hs.2.2⟩

theorem OutSeeded.addPair {ko : KeyOps} {s s1 : OutScope} {k v : Bytes} (hs : OutSeeded s)
    (h : OutScope.addPair ko s k v = some s1) : OutSeeded s1 := by
  obtain ⟨_, e1, e2⟩ := OutScope.addPair_seeded ko s s1 k v hs h
  exact ⟨e1 ▸ hs.1, e2 ▸ hs.2⟩

def InScope.view (ko : KeyOps) (sha : Bytes → Bytes) (ver : Option Nat) :
    SlotView InScope fun s kv => InScope.addPair ko sha 0 s kv.1 kv.2 where
  segs := InScope.segs ver
  route := InScope.route
  canon := id
  Ok s := ver = some 2 ∨ InSeeded s
  ok_step hok h := hok.imp_right (·.addPair h)
  pushed hk hok h := (InScope.addPair_step h).pushed hk
    (hok.imp_right fun hs => txFieldKey_eq_false.mp (InScope.addPair_seeded ko sha 0 _ _ _ _ hs h).1)

def OutScope.view (ko : KeyOps) (ver : Option Nat) : SlotView OutScope fun s kv => OutScope.addPair ko s kv.1 kv.2 where
  segs := OutScope.segs ver
  route := OutScope.route
  canon := id
  Ok s := ver = some 2 ∨ OutSeeded s
  ok_step hok h := hok.imp_right (·.addPair h)
  pushed hk hok h := (OutScope.addPair_step h).pushed hk
    (hok.imp_right fun hs => txFieldKeyOut_eq_false.mp (OutScope.addPair_seeded ko _ _ _ _ hs h).1)

/-- a whole input scope, for v2 or for a scope seeded from the global tx: what `write_to` emits is what was read
    together with what the seed would emit, in some order -/
theorem InScope.addPairs_perm {ko : KeyOps} {sha : Bytes → Bytes} {ver : Option Nat} {kvs : List KV} {s s' : InScope}
    (hv : ver = some 2 ∨ InSeeded s) (hne : ∀ kv ∈ kvs, kv.1 ≠ []) (h : InScope.addPairs ko sha 0 s kvs = some s') :
    (s'.pairs ver).Perm (kvs ++ s.pairs ver) := by
  rw [InScope.addPairs_eq_foldlM] at h
  simpa [InScope.pairs_eq_flatten, InScope.view] using (InScope.view ko sha ver).perm hne hv h

theorem OutScope.addPairs_perm {ko : KeyOps} {ver : Option Nat} {kvs : List KV} {s s' : OutScope}
    (hv : ver = some 2 ∨ OutSeeded s) (hne : ∀ kv ∈ kvs, kv.1 ≠ []) (h : OutScope.addPairs ko s kvs = some s') :
    (s'.pairs ver).Perm (kvs ++ s.pairs ver) := by
  rw [OutScope.addPairs_eq_foldlM] at h
  simpa [OutScope.pairs_eq_flatten, OutScope.view] using (OutScope.view ko ver).perm hne hv h

theorem InScope.addPairs_seeded {ko : KeyOps} {sha : Bytes → Bytes} {c : Nat} {kvs : List KV} {s s' : InScope}
    (hs : InSeeded s) (h : InScope.addPairs ko sha c s kvs = some s') :
    s'.txid = s.txid ∧ s'.vout = s.vout ∧ s'.sequence = s.sequence := by
  refine InScope.addPairs_induction (motive := fun s _ s' => InSeeded s →
    s'.txid = s.txid ∧ s'.vout = s.vout ∧ s'.sequence = s.sequence) (fun _ _ => ⟨rfl, rfl, rfl⟩)
    (fun {s k v s1 _ _} h1 _ ih hs => ?_) h hs
  obtain ⟨_, e1, e2, e3⟩ := InScope.addPair_seeded ko sha c s s1 k v hs h1
  obtain ⟨f1, f2, f3⟩ := ih (hs.addPair h1)
  exact ⟨f1.trans e1, f2.trans e2, f3.trans e3⟩

theorem OutScope.addPairs_seeded {ko : KeyOps} {kvs : List KV} {s s' : OutScope}
    (hs : OutSeeded s) (h : OutScope.addPairs ko s kvs = some s') : s'.value = s.value ∧ s'.spk = s.spk := by
  refine OutScope.addPairs_induction (motive := fun s _ s' => OutSeeded s → s'.value = s.value ∧ s'.spk = s.spk)
    (fun _ _ => ⟨rfl, rfl⟩) (fun {s k v s1 _ _} h1 _ ih hs => ?_) h hs
  obtain ⟨_, e1, e2⟩ := OutScope.addPair_seeded ko s s1 k v hs h1
  obtain ⟨f1, f2⟩ := ih (hs.addPair h1)
  exact ⟨f1.trans e1, f2.trans e2⟩

/-- a whole input scope: every pair read is written back, for v2 or for a scope seeded from the global tx -/
theorem InScope.addPairs_lossless (ko : KeyOps) (sha : Bytes → Bytes) (ver : Option Nat) :
    ∀ (kvs : List KV) (s s' : InScope), (ver = some 2 ∨ InSeeded s) → (∀ kv ∈ kvs, kv.1 ≠ []) →
      InScope.addPairs ko sha 0 s kvs = some s' →
      (∀ kv ∈ kvs, kv ∈ s'.pairs ver) ∧ (∀ kv ∈ s.pairs ver, kv ∈ s'.pairs ver)
      ∧ (InSeeded s → s'.txid = s.txid ∧ s'.vout = s.vout ∧ s'.sequence = s.sequence) := by
  intro kvs s s' hv hne h
  have hp := InScope.addPairs_perm (ver := ver) hv hne h
  exact ⟨fun _ hx => hp.mem_iff.mpr (List.mem_append_left _ hx), fun _ hx => hp.mem_iff.mpr (List.mem_append_right _ hx),
    fun hs => InScope.addPairs_seeded hs h⟩

theorem OutScope.addPairs_lossless (ko : KeyOps) (ver : Option Nat) :
    ∀ (kvs : List KV) (s s' : OutScope), (ver = some 2 ∨ OutSeeded s) → (∀ kv ∈ kvs, kv.1 ≠ []) →
      OutScope.addPairs ko s kvs = some s' →
      (∀ kv ∈ kvs, kv ∈ s'.pairs ver) ∧ (∀ kv ∈ s.pairs ver, kv ∈ s'.pairs ver)
      ∧ (OutSeeded s → s'.value = s.value ∧ s'.spk = s.spk) := by
  intro kvs s s' hv hne h
  have hp := OutScope.addPairs_perm (ver := ver) hv hne h
  exact ⟨fun _ hx => hp.mem_iff.mpr (List.mem_append_left _ hx), fun _ hx => hp.mem_iff.mpr (List.mem_append_right _ hx),
    fun hs => OutScope.addPairs_seeded hs h⟩

/-- a scope in which the same key occurs twice is refused (KEEP_ALL mode) -/
theorem InScope.addPairs_nodup (ko : KeyOps) (sha : Bytes → Bytes) (kvs : List KV) (s s' : InScope)
    (hne : ∀ kv ∈ kvs, kv.1 ≠ []) (h : InScope.addPairs ko sha 0 s kvs = some s') : (kvs.map Prod.fst).Nodup := by
  rw [InScope.addPairs_eq_foldlM] at h
  exact (InScope.view ko sha (some 2)).nodup hne (.inl rfl) h

theorem OutScope.addPairs_nodup (ko : KeyOps) (kvs : List KV) (s s' : OutScope)
    (hne : ∀ kv ∈ kvs, kv.1 ≠ []) (h : OutScope.addPairs ko s kvs = some s') : (kvs.map Prod.fst).Nodup := by
  rw [OutScope.addPairs_eq_foldlM] at h
  exact (OutScope.view ko (some 2)).nodup hne (.inl rfl) h

end Embit
