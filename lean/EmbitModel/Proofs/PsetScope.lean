import EmbitModel.Proofs.PsbtLossless
import EmbitModel.Proofs.LiquidTxRoundtrip
import EmbitModel.Model.Pset
/-
  C18 helper: one step of `LInputScope.read_value` / `LOutputScope.read_value` (KEEP_ALL) never loses a pair and
  accepts no key twice. The liquid fields are a table, so one generic lemma covers all 15 + 12 fields; everything else
  is delegated to the C04 lemmas about the bitcoin scopes.
-/
set_option linter.unusedSimpArgs false
set_option linter.unusedVariables false
namespace Embit
open Model

theorem lget_snoc {φ : Type} [DecidableEq φ] (l : List (φ × Bytes)) (g f : φ) (v : Bytes) :
    lget (l ++ [(g, v)]) f = (lget l f).or (if g = f then some v else none) := by
  induction l with
  | nil => simp [lget]
  | cons x xs ih =>
    obtain ⟨g', w⟩ := x
    by_cases e : g' = f <;> simp [lget, e, ih]

theorem lget_append_self {φ : Type} [DecidableEq φ] (l : List (φ × Bytes)) (f : φ) (v : Bytes)
    (h : lget l f = none) : lget (l ++ [(f, v)]) f = some v := by
  simp [lget_snoc, h]

theorem lget_append_of_some {φ : Type} [DecidableEq φ] (l : List (φ × Bytes)) (f g : φ) (v w : Bytes)
    (h : lget l g = some w) : lget (l ++ [(f, v)]) g = some w := by
  simp [lget_snoc, h]

theorem lget_append_ne {φ : Type} [DecidableEq φ] (l : List (φ × Bytes)) (f g : φ) (v : Bytes) (h : g ≠ f) :
    lget (l ++ [(g, v)]) f = lget l f := by
  simp [lget_snoc, h]

theorem lget_append_isSome {φ : Type} [DecidableEq φ] (l : List (φ × Bytes)) (f g : φ) (v : Bytes)
    (h : (lget l g).isSome = true) : (lget (l ++ [(f, v)]) g).isSome = true := by
  simp [lget_snoc, h]

theorem lget_mem {φ : Type} [DecidableEq φ] : ∀ (l : List (φ × Bytes)) (f : φ) (v : Bytes), lget l f = some v → (f, v) ∈ l := by
  intro l
  induction l with
  | nil => intro f v h; simp [lget] at h
  | cons x xs ih =>
    intro f v h
    obtain ⟨g, w⟩ := x
    simp only [lget] at h
    split at h
    · rename_i e; simp at h; subst h; subst e; simp
    · exact List.mem_cons_of_mem _ (ih f v h)

theorem LInField.ofKey_spec (k : Bytes) (f : LInField) (h : LInField.ofKey k = some f) :
    f ∈ LInField.order ∧ f.key = k :=
  ⟨List.mem_of_find?_eq_some h, by simpa using List.find?_some h⟩

theorem LOutField.ofKey_spec (k : Bytes) (f : LOutField) (h : LOutField.ofKey k = some f) :
    f ∈ LOutField.order ∧ (f.key true = k ∨ f.key false = k) :=
  ⟨List.mem_of_find?_eq_some h, by simpa using List.find?_some h⟩

theorem LInField.key_liquid (f : LInField) : isLiquidKey f.key = true := by cases f <;> decide
theorem LInField.ofKey_key (f : LInField) : LInField.ofKey f.key = some f := by cases f <;> decide
theorem LInField.order_nodup : LInField.order.Nodup := by decide
theorem LInField.mem_order (f : LInField) : f ∈ LInField.order := by cases f <;> decide

theorem LOutField.key_liquid (f : LOutField) (b : Bool) : isLiquidKey (f.key b) = true := by
  cases f <;> cases b <;> decide
theorem LOutField.ofKey_key (f : LOutField) (b : Bool) : LOutField.ofKey (f.key b) = some f := by
  cases f <;> cases b <;> decide
theorem LOutField.order_nodup : LOutField.order.Nodup := by decide
theorem LOutField.mem_order (f : LOutField) : f ∈ LOutField.order := by cases f <;> decide

theorem isLiquidKey_not_txField (k : Bytes) (h : isLiquidKey k = true) : txFieldKey k = false := by
  cases hk : txFieldKey k with
  | false => rfl
  | true =>
    exfalso
    simp only [txFieldKey, Bool.or_eq_true, beq_iff_eq] at hk
    rcases hk with (rfl | rfl) | rfl <;> revert h <;> decide

theorem isLiquidKey_not_txFieldOut (k : Bytes) (h : isLiquidKey k = true) : txFieldKeyOut k = false := by
  cases hk : txFieldKeyOut k with
  | false => rfl
  | true =>
    exfalso
    simp only [txFieldKeyOut, Bool.or_eq_true, beq_iff_eq] at hk
    rcases hk with rfl | rfl <;> revert h <;> decide

/-- keys that the Liquid input scope hands to the bitcoin `read_value` -/
def baseKey (k : Bytes) : Bool :=
  !isLiquidKey k && (match k with | [] => false | k0 :: _ => k0 != 0x00 && k0 != 0x01)

/-- `Step ko s v k s'`: `LInputScope.read_value` (KEEP_ALL) on scope `s` accepts key `k` with value `v` and yields `s'` -/
inductive LInScope.Step (ko : KeyOps) (s : LInScope) (v : Bytes) : Bytes → LInScope → Prop
  | sep : Step ko s v [] s
  | nonWitnessUtxo {t} : s.nonWitnessUtxo = none → LTx.parse v = some t →
      Step ko s v [0x00] { s with nonWitnessUtxo := some t }
  | witnessUtxo {o} : s.witnessUtxo = none → LTxOut.parse v = some o →
      Step ko s v [0x01] { s with witnessUtxo := some o }
  | base {k b} : baseKey k = true → InScope.addPair ko (fun _ => []) 0 s.base k v = some b →
      Step ko s v k { s with base := b }
  | field (f : LInField) : lget s.lf f = none → lenOK f.len v = true → f.pfxOK v = true →
      Step ko s v f.key { s with lf := s.lf ++ [(f, v)] }
  | unknown {k} : isLiquidKey k = true → LInField.ofKey k = none → lookup k s.base.unknown = none →
      Step ko s v k { s with base := { s.base with unknown := s.base.unknown ++ [(k, v)] } }

/-- the same for `LOutputScope.read_value`; a field is accepted under either spelling of its key -/
inductive LOutScope.Step (ko : KeyOps) (s : LOutScope) (v : Bytes) : Bytes → LOutScope → Prop
  | base {k b} : isLiquidKey k = false → (k = [0x03] → s.valueConf = none) → OutScope.addPair ko s.base k v = some b →
      Step ko s v k { s with base := b }
  | field (f : LOutField) (spelling : Bool) : lget s.lf f = none → lenOK f.len v = true →
      Step ko s v (f.key spelling) { s with lf := s.lf ++ [(f, v)] }
  | unknown {k} : isLiquidKey k = true → LOutField.ofKey k = none → lookup k s.base.unknown = none →
      Step ko s v k { s with base := { s.base with unknown := s.base.unknown ++ [(k, v)] } }

theorem LInScope.addPair_step {ko : KeyOps} {s s' : LInScope} {k v : Bytes}
    (h : LInScope.addPair ko s k v = some s') : LInScope.Step ko s v k s' := by
  unfold LInScope.addPair at h
  split at h
  · rename_i hl
    split at h
    · cases h; exact .sep
    rename_i k0 kr
    split at h
    · rename_i h0; subst h0
      -- each guard `if g then none else x` in front of the accepted branch becomes a conjunct `¬g`
      simp only [Option.ite_none_left_eq_some, Bool.not_eq_eq_eq_not, Bool.not_true, Bool.not_eq_false,
        List.isEmpty_iff, Bool.not_eq_true, Option.isSome_eq_false_iff, Option.isNone_iff_eq_none] at h
      obtain ⟨rfl, hn, h⟩ := h
      split at h
      · cases h
      · rename_i t ht; cases h; exact .nonWitnessUtxo hn ht
    split at h
    · rename_i h0 h1; subst h1
      simp only [Option.ite_none_left_eq_some, Bool.not_eq_eq_eq_not, Bool.not_true, Bool.not_eq_false,
        List.isEmpty_iff, Bool.not_eq_true, Option.isSome_eq_false_iff, Option.isNone_iff_eq_none] at h
      obtain ⟨rfl, hn, h⟩ := h
      split at h
      · cases h
      · rename_i o ho; cases h; exact .witnessUtxo hn ho
    · rename_i h0 h1
      split at h
      · cases h
      · rename_i b hb; cases h
        exact .base (by simp [baseKey, h0, h1]; simpa using hl) hb
  · rename_i hl
    split at h
    · rename_i f hf
      simp only [Option.ite_none_left_eq_some, Option.some.injEq, Bool.not_eq_eq_eq_not, Bool.not_true,
        Bool.not_eq_false, Bool.not_eq_true, Option.isSome_eq_false_iff, Option.isNone_iff_eq_none,
        Bool.and_eq_true] at h
      obtain ⟨hn, ⟨hlen, hp⟩, rfl⟩ := h
      obtain rfl := (LInField.ofKey_spec k f hf).2
      exact .field f hn hlen hp
    · rename_i hf
      simp only [Option.ite_none_left_eq_some, Option.some.injEq, Bool.not_eq_true, Option.isSome_eq_false_iff,
        Option.isNone_iff_eq_none] at h
      obtain ⟨hn, rfl⟩ := h
      exact .unknown (by simpa using hl) hf hn

theorem LInScope.Step.addPair {ko : KeyOps} {s s' : LInScope} {k v : Bytes}
    (h : LInScope.Step ko s v k s') : LInScope.addPair ko s k v = some s' := by
  cases h with
  | sep => rfl
  | nonWitnessUtxo hn ht => simp [LInScope.addPair, show isLiquidKey [0x00] = false by decide, hn, ht]
  | witnessUtxo hn ho => simp [LInScope.addPair, show isLiquidKey [0x01] = false by decide, hn, ho]
  | base hk hb =>
    cases k with
    | nil => simp [baseKey] at hk
    | cons k0 kr =>
      simp only [baseKey, Bool.and_eq_true, Bool.not_eq_true', bne_iff_ne, ne_eq] at hk
      simp [LInScope.addPair, hk.1, hk.2.1, hk.2.2, hb]
  | field f hn hlen hp => simp [LInScope.addPair, LInField.key_liquid, LInField.ofKey_key, hn, hlen, hp]
  | unknown hl hf hn => simp [LInScope.addPair, hl, hf, hn]

theorem LOutScope.addPair_step {ko : KeyOps} {s s' : LOutScope} {k v : Bytes}
    (h : LOutScope.addPair ko s k v = some s') : LOutScope.Step ko s v k s' := by
  unfold LOutScope.addPair at h
  split at h
  · rename_i hl
    simp only [Option.ite_none_left_eq_some, Bool.and_eq_true] at h
    obtain ⟨hc, h⟩ := h
    split at h
    · cases h
    · rename_i b hb; cases h
      exact .base (by simpa using hl) (fun e => by simpa [e] using hc) hb
  · rename_i hl
    split at h
    · rename_i f hf
      simp only [Option.ite_none_left_eq_some, Option.some.injEq, Bool.not_eq_eq_eq_not, Bool.not_true,
        Bool.not_eq_false, Bool.not_eq_true, Option.isSome_eq_false_iff, Option.isNone_iff_eq_none] at h
      obtain ⟨hn, hlen, rfl⟩ := h
      rcases (LOutField.ofKey_spec k f hf).2 with rfl | rfl
      · exact .field f true hn hlen
      · exact .field f false hn hlen
    · rename_i hf
      simp only [Option.ite_none_left_eq_some, Option.some.injEq, Bool.not_eq_true, Option.isSome_eq_false_iff,
        Option.isNone_iff_eq_none] at h
      obtain ⟨hn, rfl⟩ := h
      exact .unknown (by simpa using hl) hf hn

theorem LOutScope.Step.addPair {ko : KeyOps} {s s' : LOutScope} {k v : Bytes}
    (h : LOutScope.Step ko s v k s') : LOutScope.addPair ko s k v = some s' := by
  cases h with
  | base hl hc hb =>
    by_cases e : k = [0x03]
    · simp [LOutScope.addPair, hl, hc e, hb]
    · simp [LOutScope.addPair, hl, e, hb]
  | field f sp hn hlen => simp [LOutScope.addPair, LOutField.key_liquid, LOutField.ofKey_key, hn, hlen]
  | unknown hl hf hn => simp [LOutScope.addPair, hl, hf, hn]

theorem LInScope.addPairs_eq_foldlM (ko : KeyOps) (kvs : List KV) (s : LInScope) :
    LInScope.addPairs ko s kvs = kvs.foldlM (fun s kv => LInScope.addPair ko s kv.1 kv.2) s := by
  induction kvs generalizing s with
  | nil => rfl
  | cons kv kvs ih =>
    rw [List.foldlM_cons, LInScope.addPairs]
    cases LInScope.addPair ko s kv.1 kv.2 with
    | none => rfl
    | some s1 => exact ih s1

theorem LOutScope.addPairs_eq_foldlM (ko : KeyOps) (kvs : List KV) (s : LOutScope) :
    LOutScope.addPairs ko s kvs = kvs.foldlM (fun s kv => LOutScope.addPair ko s kv.1 kv.2) s := by
  induction kvs generalizing s with
  | nil => rfl
  | cons kv kvs ih =>
    rw [List.foldlM_cons, LOutScope.addPairs]
    cases LOutScope.addPair ko s kv.1 kv.2 with
    | none => rfl
    | some s1 => exact ih s1

theorem foldlM_map {σ τ α : Type} {f : σ → α → Option σ} {f' : τ → α → Option τ} (g : σ → τ) {Q : α → Prop}
    (step : ∀ s a, Q a → f' (g s) a = (f s a).map g) :
    ∀ (l : List α) (s : σ), (∀ a ∈ l, Q a) → l.foldlM f' (g s) = (l.foldlM f s).map g := by
  intro l
  induction l with
  | nil => intro s _; rfl
  | cons a l ih =>
    intro s hq
    rw [List.foldlM_cons, List.foldlM_cons, step s a (hq a List.mem_cons_self)]
    cases f s a with
    | none => rfl
    | some s1 => exact ih s1 (fun x hx => hq x (List.mem_cons_of_mem _ hx))

theorem LInScope.addPairs_invariant {ko : KeyOps} {P : LInScope → Prop} {Q : KV → Prop}
    (step : ∀ {s k v s1}, Q (k, v) → P s → LInScope.addPair ko s k v = some s1 → P s1)
    {kvs : List KV} {s s' : LInScope} (hq : ∀ kv ∈ kvs, Q kv) (hp : P s)
    (h : LInScope.addPairs ko s kvs = some s') : P s' :=
  foldlM_some_invariant (fun hq hp h1 => step hq hp h1) hq hp ((LInScope.addPairs_eq_foldlM ..).symm.trans h)

theorem LOutScope.addPairs_invariant {ko : KeyOps} {P : LOutScope → Prop} {Q : KV → Prop}
    (step : ∀ {s k v s1}, Q (k, v) → P s → LOutScope.addPair ko s k v = some s1 → P s1)
    {kvs : List KV} {s s' : LOutScope} (hq : ∀ kv ∈ kvs, Q kv) (hp : P s)
    (h : LOutScope.addPairs ko s kvs = some s') : P s' :=
  foldlM_some_invariant (fun hq hp h1 => step hq hp h1) hq hp ((LOutScope.addPairs_eq_foldlM ..).symm.trans h)

theorem LTx.parse_sound {v : Bytes} {t : LTx} (h : LTx.parse v = some t) : LTx.ser t = v ∧ Spec.LWire.WF t := by
  unfold LTx.parse parseAll at h
  split at h
  · rename_i x hx
    simp at h; subst h
    obtain ⟨e, w⟩ := LTx.read_sound hx
    exact ⟨by simp [e], w⟩
  · simp at h

theorem LTxOut.parse_sound {v : Bytes} {o : LTxOut} (h : LTxOut.parse v = some o) :
    LTxOut.ser o = v ∧ Spec.LWire.WFOut o ∧ o.witness = {} := by
  unfold LTxOut.parse parseAll at h
  split at h
  · rename_i x hx
    simp at h; subst h
    obtain ⟨e, w, hw⟩ := LTxOut.read_sound hx
    exact ⟨by simp [e], w, hw⟩
  · simp at h

theorem filterMap_congr' {α β : Type} (f g : α → Option β) : ∀ (l : List α), (∀ x ∈ l, f x = g x) →
    l.filterMap f = l.filterMap g := by
  intro l
  induction l with
  | nil => intro _; rfl
  | cons a r ih =>
    intro h
    simp only [List.filterMap_cons, h a (by simp), ih (fun x hx => h x (by simp [hx]))]

/-- what `LInputScope.write_to` emits, field by field: the two utxo fields, the bitcoin scope, the liquid table -/
def Model.LInScope.segs (ver : Option Nat) (s : LInScope) : List (List KV) :=
  [optKV [0x00] (s.nonWitnessUtxo.map LTx.ser), optKV [0x01] (s.witnessUtxo.map LTxOut.ser)]
  ++ (s.base.segs ver ++ LInField.order.map fun f => optKV f.key (lget s.lf f))

theorem LInScope.pairs_eq_flatten (ver : Option Nat) (s : LInScope) : s.pairs ver = (s.segs ver).flatten := by
  simp [LInScope.pairs, LInScope.segs, LInScope.lpairs, InScope.pairs_eq_flatten, flatten_optKV_table, List.append_assoc]

def Model.LInScope.route (k : Bytes) : Nat :=
  if isLiquidKey k then
    match LInField.ofKey k with
    | some f => 2 + (18 + LInField.order.idxOf f)
    | none => 19
  else if k = [0x00] then 0 else if k = [0x01] then 1 else 2 + InScope.route k

theorem LInScope.Step.pushed {ko : KeyOps} {s s' : LInScope} {k v : Bytes} {ver : Option Nat}
    (h : LInScope.Step ko s v k s') (hk : k ≠ []) (hv : ver = some 2 ∨ txFieldKey k = false) :
    Pushed (LInScope.route k) (k, v) (s.segs ver) (s'.segs ver) := by
  cases h with
  | sep => exact absurd rfl hk
  | nonWitnessUtxo hn ht => exact .optMap hn (LTx.parse_sound ht).1 rfl rfl
  | witnessUtxo hn ho => exact .optMap hn (LTxOut.parse_sound ho).1 rfl rfl
  | @base k b hb hs =>
    have hr : LInScope.route k = 2 + InScope.route k := by
      cases k with
      | nil => exact absurd rfl hk
      | cons k0 kr =>
        simp only [baseKey, Bool.and_eq_true, Bool.not_eq_true', bne_iff_ne, ne_eq] at hb
        simp [LInScope.route, hb.1, hb.2.1, hb.2.2]
    rw [hr]
    exact (((InScope.addPair_step hs).pushed hk (hv.imp_right txFieldKey_eq_false.mp)).append_right _).append_left _
  | field f hn =>
    have hr : LInScope.route f.key = 2 + (18 + LInField.order.idxOf f) := by
      simp [LInScope.route, LInField.key_liquid, LInField.ofKey_key]
    rw [hr]
    exact ((Pushed.table (key := LInField.key) hn (lget_append_self s.lf f v hn)
      (fun g hg => lget_append_ne s.lf g f v (Ne.symm hg)) LInField.order_nodup (LInField.mem_order f)).append_left
        (s.base.segs ver)).append_left _
  | @unknown k hl hf hn =>
    have hr : LInScope.route k = 19 := by simp [LInScope.route, hl, hf]
    rw [hr]
    exact ((Pushed.snoc (i := 17) hn rfl rfl).append_right _).append_left _

/-- on a seeded scope a key that would overwrite a transaction field is refused, and the fields the scope was created
    with (outpoint, sequence, peg-in flag, issuance of the global transaction's input) stay; the liquid table only grows by
    the field the key denotes -/
theorem LInScope.addPair_seeded (ko : KeyOps) (s s' : LInScope) (k v : Bytes) (hs : InSeeded s.base)
    (h : LInScope.addPair ko s k v = some s') : txFieldKey k = false ∧ InSeeded s'.base
    ∧ (s'.base.txid = s.base.txid ∧ s'.base.vout = s.base.vout ∧ s'.base.sequence = s.base.sequence)
    ∧ (s'.lf = s.lf ∨ ∃ f, f.key = k ∧ s'.lf = s.lf ++ [(f, v)]) := by
  cases LInScope.addPair_step h with
  | sep | nonWitnessUtxo | witnessUtxo => exact ⟨by decide, hs, ⟨rfl, rfl, rfl⟩, .inl rfl⟩
  | base _ hb =>
    obtain ⟨e0, e1, e2, e3⟩ := InScope.addPair_seeded ko _ 0 s.base _ _ v hs hb
    exact ⟨e0, by rw [InSeeded, e1, e2, e3]; exact hs, ⟨e1, e2, e3⟩, .inl rfl⟩
  | field f => exact ⟨isLiquidKey_not_txField _ (LInField.key_liquid f), hs, ⟨rfl, rfl, rfl⟩, .inr ⟨f, rfl, rfl⟩⟩
  | unknown hl => exact ⟨isLiquidKey_not_txField _ hl, hs, ⟨rfl, rfl, rfl⟩, .inl rfl⟩

/-- the parts of the global transaction kept beside the scope's fields (fix `d53`) are not touched by reading pairs -/
theorem LInScope.addPair_txparts (ko : KeyOps) (s s' : LInScope) (k v : Bytes)
    (h : LInScope.addPair ko s k v = some s') : s'.isPegin = s.isPegin ∧ s'.txIssuance = s.txIssuance := by
  cases LInScope.addPair_step h <;> exact ⟨rfl, rfl⟩

theorem LOutScope.addPair_txparts (ko : KeyOps) (s s' : LOutScope) (k v : Bytes)
    (h : LOutScope.addPair ko s k v = some s') : s'.txNonce = s.txNonce := by
  cases LOutScope.addPair_step h <;> rfl

def LInScope.view (ko : KeyOps) (ver : Option Nat) : SlotView LInScope fun s kv => LInScope.addPair ko s kv.1 kv.2 where
  segs := LInScope.segs ver
  route := LInScope.route
  canon := id
  Ok s := ver = some 2 ∨ InSeeded s.base
  ok_step hok h := hok.imp_right fun hs => (LInScope.addPair_seeded ko _ _ _ _ hs h).2.1
  pushed hk hok h := (LInScope.addPair_step h).pushed hk
    (hok.imp_right fun hs => (LInScope.addPair_seeded ko _ _ _ _ hs h).1)

theorem LInScope.addPairs_perm (ko : KeyOps) (ver : Option Nat) (kvs : List KV) (s s' : LInScope)
    (hv : ver = some 2 ∨ InSeeded s.base) (hne : ∀ kv ∈ kvs, kv.1 ≠ []) (h : LInScope.addPairs ko s kvs = some s') :
    (s'.pairs ver).Perm (kvs ++ s.pairs ver) := by
  rw [LInScope.addPairs_eq_foldlM] at h
  simpa [LInScope.pairs_eq_flatten, LInScope.view] using (LInScope.view ko ver).perm hne hv h

/-- no key is accepted twice in a PSET input scope -/
theorem LInScope.addPairs_nodup (ko : KeyOps) (kvs : List KV) (s s' : LInScope)
    (hne : ∀ kv ∈ kvs, kv.1 ≠ []) (h : LInScope.addPairs ko s kvs = some s') : (kvs.map Prod.fst).Nodup := by
  rw [LInScope.addPairs_eq_foldlM] at h
  exact (LInScope.view ko (some 2)).nodup hne (.inl rfl) h

theorem LInScope.addPairs_lossless (ko : KeyOps) (ver : Option Nat) :
    ∀ (kvs : List KV) (s s' : LInScope), (ver = some 2 ∨ InSeeded s.base) → (∀ kv ∈ kvs, kv.1 ≠ []) →
      LInScope.addPairs ko s kvs = some s' →
      (∀ kv ∈ kvs, kv ∈ s'.pairs ver) ∧ (∀ kv ∈ s.pairs ver, kv ∈ s'.pairs ver) := by
  intro kvs s s' hv hne h
  have hp := LInScope.addPairs_perm ko ver kvs s s' hv hne h
  exact ⟨fun kv hkv => hp.mem_iff.mpr (List.mem_append_left _ hkv),
    fun kv hkv => hp.mem_iff.mpr (List.mem_append_right _ hkv)⟩

theorem LInScope.duplicate_field_rejected (ko : KeyOps) (s : LInScope) (k v : Bytes) (f : LInField)
    (hl : isLiquidKey k = true) (hf : LInField.ofKey k = some f) (hset : (lget s.lf f).isSome = true) :
    LInScope.addPair ko s k v = none := by
  simp [LInScope.addPair, hl, hf, hset]

theorem LInScope.wrong_length_rejected (ko : KeyOps) (s : LInScope) (k v : Bytes) (f : LInField) (n : Nat)
    (hl : isLiquidKey k = true) (hf : LInField.ofKey k = some f) (hlen : f.len = some n) (hv : v.length ≠ n) :
    LInScope.addPair ko s k v = none := by
  simp [LInScope.addPair, hl, hf, hlen, lenOK, hv]

/-- the pairs `LOutputScope.write_to` emits when it does not raise -/
def Model.LOutScope.pairsL (s : LOutScope) (ver : Option Nat) : List KV := s.base.pairs ver ++ s.lpairs ver

theorem LOutScope.pairs_eq (s : LOutScope) (ver : Option Nat) :
    s.pairs ver = if ver = some 2 && s.valueConf.isSome then none else some (s.pairsL ver) := rfl

/-- the key the field denoted by `k` is written under: both spellings of an output field (`elements` / `pset`)
    are read, the one belonging to the PSET version is written -/
def Model.LOutField.canonKey (ver : Option Nat) (k : Bytes) : Bytes :=
  if isLiquidKey k then
    match LOutField.ofKey k with
    | some f => f.key (ver == some 2)
    | none => k
  else k

theorem LOutField.canonKey_key (ver : Option Nat) (f : LOutField) (sp : Bool) :
    LOutField.canonKey ver (f.key sp) = f.key (ver == some 2) := by
  simp [LOutField.canonKey, LOutField.key_liquid, LOutField.ofKey_key]

theorem LOutField.canonKey_canonKey (v w : Option Nat) (k : Bytes) :
    LOutField.canonKey v (LOutField.canonKey w k) = LOutField.canonKey v k := by
  by_cases hl : isLiquidKey k = true
  · cases hf : LOutField.ofKey k with
    | some f => simp [LOutField.canonKey, hl, hf, LOutField.key_liquid, LOutField.ofKey_key]
    | none => simp [LOutField.canonKey, hl, hf]
  · simp [LOutField.canonKey, hl]

/-- what `LOutputScope.write_to` emits, field by field: the bitcoin scope, then the liquid table under the spelling of
    the version (a version-0 scope does not write its asset: it is in the global transaction) -/
def Model.LOutScope.segs (ver : Option Nat) (s : LOutScope) : List (List KV) :=
  s.base.segs ver ++ LOutField.order.map fun f =>
    optKV (f.key (ver == some 2)) (if f = .asset && !(ver == some 2) then none else lget s.lf f)

theorem LOutScope.pairsL_eq_flatten (ver : Option Nat) (s : LOutScope) : s.pairsL ver = (s.segs ver).flatten := by
  simp only [LOutScope.pairsL, LOutScope.segs, LOutScope.lpairs, OutScope.pairs_eq_flatten, flatten_optKV_table,
    List.flatten_append]
  congr 2
  funext f
  split <;> rfl

def Model.LOutScope.route (k : Bytes) : Nat :=
  if isLiquidKey k then
    match LOutField.ofKey k with
    | some f => 8 + LOutField.order.idxOf f
    | none => 7
  else OutScope.route k

theorem LOutScope.Step.pushed {ko : KeyOps} {s s' : LOutScope} {k v : Bytes} {ver : Option Nat}
    (h : LOutScope.Step ko s v k s') (hk : k ≠ [])
    (hv : ver = some 2 ∨ (txFieldKeyOut k = false ∧ LOutField.ofKey k ≠ some .asset)) :
    Pushed (LOutScope.route (LOutField.canonKey ver k)) (LOutField.canonKey ver k, v) (s.segs ver) (s'.segs ver) := by
  cases h with
  | base hl _ hb =>
    have hr : LOutScope.route k = OutScope.route k := by simp [LOutScope.route, hl]
    rw [LOutField.canonKey, hl, if_neg Bool.false_ne_true, hr]
    exact ((OutScope.addPair_step hb).pushed hk (hv.imp_right fun h => txFieldKeyOut_eq_false.mp h.1)).append_right _
  | field f sp hn =>
    have hw : (decide (f = LOutField.asset) && !(ver == some 2)) = false := by
      rcases hv with rfl | ⟨_, h⟩
      · simp
      · have : f ≠ LOutField.asset := by simpa [LOutField.ofKey_key] using h
        simp [this]
    have hr : LOutScope.route (f.key (ver == some 2)) = 8 + LOutField.order.idxOf f := by
      simp [LOutScope.route, LOutField.key_liquid, LOutField.ofKey_key]
    rw [LOutField.canonKey_key, hr]
    exact (Pushed.table (key := fun f => LOutField.key (ver == some 2) f) (f := f) (by simp [hn])
      (by simp [hw, lget_append_self s.lf f v hn]) (fun g hg => by simp only [lget_append_ne s.lf g f v (Ne.symm hg)])
      LOutField.order_nodup (LOutField.mem_order f)).append_left (s.base.segs ver)
  | @unknown k hl hf hn =>
    have hr : LOutScope.route k = 7 := by simp [LOutScope.route, hl, hf]
    rw [LOutField.canonKey, hl, if_pos rfl, hf, hr]
    exact (Pushed.snoc (i := 7) hn rfl rfl).append_right _

/-- a version-0 output scope as seeded from an explicit output of the global transaction -/
def LOutSeeded (s : LOutScope) : Prop := OutSeeded s.base ∧ (lget s.lf .asset).isSome = true

/-- a version-0 output scope as seeded from ANY output of the global transaction: script, asset, and the value either as
    an integer or as the raw commitment -/
def LOutSeededG (s : LOutScope) : Prop :=
  s.base.spk.isSome = true ∧ (s.base.value.isSome = true ∨ s.valueConf.isSome = true)
  ∧ (lget s.lf LOutField.asset).isSome = true

theorem LOutScope.addPair_seededG (ko : KeyOps) (s s' : LOutScope) (k v : Bytes) (hs : LOutSeededG s)
    (h : LOutScope.addPair ko s k v = some s') :
    (txFieldKeyOut k = false ∧ LOutField.ofKey k ≠ some .asset) ∧ LOutSeededG s'
    ∧ s'.base.value = s.base.value ∧ s'.base.spk = s.base.spk ∧ s'.valueConf = s.valueConf
    ∧ (s'.lf = s.lf ∨ ∃ f, f ≠ LOutField.asset ∧ s'.lf = s.lf ++ [(f, v)]) := by
  obtain ⟨hspk, hval, hasset⟩ := hs
  cases LOutScope.addPair_step h with
  | @base _ b hl hc hb =>
    obtain ⟨t1, t2, t3, t4⟩ := OutScope.addPair_txfields ko s.base b k v hb
    have hk4 : k ≠ [0x04] := by
      intro e
      rw [t4 e] at hspk; simp at hspk
    have hk3 : k ≠ [0x03] := by
      intro e
      rcases hval with hv | hv
      · rw [(t3 e).1] at hv; simp at hv
      · rw [hc e] at hv; simp at hv
    simp only [hk3, hk4, if_false] at t1 t2
    have hna : LOutField.ofKey k ≠ some .asset := by
      intro hof
      rcases (LOutField.ofKey_spec k _ hof).2 with rfl | rfl <;> simp [LOutField.key_liquid] at hl
    exact ⟨⟨by simp [txFieldKeyOut, hk3, hk4], hna⟩, ⟨by rw [t2]; exact hspk, by simpa [t1] using hval, hasset⟩,
      t1, t2, rfl, .inl rfl⟩
  | field f sp hn hlen =>
    have hfa : f ≠ LOutField.asset := by rintro rfl; simp [hn] at hasset
    exact ⟨⟨isLiquidKey_not_txFieldOut _ (LOutField.key_liquid f sp), by simpa [LOutField.ofKey_key] using hfa⟩,
      ⟨hspk, hval, lget_append_isSome _ _ _ _ hasset⟩, rfl, rfl, rfl, .inr ⟨f, hfa, rfl⟩⟩
  | unknown hl hf hn =>
    exact ⟨⟨isLiquidKey_not_txFieldOut k hl, by simp [hf]⟩, ⟨hspk, hval, hasset⟩, rfl, rfl, rfl, .inl rfl⟩

def LOutScope.view (ko : KeyOps) (ver : Option Nat) : SlotView LOutScope fun s kv => LOutScope.addPair ko s kv.1 kv.2 where
  segs := LOutScope.segs ver
  route := LOutScope.route
  canon := LOutField.canonKey ver
  Ok s := ver = some 2 ∨ LOutSeededG s
  ok_step hok h := hok.imp_right fun hs => (LOutScope.addPair_seededG ko _ _ _ _ hs h).2.1
  pushed hk hok h := (LOutScope.addPair_step h).pushed hk
    (hok.imp_right fun hs => (LOutScope.addPair_seededG ko _ _ _ _ hs h).1)

theorem LOutScope.addPairs_perm (ko : KeyOps) (ver : Option Nat) (kvs : List KV) (s s' : LOutScope)
    (hv : ver = some 2 ∨ LOutSeededG s) (hne : ∀ kv ∈ kvs, kv.1 ≠ []) (h : LOutScope.addPairs ko s kvs = some s') :
    (s'.pairsL ver).Perm (kvs.map (fun kv => (LOutField.canonKey ver kv.1, kv.2)) ++ s.pairsL ver) := by
  rw [LOutScope.addPairs_eq_foldlM] at h
  rw [LOutScope.pairsL_eq_flatten, LOutScope.pairsL_eq_flatten]
  exact (LOutScope.view ko ver).perm hne hv h

/-- no field is accepted twice in a PSET output scope, under either spelling of its key -/
theorem LOutScope.addPairs_nodup (ko : KeyOps) (ver : Option Nat) (kvs : List KV) (s s' : LOutScope)
    (hne : ∀ kv ∈ kvs, kv.1 ≠ []) (h : LOutScope.addPairs ko s kvs = some s') :
    (kvs.map fun kv => LOutField.canonKey ver kv.1).Nodup := by
  rw [LOutScope.addPairs_eq_foldlM] at h
  -- the version-2 view writes every field; the spelling of another version tells as many keys apart
  have h2 := (LOutScope.view ko (some 2)).nodup hne (.inl rfl) h
  have e : (kvs.map fun kv => LOutField.canonKey (some 2) kv.1)
      = (kvs.map fun kv => LOutField.canonKey ver kv.1).map (LOutField.canonKey (some 2)) := by
    simp only [List.map_map, Function.comp_def, LOutField.canonKey_canonKey]
  exact List.Pairwise.of_map _ (fun _ _ hne e => hne (congrArg _ e)) (e ▸ h2)

/-- reading pairs leaves the raw value commitment alone, and on a seeded scope the fields it was seeded with -/
theorem LOutScope.addPairs_kept (ko : KeyOps) (kvs : List KV) (s s' : LOutScope)
    (h : LOutScope.addPairs ko s kvs = some s') :
    s'.valueConf = s.valueConf
    ∧ (LOutSeededG s → s'.base.value = s.base.value ∧ s'.base.spk = s.base.spk
         ∧ lget s'.lf LOutField.asset = lget s.lf LOutField.asset) := by
  suffices hP : s'.valueConf = s.valueConf ∧ (LOutSeededG s → LOutSeededG s' ∧ s'.base.value = s.base.value
      ∧ s'.base.spk = s.base.spk ∧ lget s'.lf LOutField.asset = lget s.lf LOutField.asset) from
    ⟨hP.1, fun hs => (hP.2 hs).2⟩
  refine LOutScope.addPairs_invariant (Q := fun _ => True)
    (P := fun t => t.valueConf = s.valueConf ∧ (LOutSeededG s → LOutSeededG t ∧ t.base.value = s.base.value
      ∧ t.base.spk = s.base.spk ∧ lget t.lf LOutField.asset = lget s.lf LOutField.asset))
    (fun {t k v t1} _ hp h1 => ⟨?_, fun hs => ?_⟩) (fun _ _ => trivial) ⟨rfl, fun hs => ⟨hs, rfl, rfl, rfl⟩⟩ h
  · rw [← hp.1]; cases LOutScope.addPair_step h1 <;> rfl
  · obtain ⟨ht, f1, f2, f3⟩ := hp.2 hs
    obtain ⟨_, ht1, e1, e2, _, hl⟩ := LOutScope.addPair_seededG ko t t1 k v ht h1
    refine ⟨ht1, e1.trans f1, e2.trans f2, ?_⟩
    rcases hl with hl | ⟨f, hfa, hl⟩
    · rw [hl, f3]
    · rw [hl, lget_append_ne _ _ _ _ hfa, f3]

theorem LOutScope.addPairs_losslessG (ko : KeyOps) (ver : Option Nat) :
    ∀ (kvs : List KV) (s s' : LOutScope), (ver = some 2 ∨ LOutSeededG s) → (∀ kv ∈ kvs, kv.1 ≠ []) →
      LOutScope.addPairs ko s kvs = some s' →
      (∀ kv ∈ kvs, (LOutField.canonKey ver kv.1, kv.2) ∈ s'.pairsL ver) ∧ (∀ kv ∈ s.pairsL ver, kv ∈ s'.pairsL ver)
      ∧ s'.valueConf = s.valueConf
      ∧ (LOutSeededG s → s'.base.value = s.base.value ∧ s'.base.spk = s.base.spk
           ∧ lget s'.lf LOutField.asset = lget s.lf LOutField.asset) := by
  intro kvs s s' hv hne h
  have hp := LOutScope.addPairs_perm ko ver kvs s s' hv hne h
  exact ⟨fun kv hkv => hp.mem_iff.mpr (List.mem_append_left _ (List.mem_map.mpr ⟨kv, hkv, rfl⟩)),
    fun kv hkv => hp.mem_iff.mpr (List.mem_append_right _ hkv), LOutScope.addPairs_kept ko kvs s s' h⟩

theorem LOutScope.addPairs_lossless (ko : KeyOps) (ver : Option Nat) :
    ∀ (kvs : List KV) (s s' : LOutScope), (ver = some 2 ∨ LOutSeeded s) → (∀ kv ∈ kvs, kv.1 ≠ []) →
      LOutScope.addPairs ko s kvs = some s' →
      (∀ kv ∈ kvs, (LOutField.canonKey ver kv.1, kv.2) ∈ s'.pairsL ver) ∧ (∀ kv ∈ s.pairsL ver, kv ∈ s'.pairsL ver)
      ∧ s'.valueConf = s.valueConf := by
  intro kvs s s' hv hne h
  obtain ⟨m1, m2, m3, _⟩ := LOutScope.addPairs_losslessG ko ver kvs s s'
    (hv.imp_right fun hs => ⟨hs.1.2, .inl hs.1.1, hs.2⟩) hne h
  exact ⟨m1, m2, m3⟩

/-- the second spelling of an already present output field is refused (no silent overwrite) -/
theorem LOutScope.duplicate_field_rejected (ko : KeyOps) (s : LOutScope) (k v : Bytes) (f : LOutField)
    (hl : isLiquidKey k = true) (hf : LOutField.ofKey k = some f) (hset : (lget s.lf f).isSome = true) :
    LOutScope.addPair ko s k v = none := by
  simp [LOutScope.addPair, hl, hf, hset]


end Embit
