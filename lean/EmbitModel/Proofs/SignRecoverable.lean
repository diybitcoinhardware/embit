import EmbitModel.Proofs.Recover
/-
  `ecdsa_sign_recoverable`: py signs, then searches the recovery id by trial recovery (`for i in range(4)`, an
  exception inside the loop propagates); libsecp256k1 computes the id from the nonce point. Relative to `EcLaws`
  the two agree away from an explicit region (see `recidSearchSafe`).
-/
namespace Embit
open Embit.Model Embit.Model.Der Embit.Model.PySecp

variable {E : EcOps}

theorem signAttempts_some (H : HashOps) (d z : Nat) (kv : Bytes × Bytes) :
    ∀ (is : List Nat) (k r s : Nat), Spec.Libsecp.signAttempts E H d z kv is = some (k, r, s) →
      1 ≤ k ∧ k < E.n ∧ Spec.Ecdsa.signWith E d z k = some (r, s) := by
  intro is
  induction is with
  | nil => intro k r s h; simp [Spec.Libsecp.signAttempts] at h
  | cons i rest ih =>
    intro k r s h
    simp only [Spec.Libsecp.signAttempts] at h
    split at h
    · rename_i hv
      split at h
      · rename_i r' s' hsw
        simp only [Option.some.injEq, Prod.mk.injEq] at h
        obtain ⟨rfl, rfl, rfl⟩ := h
        exact ⟨hv.1, hv.2, hsw⟩
      · exact ih k r s h
    · exact ih k r s h

/-- the recovery id of `secp256k1_ecdsa_sign_recoverable`: bit 1 = `x(R) ≥ n`, bit 0 = `y(R)` odd, bit 0 flipped
    when S was negated -/
def nonceRecid (E : EcOps) (xR yR s : Nat) : Nat :=
  let recid0 := (if xR ≥ E.n then 2 else 0) + yR % 2
  if !Spec.Ecdsa.isLowS E s then (if recid0 % 2 = 0 then recid0 + 1 else recid0 - 1) else recid0

/-- py's `(y & 1) | (2 if x >= n else 0)`, `^= 1` when `s > n // 2` is libsecp256k1's
    `(overflow << 1) | y_is_odd`, `^= 1` when S is negated (written with `+ 1` / `- 1` in the contract) -/
theorem recid_bits (n xR yR s : Nat) (hodd : n % 2 = 1) :
    (if s > n / 2 then ((yR % 2) ||| (if xR ≥ n then 2 else 0)) ^^^ 1 else (yR % 2) ||| (if xR ≥ n then 2 else 0))
      = (if (!decide (s ≤ (n - 1) / 2)) = true
          then (if ((if xR ≥ n then 2 else 0) + yR % 2) % 2 = 0 then ((if xR ≥ n then 2 else 0) + yR % 2) + 1
                else ((if xR ≥ n then 2 else 0) + yR % 2) - 1)
          else (if xR ≥ n then 2 else 0) + yR % 2) := by
  have hhalf : (n - 1) / 2 = n / 2 := by omega
  rw [hhalf]
  have hy : yR % 2 = 0 ∨ yR % 2 = 1 := by omega
  by_cases hx : xR ≥ n <;> by_cases hs : s > n / 2 <;> rcases hy with hy | hy
  all_goals
    have hs' : (s ≤ n / 2) = (¬ s > n / 2) := by simp
    simp only [hx, hs, hy, hs', if_true, if_false, not_true_eq_false, not_false_eq_true, decide_true, decide_false,
      Bool.not_true, Bool.not_false, Bool.false_eq_true]
    try decide

/-- Outside this region py's search is proved to return libsecp256k1's id. It excludes
    * `x(R) ≥ n` (the id is 2 or 3): py first tries `x = r`, which in general is not an abscissa of the curve —
      `ECPubKey.set` fails and the exception leaves the loop (probability ≈ 2^-128 per signature);
    * id 1 with `2z + r·d ≡ 0 (mod n)`: the wrong candidate tried first recovers the point at infinity, whose
      serialisation raises (probability ≈ 2^-256). -/
def recidSearchSafe (E : EcOps) (H : HashOps) (fuel : Nat) (msg secret : Bytes) : Bool :=
  match Spec.Libsecp.signCore E H fuel (ofBe secret) msg none with
  | none => true
  | some (k, r, s) =>
    match E.xy (E.mul k E.g) with
    | none => true
    | some (xR, yR) =>
      decide (xR < E.n) &&
        (nonceRecid E xR yR s != 1 || decide ((2 * ofBe msg + r * ofBe secret) % E.n ≠ 0))

/-- SEC 1 recovery from a candidate `R = cG` with `x(R) = r < n`: the point `eG` with `e = r⁻¹(s c − z)`, unless
    it is the point at infinity -/
theorem recoverPoint_of (L : EcLaws E) (r s z idx : Nat) (hs0 : s ≠ 0) (hidx : idx / 2 = 0)
    (K : E.Pt) (yK : Nat) (hK : E.xy K = some (r, yK)) (c : Nat)
    (hc : (if idx % 2 = yK % 2 then K else E.neg K) = E.mul c E.g) :
    ∃ e, e < E.n ∧ (e : ZMod E.n) = (E.invN r : ZMod E.n) * ((s : ZMod E.n) * c - z) ∧
      Spec.Libsecp.recoverPoint E r s z idx =
        (match E.xy (E.mul e E.g) with | none => none | some _ => some (E.mul e E.g)) := by
  obtain ⟨_, hrp, _, _⟩ := L.xy_range K r yK hK
  obtain ⟨e, he, hQ, hcast⟩ := recover_scalar L r s z c
  refine ⟨e, he, hcast, ?_⟩
  unfold Spec.Libsecp.recoverPoint
  have h1 : ¬ (r = 0 ∨ s = 0) := by omega
  have h2 : ¬ (idx / 2 = 1) := by omega
  rw [if_neg h1]
  simp only [h2, if_false]
  rw [if_neg (by omega)]
  have hb := lift_bit L K r yK hK idx
  cases hl : E.liftX r with
  | none => rw [hl] at hb; cases hb
  | some R0 =>
    rw [hl] at hb
    simp only [Option.bind_some, Option.some.injEq] at hb ⊢
    rw [hb, hc, hQ]
    cases E.xy (E.mul e E.g) <;> rfl

theorem sig_relation (L : EcLaws E) (k z r d s : Nat) (hk : 0 < k ∧ k < E.n)
    (hs : s = (E.invN k * (z + r * d)) % E.n) :
    (s : ZMod E.n) * k = z + r * d := by
  have h1 := inv_cast L k hk.1 hk.2
  rw [hs]
  simp only [ZMod.natCast_mod]
  push_cast
  linear_combination ((z : ZMod E.n) + r * d) * h1

theorem cast_eq_zero_iff {n : Nat} (a : Nat) : (a : ZMod n) = 0 ↔ a % n = 0 := by
  rw [← Nat.cast_zero, ZMod.natCast_eq_natCast_iff', Nat.zero_mod]

theorem pubkeyStruct_inj (L : EcLaws E) (hp : E.p ≤ 2 ^ 256) (a b : Nat) (ha : a < E.n) (hb : b < E.n) (q : Bytes)
    (h1 : Spec.Libsecp.pubkeyStruct E (E.mul a E.g) = some q)
    (h2 : Spec.Libsecp.pubkeyStruct E (E.mul b E.g) = some q) : a = b := by
  unfold Spec.Libsecp.pubkeyStruct at h1 h2
  cases hxa : E.xy (E.mul a E.g) with
  | none => simp [hxa] at h1
  | some pa =>
    cases hxb : E.xy (E.mul b E.g) with
    | none => simp [hxb] at h2
    | some pb =>
      obtain ⟨xa, ya⟩ := pa
      obtain ⟨xb, yb⟩ := pb
      simp only [hxa, hxb, Option.map_some, Option.some.injEq] at h1 h2
      obtain ⟨_, hxa', _, hya'⟩ := L.xy_range _ _ _ hxa
      obtain ⟨_, hxb', _, hyb'⟩ := L.xy_range _ _ _ hxb
      have heq : leN 32 xa ++ leN 32 ya = leN 32 xb ++ leN 32 yb := by rw [h1, h2]
      have e1 := congrArg (fun l => ofLe (l.take 32)) heq
      have e2 := congrArg (fun l => ofLe (l.drop 32)) heq
      simp only [take32_leN, drop32_leN] at e1 e2
      rw [ofLe_leN32 xa (by omega), ofLe_leN32 xb (by omega)] at e1
      rw [ofLe_leN32 ya (by omega), ofLe_leN32 yb (by omega)] at e2
      subst e1; subst e2
      have p1 := L.ofXY_xy _ _ _ hxa
      have p2 := L.ofXY_xy _ _ _ hxb
      rw [p1] at p2
      exact L.mul_inj a b ha hb (Option.some.inj p2)

theorem norm_pair_cast (k s : Nat) (hk : k ≤ E.n) (hs : s ≤ E.n) :
    ((Spec.Ecdsa.normalizeS E s : Nat) : ZMod E.n) * ((if Spec.Ecdsa.isLowS E s then k else E.n - k : Nat) : ZMod E.n)
      = (s : ZMod E.n) * k := by
  unfold Spec.Ecdsa.normalizeS
  cases Spec.Ecdsa.isLowS E s
  · simp only [Bool.false_eq_true, if_false]
    rw [cast_sub_self s hs, cast_sub_self k hk]; ring
  · simp only [if_true]

theorem norm_pair_cast_neg (k s : Nat) (hk : k ≤ E.n) (hs : s ≤ E.n) :
    ((Spec.Ecdsa.normalizeS E s : Nat) : ZMod E.n) * ((if Spec.Ecdsa.isLowS E s then E.n - k else k : Nat) : ZMod E.n)
      = -((s : ZMod E.n) * k) := by
  unfold Spec.Ecdsa.normalizeS
  cases Spec.Ecdsa.isLowS E s
  · simp only [Bool.false_eq_true, if_false]
    rw [cast_sub_self s hs]; ring
  · simp only [if_true]
    rw [cast_sub_self k hk]; ring

theorem nonceRecid_low (xR yR s : Nat) (hxn : xR < E.n) :
    nonceRecid E xR yR s / 2 = 0 ∧ (nonceRecid E xR yR s % 2 = yR % 2 ↔ Spec.Ecdsa.isLowS E s = true) := by
  unfold nonceRecid
  simp only [if_neg (by omega : ¬ xR ≥ E.n), Nat.zero_add]
  have : yR % 2 = 0 ∨ yR % 2 = 1 := by omega
  cases Spec.Ecdsa.isLowS E s <;> rcases this with h | h <;> simp [h]

theorem cand_scalar (L : EcLaws E) (k : Nat) (hk : k ≤ E.n) (c : Prop) [Decidable c] (b : Bool) (hcb : c ↔ b = true) :
    (if c then E.mul k E.g else E.neg (E.mul k E.g)) = E.mul (if b then k else E.n - k) E.g := by
  cases b
  · rw [if_neg (by simpa using hcb)]; exact L.neg_mul k hk
  · rw [if_pos (hcb.mpr rfl)]; rfl

theorem recover_right (L : EcLaws E) (k d z xR yR r s : Nat) (hk : 0 < k ∧ k < E.n)
    (hK : E.xy (E.mul k E.g) = some (xR, yR)) (hxn : xR < E.n) (hr : r = xR % E.n)
    (hs : s = (E.invN k * (z + r * d)) % E.n) (hr0 : r ≠ 0) (hs0 : s ≠ 0)
    (hfin : (E.xy (E.mul d E.g)).isSome = true) :
    Spec.Libsecp.recoverPoint E r (Spec.Ecdsa.normalizeS E s) z (nonceRecid E xR yR s) = some (E.mul d E.g) := by
  have hn := L.n_pos
  have hrx : r = xR := by rw [hr, Nat.mod_eq_of_lt hxn]
  have hsn : s < E.n := by rw [hs]; exact Nat.mod_lt _ hn
  obtain ⟨hrec2, hrecpar⟩ := nonceRecid_low (E := E) xR yR s hxn
  obtain ⟨e, _, hcast, hrp⟩ := recoverPoint_of L r (Spec.Ecdsa.normalizeS E s) z (nonceRecid E xR yR s)
    (normalizeS_range s hs0 hsn).1 hrec2 (E.mul k E.g) yR (hrx ▸ hK) _
    (cand_scalar L k (by omega) _ (Spec.Ecdsa.isLowS E s) hrecpar)
  rw [hrp]
  have hed : (e : ZMod E.n) = (d : ZMod E.n) := by
    rw [hcast, norm_pair_cast k s (by omega) (by omega), sig_relation L k z r d s hk hs]
    linear_combination (d : ZMod E.n) * inv_cast L r (by omega) (by omega)
  rw [mul_congr L e d hed]
  cases hxy : E.xy (E.mul d E.g) with
  | none => rw [hxy] at hfin; cases hfin
  | some _ => rfl

theorem recover_wrong (L : EcLaws E) (hodd : E.n % 2 = 1) (k d z xR yR r s : Nat) (hk : 0 < k ∧ k < E.n)
    (hK : E.xy (E.mul k E.g) = some (xR, yR)) (hxn : xR < E.n) (hr : r = xR % E.n)
    (hs : s = (E.invN k * (z + r * d)) % E.n) (hr0 : r ≠ 0) (hs0 : s ≠ 0)
    (ht : nonceRecid E xR yR s = 1) (hsafe : (2 * z + r * d) % E.n ≠ 0)
    (hfinite : ∀ a, 0 < a → a < E.n → (E.xy (E.mul a E.g)).isSome = true) :
    ∃ e, e < E.n ∧ e ≠ d ∧ (E.xy (E.mul e E.g)).isSome = true ∧
      Spec.Libsecp.recoverPoint E r (Spec.Ecdsa.normalizeS E s) z 0 = some (E.mul e E.g) := by
  have hn := L.n_pos
  have hn3 : 2 < E.n := by have := L.n_gt_one; omega
  have hrx : r = xR := by rw [hr, Nat.mod_eq_of_lt hxn]
  have hsn : s < E.n := by rw [hs]; exact Nat.mod_lt _ hn
  -- id 0 has the other parity bit: it selects `−kG` when S was not negated
  have hpar : (0 % 2 = yR % 2 ↔ (!Spec.Ecdsa.isLowS E s) = true) := by
    have := (nonceRecid_low (E := E) xR yR s hxn).2
    rw [ht] at this
    cases hl : Spec.Ecdsa.isLowS E s
    · have : ¬ 1 % 2 = yR % 2 := fun h => by simpa [hl] using this.mp h
      exact ⟨fun _ => rfl, fun _ => by omega⟩
    · have : 1 % 2 = yR % 2 := this.mpr hl
      exact ⟨fun h => by omega, fun h => by cases h⟩
  have hc := cand_scalar L k (by omega) _ (!Spec.Ecdsa.isLowS E s) hpar
  have hflip : (if (!Spec.Ecdsa.isLowS E s) = true then k else E.n - k)
      = (if Spec.Ecdsa.isLowS E s = true then E.n - k else k) := by cases Spec.Ecdsa.isLowS E s <;> rfl
  rw [hflip] at hc
  obtain ⟨e, he, hcast, hrp⟩ := recoverPoint_of L r (Spec.Ecdsa.normalizeS E s) z 0
    (normalizeS_range s hs0 hsn).1 (by decide) (E.mul k E.g) yR (hrx ▸ hK) _ hc
  have hri := inv_cast L r (by omega) (by omega)
  have hrel := sig_relation L k z r d s hk hs
  -- e = −r⁻¹(2z + r d)
  have he2 : (r : ZMod E.n) * e = -(2 * (z : ZMod E.n) + r * d) := by
    rw [hcast, norm_pair_cast_neg k s (by omega) (by omega), hrel]
    linear_combination (-(2 * (z : ZMod E.n) + r * d)) * hri
  have hsafe' : (2 * (z : ZMod E.n) + r * d) ≠ 0 := by
    intro h
    apply hsafe
    have : (((2 * z + r * d : Nat)) : ZMod E.n) = 0 := by push_cast; exact h
    exact (cast_eq_zero_iff _).mp this
  have he0 : e ≠ 0 := by
    intro h0
    rw [h0] at he2
    apply hsafe'
    have : -(2 * (z : ZMod E.n) + r * d) = 0 := by rw [← he2]; simp
    exact neg_eq_zero.mp this
  have hed : e ≠ d := by
    intro h
    rw [h] at he2
    -- 2 (z + r d) = 0, hence z + r d = 0, hence s = 0
    have h2 : (2 : ZMod E.n) * (E.invN 2 : ZMod E.n) = 1 := by simpa using inv_cast L 2 (by omega) hn3
    have hzero : (z : ZMod E.n) + r * d = 0 := by
      linear_combination (E.invN 2 : ZMod E.n) * he2 - ((z : ZMod E.n) + r * d) * h2
    have hs' : (s : ZMod E.n) = 0 := by
      rw [hzero] at hrel
      linear_combination (E.invN k : ZMod E.n) * hrel - (s : ZMod E.n) * inv_cast L k hk.1 hk.2
    have := (cast_eq_zero_iff s).mp hs'
    rw [Nat.mod_eq_of_lt hsn] at this
    exact hs0 this
  have hefin := hfinite e (by omega) he
  refine ⟨e, he, hed, hefin, ?_⟩
  rw [hrp]
  cases hxy : E.xy (E.mul e E.g) with
  | none => rw [hxy] at hefin; cases hefin
  | some _ => rfl

theorem contract_recover_struct (hn : E.n ≤ 2 ^ 256) (r s i : Nat) (hr : r < E.n) (hs : s < E.n) (hi : i ≤ 3)
    (msg : Bytes) (hm : msg.length = 32) :
    Spec.Libsecp.ecdsa_recover E (Spec.Libsecp.sigStruct r s ++ [UInt8.ofNat i]) msg
      = (Spec.Libsecp.recoverPoint E r s (ofBe msg) i).bind (Spec.Libsecp.pubkeyStruct E) := by
  unfold Spec.Libsecp.ecdsa_recover Spec.Libsecp.sigStruct
  have hlen : (leN 32 r ++ leN 32 s ++ [UInt8.ofNat i]).length = 65 := by simp
  have hget : (leN 32 r ++ leN 32 s ++ [UInt8.ofNat i]).getD 64 0 = UInt8.ofNat i := by
    have : (leN 32 r ++ leN 32 s).length = 64 := by simp
    rw [List.getD_eq_getElem?_getD, List.getElem?_append_right (by omega)]
    simp [this]
  have hi' : (UInt8.ofNat i).toNat = i := by
    simp [UInt8.toNat_ofNat']; omega
  have ht : (leN 32 r ++ leN 32 s ++ [UInt8.ofNat i]).take 32 = leN 32 r := by
    rw [List.append_assoc]; exact List.take_left' (by simp)
  have hd : ((leN 32 r ++ leN 32 s ++ [UInt8.ofNat i]).drop 32).take 32 = leN 32 s := by
    rw [List.append_assoc, List.drop_left' (by simp)]
    exact List.take_left' (by simp)
  simp only [hlen, hm, ne_eq, not_true_eq_false, or_self, if_false, hget, hi', ht, hd]
  rw [ofLe_leN32 r (by omega), ofLe_leN32 s (by omega)]
  rw [if_neg (by omega)]

variable (E) (H : HashOps)

/-- a finite-point hypothesis the abstract laws do not contain: the multiples `aG`, `0 < a < n`, are finite
    (for secp256k1: `G` has order exactly `n` and only the neutral element has no coordinates) -/
def FiniteMultiples : Prop := ∀ a, 0 < a → a < E.n → (E.xy (E.mul a E.g)).isSome = true

end Embit
