import EmbitModel.Proofs.SignWithFrame
/-
  Counting: the counter is the number of distinct slots of the trace; when no write stores a value its slot held before
  the call, these are exactly the slots whose content differs between the PSBT handed in and the PSBT returned
  (Mathlib-free).
-/
namespace Embit.Model.SignWith
open Embit Embit.Model

variable {HD : Type}

theorem PTr.distinct {p p' : Psbt} {n : Nat} {ws : List Write} (t : PTr [] p p' n ws) :
    ∃ L : List (Nat × Slot), L.Nodup ∧ L.length = n ∧ ∀ x, x ∈ L ↔ x ∈ ws.map Write.slot := by
  refine ⟨firsts [] (ws.map Write.slot), nodup_firsts _ _, ?_, ?_⟩
  · rw [t.cnt, newCount_eq_firsts]
  · intro x
    rw [mem_firsts]
    simp

theorem changed_slots {G : List (Nat × Slot)} (p p' : Psbt) (n : Nat) (ws : List Write) (t : PTr G p p' n ws)
    (hfresh : ∀ w ∈ ws, ∀ s, p.inputs[w.1]? = some s → slotValue s w.2.1 ≠ some w.2.2)
    (i : Nat) (s s' : InScope) (hs : p.inputs[i]? = some s) (hs' : p'.inputs[i]? = some s') (sl : Slot) :
    (i, sl) ∈ ws.map Write.slot ↔ slotValue s' sl ≠ slotValue s sl := by
  have hget := t.scope i s s' hs hs'
  constructor
  · intro hm
    obtain ⟨w, hw, heq⟩ := List.mem_map.mp hm
    obtain ⟨j, sl', v⟩ := w
    simp only [Write.slot, Prod.mk.injEq] at heq
    obtain ⟨rfl, rfl⟩ := heq
    have hw' : (sl', v) ∈ writesOf ws j := (mem_writesOf ws j _).mpr hw
    obtain ⟨v', hv', hfin⟩ := slotValue_applySlots_written s (writesOf ws j) sl' v hw'
    rw [hget, hfin]
    intro e
    exact hfresh (j, sl', v') ((mem_writesOf ws j _).mp hv') s hs e.symm
  · intro hne
    by_cases hm : ∃ v, (sl, v) ∈ writesOf ws i
    · obtain ⟨v, hv⟩ := hm
      exact List.mem_map.mpr ⟨(i, sl, v), (mem_writesOf ws i _).mp hv, rfl⟩
    · exfalso
      apply hne
      rw [hget]
      apply slotValue_applySlots_untouched
      intro w hw heq
      exact hm ⟨w.2, by rw [← heq]; exact hw⟩

end Embit.Model.SignWith
