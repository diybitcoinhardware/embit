import EmbitModel.Proofs.ContractCurve
/-
  BIP340: the model of key.py's `sign_schnorr` / `verify_schnorr` and of the bindings around them equals the BIP
  (`Spec.Bip340`) as wrapped by the contract — signing by unfolding, verification relative to `EcLaws`
  (`(n − e)·P = −(e·P)`, `lift_x(0)` fails).
-/
namespace Embit
open Embit.Model Embit.Model.PySecp

variable (E : EcOps) (H : HashOps)

theorem signSchnorr_eq_spec (key msg : Bytes) (aux : Option Bytes) (hk : key.length = 32) (hm : msg.length = 32)
    (ha : badExtra aux = false) :
    signSchnorr E H key msg aux = Spec.Bip340.sign E H (ofBe key) msg aux := by
  unfold signSchnorr Spec.Bip340.sign
  simp only [hk, hm, ha, ne_eq, not_true_eq_false, if_false, Bool.false_eq_true, Spec.Bip340.bytes32]
  by_cases hv : ofBe key = 0 ∨ ofBe key ≥ E.n
  · simp [hv]
  · simp only [hv, if_false]
    cases E.xy (E.mul (ofBe key) E.g) with
    | none => rfl
    | some xy =>
      obtain ⟨px, py⟩ := xy
      simp only [evenScalar]
      cases aux with
      | none => rfl
      | some a => rfl

theorem mul_sub_eq_neg (L : EcLaws E) (e : Nat) (he : e ≤ E.n) (P : E.Pt) :
    E.mul (E.n - e) P = E.neg (E.mul e P) := by
  obtain ⟨a, _, rfl⟩ := L.generated P
  have hnpos := L.n_pos
  rw [L.mul_mul, L.mul_mul, ← L.mul_mod (e * a), L.neg_mul _ (by have := Nat.mod_lt (e * a) hnpos; omega),
    ← L.mul_mod ((E.n - e) * a), ← L.mul_mod (E.n - e * a % E.n)]
  congr 1
  apply mod_eq_of_cast
  rw [cast_sub_self _ (by have := Nat.mod_lt (e * a) hnpos; omega), ZMod.natCast_mod]
  push_cast
  rw [Nat.cast_sub he]
  simp

theorem liftX_zero (L : EcLaws E) : E.liftX 0 = none := by
  cases h : E.liftX 0 with
  | none => rfl
  | some P =>
    obtain ⟨y, hxy, _⟩ := L.liftX_sound 0 P h
    have := (L.xy_range P 0 y hxy).1
    omega

theorem verifySchnorr_eq_spec (L : EcLaws E) (key sig msg : Bytes) (hk : key.length = 32) (hm : msg.length = 32)
    (hs : sig.length = 64) :
    verifySchnorr E H key sig msg = some (Spec.Bip340.verify E H key msg sig) := by
  have hnpos := L.n_pos
  unfold verifySchnorr Spec.Bip340.verify Spec.Bip340.liftX
  simp only [hk, hm, hs, ne_eq, not_true_eq_false, if_false, Spec.Bip340.bytes32]
  have hb1 : beN 32 (ofBe (sig.take 32)) = sig.take 32 := by
    have := beN_ofBe (sig.take 32); rwa [take32_len sig hs] at this
  have hb2 : beN 32 (ofBe key) = key := by
    have := beN_ofBe key; rwa [hk] at this
  by_cases hx0 : ofBe key = 0
  · simp [hx0, liftX_zero E L]
  by_cases hxp : ofBe key ≥ E.p
  · simp [hxp]
  have c1 : ¬ (ofBe key = 0 ∨ ofBe key ≥ E.p) := by omega
  rw [if_neg c1]
  simp only [hxp, if_false]
  cases E.liftX (ofBe key) with
  | none => rfl
  | some P =>
    by_cases hr : ofBe (sig.take 32) ≥ E.p
    · simp [hr]
    simp only [hr, if_false]
    by_cases hsn : ofBe (sig.drop 32) ≥ E.n
    · simp [hsn]
    simp only [hsn, if_false, hb1, hb2]
    set e := ofBe (H.tagged "BIP0340/challenge" (sig.take 32 ++ key ++ msg)) % E.n with he
    have helt : e < E.n := Nat.mod_lt _ hnpos
    rw [mul_sub_eq_neg E L e (by omega) P]
    cases E.xy (E.add (E.mul (ofBe (sig.drop 32)) E.g) (E.neg (E.mul e P))) with
    | none => rfl
    | some xy => rfl

theorem eq_schnorrsig_verify (L : EcLaws E) (hp : E.p ≤ 2 ^ 256) (sig msg pub : Bytes) :
    schnorrsigVerify E H sig msg pub = Spec.Libsecp.schnorrsig_verify E H sig msg pub := by
  unfold schnorrsigVerify Spec.Libsecp.schnorrsig_verify
  by_cases hs : sig.length = 64
  swap
  · simp [hs]
  by_cases hm : msg.length = 32
  swap
  · simp [hs, hm]
  by_cases hl : pub.length = 64
  swap
  · simp [hs, hm, hl, pubkeyOf_none E pub hl]
  simp only [hs, hm, hl, ne_eq, not_true_eq_false, if_false, or_self]
  rw [← pubLoad_eq E pub hl]
  cases hP : pubLoad E pub with
  | none => rw [serialize_none E pub hl hP]; rfl
  | some P =>
    obtain ⟨x, y, hxy, _, _⟩ := pubLoad_xy E L pub P hP
    rw [serialize_compressed E L pub hl P hP x y hxy]
    simp only [Option.bind_some, hxy]
    have ht : (beN 32 x).take 32 = beN 32 x := List.take_of_length_le (by simp)
    by_cases hy : y % 2 = 1
    · simp [hy]
    · have hy0 : y % 2 = 0 := by omega
      have e : UInt8.ofNat (2 + y % 2) = 0x02 := by rw [hy0]; rfl
      simp only [e, not_true_eq_false, if_false, hy, ht]
      exact verifySchnorr_eq_spec E H L (beN 32 x) sig msg (by simp) hm hs

theorem pubStore_len (P : E.Pt) (b : Bytes) (h : pubStore E P = some b) : b.length = 64 := by
  unfold pubStore at h
  split at h
  · cases h
  · cases h; simp

/-- `sign_schnorr` is BIP340 default signing behind its three argument checks -/
theorem signSchnorr_eq (key msg : Bytes) (aux : Option Bytes) :
    signSchnorr E H key msg aux =
      if key.length ≠ 32 ∨ msg.length ≠ 32 ∨ badExtra aux = true then none
      else Spec.Bip340.sign E H (ofBe key) msg aux := by
  by_cases hk : key.length = 32
  · by_cases hm : msg.length = 32
    · cases ha : badExtra aux
      · rw [if_neg (by simp [hk, hm]), signSchnorr_eq_spec E H key msg aux hk hm ha]
      · rw [if_pos (by simp)]
        unfold signSchnorr
        rw [if_neg (by omega), if_neg (by omega), if_pos ha]
    · rw [if_pos (by simp [hm])]; unfold signSchnorr; rw [if_neg (by omega), if_pos hm]
  · rw [if_pos (by simp [hk])]; unfold signSchnorr; rw [if_pos hk]

theorem seckey_bind_sign (sk msg : Bytes) (aux : Option Bytes) :
    ((Spec.Libsecp.seckey E sk).bind fun d => Spec.Bip340.sign E H d msg aux)
      = if sk.length = 32 then Spec.Bip340.sign E H (ofBe sk) msg aux else none := by
  unfold Spec.Libsecp.seckey
  by_cases h : sk.length = 32 ∧ 0 < ofBe sk ∧ ofBe sk < E.n
  · rw [if_pos h, if_pos h.1]; rfl
  · rw [if_neg h]
    by_cases hl : sk.length = 32
    · rw [if_pos hl]
      exact (if_pos (by omega)).symm
    · rw [if_neg hl]; rfl

theorem keypair_create_some (sk kp : Bytes) (h : Spec.Libsecp.keypair_create E sk = some kp) :
    sk.length = 32 ∧ kp.take 32 = sk ∧ kp.length = 96 := by
  unfold Spec.Libsecp.keypair_create Spec.Libsecp.ec_pubkey_create at h
  obtain ⟨pub, hpub, rfl⟩ := Option.map_eq_some_iff.mp h
  obtain ⟨d, hd, hst⟩ := Option.bind_eq_some_iff.mp hpub
  have hl := (seckey_some E sk d hd).1
  have hpl : pub.length = 64 := pubStore_len E _ _ (by rw [pubStore_eq]; exact hst)
  exact ⟨hl, by rw [← hl]; simp, by simp [hl, hpl]⟩

theorem sign_none_of_keypair_none (sk msg : Bytes) (aux : Option Bytes) (hl : sk.length = 32)
    (h : Spec.Libsecp.keypair_create E sk = none) : Spec.Bip340.sign E H (ofBe sk) msg aux = none := by
  unfold Spec.Libsecp.keypair_create Spec.Libsecp.ec_pubkey_create at h
  rw [Option.map_eq_none_iff, seckey_eq E sk hl] at h
  unfold Spec.Bip340.sign
  by_cases hv : ofBe sk = 0 ∨ ofBe sk ≥ E.n
  · rw [if_pos hv]
  · have : seckeyValid E (ofBe sk) = true := by simp [seckeyValid]; omega
    rw [this, if_pos rfl, Option.bind_some, pubkeyStruct_eq_none] at h
    rw [if_neg hv, h]

theorem eq_schnorrsig_sign (L : EcLaws E) (hp : E.p ≤ 2 ^ 256) (msg keypair : Bytes) (aux : Option Bytes) :
    schnorrsigSign E H msg keypair aux = Spec.Libsecp.schnorrsig_sign E H msg keypair aux := by
  unfold schnorrsigSign Spec.Libsecp.schnorrsig_sign
  simp only [eq_keypair_create E L hp, signSchnorr_eq, seckey_bind_sign, badExtra_iff]
  by_cases hm : msg.length = 32
  swap
  · rw [if_pos hm, if_pos hm]
  rw [if_neg (by omega : ¬ msg.length ≠ 32), if_neg (by omega : ¬ msg.length ≠ 32)]
  by_cases h32 : keypair.length = 32
  · -- a bare secret: the keypair made from it is consistent by construction
    rw [if_pos h32]
    simp only [if_pos h32, Option.bind_some]
    cases hkc : Spec.Libsecp.keypair_create E keypair with
    | none => rw [sign_none_of_keypair_none E H keypair msg aux h32 hkc]; simp
    | some kp =>
      obtain ⟨_, htake, hlen⟩ := keypair_create_some E keypair kp hkc
      simp [hlen, htake, hkc, h32, hm]
  · rw [if_neg h32]
    simp only [if_neg h32]
    by_cases h96 : keypair.length = 96
    · have htl : (keypair.take 32).length = 32 := by simp; omega
      cases Spec.Libsecp.keypair_create E (keypair.take 32) with
      | none => simp [h96]
      | some kp' =>
        by_cases heq : keypair = kp'
        · simp [h96, heq.symm, htl, hm]
        · have : ¬ kp' = keypair := fun h => heq h.symm
          simp [h96, heq, this]
    · simp [h96]
end Embit
