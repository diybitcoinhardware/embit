import EmbitModel.Model.EcOps
import Mathlib.Data.ZMod.Basic
import Mathlib.Tactic.Ring
import Mathlib.Tactic.LinearCombination
/-
  `EcLaws E`: the group / coordinate laws of the curve that the correctness theorems need, as an explicit
  HYPOTHESIS (never an axiom). For secp256k1 they hold because the curve group is cyclic of prime order `n`
  generated by `G` (so every law below is a law of ℤ/n acting on ⟨G⟩), `p` is an odd prime, the curve has no
  point with y = 0 (no 2-torsion) and none with x = 0 (7 is not a square mod p).
-/
namespace Embit

structure EcLaws (E : EcOps) : Prop where
  n_gt_one : 1 < E.n
  mul_add : ∀ a b, E.add (E.mul a E.g) (E.mul b E.g) = E.mul (a + b) E.g
  mul_mul : ∀ a b, E.mul a (E.mul b E.g) = E.mul (a * b) E.g
  /-- `G` has order dividing `n` -/
  mul_mod : ∀ a, E.mul (a % E.n) E.g = E.mul a E.g
  neg_mul : ∀ a, a ≤ E.n → E.neg (E.mul a E.g) = E.mul (E.n - a) E.g
  /-- `invN` inverts modulo `n` on `[1, n-1]` (ℤ/n is a field) -/
  inv_mul : ∀ a, 0 < a → a < E.n → (a * E.invN a) % E.n = 1
  xy_range : ∀ P x y, E.xy P = some (x, y) → 0 < x ∧ x < E.p ∧ 0 < y ∧ y < E.p
  p_odd : E.p % 2 = 1
  xy_neg : ∀ P x y, E.xy P = some (x, y) → E.xy (E.neg P) = some (x, E.p - y)
  ofXY_xy : ∀ P x y, E.xy P = some (x, y) → E.ofXY x y = some P
  neg_neg : ∀ P, E.neg (E.neg P) = P
  xy_neg_none : ∀ P, E.xy P = none → E.xy (E.neg P) = none
  /-- `G` has order exactly `n`: `a ↦ aG` is injective on `[0, n)` -/
  mul_inj : ∀ a b, a < E.n → b < E.n → E.mul a E.g = E.mul b E.g → a = b
  xy_ofXY : ∀ P x y, x < E.p → y < E.p → E.ofXY x y = some P → E.xy P = some (x, y)
  /-- every point is a multiple of `G` (the group is cyclic of prime order) -/
  generated : ∀ P, ∃ a, a < E.n ∧ P = E.mul a E.g
  liftX_sound : ∀ x P, E.liftX x = some P → ∃ y, E.xy P = some (x, y) ∧ y % 2 = 0
  liftX_even : ∀ P x y, E.xy P = some (x, y) → y % 2 = 0 → E.liftX x = some P

namespace EcLaws
variable {E : EcOps} (L : EcLaws E)
include L

theorem n_pos : 0 < E.n := by have := L.n_gt_one; omega

theorem lin_comb (a b d : Nat) :
    E.add (E.mul a E.g) (E.mul b (E.mul d E.g)) = E.mul ((a + b * d) % E.n) E.g := by
  rw [L.mul_mul, L.mul_add, L.mul_mod]

theorem neg_parity (P : E.Pt) (x y : Nat) (h : E.xy P = some (x, y)) :
    E.xy (E.neg P) = some (x, E.p - y) ∧ ((E.p - y) % 2 = 0 ↔ y % 2 = 1) := by
  refine ⟨L.xy_neg P x y h, ?_⟩
  obtain ⟨_, _, hy0, hyp⟩ := L.xy_range P x y h
  have := L.p_odd
  omega

end EcLaws

theorem mod_eq_of_cast {n : Nat} (a b : Nat) (h : (a : ZMod n) = (b : ZMod n)) : a % n = b % n :=
  (ZMod.natCast_eq_natCast_iff' a b n).mp h

theorem cast_eq_of_mod {n : Nat} (a b : Nat) (h : a % n = b % n) : (a : ZMod n) = (b : ZMod n) :=
  (ZMod.natCast_eq_natCast_iff' a b n).mpr h

theorem cast_sub_self {n : Nat} (a : Nat) (h : a ≤ n) : ((n - a : Nat) : ZMod n) = -(a : ZMod n) := by
  rw [Nat.cast_sub h]; simp

variable {E : EcOps}

theorem inv_cast (L : EcLaws E) (a : Nat) (h0 : 0 < a) (h1 : a < E.n) :
    (a : ZMod E.n) * (E.invN a : ZMod E.n) = 1 := by
  have := cast_eq_of_mod (n := E.n) (a * E.invN a) 1 (by rw [L.inv_mul a h0 h1, Nat.mod_eq_of_lt L.n_gt_one])
  simpa using this

theorem mul_congr (L : EcLaws E) (a b : Nat) (h : (a : ZMod E.n) = (b : ZMod E.n)) :
    E.mul a E.g = E.mul b E.g := by
  rw [← L.mul_mod a, mod_eq_of_cast a b h, L.mul_mod]

/-! ### the scalar algebra behind ECDSA, in `ZMod n`: `k` the nonce, `s = ±k⁻¹(z + d r)`, `w = s⁻¹` -/

theorem ecdsa_alg {n : Nat} (k ki z d r w : ZMod n) (h1 : k * ki = 1) (hw : ki * (z + d * r) * w = 1) :
    z * w + r * w * d = k := by
  linear_combination k * hw - (w * (z + d * r)) * h1

theorem ecdsa_alg_neg {n : Nat} (k ki z d r w : ZMod n) (h1 : k * ki = 1) (hw : -(ki * (z + d * r)) * w = 1) :
    z * w + r * w * d = -k := by
  linear_combination (-k) * hw - (w * (z + d * r)) * h1

end Embit
