import EmbitModel.Model.Bech32
import EmbitModel.Spec.Bech32
import EmbitModel.Proofs.PolymodLinear
import EmbitModel.Proofs.BasicBits
/-
  Algebra of the bech32 checksum: the polymod step is `Polymod.step 5 25 gsel` (Proofs/PolymodLinear.lean), hence
  XOR-linear, and appending symbols to a state is "state·x^k + symbols"; so create/verify is an identity and the
  checksum of a data part is unique. Everything on `Nat` with `^^^`; no `bv_decide`.
-/
namespace Embit.Model.Bech32
open Embit Digits Polymod

/-- the value XOR-ed in by the `for i in range(5)` loop -/
def gsel (top : Nat) : Nat :=
  (if (top >>> 0) &&& 1 = 1 then 0x3B6A57B2 else 0) ^^^ (if (top >>> 1) &&& 1 = 1 then 0x26508E6D else 0)
  ^^^ (if (top >>> 2) &&& 1 = 1 then 0x1EA119FA else 0) ^^^ (if (top >>> 3) &&& 1 = 1 then 0x3D4233DD else 0)
  ^^^ (if (top >>> 4) &&& 1 = 1 then 0x2A1462B3 else 0)

theorem polymodStep_eq (chk v : Nat) :
    polymodStep chk v = ((chk &&& 0x1FFFFFF) <<< 5) ^^^ v ^^^ gsel (chk >>> 25) := by
  simp only [polymodStep, generator, genXor, gsel, Nat.xor_assoc]

theorem polymodStep_eq_step : polymodStep = step 5 25 gsel :=
  funext fun c => funext fun v => polymodStep_eq c v

theorem gsel_sel : Sel 5 25 gsel where
  xor a b := by
    simp only [gsel, ite_bit_xor]
    ac_rfl
  lt t := by
    unfold gsel
    repeat' apply Nat.xor_lt_two_pow
    all_goals (split <;> decide)

theorem gsel_zero : gsel 0 = 0 := gsel_sel.zero

theorem polymodStep_xor (a b v w : Nat) :
    polymodStep (a ^^^ b) (v ^^^ w) = polymodStep a v ^^^ polymodStep b w := by
  rw [polymodStep_eq_step]; exact step_xor gsel_sel a b v w

theorem polymodStep_zero : polymodStep 0 0 = 0 := by decide

def xorW : List Nat → List Nat → List Nat
  | a :: as, b :: bs => (a ^^^ b) :: xorW as bs
  | _, _ => []

theorem xorW_eq_zipWith : ∀ vs ws : List Nat, xorW vs ws = List.zipWith (· ^^^ ·) vs ws
  | [], _ => by simp [xorW]
  | _ :: _, [] => by simp [xorW]
  | v :: vs, w :: ws => by simp [xorW, xorW_eq_zipWith vs ws]

theorem polymodFrom_xor (a b : Nat) (vs ws : List Nat) (h : vs.length = ws.length) :
    polymodFrom (a ^^^ b) (xorW vs ws) = polymodFrom a vs ^^^ polymodFrom b ws := by
  simp only [polymodFrom, polymodStep_eq_step, xorW_eq_zipWith]
  exact foldl_step_xor gsel_sel vs ws h a b

theorem polymodFrom_append (a : Nat) (vs ws : List Nat) :
    polymodFrom a (vs ++ ws) = polymodFrom (polymodFrom a vs) ws := by
  simp [polymodFrom, List.foldl_append]

theorem xorW_zeros_right (ws : List Nat) : xorW ws (List.replicate ws.length 0) = ws := by
  induction ws with
  | nil => rfl
  | cons w ws ih => simp [List.replicate_succ, xorW, ih]

theorem polymodFrom_split (a : Nat) (ws : List Nat) :
    polymodFrom a ws = polymodFrom a (List.replicate ws.length 0) ^^^ polymodFrom 0 ws := by
  have := foldl_step_xor gsel_sel (List.replicate ws.length 0) ws (by simp) a 0
  rwa [zipWith_xor_zeros, Nat.xor_zero, ← polymodStep_eq_step] at this

theorem polymodStep_lt (s v : Nat) (hv : v < 2 ^ 30) : polymodStep s v < 2 ^ 30 := by
  rw [polymodStep_eq_step]; exact step_lt gsel_sel s v hv

theorem polymodFrom_lt (s : Nat) (vs : List Nat) (hs : s < 2 ^ 30) (hv : ∀ v ∈ vs, v < 2 ^ 30) :
    polymodFrom s vs < 2 ^ 30 := by
  induction vs generalizing s with
  | nil => exact hs
  | cons v vs ih =>
    simp only [polymodFrom, List.foldl_cons]
    exact ih _ (polymodStep_lt s v (hv v (by simp))) (fun x hx => hv x (by simp [hx]))

theorem createChecksum_eq (e : Encoding) (hrp : List Char) (data : List Nat) :
    createChecksum e hrp data
      = fixedBE 32 6 (polymod (hrpExpand hrp ++ data ++ [0, 0, 0, 0, 0, 0]) ^^^ e.const) := by
  unfold createChecksum
  have h31 : ∀ x : Nat, x &&& 31 = x % 32 := fun x => Nat.and_two_pow_sub_one_eq_mod x 5
  simp only [List.range, List.range.loop, List.map_cons, List.map_nil, fixedBE, h31,
    Nat.shiftRight_eq_div_pow, List.nil_append, List.cons_append]
  simp only [Nat.reduceMul, Nat.reduceSub, Nat.reducePow, Nat.div_div_eq_div_mul, Nat.div_one]

theorem polymod_append6 (vs c : List Nat) (hc : ∀ x ∈ c, x < 32) (hl : c.length = 6) :
    polymod (vs ++ c) = polymod (vs ++ [0, 0, 0, 0, 0, 0]) ^^^ ofBE 32 c := by
  have h := foldl_step_symbols gsel_sel (polymod vs) c hc (by rw [hl]; decide)
  rw [hl, ← polymodStep_eq_step, show List.replicate 6 0 = [0, 0, 0, 0, 0, 0] from rfl] at h
  simpa only [polymod, polymodFrom, List.foldl_append] using h

/-- `bech32_create_checksum` makes `bech32_verify_checksum` succeed with the same encoding — for every
    human-readable part and every data list -/
theorem polymod_createChecksum (e : Encoding) (hrp : List Char) (data : List Nat) :
    polymod (hrpExpand hrp ++ data ++ createChecksum e hrp data) = e.const := by
  have h := foldl_step_checksum gsel_sel (polymod (hrpExpand hrp ++ data)) e.const 6 (by decide) (by decide)
    (by cases e <;> decide)
  rw [createChecksum_eq]
  simpa only [polymod, polymodFrom, polymodStep_eq_step, List.foldl_append, Nat.reducePow, List.replicate] using h

theorem xor_cancel_left {a b c : Nat} (h : a ^^^ b = c) : b = a ^^^ c := by
  rw [← h, ← Nat.xor_assoc, Nat.xor_self, Nat.zero_xor]

theorem checksum_unique (e : Encoding) (hrp : List Char) (data c : List Nat)
    (hc : ∀ x ∈ c, x < 32) (hl : c.length = 6)
    (h : polymod (hrpExpand hrp ++ data ++ c) = e.const) : c = createChecksum e hrp data := by
  rw [polymod_append6 _ _ hc hl] at h
  have h2 := xor_cancel_left h
  rw [createChecksum_eq, ← h2, ← hl, fixedBE_ofBE (by decide) c hc]

theorem verifyChecksum_eq_some (hrp : List Char) (data : List Nat) (e : Encoding) :
    verifyChecksum hrp data = some e ↔ polymod (hrpExpand hrp ++ data) = e.const := by
  unfold verifyChecksum
  cases e
  · simp only [Encoding.const]
    constructor
    · intro h; split at h
      · assumption
      · split at h <;> simp at h
    · intro h; simp [h]
  · simp only [Encoding.const]
    constructor
    · intro h; split at h
      · simp at h
      · split at h
        · assumption
        · simp at h
    · intro h; simp [h, show bech32mConst ≠ bech32Const by decide]

end Embit.Model.Bech32
