import EmbitModel.Proofs.ScopeSlots
/-
  C04 / C05 helpers: what one accepted step of `read_value` does to a scope. Each fact is read off the step relation
  of `PsbtAddPair`.
-/
namespace Embit
open Model

/-- keys that carry the unsigned transaction's own fields in PSBTv2 (written only when version = 2) -/
def txFieldKey (k : Bytes) : Bool := k == [0x0e] || k == [0x0f] || k == [0x10]
def txFieldKeyOut (k : Bytes) : Bool := k == [0x03] || k == [0x04]

theorem txFieldKey_eq_false {k : Bytes} : txFieldKey k = false ↔ k ∉ [[0x0e], [0x0f], [0x10]] := by
  simp [txFieldKey, and_assoc]
theorem txFieldKeyOut_eq_false {k : Bytes} : txFieldKeyOut k = false ↔ k ∉ [[0x03], [0x04]] := by
  simp [txFieldKeyOut]

theorem nodup_snoc {β : Type} (l : List (Bytes × β)) (k : Bytes) (v : β) (h : (l.map Prod.fst).Nodup)
    (hl : lookup k l = none) : ((l ++ [(k, v)]).map Prod.fst).Nodup := by
  rw [List.map_append, List.nodup_append]
  refine ⟨h, by simp, fun a ha b hb e => ?_⟩
  obtain ⟨x, hx, rfl⟩ := List.mem_map.mp ha
  exact (lookup_none_iff k l).mp hl x hx (e.trans (by simpa using hb))

def typedIn (k0 : UInt8) : Bool :=
  k0 == 0 || k0 == 1 || k0 == 2 || k0 == 3 || k0 == 4 || k0 == 5 || k0 == 6 || k0 == 7 || k0 == 8
  || k0 == 0x14 || k0 == 0x15 || k0 == 0x16 || k0 == 0x17 || k0 == 0x18
def typedOut (k0 : UInt8) : Bool := k0 == 0 || k0 == 1 || k0 == 2 || k0 == 5 || k0 == 7

theorem typedIn_eq_false {k0 : UInt8} :
    typedIn k0 = false ↔ k0 ∉ [0x00, 0x01, 0x02, 0x03, 0x04, 0x05, 0x06, 0x07, 0x08, 0x14, 0x15, 0x16, 0x17, 0x18] := by
  simp [typedIn, and_assoc]
theorem typedOut_eq_false {k0 : UInt8} : typedOut k0 = false ↔ k0 ∉ [0x00, 0x01, 0x02, 0x05, 0x07] := by
  simp [typedOut, and_assoc]

/-- keys kept in `unknown` never collide with a key a typed field is written under -/
def UnkOKIn (s : InScope) : Prop :=
  ∀ kv ∈ s.unknown, txFieldKey kv.1 = false ∧ ∀ k0 kr, kv.1 = k0 :: kr → typedIn k0 = false
def UnkOKOut (s : OutScope) : Prop :=
  ∀ kv ∈ s.unknown, txFieldKeyOut kv.1 = false ∧ ∀ k0 kr, kv.1 = k0 :: kr → typedOut k0 = false

/-- what `InputScope.write_to` emits, field by field -/
def Model.InScope.segs (ver : Option Nat) (s : InScope) : List (List KV) :=
  [optKV [0x00] (s.nonWitnessUtxo.map Tx.ser), optKV [0x01] (s.witnessUtxo.map TxOut.ser),
   s.partialSigs.map (fun e => (0x02 :: e.1, id e.2)), optKV [0x03] (s.sighashType.map (leN 4)),
   optKV [0x04] s.redeemScript, optKV [0x05] s.witnessScript, s.bip32.map (fun e => (0x06 :: e.1, Deriv.ser e.2)),
   optKV [0x07] s.finalScriptSig, optKV [0x08] (s.finalWitness.map witnessSer),
   if ver = some 2 then optKV [0x0e] (s.txid.map List.reverse) else [],
   if ver = some 2 then optKV [0x0f] (s.vout.map (leN 4)) else [],
   if ver = some 2 then optKV [0x10] (s.sequence.map (leN 4)) else [],
   s.tapSigs.map (fun e => (0x14 :: e.1, id e.2)), s.tapScripts.map (fun e => (0x15 :: e.1, id e.2)),
   s.tapBip32.map (fun e => (0x16 :: e.1, tapDerivSer e.2)), optKV [0x17] s.tapInternalKey,
   optKV [0x18] s.tapMerkleRoot, s.unknown]

theorem InScope.pairs_eq_flatten (ver : Option Nat) (s : InScope) : s.pairs ver = (s.segs ver).flatten := by
  unfold InScope.pairs InScope.segs
  split <;> simp [List.append_assoc]

/-- the segment of `InScope.segs` a key is read into -/
def Model.InScope.route : Bytes → Nat
  | [] => 0
  | k0 :: kr =>
    if k0 = 0x00 then 0 else if k0 = 0x01 then 1 else if k0 = 0x02 then 2 else if k0 = 0x03 then 3
    else if k0 = 0x04 then 4 else if k0 = 0x05 then 5 else if k0 = 0x06 then 6 else if k0 = 0x07 then 7
    else if k0 = 0x08 then 8 else if k0 :: kr = [0x0e] then 9 else if k0 :: kr = [0x0f] then 10
    else if k0 :: kr = [0x10] then 11 else if k0 = 0x14 then 12 else if k0 = 0x15 then 13 else if k0 = 0x16 then 14
    else if k0 = 0x17 then 15 else if k0 = 0x18 then 16 else 17

/-- Every accepted key appends `(k, v)` to one segment: an optional field goes from `[]` to `[(k, v)]`, a map gets a
    last entry. The value written for the new field is the value read. -/
theorem InScope.Step.pushed {ko : KeyOps} {sha : Bytes → Bytes} {s s' : InScope} {k v : Bytes} {ver : Option Nat}
    (h : InScope.Step ko sha 0 s v k s') (hk : k ≠ []) (hv : ver = some 2 ∨ k ∉ [[0x0e], [0x0f], [0x10]]) :
    Pushed (InScope.route k) (k, v) (s.segs ver) (s'.segs ver) := by
  cases h with
  | sep => exact absurd rfl hk
  | utxoStreamed hc => simp at hc
  | dropped hc => exact absurd rfl hc
  | nonWitnessUtxo hn _ _ hp => exact .optMap hn (Props.C03.reencode _ _ hp) rfl rfl
  | witnessUtxo hn hp => exact .optMap hn (parseAll_TxOut_ser hp) rfl rfl
  | partialSig _ _ hn => exact .dict hn rfl rfl rfl
  | sighashType hn hl => exact .optMap hn (len4 hl) rfl rfl
  | redeemScript hn => exact .opt hn rfl rfl
  | witnessScript hn => exact .opt hn rfl rfl
  | bip32 _ hn hp => exact .dict hn (Deriv.ser_parse hp) rfl rfl
  | finalScriptSig _ hn => exact .opt hn rfl rfl
  | finalWitness _ hn hp => exact .optMap hn (parseAll_witness_ser hp) rfl rfl
  | txid hn _ => cases hv.resolve_right (by simp); exact .optMap hn (List.reverse_reverse v) rfl rfl
  | vout hn hl => cases hv.resolve_right (by simp); exact .optMap hn (len4 hl) rfl rfl
  | sequence hn hl => cases hv.resolve_right (by simp); exact .optMap hn (len4 hl) rfl rfl
  | tapSig _ _ hn => exact .dict hn rfl rfl rfl
  | tapScript hn => exact .dict hn rfl rfl rfl
  | tapBip32 _ _ hn hp => exact .dict hn (tapDeriv_ser_parse hp) rfl rfl
  | tapInternalKey hn => exact .opt hn rfl rfl
  | tapMerkleRoot hn => exact .opt hn rfl rfl
  | @unknown k0 kr h0 hx hn =>
    simp only [List.mem_cons, List.not_mem_nil, or_false, not_or] at h0 hx
    have hr : InScope.route (k0 :: kr) = 17 := by simp only [InScope.route, h0, hx, if_false]
    rw [hr]; exact .snoc hn rfl rfl

theorem InScope.Step.pairs {ko : KeyOps} {sha : Bytes → Bytes} {s s' : InScope} {k v : Bytes} {ver : Option Nat}
    (h : InScope.Step ko sha 0 s v k s') (hk : k ≠ []) (hv : ver = some 2 ∨ k ∉ [[0x0e], [0x0f], [0x10]]) :
    Inserted (k, v) (s.pairs ver) (s'.pairs ver) := by
  rw [InScope.pairs_eq_flatten, InScope.pairs_eq_flatten]; exact (h.pushed hk hv).inserted

/-- what `OutputScope.write_to` emits, field by field -/
def Model.OutScope.segs (ver : Option Nat) (s : OutScope) : List (List KV) :=
  [optKV [0x00] s.redeemScript, optKV [0x01] s.witnessScript, s.bip32.map (fun e => (0x02 :: e.1, Deriv.ser e.2)),
   if ver = some 2 then optKV [0x03] (s.value.map (leN 8)) else [], if ver = some 2 then optKV [0x04] s.spk else [],
   optKV [0x05] s.tapInternalKey, s.tapBip32.map (fun e => (0x07 :: e.1, tapDerivSer e.2)), s.unknown]

theorem OutScope.pairs_eq_flatten (ver : Option Nat) (s : OutScope) : s.pairs ver = (s.segs ver).flatten := by
  unfold OutScope.pairs OutScope.segs
  split <;> simp [List.append_assoc]

def Model.OutScope.route : Bytes → Nat
  | [] => 0
  | k0 :: kr =>
    if k0 = 0x00 then 0 else if k0 = 0x01 then 1 else if k0 = 0x02 then 2 else if k0 :: kr = [0x03] then 3
    else if k0 :: kr = [0x04] then 4 else if k0 = 0x05 then 5 else if k0 = 0x07 then 6 else 7

theorem OutScope.Step.pushed {ko : KeyOps} {s s' : OutScope} {k v : Bytes} {ver : Option Nat}
    (h : OutScope.Step ko s v k s') (hk : k ≠ []) (hv : ver = some 2 ∨ k ∉ [[0x03], [0x04]]) :
    Pushed (OutScope.route k) (k, v) (s.segs ver) (s'.segs ver) := by
  cases h with
  | sep => exact absurd rfl hk
  | redeemScript hn => exact .opt hn rfl rfl
  | witnessScript hn => exact .opt hn rfl rfl
  | bip32 _ hn hp => exact .dict hn (Deriv.ser_parse hp) rfl rfl
  | value hn hl => cases hv.resolve_right (by simp); exact .optMap hn (len8 hl) rfl rfl
  | spk hn => cases hv.resolve_right (by simp); exact .opt hn rfl rfl
  | tapInternalKey hn => exact .opt hn rfl rfl
  | tapBip32 _ _ hn hp => exact .dict hn (tapDeriv_ser_parse hp) rfl rfl
  | @unknown k0 kr h0 hx hn =>
    simp only [List.mem_cons, List.not_mem_nil, or_false, not_or] at h0 hx
    have hr : OutScope.route (k0 :: kr) = 7 := by simp only [OutScope.route, h0, hx, if_false]
    rw [hr]; exact .snoc hn rfl rfl

theorem OutScope.Step.pairs {ko : KeyOps} {s s' : OutScope} {k v : Bytes} {ver : Option Nat}
    (h : OutScope.Step ko s v k s') (hk : k ≠ []) (hv : ver = some 2 ∨ k ∉ [[0x03], [0x04]]) :
    Inserted (k, v) (s.pairs ver) (s'.pairs ver) := by
  rw [OutScope.pairs_eq_flatten, OutScope.pairs_eq_flatten]; exact (h.pushed hk hv).inserted

/-- C05: what one step of `read_value` does to the three transaction fields of an input scope (any mode):
    they are set by exactly the keys 0e / 0f / 10 (from a value of the right length, and only when still unset)
    and left alone by every other key -/
theorem InScope.addPair_txfields (ko : KeyOps) (sha : Bytes → Bytes) (c : Nat) (s s' : InScope) (k v : Bytes)
    (h : InScope.addPair ko sha c s k v = some s') :
    s'.txid = (if k = [0x0e] then some v.reverse else s.txid)
    ∧ s'.vout = (if k = [0x0f] then some (ofLe v) else s.vout)
    ∧ s'.sequence = (if k = [0x10] then some (ofLe v) else s.sequence)
    ∧ (k = [0x0e] → s.txid = none)
    ∧ (k = [0x0f] → s.vout = none ∧ v.length = 4)
    ∧ (k = [0x10] → s.sequence = none ∧ v.length = 4) := by
  cases InScope.addPair_step h with
  | txid hn _ => simp [hn]
  | vout hn hl => simp [hn, hl]
  | sequence hn hl => simp [hn, hl]
  | dropped _ hk => rcases hk with rfl | rfl | rfl <;> simp
  | unknown _ hk _ =>
    simp only [List.mem_cons, List.not_mem_nil, or_false, not_or] at hk
    simp [hk]
  | _ => simp

/-- C05: the same for the two transaction fields of an output scope (keys 03 / 04) -/
theorem OutScope.addPair_txfields (ko : KeyOps) (s s' : OutScope) (k v : Bytes)
    (h : OutScope.addPair ko s k v = some s') :
    s'.value = (if k = [0x03] then some (ofLe v) else s.value)
    ∧ s'.spk = (if k = [0x04] then some v else s.spk)
    ∧ (k = [0x03] → s.value = none ∧ v.length = 8)
    ∧ (k = [0x04] → s.spk = none) := by
  cases OutScope.addPair_step h with
  | value hn hl => simp [hn, hl]
  | spk hn => simp [hn]
  | unknown _ hk _ =>
    simp only [List.mem_cons, List.not_mem_nil, or_false, not_or] at hk
    simp [hk]
  | _ => simp

/-- transaction fields of a scope, once set (v0: seeded from the global tx), are never changed, and a key that
    would set them again is refused -/
theorem InScope.addPair_seeded (ko : KeyOps) (sha : Bytes → Bytes) (c : Nat) (s s' : InScope) (k v : Bytes)
    (hs : s.txid.isSome ∧ s.vout.isSome ∧ s.sequence.isSome)
    (h : InScope.addPair ko sha c s k v = some s') :
    txFieldKey k = false ∧ s'.txid = s.txid ∧ s'.vout = s.vout ∧ s'.sequence = s.sequence := by
  obtain ⟨e1, e2, e3, n1, n2, n3⟩ := InScope.addPair_txfields ko sha c s s' k v h
  have k1 : k ≠ [0x0e] := fun e => by simp [n1 e] at hs
  have k2 : k ≠ [0x0f] := fun e => by simp [(n2 e).1] at hs
  have k3 : k ≠ [0x10] := fun e => by simp [(n3 e).1] at hs
  rw [if_neg k1] at e1; rw [if_neg k2] at e2; rw [if_neg k3] at e3
  exact ⟨by simp [txFieldKey, k1, k2, k3], e1, e2, e3⟩

theorem OutScope.addPair_seeded (ko : KeyOps) (s s' : OutScope) (k v : Bytes)
    (hs : s.value.isSome ∧ s.spk.isSome)
    (h : OutScope.addPair ko s k v = some s') :
    txFieldKeyOut k = false ∧ s'.value = s.value ∧ s'.spk = s.spk := by
  obtain ⟨e1, e2, n1, n2⟩ := OutScope.addPair_txfields ko s s' k v h
  have k1 : k ≠ [0x03] := fun e => by simp [(n1 e).1] at hs
  have k2 : k ≠ [0x04] := fun e => by simp [n2 e] at hs
  rw [if_neg k1] at e1; rw [if_neg k2] at e2
  exact ⟨by simp [txFieldKeyOut, k1, k2], e1, e2⟩

/-- `s'` has every field of `s` (fields are only ever filled, maps only ever grow) -/
structure Model.InScope.le (s s' : InScope) : Prop where
  f0 : s.nonWitnessUtxo.isSome → s'.nonWitnessUtxo.isSome
  f1 : s.witnessUtxo.isSome → s'.witnessUtxo.isSome
  f2 : ∀ p, (lookup p s.partialSigs).isSome → (lookup p s'.partialSigs).isSome
  f3 : s.sighashType.isSome → s'.sighashType.isSome
  f4 : s.redeemScript.isSome → s'.redeemScript.isSome
  f5 : s.witnessScript.isSome → s'.witnessScript.isSome
  f6 : ∀ p, (lookup p s.bip32).isSome → (lookup p s'.bip32).isSome
  f7 : s.finalScriptSig.isSome → s'.finalScriptSig.isSome
  f8 : s.finalWitness.isSome → s'.finalWitness.isSome
  fe : s.txid.isSome → s'.txid.isSome
  ff : s.vout.isSome → s'.vout.isSome
  fg : s.sequence.isSome → s'.sequence.isSome
  f14 : ∀ p, (lookup p s.tapSigs).isSome → (lookup p s'.tapSigs).isSome
  f15 : ∀ p, (lookup p s.tapScripts).isSome → (lookup p s'.tapScripts).isSome
  f16 : ∀ p, (lookup p s.tapBip32).isSome → (lookup p s'.tapBip32).isSome
  f17 : s.tapInternalKey.isSome → s'.tapInternalKey.isSome
  f18 : s.tapMerkleRoot.isSome → s'.tapMerkleRoot.isSome
  fu : ∀ p, (lookup p s.unknown).isSome → (lookup p s'.unknown).isSome

structure Model.OutScope.le (s s' : OutScope) : Prop where
  f0 : s.redeemScript.isSome → s'.redeemScript.isSome
  f1 : s.witnessScript.isSome → s'.witnessScript.isSome
  f2 : ∀ p, (lookup p s.bip32).isSome → (lookup p s'.bip32).isSome
  f3 : s.value.isSome → s'.value.isSome
  f4 : s.spk.isSome → s'.spk.isSome
  f5 : s.tapInternalKey.isSome → s'.tapInternalKey.isSome
  f7 : ∀ p, (lookup p s.tapBip32).isSome → (lookup p s'.tapBip32).isSome
  fu : ∀ p, (lookup p s.unknown).isSome → (lookup p s'.unknown).isSome

end Embit
