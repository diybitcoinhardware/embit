import EmbitModel.Model.Cost
import EmbitModel.Proofs.Base58
import Mathlib.Tactic.Ring
/-
  C17: `base58.decode` / `base58.encode` — the only super-linear parsers of the library. Cost companions in
  `Model/Cost.lean` (one step per byte of the big integer touched by `n *= 58`, `n += d`, `divmod(n, 58)`):
    decode: steps ≤ (|s| + 1)², output ≤ |s| bytes;   encode: steps ≤ 2·(|b| + 2)², output ≤ 2·|b| characters.
-/
set_option linter.unusedSimpArgs false
set_option linter.unusedVariables false
namespace Embit.Model.Cost
open Embit Embit.Digits Embit.Model.Base58

theorem toLE_len_mono {B : Nat} (hB : 2 ≤ B) : ∀ (n m : Nat), m ≤ n → (toLE B m).length ≤ (toLE B n).length := by
  intro n
  induction n using Nat.strongRecOn with
  | _ n ih =>
    intro m hm
    by_cases hm0 : m = 0
    · subst hm0; simp [toLE_zero]
    · have hn0 : n ≠ 0 := by omega
      rw [toLE_pos hB hm0, toLE_pos hB hn0]
      have hlt : n / B < n := Nat.div_lt_self (by omega) (by omega)
      have := ih (n / B) hlt (m / B) (Nat.div_le_div_right hm)
      simp; omega

theorem byteLen_eq (n : Nat) : byteLen n = (toLE 256 n).length := by
  simp [byteLen, minBytesLE_eq]

theorem byteLen_zero : byteLen 0 = 0 := by simp [byteLen_eq, toLE_zero]

theorem byteLen_mono {m n : Nat} (h : m ≤ n) : byteLen m ≤ byteLen n := by
  rw [byteLen_eq, byteLen_eq]; exact toLE_len_mono (by decide) n m h

theorem byteLen_step (n d : Nat) (hd : d < 58) : byteLen (n * 58 + d) ≤ byteLen n + 1 := by
  by_cases h0 : n * 58 + d = 0
  · rw [h0, byteLen_zero]; omega
  · rw [byteLen_eq (n * 58 + d), toLE_pos (by decide) h0]
    have : (n * 58 + d) / 256 ≤ n := by omega
    have := byteLen_mono this
    rw [byteLen_eq, byteLen_eq] at this
    simp [byteLen_eq]; omega

theorem accumulateSteps_le : ∀ (s : List Char) (n : Nat),
    accumulateSteps n s ≤ s.length * (byteLen n + s.length) := by
  intro s
  induction s with
  | nil => intro n; simp [accumulateSteps]
  | cons c cs ih =>
    intro n
    simp only [accumulateSteps]
    cases hd : digitVal c with
    | none =>
      simp only [List.length_cons]
      have : 1 * (byteLen n + (cs.length + 1)) ≤ (cs.length + 1) * (byteLen n + (cs.length + 1)) :=
        Nat.mul_le_mul_right _ (by omega)
      omega
    | some d =>
      have hlt := (digitVal_some hd).1
      have h1 := ih (n * 58 + d)
      have h2 := byteLen_step n d hlt
      have h3 : cs.length * (byteLen (n * 58 + d) + cs.length) ≤ cs.length * (byteLen n + (cs.length + 1)) :=
        Nat.mul_le_mul_left _ (by omega)
      simp only [List.length_cons]
      have : (cs.length + 1) * (byteLen n + (cs.length + 1))
          = cs.length * (byteLen n + (cs.length + 1)) + (byteLen n + (cs.length + 1)) := by
        rw [Nat.add_mul]; simp
      omega

theorem accumulate_byteLen : ∀ (s : List Char) (n m : Nat), accumulate n s = some m →
    byteLen m ≤ byteLen n + s.length := by
  intro s
  induction s with
  | nil => intro n m h; cases h; simp
  | cons c cs ih =>
    intro n m h
    rw [accumulate_cons] at h
    cases hd : digitVal c with
    | none => simp [hd] at h
    | some d =>
      simp [hd] at h
      have := ih _ _ h
      have := byteLen_step n d (digitVal_some hd).1
      simp; omega

theorem b58DecodeSteps_le (s : List Char) : b58DecodeSteps s ≤ (s.length + 1) * (s.length + 1) := by
  unfold b58DecodeSteps
  split
  · have : 1 ≤ (s.length + 1) * (s.length + 1) := Nat.mul_pos (by omega) (by omega)
    omega
  · have h1 := accumulateSteps_le s 0
    rw [byteLen_zero] at h1
    have e : (s.length + 1) * (s.length + 1) = s.length * s.length + 2 * s.length + 1 := by
      rw [Nat.add_mul, Nat.mul_add]; omega
    cases ha : accumulate 0 s with
    | none => simp at h1 ⊢; omega
    | some n =>
      have h2 := accumulate_byteLen s 0 n ha
      rw [byteLen_zero] at h2
      simp at h1 h2 ⊢
      omega

theorem byteLen_le_digits (n : Nat) : byteLen n ≤ (toLE 58 n).length := by
  rw [byteLen_eq]
  induction n using Nat.strongRecOn with
  | _ n ih =>
    by_cases h0 : n = 0
    · subst h0; simp [toLE_zero]
    · rw [toLE_pos (by decide) h0, toLE_pos (by decide) h0]
      have hlt : n / 58 < n := Nat.div_lt_self (by omega) (by omega)
      have h1 := ih (n / 58) hlt
      have h2 := toLE_len_mono (B := 256) (by decide) (n / 58) (n / 256) (by
        apply Nat.div_le_div_left (by omega) (by omega))
      simp; omega

/-- 58² > 256 -/
theorem digits_le_two_byteLen (n : Nat) : (toLE 58 n).length ≤ 2 * byteLen n := by
  rw [byteLen_eq]
  induction n using Nat.strongRecOn with
  | _ n ih =>
    by_cases h0 : n = 0
    · subst h0; simp [toLE_zero]
    · rw [toLE_pos (by decide) h0, toLE_pos (B := 256) (by decide) h0]
      by_cases h1 : n / 58 = 0
      · rw [h1, toLE_zero]; simp; omega
      · rw [toLE_pos (by decide) h1]
        have hlt : n / 58 / 58 < n := by
          have a : n / 58 < n := Nat.div_lt_self (by omega) (by omega)
          have b : n / 58 / 58 ≤ n / 58 := Nat.div_le_self _ _
          omega
        have h2 := ih (n / 58 / 58) hlt
        have h3 := toLE_len_mono (B := 256) (by decide) (n / 256) (n / 58 / 58) (by
          rw [Nat.div_div_eq_div_mul]
          apply Nat.div_le_div_left (by omega) (by omega))
        simp; omega

theorem b58Decode_length (s : List Char) (b : Bytes) (h : decode s = some b) : b.length ≤ s.length := by
  have he := encode_decode s b h
  obtain ⟨r, hb, hh⟩ := bytes_decomp b
  generalize leadingZeros b = z at hb
  subst hb
  rw [encode_normal z r hh] at he
  have hr : r.length = byteLen (ofBe r) := by
    have := congrArg List.length (minBytes_ofBe r hh)
    simp at this
    simp [byteLen, this]
  have := byteLen_le_digits (ofBe r)
  rw [← he]
  simp
  omega

theorem loopChars_length (n : Nat) : (loopChars n).length = (toLE 58 n).length := by
  simp [loopChars_eq]

theorem loopSteps_le (n : Nat) : loopSteps n ≤ (toLE 58 n).length * (byteLen n + 1) := by
  induction n using Nat.strongRecOn with
  | _ n ih =>
    by_cases h0 : n = 0
    · subst h0; rw [loopSteps]; simp
    · rw [loopSteps, dif_neg h0, toLE_pos (by decide) h0]
      have hlt : n / 58 < n := Nat.div_lt_self (by omega) (by omega)
      have h1 := ih (n / 58) hlt
      have h2 : byteLen (n / 58) ≤ byteLen n := byteLen_mono (Nat.div_le_self _ _)
      have h3 : (toLE 58 (n / 58)).length * (byteLen (n / 58) + 1) ≤ (toLE 58 (n / 58)).length * (byteLen n + 1) :=
        Nat.mul_le_mul_left _ (by omega)
      simp only [List.length_cons]
      rw [Nat.add_mul]
      omega

theorem byteLen_ofBe (b : Bytes) : byteLen (ofBe b) ≤ b.length := by
  obtain ⟨r, hb, hh⟩ := bytes_decomp b
  generalize leadingZeros b = z at hb
  subst hb
  rw [ofBe_zeros_append]
  have := congrArg List.length (minBytes_ofBe r hh)
  simp at this
  simp [byteLen, this]

theorem b58EncodeSteps_le (b : Bytes) : b58EncodeSteps b ≤ 2 * ((b.length + 2) * (b.length + 2)) := by
  unfold b58EncodeSteps
  have h1 := loopSteps_le (ofBe b)
  have h2 := digits_le_two_byteLen (ofBe b)
  have h3 := byteLen_ofBe b
  rw [loopChars_length]
  have h4 : (toLE 58 (ofBe b)).length * (byteLen (ofBe b) + 1) ≤ (2 * b.length) * (b.length + 1) :=
    Nat.mul_le_mul (by omega) (by omega)
  have e1 : (2 * b.length) * (b.length + 1) = 2 * (b.length * b.length) + 2 * b.length := by ring
  have e2 : 2 * ((b.length + 2) * (b.length + 2)) = 2 * (b.length * b.length) + 8 * b.length + 8 := by ring
  omega

theorem b58Encode_length (b : Bytes) : (encode b).length ≤ 2 * b.length := by
  obtain ⟨r, hb, hh⟩ := bytes_decomp b
  generalize leadingZeros b = z at hb
  subst hb
  rw [encode_normal z r hh]
  have h2 := digits_le_two_byteLen (ofBe r)
  have h3 := byteLen_ofBe r
  simp
  omega

end Embit.Model.Cost
