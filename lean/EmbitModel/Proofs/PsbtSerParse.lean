import EmbitModel.Proofs.PsbtSerScope
/-
  C04 (deepening): serialise-then-parse of a whole PSBT object (both versions).
-/
set_option linter.unusedSimpArgs false
set_option linter.unusedVariables false
namespace Embit
open Model Spec.Wire

theorem readIns_write (ko : KeyOps) (sha : Bytes → Bytes) (tx : Option Tx) (version : Option Nat) :
    ∀ (ins : List InScope) (i : Nat) (r : Bytes), (∀ s ∈ ins, InWF ko s) →
      (∀ (j : Nat) (s : InScope), ins[j]? = some s → seedIn tx (i + j) = InScope.seedOf version s) →
      readIns ko sha 0 tx ins.length i (ins.flatMap (fun s => writeKVs (s.pairs version)) ++ r) = some (ins, r) := by
  intro ins i r hwf hseed
  rw [readIns_eq]
  have := readScopes_write (fun i => InScope.addPairs ko sha 0 (seedIn tx i)) (fun s => s.pairs version) id ins i r
    (fun s hs => InScope.pairs_wf ko version s (hwf s hs))
    (fun j s hj => (congrArg (InScope.addPairs ko sha 0 · _) (hseed j s hj)).trans
      (InScope.addPairs_pairs ko sha version s (hwf s (List.mem_of_getElem? hj))))
  rwa [List.map_id] at this

theorem readOuts_write (ko : KeyOps) (tx : Option Tx) (version : Option Nat) :
    ∀ (outs : List OutScope) (i : Nat) (r : Bytes), (∀ s ∈ outs, OutWF ko s) →
      (∀ (j : Nat) (s : OutScope), outs[j]? = some s → seedOut tx (i + j) = OutScope.seedOf version s) →
      readOuts ko tx outs.length i (outs.flatMap (fun s => writeKVs (s.pairs version)) ++ r) = some (outs, r) := by
  intro outs i r hwf hseed
  rw [readOuts_eq]
  have := readScopes_write (fun i => OutScope.addPairs ko (seedOut tx i)) (fun s => s.pairs version) id outs i r
    (fun s hs => OutScope.pairs_wf ko version s (hwf s hs))
    (fun j s hj => (congrArg (OutScope.addPairs ko · _) (hseed j s hj)).trans
      (OutScope.addPairs_pairs ko version s (hwf s (List.mem_of_getElem? hj))))
  rwa [List.map_id] at this

theorem globalFold_unknown_seg : ∀ (l : List KV) (tx : Option Tx) (ver : Option Nat) (unk rest : List KV),
    (∀ kv ∈ l, notTxVer kv = true) → ((unk ++ l).map Prod.fst).Nodup →
    globalFold tx ver unk (l ++ rest) = globalFold tx ver (unk ++ l) rest := by
  intro l
  induction l with
  | nil => intro tx ver unk rest _ _; simp
  | cons kv l ih =>
    intro tx ver unk rest hk hn
    obtain ⟨k, v⟩ := kv
    obtain ⟨hp, hn'⟩ := nodup_snoc_split _ _ _ _ hn
    have := hk (k, v) (by simp)
    simp only [notTxVer, Bool.and_eq_true, Bool.not_eq_true', beq_eq_false_iff_ne, ne_eq] at this
    simp only [List.cons_append, globalFold, this.1, this.2, if_false, hp, Option.isSome_none, Bool.false_eq_true]
    rw [ih _ _ _ _ (fun x hx => hk x (by simp [hx])) hn']
    simp [List.append_assoc]

theorem globalFold_tx_step (t : Tx) (hwf : WF t) (hu : Unsigned t) (ver : Option Nat) (unk rest : List KV) :
    globalFold none ver unk (([0x00], Tx.ser t) :: rest) = globalFold (some t) ver unk rest := by
  have h1 := Props.C03.parse_ser t hwf
  have h2 : (t.vin.any fun i => !i.scriptSig.isEmpty || !i.witness.isEmpty) = false := by
    rw [List.any_eq_false]
    intro i hi
    obtain ⟨a, b⟩ := hu i hi
    simp [a, b]
  simp [globalFold, h1, h2]

theorem globalFold_ver_step (tx : Option Tx) (o : Option Nat) (ho : OptP (· < 2^32) o) (unk rest : List KV) :
    globalFold tx none unk (optKV [0xfb] (o.map (leN 4)) ++ rest) = globalFold tx o unk rest := by
  cases o with
  | none => simp [optKV]
  | some n =>
    have := ofLe_leN 4 n (by simp at ho; omega)
    simp [optKV, globalFold, this]

/-- the global scope as `write_to` emits it after the transaction pair: pairs that stay in the unknown map, the
    version, more such pairs -/
theorem globalFold_written (tx : Option Tx) (ver : Option Nat) (hver : OptP (· < 2^32) ver) (pre unk : List KV)
    (hpre : ∀ kv ∈ pre, notTxVer kv = true) (hunk : ∀ kv ∈ unk, notTxVer kv = true)
    (hn : ((pre ++ unk).map Prod.fst).Nodup) :
    globalFold tx none [] (pre ++ optKV [0xfb] (ver.map (leN 4)) ++ unk) = some (tx, ver, pre ++ unk) := by
  have hn1 : (([] ++ pre).map Prod.fst).Nodup := by
    rw [List.map_append] at hn
    simpa using (List.nodup_append.mp hn).1
  rw [List.append_assoc, globalFold_unknown_seg _ _ _ _ _ hpre hn1, globalFold_ver_step _ _ hver]
  have := globalFold_unknown_seg unk tx ver ([] ++ pre) [] hunk (by simpa using hn)
  simp only [List.append_nil, List.nil_append] at this ⊢
  rw [this]; rfl

theorem parseUnknowns_append (ko : KeyOps) (isV2 : Bool) : ∀ (a b : List KV) (g : GState),
    parseUnknowns ko isV2 g (a ++ b) = (parseUnknowns ko isV2 g a).bind (fun g' => parseUnknowns ko isV2 g' b) := by
  intro a
  induction a with
  | nil => intro b g; simp [parseUnknowns]
  | cons kv a ih =>
    intro b g
    obtain ⟨k, v⟩ := kv
    simp only [List.cons_append, parseUnknowns]
    split
    · exact ih _ _
    · split
      · split
        · rfl
        · split
          · rfl
          · exact ih _ _
      · split
        · split
          · rfl
          · exact ih _ _
        · split
          · split
            · rfl
            · exact ih _ _
          · split
            · split
              · rfl
              · exact ih _ _
            · split
              · split
                · rfl
                · exact ih _ _
              · exact ih _ _

theorem pu_bind_step {ko : KeyOps} {isV2 : Bool} {g g' : GState} {a b : List KV} {r : Option GState}
    (h1 : parseUnknowns ko isV2 g a = some g') (h2 : parseUnknowns ko isV2 g' b = r) :
    parseUnknowns ko isV2 g (a ++ b) = r := by
  rw [parseUnknowns_append, h1]; exact h2

theorem pu_step_xpubs (ko : KeyOps) (isV2 : Bool) : ∀ (l : List (Bytes × Deriv)) (g : GState),
    (∀ e ∈ l, ko.validXpub e.1 = true ∧ DerivWF e.2) →
    parseUnknowns ko isV2 g (l.map (fun e => (0x01 :: e.1, Deriv.ser e.2))) = some { g with xpubs := g.xpubs ++ l } := by
  intro l
  induction l with
  | nil => intro g _; simp [parseUnknowns]
  | cons e l ih =>
    intro g hv
    obtain ⟨x, d⟩ := e
    obtain ⟨a1, a2⟩ := hv (x, d) (by simp)
    simp only [List.map_cons, parseUnknowns, if_true, a1, Deriv.parse_ser d a2, Bool.not_true, Bool.false_eq_true,
      if_false]
    rw [ih _ (fun y hy => hv y (by simp [hy]))]
    simp [List.append_assoc]

theorem pu_step_txver (ko : KeyOps) (g : GState) (o : Option Nat) (ho : OptP (· < 2^32) o) (hg : g.txVersion = none) :
    parseUnknowns ko true g (optKV [0x02] (o.map (leN 4))) = some { g with txVersion := o } := by
  cases o with
  | none => cases g; simp at hg; subst hg; rfl
  | some n =>
    have := ofLe_leN 4 n (by simp at ho; omega)
    simp [optKV, parseUnknowns, this]

theorem pu_step_locktime (ko : KeyOps) (g : GState) (o : Option Nat) (ho : OptP (· < 2^32) o) (hg : g.locktime = none) :
    parseUnknowns ko true g (optKV [0x03] (o.map (leN 4))) = some { g with locktime := o } := by
  cases o with
  | none => cases g; simp at hg; subst hg; rfl
  | some n =>
    have := ofLe_leN 4 n (by simp at ho; omega)
    simp [optKV, parseUnknowns, this]

theorem pu_step_counts (ko : KeyOps) (g : GState) (a b : Nat) (ha : a < 2^64) (hb : b < 2^64) :
    parseUnknowns ko true g [([0x04], Compact.enc a), ([0x05], Compact.enc b)]
      = some { g with nin := some a, nout := some b } := by
  simp [parseUnknowns, parseAll_compact_enc a ha, parseAll_compact_enc b hb]

theorem parseUnknowns_unknown_step (ko : KeyOps) (isV2 : Bool) (g : GState) (k v : Bytes) (rest : List KV)
    (hk : unkKeyGlobal isV2 k = true) :
    parseUnknowns ko isV2 g ((k, v) :: rest) = parseUnknowns ko isV2 { g with unknown := g.unknown ++ [(k, v)] } rest := by
  cases k with
  | nil => simp [unkKeyGlobal] at hk
  | cons k0 kr =>
    simp only [unkKeyGlobal, Bool.and_eq_true, Bool.not_eq_true', beq_eq_false_iff_ne, ne_eq] at hk
    obtain ⟨⟨⟨h1, h0⟩, hfb⟩, hv2⟩ := hk
    cases isV2 with
    | false => simp [parseUnknowns, h1]
    | true =>
      simp only [Bool.true_and, Bool.or_eq_false_iff, beq_eq_false_iff_ne, ne_eq] at hv2
      obtain ⟨⟨⟨t2, t3⟩, t4⟩, t5⟩ := hv2
      simp [parseUnknowns, h1, t2, t3, t4, t5]

theorem pu_step_unknown (ko : KeyOps) (isV2 : Bool) : ∀ (l : List KV) (g : GState),
    (∀ kv ∈ l, unkKeyGlobal isV2 kv.1 = true) →
    parseUnknowns ko isV2 g l = some { g with unknown := g.unknown ++ l } := by
  intro l
  induction l with
  | nil => intro g _; simp [parseUnknowns]
  | cons e l ih =>
    intro g hv
    obtain ⟨k, v⟩ := e
    rw [parseUnknowns_unknown_step ko isV2 g k v l (hv (k, v) (by simp))]
    rw [ih _ (fun x hx => hv x (by simp [hx]))]
    simp [List.append_assoc]

theorem Psbt.parse_of_parts (ko : KeyOps) (sha : Bytes → Bytes) (c : Nat) (g : List KV) (rest : Bytes)
    (tx : Option Tx) (ver : Option Nat) (unk : List KV) (gs : GState) (ins : List InScope) (outs : List OutScope)
    (r2 : Bytes)
    (hg : ∀ kv ∈ g, KVWF kv)
    (hgf : globalFold none none [] g = some (tx, ver, unk))
    (hc1 : (tx.isSome && ver == some 2) = false) (hc2 : (tx.isNone && !(ver == some 2)) = false)
    (hpu : parseUnknowns ko (ver == some 2) (gstate0 tx) unk = some gs)
    (hins : readIns ko sha c tx (gs.nin.getD 0) 0 rest = some (ins, r2))
    (houts : readOuts ko tx (gs.nout.getD 0) 0 r2 = some (outs, [])) :
    Psbt.parse ko sha c (psbtMagic ++ (writeKVs g ++ rest))
      = some { version := ver, txVersion := gs.txVersion, locktime := gs.locktime, xpubs := gs.xpubs,
               unknown := gs.unknown, inputs := ins, outputs := outs } := by
  have h1 : takeN 5 (psbtMagic ++ (writeKVs g ++ rest)) = some (psbtMagic, writeKVs g ++ rest) :=
    takeN_append psbtMagic _
  have h2 := readKVs_write g rest hg
  have hpu' : parseUnknowns ko (ver == some 2)
      { txVersion := tx.map (·.version), locktime := tx.map (·.locktime), nin := tx.map (·.vin.length),
        nout := tx.map (·.vout.length), xpubs := [], unknown := [] } unk = some gs := hpu
  unfold Psbt.parse
  simp only [h1, h2, hgf, hc1, hc2, hpu', hins, houts]
  simp

theorem optAll_map_some {α β : Type} (f : α → Option β) : ∀ (l : List α), (∀ a ∈ l, (f a).isSome = true) →
    ∃ r, optAll (l.map f) = some r ∧ r.length = l.length
      ∧ (∀ (j : Nat) (a : α), l[j]? = some a → ∃ b, r[j]? = some b ∧ f a = some b)
      ∧ (∀ b ∈ r, ∃ a ∈ l, f a = some b) := by
  intro l
  induction l with
  | nil => intro _; exact ⟨[], rfl, rfl, by simp, by simp⟩
  | cons a l ih =>
    intro h
    obtain ⟨r, h1, h2, h3, h4⟩ := ih (fun x hx => h x (by simp [hx]))
    have ha := h a (by simp)
    cases hfa : f a with
    | none => simp [hfa] at ha
    | some b =>
      refine ⟨b :: r, by simp [optAll, hfa, h1], by simp [h2], ?_, ?_⟩
      · intro j x hx
        cases j with
        | zero => simp at hx; subst hx; exact ⟨b, by simp, hfa⟩
        | succ j => obtain ⟨y, hy1, hy2⟩ := h3 j x (by simpa using hx); exact ⟨y, by simpa using hy1, hy2⟩
      · intro y hy
        simp at hy
        rcases hy with rfl | hy
        · exact ⟨a, by simp, hfa⟩
        · obtain ⟨x, hx1, hx2⟩ := h4 y hy; exact ⟨x, by simp [hx1], hx2⟩

/-- version 0: the object describes a well-formed unsigned transaction, and the seeds `read_from` derives from
    it are the ones the scopes were written from -/
theorem Psbt.tx_of_v0 (ko : KeyOps) (p : Psbt) (h : PsbtWF ko p) (hv : p.version ≠ some 2) :
    ∃ t, p.tx = some t ∧ WF t ∧ Unsigned t ∧ p.txVersion = some t.version ∧ p.locktime = some t.locktime
      ∧ t.vin.length = p.inputs.length ∧ t.vout.length = p.outputs.length
      ∧ (∀ (j : Nat) (s : InScope), p.inputs[j]? = some s → seedIn (some t) j = InScope.seedOf p.version s)
      ∧ (∀ (j : Nat) (s : OutScope), p.outputs[j]? = some s → seedOut (some t) j = OutScope.seedOf p.version s) := by
  have h0 := h.v0 hv
  obtain ⟨vin, i1, i2, i3, i4⟩ := optAll_map_some InScope.vin p.inputs (fun s hs => by
    obtain ⟨a, b, c⟩ := h0.ins s hs
    cases ht : s.txid with
    | none => simp [ht] at a
    | some t => cases hn : s.vout with
      | none => simp [hn] at b
      | some n => simp [InScope.vin, ht, hn])
  obtain ⟨vout, o1, o2, o3, o4⟩ := optAll_map_some OutScope.vout p.outputs (fun s hs => by
    obtain ⟨a, b⟩ := h0.outs s hs
    cases ht : s.value with
    | none => simp [ht] at a
    | some t => cases hn : s.spk with
      | none => simp [hn] at b
      | some n => simp [OutScope.vout, ht, hn])
  obtain ⟨tv, htv⟩ := Option.isSome_iff_exists.mp h0.txVersion
  obtain ⟨lt, hlt⟩ := Option.isSome_iff_exists.mp h0.locktime
  refine ⟨{ version := tv, vin := vin, vout := vout, locktime := lt }, by simp [Psbt.tx, i1, o1, htv, hlt], ?_, ?_,
    htv, hlt, i2, o2, ?_, ?_⟩
  · -- well-formed
    have := h.txVersion; have := h.locktime; have := h.nin; have := h.nout; have := h0.nin
    refine ⟨by simp_all, by simp_all, by simp; omega, by simp; omega, by simp; omega, ?_, ?_⟩
    · intro vi hvi
      obtain ⟨s, hs, e⟩ := i4 vi hvi
      have hw := h.ins s hs
      unfold InScope.vin at e
      split at e
      · rename_i t n ht hn
        simp at e; subst e
        have a1 := hw.txid; have a2 := hw.vout; have a3 := hw.sequence
        rw [ht] at a1; rw [hn] at a2
        refine ⟨a1, a2, by simp, ?_, by simp, by simp⟩
        cases hq : s.sequence with
        | none => simp
        | some q => rw [hq] at a3; simpa using a3
      · simp at e
    · intro vo hvo
      obtain ⟨s, hs, e⟩ := o4 vo hvo
      have hw := h.outs s hs
      unfold OutScope.vout at e
      split at e
      · rename_i v sc hv' hs'
        simp at e; subst e
        have a1 := hw.value; have a2 := hw.spk
        rw [hv'] at a1; rw [hs'] at a2
        exact ⟨a1, a2⟩
      · simp at e
  · -- unsigned
    intro vi hvi
    obtain ⟨s, hs, e⟩ := i4 vi hvi
    unfold InScope.vin at e
    split at e
    · simp at e; subst e; simp
    · simp at e
  · intro j s hs
    obtain ⟨vi, hvi, e⟩ := i3 j s hs
    obtain ⟨a, b, c⟩ := h0.ins s (List.mem_of_getElem? hs)
    obtain ⟨q, hq⟩ := Option.isSome_iff_exists.mp c
    unfold InScope.vin at e
    split at e
    · rename_i t n ht hn
      simp at e; subst e
      simp [seedIn, hvi, InScope.seedOf, hv, ht, hn, hq]
    · simp at e
  · intro j s hs
    obtain ⟨vo, hvo, e⟩ := o3 j s hs
    unfold OutScope.vout at e
    split at e
    · rename_i v sc hv' hs'
      simp at e; subst e
      simp [seedOut, hvo, OutScope.seedOf, hv, hv', hs']
    · simp at e

def Model.Psbt.xpubPairs (p : Psbt) : List KV := p.xpubs.map (fun e => (0x01 :: e.1, Deriv.ser e.2))

/-- the PSBTv2-only global fields -/
def Model.Psbt.v2Pairs (p : Psbt) : List KV :=
  optKV [0x02] (p.txVersion.map (leN 4)) ++ optKV [0x03] (p.locktime.map (leN 4))
  ++ [([0x04], Compact.enc p.inputs.length), ([0x05], Compact.enc p.outputs.length)]

theorem Psbt.globalPairs_v2 (p : Psbt) (hv : p.version = some 2) :
    p.globalPairs = some (p.xpubPairs ++ p.v2Pairs ++ optKV [0xfb] (p.version.map (leN 4)) ++ p.unknown) := by
  simp only [Psbt.globalPairs, hv, beq_self_eq_true, Bool.not_true, Bool.false_eq_true, if_false, if_true,
    Option.map_some, List.nil_append]
  rfl

theorem Psbt.globalPairs_v0 (p : Psbt) (hv : p.version ≠ some 2) (t : Tx) (ht : p.tx = some t) :
    p.globalPairs = some (([0x00], Tx.ser t) :: (p.xpubPairs ++ optKV [0xfb] (p.version.map (leN 4)) ++ p.unknown)) := by
  have : (p.version == some 2) = false := by simp [hv]
  simp only [Psbt.globalPairs, this, Bool.not_false, if_true, ht, Option.map_some, Bool.false_eq_true, if_false,
    List.append_nil]
  rfl

theorem nodup_map_cons {α : Type} (a : α) : ∀ (l : List (List α)), l.Nodup → (l.map (fun x => a :: x)).Nodup := by
  intro l
  induction l with
  | nil => intro _; simp
  | cons x l ih =>
    intro h
    simp only [List.nodup_cons] at h
    simp only [List.map_cons, List.nodup_cons]
    refine ⟨?_, ih h.2⟩
    intro hm
    obtain ⟨y, hy, e⟩ := List.mem_map.mp hm
    simp at e; subst e; exact h.1 hy

theorem v2Pairs_props (ko : KeyOps) (p : Psbt) (h : PsbtWF ko p) :
    (∀ kv ∈ p.v2Pairs, KVWF kv ∧ notTxVer kv = true
        ∧ (kv.1 = [0x02] ∨ kv.1 = [0x03] ∨ kv.1 = [0x04] ∨ kv.1 = [0x05])) ∧ (p.v2Pairs.map Prod.fst).Nodup := by
  have c1 : ∀ n : Nat, Fits (Compact.enc n) := by
    intro n; unfold Fits Compact.enc; split
    · simp
    · split
      · simp
      · split <;> simp
  refine ⟨?_, ?_⟩
  · intro kv hkv
    simp only [Psbt.v2Pairs, List.mem_append, List.mem_cons, List.mem_nil_iff, or_false] at hkv
    rcases hkv with ((hkv | hkv) | (rfl | rfl))
    · cases htv : p.txVersion with
      | none => simp [htv, optKV] at hkv
      | some n => simp [htv, optKV] at hkv; subst hkv; exact ⟨⟨by simp, by simp, by simp [Fits]⟩, rfl, by simp⟩
    · cases htv : p.locktime with
      | none => simp [htv, optKV] at hkv
      | some n => simp [htv, optKV] at hkv; subst hkv; exact ⟨⟨by simp, by simp, by simp [Fits]⟩, rfl, by simp⟩
    · exact ⟨⟨by simp, by simp, c1 _⟩, rfl, by simp⟩
    · exact ⟨⟨by simp, by simp, c1 _⟩, rfl, by simp⟩
  · cases htv : p.txVersion <;> cases hlt : p.locktime <;> simp [Psbt.v2Pairs, optKV, htv, hlt]

theorem unkKeyGlobal_props (isV2 : Bool) (k : Bytes) (h : unkKeyGlobal isV2 k = true) :
    notTxVer (k, ([] : Bytes)) = true ∧ (∀ x, k ≠ 0x01 :: x)
      ∧ (isV2 = true → k ≠ [0x02] ∧ k ≠ [0x03] ∧ k ≠ [0x04] ∧ k ≠ [0x05]) := by
  cases k with
  | nil => simp [unkKeyGlobal] at h
  | cons k0 kr =>
    simp only [unkKeyGlobal, Bool.and_eq_true, Bool.not_eq_true', beq_eq_false_iff_ne, ne_eq] at h
    obtain ⟨⟨⟨h1, h0⟩, hfb⟩, hv2⟩ := h
    refine ⟨by simp only [notTxVer, Bool.and_eq_true, Bool.not_eq_true', beq_eq_false_iff_ne, ne_eq]; exact ⟨h0, hfb⟩, ?_, ?_⟩
    · intro x e; simp at e; exact h1 e.1
    · intro hv; subst hv
      simp only [Bool.true_and, Bool.or_eq_false_iff, beq_eq_false_iff_ne, ne_eq] at hv2
      obtain ⟨⟨⟨t2, t3⟩, t4⟩, t5⟩ := hv2
      exact ⟨t2, t3, t4, t5⟩

theorem notTxVer_key (k v w : Bytes) : notTxVer (k, v) = notTxVer (k, w) := rfl

theorem nodup_append_of {α : Type} {l1 l2 : List α} (h1 : l1.Nodup) (h2 : l2.Nodup)
    (h3 : ∀ a ∈ l1, ∀ b ∈ l2, a ≠ b) : (l1 ++ l2).Nodup := List.nodup_append.mpr ⟨h1, h2, h3⟩

/-- what `write_to` puts into the global scope besides the transaction — the xpubs, the version-2 fields `mid` (none
    in version 0), the version, the unknown pairs: they fit the framing, all but the version stay in the unknown map of
    the global fold under distinct keys, and `parse_unknowns` reads them back -/
theorem globalWritten (ko : KeyOps) (isV2 : Bool) (xpubs : List (Bytes × Deriv)) (mid unknown : List KV) (g0 g1 : GState)
    (hx : ∀ e ∈ xpubs, ko.validXpub e.1 = true ∧ Fits (0x01 :: e.1) ∧ DerivWF e.2) (hxn : (xpubs.map Prod.fst).Nodup)
    (hm : ∀ kv ∈ mid, KVWF kv ∧ notTxVer kv = true ∧ (kv.1 = [0x02] ∨ kv.1 = [0x03] ∨ kv.1 = [0x04] ∨ kv.1 = [0x05]))
    (hmn : (mid.map Prod.fst).Nodup) (hmv : isV2 = false → mid = [])
    (hu : ∀ kv ∈ unknown, KVWF kv ∧ unkKeyGlobal isV2 kv.1 = true) (hun : (unknown.map Prod.fst).Nodup)
    (hmid : parseUnknowns ko isV2 { g0 with xpubs := g0.xpubs ++ xpubs } mid = some g1)
    (ver : Option Nat) (hver : OptP (· < 2^32) ver) :
    (∀ kv ∈ xpubs.map (fun e => (0x01 :: e.1, Deriv.ser e.2)) ++ mid ++ optKV [0xfb] (ver.map (leN 4)) ++ unknown, KVWF kv)
    ∧ (∀ kv ∈ xpubs.map (fun e => (0x01 :: e.1, Deriv.ser e.2)) ++ mid, notTxVer kv = true)
    ∧ (∀ kv ∈ unknown, notTxVer kv = true)
    ∧ ((xpubs.map (fun e => (0x01 :: e.1, Deriv.ser e.2)) ++ mid ++ unknown).map Prod.fst).Nodup
    ∧ parseUnknowns ko isV2 g0 (xpubs.map (fun e => (0x01 :: e.1, Deriv.ser e.2)) ++ mid ++ unknown)
        = some { g1 with unknown := g1.unknown ++ unknown } := by
  have x1 : ∀ kv ∈ xpubs.map (fun e => (0x01 :: e.1, Deriv.ser e.2)),
      KVWF kv ∧ notTxVer kv = true ∧ ∃ x, kv.1 = 0x01 :: x := by
    intro kv hkv
    obtain ⟨e, he, rfl⟩ := List.mem_map.mp hkv
    obtain ⟨_, a2, a3⟩ := hx e he
    exact ⟨⟨by simp, a2, a3.2.2⟩, by simp [notTxVer], e.1, rfl⟩
  have x2 : ((xpubs.map (fun e => (0x01 :: e.1, Deriv.ser e.2))).map Prod.fst).Nodup := by
    rw [show (xpubs.map (fun e => (0x01 :: e.1, Deriv.ser e.2))).map Prod.fst
        = (xpubs.map Prod.fst).map (fun x => 0x01 :: x) by simp [List.map_map, Function.comp_def]]
    exact nodup_map_cons _ _ hxn
  have z1 : ∀ kv ∈ unknown, KVWF kv ∧ notTxVer kv = true ∧ (∀ x, kv.1 ≠ 0x01 :: x)
      ∧ (isV2 = true → kv.1 ≠ [0x02] ∧ kv.1 ≠ [0x03] ∧ kv.1 ≠ [0x04] ∧ kv.1 ≠ [0x05]) := by
    intro kv hkv
    obtain ⟨a, b⟩ := hu kv hkv
    obtain ⟨c1, c2, c3⟩ := unkKeyGlobal_props isV2 kv.1 b
    exact ⟨a, c1, c2, c3⟩
  refine ⟨fun kv hkv => ?_, fun kv hkv => ?_, fun kv hkv => (z1 kv hkv).2.1, ?_, ?_⟩
  · simp only [List.mem_append] at hkv
    rcases hkv with ((hkv | hkv) | hkv) | hkv
    · exact (x1 kv hkv).1
    · exact (hm kv hkv).1
    · exact optKV_wf _ _ ⟨by simp, by simp [Fits]⟩ (OptP_map hver (fun t ht => by simp [Fits])) kv hkv
    · exact (z1 kv hkv).1
  · rcases List.mem_append.mp hkv with hkv | hkv
    · exact (x1 kv hkv).2.1
    · exact (hm kv hkv).2.1
  · -- keys: `01 ‖ xpub`, then 02 .. 05, then keys `parse_unknowns` leaves alone
    rw [List.map_append, List.map_append]
    refine nodup_append_of (nodup_append_of x2 hmn ?_) hun ?_
    · intro a ha b hb e
      obtain ⟨kv, hkv, rfl⟩ := List.mem_map.mp ha
      obtain ⟨kv', hkv', rfl⟩ := List.mem_map.mp hb
      obtain ⟨x, hx⟩ := (x1 kv hkv).2.2
      rcases (hm kv' hkv').2.2 with e' | e' | e' | e' <;> (rw [hx, e'] at e; simp at e)
    · intro a ha b hb e
      obtain ⟨kv', hkv', rfl⟩ := List.mem_map.mp hb
      obtain ⟨_, _, c2, c3⟩ := z1 kv' hkv'
      rcases List.mem_append.mp ha with ha | ha
      · obtain ⟨kv, hkv, rfl⟩ := List.mem_map.mp ha
        obtain ⟨x, hx⟩ := (x1 kv hkv).2.2
        exact c2 x (by rw [← e, hx])
      · obtain ⟨kv, hkv, rfl⟩ := List.mem_map.mp ha
        cases isV2 with
        | false => rw [hmv rfl] at hkv; cases hkv
        | true =>
          obtain ⟨d2, d3, d4, d5⟩ := c3 rfl
          rcases (hm kv hkv).2.2 with e' | e' | e' | e'
          · exact d2 (by rw [← e, e'])
          · exact d3 (by rw [← e, e'])
          · exact d4 (by rw [← e, e'])
          · exact d5 (by rw [← e, e'])
  · exact pu_bind_step (pu_bind_step (pu_step_xpubs ko isV2 xpubs g0 (fun e he => ⟨(hx e he).1, (hx e he).2.2⟩)) hmid)
      (pu_step_unknown ko isV2 unknown g1 (fun kv hkv => (hu kv hkv).2))

theorem Psbt.parse_ser_v2 (ko : KeyOps) (sha : Bytes → Bytes) (p : Psbt) (h : PsbtWF ko p)
    (hv : p.version = some 2) : ∃ b, Psbt.ser p = some b ∧ Psbt.parse ko sha 0 b = some p := by
  have hisv2 : (p.version == some 2) = true := by simp [hv]
  have hver : OptP (· < 2^32) p.version := h.version
  obtain ⟨hwf, gw1, gw2, gw3, hpu⟩ := globalWritten ko true p.xpubs p.v2Pairs p.unknown (gstate0 none)
    { txVersion := p.txVersion, locktime := p.locktime, nin := some p.inputs.length, nout := some p.outputs.length,
      xpubs := p.xpubs, unknown := [] }
    h.xpubs h.xpubsNodup (v2Pairs_props ko p h).1 (v2Pairs_props ko p h).2 nofun
    (fun kv hkv => by simpa [hisv2] using h.unknown kv hkv) h.unknownNodup
    (pu_bind_step (pu_bind_step
      (pu_step_txver ko _ p.txVersion h.txVersion rfl)
      (pu_step_locktime ko _ p.locktime h.locktime rfl))
      (pu_step_counts ko _ p.inputs.length p.outputs.length h.nin h.nout)) p.version hver
  have hgf := globalFold_written none p.version hver _ p.unknown gw1 gw2 gw3
  have hins := readIns_write ko sha none p.version p.inputs 0
    (p.outputs.flatMap (fun s => writeKVs (s.pairs p.version)) ++ []) h.ins
    (fun j s _ => by simp [seedIn, InScope.seedOf, hv])
  have houts := readOuts_write ko none p.version p.outputs 0 [] h.outs
    (fun j s _ => by simp [seedOut, OutScope.seedOf, hv])
  have hparse := Psbt.parse_of_parts ko sha 0 _ _ none p.version _ _ p.inputs p.outputs _ hwf hgf (by simp) (by simp [hv])
    (by rw [hisv2]; exact hpu) (by exact hins) (by exact houts)
  refine ⟨_, ?_, hparse⟩
  simp only [Psbt.ser, Psbt.globalPairs_v2 p hv, Psbt.xpubPairs, List.append_assoc, List.append_nil]

theorem Psbt.parse_ser_v0 (ko : KeyOps) (sha : Bytes → Bytes) (p : Psbt) (h : PsbtWF ko p)
    (hv : p.version ≠ some 2) : ∃ b, Psbt.ser p = some b ∧ Psbt.parse ko sha 0 b = some p := by
  obtain ⟨t, ht, twf, tun, tv, tl, tni, tno, sin, sout⟩ := Psbt.tx_of_v0 ko p h hv
  have hisv2 : (p.version == some 2) = false := by simp [hv]
  have hver : OptP (· < 2^32) p.version := h.version
  obtain ⟨gw0, gw1, gw2, gw3, hpu⟩ := globalWritten ko false p.xpubs [] p.unknown (gstate0 (some t))
    { txVersion := p.txVersion, locktime := p.locktime, nin := some p.inputs.length, nout := some p.outputs.length,
      xpubs := p.xpubs, unknown := [] }
    h.xpubs h.xpubsNodup nofun .nil (fun _ => rfl) (fun kv hkv => by simpa [hisv2] using h.unknown kv hkv)
    h.unknownNodup (by rw [tv, tl, ← tni, ← tno]; simp [parseUnknowns, gstate0]) p.version hver
  simp only [List.append_nil] at gw0 gw1 gw3 hpu
  have hgf : globalFold none none []
      (([0x00], Tx.ser t) :: (p.xpubPairs ++ optKV [0xfb] (p.version.map (leN 4)) ++ p.unknown))
      = some (some t, p.version, p.xpubPairs ++ p.unknown) := by
    rw [globalFold_tx_step t twf tun]
    exact globalFold_written (some t) p.version hver p.xpubPairs p.unknown gw1 gw2 gw3
  have hins := readIns_write ko sha (some t) p.version p.inputs 0
    (p.outputs.flatMap (fun s => writeKVs (s.pairs p.version)) ++ []) h.ins
    (fun j s hs => by simpa using sin j s hs)
  have houts := readOuts_write ko (some t) p.version p.outputs 0 [] h.outs
    (fun j s hs => by simpa using sout j s hs)
  have hwf : ∀ kv ∈ (([0x00], Tx.ser t) :: (p.xpubPairs ++ optKV [0xfb] (p.version.map (leN 4)) ++ p.unknown) : List KV),
      KVWF kv := by
    intro kv hkv
    rcases List.mem_cons.mp hkv with rfl | hkv
    · have := (h.v0 hv).txFits
      rw [ht] at this
      exact ⟨by simp, by simp, this⟩
    · exact gw0 kv hkv
  have hparse := Psbt.parse_of_parts ko sha 0 _ _ (some t) p.version _ _ p.inputs p.outputs _ hwf hgf
    (by simp [hv]) (by simp) (by rw [hisv2]; exact hpu) (by exact hins) (by exact houts)
  refine ⟨_, ?_, hparse⟩
  simp only [Psbt.ser, Psbt.globalPairs_v0 p hv t ht, List.append_assoc, List.append_nil]

theorem Psbt.parse_ser (ko : KeyOps) (sha : Bytes → Bytes) (p : Psbt) (h : PsbtWF ko p) :
    ∃ b, Psbt.ser p = some b ∧ Psbt.parse ko sha 0 b = some p := by
  by_cases hv : p.version = some 2
  · exact Psbt.parse_ser_v2 ko sha p h hv
  · exact Psbt.parse_ser_v0 ko sha p h hv

end Embit
