import EmbitModel.Proofs.ViewSighash
import EmbitModel.Props.C05X
/-
  C05Y / C01X helpers: the refinement of `Props/C05X.lean` with the view record exposed (offset, first scope) and
  for every compression mode `c` of the reader: if `PSBT.parse(b, compress=c)` accepts, the view opened at any
  offset of a stream embedding `b` has `offset`, `first_scope`, counts and version as the parser sees them, its
  `input(i, compress=c)` / `output(j)` are the parsed scopes, and its `vin` / `vout` / `locktime` / `tx_version`
  describe the PSBT's transaction (`ViewObs`).
-/
set_option linter.unusedSimpArgs false
set_option linter.unusedVariables false
namespace Embit
open Model Spec.Wire Props.C05X

/-- the view `v` over `pre ++ (b ++ post)` presents the PSBT `p` that `PSBT.parse(b, compress=c)` returns -/
structure ViewOf (ko : KeyOps) (sha : Bytes → Bytes) (c : Nat) (pre post b : Bytes) (p : Psbt) (v : View) : Prop where
  opened : View.open (pre ++ (b ++ post)) pre.length = some v
  offset : v.offset = pre.length
  firstScope : v.firstScope = pre.length + (5 + (writeKVs (globalKVs b)).length)
  global : b.take (5 + (writeKVs (globalKVs b)).length) = psbtMagic ++ writeKVs (globalKVs b)
  numIn : v.numIn = p.inputs.length
  numOut : v.numOut = p.outputs.length
  version : v.version = p.version
  input : ∀ i, View.input ko sha (pre ++ (b ++ post)) v i c = p.inputs[i]?
  output : ∀ j, View.output ko (pre ++ (b ++ post)) v j = p.outputs[j]?

theorem take_global (g : List KV) (rest : Bytes) :
    (psbtMagic ++ (writeKVs g ++ rest)).take (5 + (writeKVs g).length) = psbtMagic ++ writeKVs g := by
  rw [← List.append_assoc]
  exact List.take_left' (by simp [psbtMagic]; omega)

/-- `Presents` with the pairs of the global scope named by `globalKVs` -/
theorem ViewOf.of_presents {ko : KeyOps} {sha : Bytes → Bytes} {c : Nat} {pre post b : Bytes} {p : Psbt} {v : View}
    {g : List KV} {rest : Bytes} (hr : readKVs (b.drop 5) = some (g, rest))
    (pr : Presents ko sha c pre post b g p v) : ViewOf ko sha c pre post b p v := by
  have hgk : globalKVs b = g := by simp only [globalKVs, hr]
  obtain ⟨rest', eb⟩ := pr.frame
  exact ⟨pr.opened, pr.offset, hgk ▸ pr.firstScope, by rw [hgk, eb]; exact take_global g _, pr.numIn, pr.numOut,
    pr.version, pr.input, pr.output⟩

/-- version 0, every reader mode: the view over an accepted PSBT (global scope with the unsigned transaction and
    without the PSBTv2 count keys) presents the parsed PSBT and describes its transaction -/
theorem view_of_parse_v0 (ko : KeyOps) (sha : Bytes → Bytes) (c : Nat) (pre post b : Bytes) (p : Psbt)
    (h : Psbt.parse ko sha c b = some p)
    (htx : ∃ x, ([0x00], x) ∈ globalKVs b)
    (hcnt : ∀ kv ∈ globalKVs b, kv.1 ≠ [0x04] ∧ kv.1 ≠ [0x05]) :
    ∃ (t : Tx) (v : View), p.tx = some t ∧ ViewOf ko sha c pre post b p v
      ∧ ViewObs (pre ++ (b ++ post)) v t := by
  cases hr : readKVs (b.drop 5) with
  | none => simp [globalKVs, hr] at htx
  | some gr =>
    simp only [globalKVs, hr] at htx hcnt
    obtain ⟨t, v, ptx, pr, ob⟩ := presents_v0 ko sha c pre post b p h gr.1 gr.2 hr htx hcnt
    exact ⟨t, v, ptx, ViewOf.of_presents hr pr, ob⟩

/-- version 2, every reader mode: the view over an accepted PSBTv2 whose global scope carries both counts presents
    the parsed PSBT; `vin(i)` / `vout(j)` are what the scopes themselves describe, locktime and tx version the stored
    global fields with the defaults of `PSBT.tx` -/
theorem view_of_parse_v2 (ko : KeyOps) (sha : Bytes → Bytes) (c : Nat) (pre post b : Bytes) (p : Psbt)
    (h : Psbt.parse ko sha c b = some p) (hv : p.version = some 2)
    (h4 : ∃ x, ([0x04], x) ∈ globalKVs b) (h5 : ∃ x, ([0x05], x) ∈ globalKVs b) :
    ∃ (v : View), ViewOf ko sha c pre post b p v
      ∧ (∀ i, View.vin (pre ++ (b ++ post)) v i = (p.inputs[i]?).bind InScope.vin)
      ∧ (∀ j, View.vout (pre ++ (b ++ post)) v j = (p.outputs[j]?).bind OutScope.vout)
      ∧ View.getLocktime (pre ++ (b ++ post)) v = some (p.locktime.getD 0)
      ∧ View.getTxVersion (pre ++ (b ++ post)) v = some (p.txVersion.getD 2) := by
  cases hr : readKVs (b.drop 5) with
  | none => simp [globalKVs, hr] at h4
  | some gr =>
    simp only [globalKVs, hr] at h4 h5
    obtain ⟨v, pr, rest⟩ := presents_v2 ko sha c pre post b p h hv gr.1 gr.2 hr h4 h5
    exact ⟨v, ViewOf.of_presents hr pr, rest⟩

/-- when every scope carries its transaction fields (`PSBT.tx` is defined), the view describes `PSBT.tx` -/
theorem viewObs_v2 (buf : Bytes) (v : View) (p : Psbt) (t : Tx) (htx : p.tx = some t)
    (hn : v.numIn = p.inputs.length) (hm : v.numOut = p.outputs.length)
    (hvin : ∀ i, View.vin buf v i = (p.inputs[i]?).bind InScope.vin)
    (hvout : ∀ j, View.vout buf v j = (p.outputs[j]?).bind OutScope.vout)
    (hlt : View.getLocktime buf v = some (p.locktime.getD 0))
    (htv : View.getTxVersion buf v = some (p.txVersion.getD 2)) : ViewObs buf v t := by
  unfold Psbt.tx at htx
  cases h1 : optAll (p.inputs.map InScope.vin) with
  | none => rw [h1] at htx; simp at htx
  | some vin =>
    cases h2 : optAll (p.outputs.map OutScope.vout) with
    | none => rw [h1, h2] at htx; simp at htx
    | some vout =>
      rw [h1, h2] at htx
      simp only [Option.some.injEq] at htx
      subst htx
      obtain ⟨l1, e1⟩ := optAll_getElem? InScope.vin p.inputs vin h1
      obtain ⟨l2, e2⟩ := optAll_getElem? OutScope.vout p.outputs vout h2
      exact ⟨by simp [hn, l1], by simp [hm, l2], fun i => by rw [hvin i]; exact (e1 i).symm,
        fun j => by rw [hvout j]; exact (e2 j).symm, hlt, htv⟩

end Embit
