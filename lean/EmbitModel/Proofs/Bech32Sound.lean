import EmbitModel.Proofs.Bech32Spec
/-
  Soundness of the segwit decoder: whatever `bech32.decode(hrp, s)` returns, `s` is a valid BIP173/BIP350
  segwit address (`Spec.Bech32.IsSegwitAddress`) for exactly that witness version and program.
-/
namespace Embit.Model.Bech32
open Embit Digits

theorem convertbits_5_8_back (data prog : List Nat) (hd : ∀ v ∈ data, v < 32)
    (h : convertbits data 5 8 false = some prog) :
    (∀ v ∈ prog, v < 256) ∧ 8 * prog.length ≤ 5 * data.length ∧ 5 * data.length < 8 * prog.length + 5
      ∧ convertbits prog 8 5 true = some data := by
  obtain ⟨m, bits, hm, hb⟩ : ∃ m bits, 5 * data.length = 8 * m + bits ∧ bits < 8 :=
    ⟨5 * data.length / 8, 5 * data.length % 8, by omega, by omega⟩
  rw [convertbits_strict 5 8 (by decide) (by decide) data hd m bits hm hb] at h
  split at h
  · exact absurd h (by simp)
  · rename_i hc
    obtain ⟨hb5, hz⟩ := not_or.mp hc
    obtain rfl := Option.some.inj h
    have hNlt : valOf 5 data < 2 ^ (8 * m + bits) := by
      rw [← hm, Nat.pow_mul]; exact ofBE_lt (by decide) data hd
    have hq : valOf 5 data / 2 ^ bits < 2 ^ (8 * m) := by
      rw [Nat.div_lt_iff_lt_mul (Nat.two_pow_pos _), ← Nat.pow_add]; exact hNlt
    -- the bytes hold the value without its zero padding bits
    have hval : valOf 8 (fixedBE (2 ^ 8) m (valOf 5 data / 2 ^ bits)) * 2 ^ bits = valOf 5 data := by
      rw [valOf, ofBE_fixedBE, ← Nat.pow_mul, Nat.mod_eq_of_lt hq,
        Nat.div_mul_cancel (Nat.dvd_of_mod_eq_zero (Decidable.not_not.mp hz))]
    refine ⟨fixedBE_lt (by decide) m _, by rw [fixedBE_length]; omega, by rw [fixedBE_length]; omega, ?_⟩
    rw [convertbits_pad 8 5 (by decide) (by decide) _ (fixedBE_lt (by decide) m _) data.length bits
      (by rw [fixedBE_length]; exact hm) (by omega), hval]
    exact congrArg some (fixedBE_ofBE (by decide) data hd)

theorem decode_sound (hrp s : List Char) (ver : Nat) (prog : List Nat) (h : decode hrp s = some (ver, prog)) :
    ∃ pb : Bytes, prog = pb.map UInt8.toNat ∧ Spec.Bech32.IsSegwitAddress hrp s ver pb := by
  obtain ⟨hv16, hlo, hhi, hv0, data, hbd, hcb⟩ := (decode_eq_some_iff hrp s ver prog).mp h
  obtain ⟨hrange, hmix, h6, h7, vals, h1, h2, h3, h4, h5⟩ := (bech32Decode_eq_some_iff s _ hrp _).mp hbd
  have hsplit : vals = (ver :: data) ++ vals.drop (vals.length - 6) := by
    rw [h5, List.take_append_drop]
  have hcl : (vals.drop (vals.length - 6)).length = 6 := by simp; omega
  have hclt : ∀ x ∈ vals.drop (vals.length - 6), x < 32 := fun x hx => h2 x (List.mem_of_mem_drop hx)
  have hdlt : ∀ x ∈ ver :: data, x < 32 := by
    intro x hx; rw [h5] at hx; exact h2 x (List.mem_of_mem_take hx)
  rw [verifyChecksum_eq_some, hsplit, ← List.append_assoc] at h4
  have hck := checksum_unique (encOf ver) hrp (ver :: data) _ hclt hcl h4
  obtain ⟨hp256, _, _, hback⟩ := convertbits_5_8_back data prog (fun x hx => hdlt x (by simp [hx])) hcb
  have hpb := (map_toNat_ofNat hp256).symm
  generalize prog.map UInt8.ofNat = pb at hpb
  have hconv : Address.convOf pb = data := by
    unfold Address.convOf; rw [← hpb, hback]; rfl
  have hlower : lower s = Spec.Bech32.segwitEncode hrp ver pb := by
    rw [← segwitText_eq_spec hrp ver pb (by omega), hconv, segwitText_eq, h1, hsplit, hck]
  have hprint : Printable (hrp ++ '1' :: vals.map chr) := h1 ▸ (printable_lower_iff s).mpr hrange
  refine ⟨pb, hpb, ⟨hv16, ?_, ?_, ?_⟩, h6, ?_, ⟨h7, ?_, fun c hc => hprint c (by simp [hc])⟩, ?_, ?_⟩
  · rw [hpb] at hlo; simpa using hlo
  · rw [hpb] at hhi; simpa using hhi
  · intro hz; have := hv0 hz; rw [hpb] at this; simpa using this
  · exact Bool.eq_false_iff.mpr (mt (mixedCase_iff s).mp hmix)
  · have := congrArg List.length h1
    simp at this; omega
  · rw [toBase32_eq]; exact List.forall_mem_cons.mpr ⟨by omega, convOf_lt pb⟩
  · rw [toLower_eq_lower, hlower]; rfl

end Embit.Model.Bech32
