import EmbitModel.Proofs.Slip39Tables
/-
  The functions of the model that interpolate, once more with the exp/log tables read from the packed numerals
  `expNum`, `logNum` by shift and mask (`ue`, `ul` of `Slip39Tables.lean`), each with the proof that it IS the model's
  function (`splitSecret_eq`, `recoverSecret_eq`, `ShareSet.recover_eq`, `generateShares_eq`, `recoverShares_eq`).
  Why: when the kernel evaluates the model's `exp i` / `log a` it rebuilds the 255-entry table at every call
  (about 50 ms each, 70 calls per interpolation of a 16-byte share). The evaluated examples of C16 rewrite with
  these equations first and let the kernel run the packed-table form.
-/
namespace Embit.Model.Slip39
open Embit

theorem unpack_zero (N i k : Nat) (hN : N < 2 ^ (8 * k)) (hi : k ≤ i) : (N >>> (8 * i)) &&& 255 = 0 := by
  rw [Nat.shiftRight_eq_div_pow, Nat.div_eq_of_lt (Nat.lt_of_lt_of_le hN (Nat.pow_le_pow_right (by decide) (by omega))),
    Nat.zero_and]

/-- the model's lookups are the packed lookups, also beyond the tables, where both give 0 -/
theorem exp_eq_ue : exp = ue := by
  funext i
  rw [exp_eq_expL]
  by_cases hi : i < 255
  · exact expL_eq_ue i hi
  · rw [ue, unpack_zero expNum i 255 (by decide +kernel) (by omega), expL, List.getD,
      List.getElem?_eq_none (by rw [expLit_unpack, List.length_map, List.length_range]; omega)]; rfl

theorem log_eq_ul : log = ul := by
  funext i
  rw [log_eq_logL]
  by_cases hi : i < 256
  · exact logL_eq_ul i hi
  · rw [ul, unpack_zero logNum i 256 (by decide +kernel) (by omega), logL, List.getD,
      List.getElem?_eq_none (by rw [logLit_unpack, List.length_map, List.length_range]; omega)]; rfl

def mixByteE (lg : Nat) (y c : UInt8) : UInt8 :=
  c ^^^ (if y.toNat > 0 then UInt8.ofNat (ue ((ul y.toNat + lg) % 255)) else 0)

def lagrangeLogE (x : Nat) (xs : List Nat) (shareX : Nat) : Nat :=
  let logProduct := sumNat (xs.map fun sx => ul (sx ^^^ x))
  let logNumerator : Int := (logProduct : Int) - (ul (shareX ^^^ x) : Int)
  let logDenominator : Int := (sumNat (xs.map fun ox => ul (shareX ^^^ ox)) : Int)
  ((logNumerator - logDenominator) % 255).toNat

def interpolateE (x : Nat) (shareData : List (Nat × Bytes)) : Bytes :=
  let xs := shareData.map (·.1)
  let init : Bytes := match shareData with
    | [] => []
    | s :: _ => List.replicate s.2.length 0
  shareData.foldl (fun result s => List.zipWith (mixByteE (lagrangeLogE x xs s.1)) s.2 result) init

theorem interpolate_eq : interpolate = interpolateE := by
  have h1 : mixByte = mixByteE := by
    funext lg y c; unfold mixByte mixByteE; rw [exp_eq_ue, log_eq_ul]
  have h2 : lagrangeLog = lagrangeLogE := by
    funext x xs sx; unfold lagrangeLog lagrangeLogE; rw [log_eq_ul]
  funext x sd
  unfold interpolate interpolateE
  rw [h1, h2]
  rfl

def splitSecretE (P : Prims) (secret : Bytes) (k n : Nat) (tape : List Nat) : Option (List (Nat × Bytes)) :=
  if n < 1 then none else
  if n > 16 then none else
  if k < 1 then none else
  if k > n then none else
  let numBytes := secret.length
  if numBytes ≠ 16 ∧ numBytes ≠ 32 then none else
  if k = 1 then some ((List.range n).map fun i => (i, secret)) else
  match drawBytes (numBytes - 4) tape with
  | none => none
  | some (r, tape1) =>
    let digestShare := digest P r secret ++ r
    match drawShares numBytes (k - 2) 0 tape1 with
    | none => none
    | some (base, _) =>
      let shareData := base ++ [(254, digestShare), (255, secret)]
      some (base ++ (List.range' (k - 2) (n - (k - 2))).map fun i => (i, interpolateE i shareData))

theorem splitSecret_eq : splitSecret = splitSecretE := by
  funext P secret k n tape
  unfold splitSecret splitSecretE
  rw [interpolate_eq]
  rfl

def recoverSecretE (P : Prims) (shareData : List (Nat × Bytes)) : Option Bytes :=
  let sharedSecret := interpolateE 255 shareData
  let digestShare := interpolateE 254 shareData
  let dg := digestShare.take 4
  let random := digestShare.drop 4
  if dg ≠ digest P random sharedSecret then none else some sharedSecret

theorem recoverSecret_eq : recoverSecret = recoverSecretE := by
  funext P sd
  unfold recoverSecret recoverSecretE
  rw [interpolate_eq]

def recoverGroupE (P : Prims) (i : Nat) (group : List Share) : Option (Option (Nat × Bytes)) :=
  match group with
  | [] => some none
  | g0 :: _ =>
    if !group.all (fun s => s.memberThreshold == g0.memberThreshold) then none else
    let mt := g0.memberThreshold
    if mt = 1 then some (some (i, g0.bytes)) else
    if mt > group.length then none else
    match recoverSecretE P (group.map fun s => (s.memberIndex, s.bytes)) with
    | none => none
    | some sec => some (some (i, sec))

theorem recoverGroup_eq : recoverGroup = recoverGroupE := by
  funext P i group
  unfold recoverGroup recoverGroupE
  rw [recoverSecret_eq]
  rfl

def gatherGroupsE (P : Prims) : List (Nat × List Share) → Option (List (Nat × Bytes))
  | [] => some []
  | (i, g) :: rest =>
    match recoverGroupE P i g with
    | none => none
    | some r =>
      match gatherGroupsE P rest with
      | none => none
      | some l => some (match r with | none => l | some d => d :: l)

theorem gatherGroups_eq : gatherGroups = gatherGroupsE := by
  funext P gs
  induction gs with
  | nil => rfl
  | cons g gs ih => simp only [gatherGroups, gatherGroupsE, recoverGroup_eq, ih]; rfl

def ShareSet.recoverE (P : Prims) (ss : ShareSet) (passphrase : Bytes) : Option Bytes :=
  if ss.shares.any (fun s => s.groupIndex ≥ ss.groupCount) then none else
  let groups := (List.range ss.groupCount).map fun i => (i, ss.shares.filter fun s => s.groupIndex == i)
  match gatherGroupsE P groups with
  | none => none
  | some shareData =>
    if ss.groupThreshold = 1 then
      match shareData with
      | [] => none
      | d :: _ => decrypt P d.2 ss.id ss.exponent passphrase
    else if ss.groupThreshold > shareData.length then none
    else
      match recoverSecretE P shareData with
      | none => none
      | some sec => decrypt P sec ss.id ss.exponent passphrase

theorem ShareSet.recover_eq : ShareSet.recover = ShareSet.recoverE := by
  funext P ss pass
  unfold ShareSet.recover ShareSet.recoverE
  rw [gatherGroups_eq, recoverSecret_eq]
  rfl

def generateSharesE (P : Prims) (secret : Bytes) (k n : Nat) (passphrase : Bytes) (exponent : Nat)
    (tape : List Nat) : Option (List (List Nat)) :=
  let numBits := secret.length * 8
  if numBits ≠ 128 ∧ numBits ≠ 256 then none else
  match tape with
  | [] => none
  | id :: tape1 =>
    match encrypt P secret id exponent passphrase with
    | none => none
    | some encrypted =>
      match splitSecretE P encrypted k n tape1 with
      | none => none
      | some data =>
        data.mapM fun d =>
          (Share.new? { shareBitLength := numBits, id, exponent, groupIndex := d.1, groupThreshold := k,
                        groupCount := n, memberIndex := 0, memberThreshold := 1, value := ofBe d.2 }).map
            Share.mnemonic

theorem generateShares_eq : generateShares = generateSharesE := by
  funext P secret k n pass e tape
  unfold generateShares generateSharesE
  rw [splitSecret_eq]
  rfl

def recoverSharesE (P : Prims) (mnemonics : List (List Nat)) (passphrase : Bytes) : Option Bytes :=
  match mnemonics.mapM Share.parse with
  | none => none
  | some shares =>
    match ShareSet.new? shares with
    | none => none
    | some ss => ss.recoverE P passphrase

theorem recoverShares_eq : recoverShares = recoverSharesE := by
  funext P ms pass
  unfold recoverShares recoverSharesE
  rw [ShareSet.recover_eq]
  rfl

end Embit.Model.Slip39
