import EmbitModel.Proofs.Bech32Checksum
import EmbitModel.Proofs.Gf2Shift
/-
  Error detection of the bech32 checksum, reduced to a finite rank condition:
  if `topCheck 3 (table W) = true` (a kernel-evaluable GF(2) computation) then any two words of 5-bit symbols
  with the same polymod that differ in at most 4 positions spanning at most `W` symbols are equal.
  Position-shift invariance: "append a zero symbol" (`M`) is an injective linear map on 30-bit states.
-/
namespace Embit.Model.Bech32.Detect
open Embit Gf2

def M (s : Nat) : Nat := polymodStep s 0

/-- `table n`: for each of the last `n` positions (offset from the end), the effect on the final state of
    each of the five bits of the symbol there -/
abbrev table : Nat → List (List Nat) := shiftTable polymodStep 5

/-- the rank condition for words whose last symbol is not zero: that symbol and at most `n` more -/
def topCheck (n : Nat) (G : List (List Nat)) : Bool := headP 5 n G

theorem step_zero_left (x : Nat) : polymodStep 0 x = x := by
  rw [polymodStep_eq]; simp [gsel_zero]

theorem step_eq (s x : Nat) : polymodStep s x = M s ^^^ x := by
  have := polymodStep_xor s 0 0 x
  rw [Nat.xor_zero, Nat.zero_xor, step_zero_left] at this
  exact this

theorem gsel_low : ∀ t, t < 32 → gsel t % 32 = 0 → t = 0 := by decide +kernel

theorem M_inj (s : Nat) (hs : s < 2 ^ 30) (h : M s = 0) : s = 0 := by
  unfold M at h
  rw [polymodStep_eq, Nat.xor_zero] at h
  have hmask : s &&& 0x1FFFFFF = s % 2 ^ 25 := by
    have := Nat.and_two_pow_sub_one_eq_mod s 25
    simpa using this
  rw [hmask, Nat.shiftLeft_eq, Nat.shiftRight_eq_div_pow] at h
  have hx : (s % 2 ^ 25) * 2 ^ 5 = gsel (s / 2 ^ 25) := by
    have := congrArg (fun z => z ^^^ gsel (s / 2 ^ 25)) h
    simp only [Nat.xor_assoc, Nat.xor_self, Nat.xor_zero, Nat.zero_xor] at this
    exact this
  have ht : s / 2 ^ 25 < 32 := by
    rw [Nat.div_lt_iff_lt_mul (by decide)]; exact hs
  have hg : gsel (s / 2 ^ 25) % 32 = 0 := by rw [← hx]; omega
  have h0 := gsel_low _ ht hg
  rw [h0, gsel_zero] at hx
  omega

theorem shiftStep : ShiftStep 5 polymodStep where
  width := by decide
  xor a b := by simpa using polymodStep_xor a b 0 0
  zero := polymodStep_zero
  eq := step_eq
  lt := polymodStep_lt
  inj := M_inj
  comb_unit := by decide +kernel

/-- syndrome of an error word given in offset order (offset 0 = last symbol) -/
abbrev synR (r : List Nat) : Nat := syndrome polymodStep r

theorem synR_eq (r : List Nat) : synR r = polymodFrom 0 r.reverse := rfl

theorem synG_table (n : Nat) (r : List Nat) (hl : r.length ≤ n) (hlt : ∀ x ∈ r, x < 32) :
    synG 5 r (table n) = synR r := synG_shiftTable shiftStep n r hl hlt

theorem detect_list (W : Nat) (hchk : topCheck 3 (table W) = true) (r : List Nat) (hl : r.length ≤ W)
    (hlt : ∀ x ∈ r, x < 32) (hw : weight r ≤ 4) (hs : synR r = 0) : ∀ x ∈ r, x = 0 :=
  Gf2.detect_list shiftStep hchk r hl hlt hw hs

theorem polymodFrom_zeros (n : Nat) : polymodFrom 0 (List.replicate n 0) = 0 := by
  induction n with
  | zero => rfl
  | succ n ih => simp [List.replicate_succ, polymodFrom, polymodStep_zero] at ih ⊢; exact ih

theorem M_iter_inj (n : Nat) (s : Nat) (hs : s < 2 ^ 30) (h : polymodFrom s (List.replicate n 0) = 0) : s = 0 := by
  induction n generalizing s with
  | zero => simpa [polymodFrom] using h
  | succ n ih =>
    simp only [List.replicate_succ, polymodFrom, List.foldl_cons] at h
    have := ih (polymodStep s 0) (polymodStep_lt s 0 (by decide)) h
    exact M_inj s hs this

theorem xorW_length (a b : List Nat) (h : a.length = b.length) : (xorW a b).length = a.length := by
  induction a generalizing b with
  | nil => cases b <;> simp [xorW]
  | cons x xs ih =>
    cases b with
    | nil => simp at h
    | cons y ys => simp [xorW, ih ys (by simpa using h)]

theorem xorW_append (a b c d : List Nat) (h : a.length = c.length) :
    xorW (a ++ b) (c ++ d) = xorW a c ++ xorW b d := by
  induction a generalizing c with
  | nil => cases c with
    | nil => rfl
    | cons _ _ => simp at h
  | cons x xs ih =>
    cases c with
    | nil => simp at h
    | cons y ys => simp [xorW, ih ys (by simpa using h)]

theorem xorW_self (a : List Nat) : xorW a a = List.replicate a.length 0 := by
  induction a with
  | nil => rfl
  | cons x xs ih => simp [xorW, ih, List.replicate_succ]

theorem xorW_lt (a b : List Nat) (ha : ∀ x ∈ a, x < 32) (hb : ∀ x ∈ b, x < 32) : ∀ x ∈ xorW a b, x < 32 := by
  induction a generalizing b with
  | nil => simp [xorW]
  | cons x xs ih =>
    cases b with
    | nil => simp [xorW]
    | cons y ys =>
      intro z hz
      simp only [xorW, List.mem_cons] at hz
      rcases hz with rfl | hz
      · exact Nat.xor_lt_two_pow (n := 5) (ha x (by simp)) (hb y (by simp))
      · exact ih ys (fun w hw => ha w (by simp [hw])) (fun w hw => hb w (by simp [hw])) z hz

theorem xorW_zero_eq (a b : List Nat) (h : a.length = b.length) (hz : ∀ x ∈ xorW a b, x = 0) : a = b := by
  induction a generalizing b with
  | nil => cases b with
    | nil => rfl
    | cons _ _ => simp at h
  | cons x xs ih =>
    cases b with
    | nil => simp at h
    | cons y ys =>
      simp only [xorW, List.mem_cons, forall_eq_or_imp] at hz
      rw [eq_of_xor_eq_zero hz.1, ih ys (by simpa using h) hz.2]

def hamming (a b : List Nat) : Nat := weight (xorW a b)

theorem detect_words (W : Nat) (hchk : topCheck 3 (table W) = true) (s : Nat) (p q u u' : List Nat)
    (hlen : u.length = u'.length) (hW : u.length ≤ W) (hu : ∀ x ∈ u, x < 32) (hu' : ∀ x ∈ u', x < 32)
    (hham : hamming u u' ≤ 4)
    (heq : polymodFrom s (p ++ u ++ q) = polymodFrom s (p ++ u' ++ q)) : u = u' := by
  have hx : polymodFrom 0 (xorW (p ++ u ++ q) (p ++ u' ++ q)) = 0 := by
    have := polymodFrom_xor s s (p ++ u ++ q) (p ++ u' ++ q) (by simp [hlen])
    rw [Nat.xor_self, heq, Nat.xor_self] at this
    exact this
  rw [xorW_append (p ++ u) q (p ++ u') q (by simp [hlen]), xorW_append p u p u' rfl, xorW_self, xorW_self,
    List.append_assoc, polymodFrom_append, polymodFrom_zeros, polymodFrom_append] at hx
  have he32 := xorW_lt u u' hu hu'
  have hcore : polymodFrom 0 (xorW u u') = 0 := by
    apply M_iter_inj q.length _ _ hx
    apply polymodFrom_lt 0 _ (by decide)
    intro v hv; have := he32 v hv; omega
  have hz := detect_list W hchk (xorW u u').reverse (by simp [xorW_length u u' hlen]; exact hW)
    (by simpa using he32) (by rw [weight_reverse]; exact hham)
    (by simpa [synR_eq] using hcore)
  exact xorW_zero_eq u u' hlen (by simpa using hz)

/-- window length: the largest for which the 4-error rank condition holds (it fails for 90) -/
def W : Nat := 89

/-- one kernel evaluation over all 109 736 placements of three further error positions in the window -/
theorem topCheck_W : topCheck 3 (table W) = true := by decide +kernel

end Embit.Model.Bech32.Detect
