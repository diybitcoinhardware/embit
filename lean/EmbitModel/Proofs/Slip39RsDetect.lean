import EmbitModel.Proofs.Slip39Rs
import EmbitModel.Proofs.Gf2Shift
import EmbitModel.Proofs.BasicBits
/-
  RS1024 detects every error pattern touching at most three words of a share of at most 33 words:
  two word sequences that both verify and agree outside three positions are equal.
  The step is `step s x = T s ^^^ x` with `T` linear and injective, so `Gf2.detect_fold` applies; the rank condition
  (first error at the last position, two more anywhere in the window of 33) is one kernel evaluation.
-/
namespace Embit.Model.Slip39
open Gf2

theorem xor_cancel_left (c y : Nat) : c ^^^ (c ^^^ y) = y := by
  rw [← Nat.xor_assoc, Nat.xor_self, Nat.zero_xor]

theorem rs1024Step_eq (a v : Nat) : rs1024Step a v = rs1024Step a 0 ^^^ v := by
  have := rs1024Step_xor a 0 0 v
  rwa [Nat.xor_zero, Nat.zero_xor, rs1024Step_zero_left] at this

theorem genFold_low : ∀ t, t < 1024 → genFold t rs1024Gen 0 0 % 1024 = 0 → t = 0 := by decide +kernel

/-- appending a zero word is injective on 30-bit states -/
theorem step_zero_inj (s : Nat) (hs : s < 2 ^ 30) (h : rs1024Step s 0 = 0) : s = 0 := by
  unfold rs1024Step at h
  rw [genFold_acc, Nat.xor_zero] at h
  have hmask : s &&& 0xFFFFF = s % 2 ^ 20 := by simpa using Nat.and_two_pow_sub_one_eq_mod s 20
  rw [hmask, Nat.shiftLeft_eq, Nat.shiftRight_eq_div_pow] at h
  -- (s % 2^20) * 2^10 = the generator combination selected by the top ten bits
  have hx : (s % 2 ^ 20) * 2 ^ 10 = genFold (s / 2 ^ 20) rs1024Gen 0 0 := eq_of_xor_eq_zero h
  have ht : s / 2 ^ 20 < 1024 := by rw [Nat.div_lt_iff_lt_mul (by decide)]; exact hs
  have h0 := genFold_low _ ht (by rw [← hx]; omega)
  rw [h0, genFold_zero] at hx
  omega

theorem shiftStep : ShiftStep 10 rs1024Step where
  width := by decide
  xor a b := by simpa using rs1024Step_xor a b 0 0
  zero := rs1024Step_zero
  eq := rs1024Step_eq
  lt := rs1024Step_lt
  inj := step_zero_inj
  comb_unit := by decide +kernel

/-- the last word and at most two more among the 33 -/
theorem rank_condition : headP 10 2 (shiftTable rs1024Step 10 33) = true := by decide +kernel

theorem xorList_self (l : List Nat) : xorList l l = List.replicate l.length 0 := by
  induction l with
  | nil => rfl
  | cons a l ih =>
    simp only [xorList] at ih
    simp only [xorList, List.zipWith_cons_cons, Nat.xor_self, List.length_cons, List.replicate_succ, ih]

theorem xorList_append (a b c d : List Nat) (h : a.length = c.length) :
    xorList (a ++ b) (c ++ d) = xorList a c ++ xorList b d := by
  simp only [xorList]; exact List.zipWith_append h

theorem xorList_cons (a c : Nat) (b d : List Nat) : xorList (a :: b) (c :: d) = (a ^^^ c) :: xorList b d := rfl

/-- **RS1024 detects up to three substituted words** in a sequence of at most 33 words: if both sequences
    verify (same customisation string) and agree outside three positions, they are equal -/
theorem rs1024_agree_off_three (cs A B C D : List Nat) (w1 w2 w3 v1 v2 v3 : Nat)
    (hw1 : w1 < 1024) (hw2 : w2 < 1024) (hw3 : w3 < 1024) (hv1 : v1 < 1024) (hv2 : v2 < 1024) (hv3 : v3 < 1024)
    (hlen : A.length + B.length + C.length + D.length + 3 ≤ 33)
    (hW : rs1024Verify cs (A ++ w1 :: (B ++ w2 :: (C ++ w3 :: D))) = true)
    (hV : rs1024Verify cs (A ++ v1 :: (B ++ v2 :: (C ++ v3 :: D))) = true) :
    v1 = w1 ∧ v2 = w2 ∧ v3 = w3 := by
  simp only [rs1024Verify, rs1024Polymod, beq_iff_eq, ← List.append_assoc, List.foldl_append] at hW hV
  generalize List.foldl rs1024Step (List.foldl rs1024Step 1 cs) A = c0 at hW hV
  have lin := foldl_step_xor (w1 :: (B ++ w2 :: (C ++ w3 :: D))) (v1 :: (B ++ v2 :: (C ++ v3 :: D)))
    (by simp) c0 c0
  rw [hW, hV, Nat.xor_self, Nat.xor_self] at lin
  rw [xorList_cons, xorList_append _ _ _ _ rfl, xorList_cons, xorList_append _ _ _ _ rfl, xorList_cons,
    xorList_self, xorList_self, xorList_self] at lin
  have lt : ∀ {a b : Nat}, a < 1024 → b < 1024 → a ^^^ b < 2 ^ 10 := fun ha hb => Nat.xor_lt_two_pow (n := 10) ha hb
  have hz := detect_fold shiftStep rank_condition _
    (by simp only [List.length_cons, List.length_append, List.length_replicate]; omega)
    (by
      intro x hx
      simp only [List.mem_cons, List.mem_append, List.mem_replicate] at hx
      rcases hx with rfl | ⟨_, rfl⟩ | rfl | ⟨_, rfl⟩ | rfl | ⟨_, rfl⟩
      · exact lt hw1 hv1
      · decide
      · exact lt hw2 hv2
      · decide
      · exact lt hw3 hv3
      · decide)
    (by
      simp only [weight, weight_append, weight_replicate_zero]
      have e : ∀ x : Nat, (if x = 0 then 0 else 1) ≤ 1 := fun x => by split <;> omega
      have := e (w1 ^^^ v1); have := e (w2 ^^^ v2); have := e (w3 ^^^ v3)
      omega) lin
  exact ⟨(eq_of_xor_eq_zero (hz _ (by simp))).symm, (eq_of_xor_eq_zero (hz _ (by simp))).symm,
    (eq_of_xor_eq_zero (hz _ (by simp))).symm⟩

theorem split3 (l : List Nat) (p1 p2 p3 : Nat) (h12 : p1 < p2) (h23 : p2 < p3) (h3 : p3 < l.length) :
    l = l.take p1 ++ l[p1] :: (((l.drop (p1 + 1)).take (p2 - p1 - 1)) ++ l[p2] ::
      (((l.drop (p2 + 1)).take (p3 - p2 - 1)) ++ l[p3] :: l.drop (p3 + 1))) := by
  have e3 : l.drop p3 = l[p3] :: l.drop (p3 + 1) := List.drop_eq_getElem_cons h3
  have e2 : l.drop p2 = l[p2] :: l.drop (p2 + 1) := List.drop_eq_getElem_cons (by omega)
  have e1 : l.drop p1 = l[p1] :: l.drop (p1 + 1) := List.drop_eq_getElem_cons (by omega)
  have d2 : (l.drop (p2 + 1)).drop (p3 - p2 - 1) = l.drop p3 := by
    rw [List.drop_drop]; congr 1; omega
  have d1 : (l.drop (p1 + 1)).drop (p2 - p1 - 1) = l.drop p2 := by
    rw [List.drop_drop]; congr 1; omega
  rw [← e3, ← d2, List.take_append_drop, ← e2, ← d1, List.take_append_drop, ← e1, List.take_append_drop]

/-- positional form: two verifying word sequences of equal length ≤ 33 that agree outside three positions are
    equal — so substituting 1, 2 or 3 words of a valid share always breaks the checksum -/
theorem rs1024_detects_le3_pos (cs ws ws' : List Nat) (hl : ws'.length = ws.length) (hlen : ws.length ≤ 33)
    (hw : ∀ w ∈ ws, w < 1024) (hw' : ∀ w ∈ ws', w < 1024)
    (p1 p2 p3 : Nat) (h12 : p1 < p2) (h23 : p2 < p3) (h3 : p3 < ws.length)
    (hagree : ∀ i, i ≠ p1 → i ≠ p2 → i ≠ p3 → ws'[i]? = ws[i]?)
    (hW : rs1024Verify cs ws = true) (hV : rs1024Verify cs ws' = true) : ws' = ws := by
  have h3' : p3 < ws'.length := by omega
  have sW := split3 ws p1 p2 p3 h12 h23 h3
  have sV := split3 ws' p1 p2 p3 h12 h23 h3'
  have eA : ws'.take p1 = ws.take p1 := by
    apply List.ext_getElem?; intro i
    simp only [List.getElem?_take]
    split
    · exact hagree i (by omega) (by omega) (by omega)
    · rfl
  have eB : (ws'.drop (p1 + 1)).take (p2 - p1 - 1) = (ws.drop (p1 + 1)).take (p2 - p1 - 1) := by
    apply List.ext_getElem?; intro i
    simp only [List.getElem?_take, List.getElem?_drop]
    split
    · exact hagree _ (by omega) (by omega) (by omega)
    · rfl
  have eC : (ws'.drop (p2 + 1)).take (p3 - p2 - 1) = (ws.drop (p2 + 1)).take (p3 - p2 - 1) := by
    apply List.ext_getElem?; intro i
    simp only [List.getElem?_take, List.getElem?_drop]
    split
    · exact hagree _ (by omega) (by omega) (by omega)
    · rfl
  have eD : ws'.drop (p3 + 1) = ws.drop (p3 + 1) := by
    apply List.ext_getElem?; intro i
    simp only [List.getElem?_drop]
    exact hagree _ (by omega) (by omega) (by omega)
  rw [eA, eB, eC, eD] at sV
  rw [sW] at hW
  rw [sV] at hV
  have hlen' : (ws.take p1).length + ((ws.drop (p1 + 1)).take (p2 - p1 - 1)).length +
      ((ws.drop (p2 + 1)).take (p3 - p2 - 1)).length + (ws.drop (p3 + 1)).length + 3 ≤ 33 := by
    simp only [List.length_take, List.length_drop]; omega
  have := rs1024_agree_off_three cs _ _ _ _ ws[p1] ws[p2] ws[p3] ws'[p1] ws'[p2] ws'[p3]
    (hw _ (List.getElem_mem _)) (hw _ (List.getElem_mem _)) (hw _ (List.getElem_mem _))
    (hw' _ (List.getElem_mem _)) (hw' _ (List.getElem_mem _)) (hw' _ (List.getElem_mem _)) hlen' hW hV
  rw [sV, this.1, this.2.1, this.2.2]
  exact sW.symm


end Embit.Model.Slip39
