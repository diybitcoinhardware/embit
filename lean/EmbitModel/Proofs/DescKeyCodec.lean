import EmbitModel.Proofs.DescKeyB58
import EmbitModel.Proofs.DescParseNormal
import EmbitModel.Proofs.SecpCardSecp
/-
  C12: the key decoders of the DRIVER's key layer (`Concrete.ops`, Model/DescKeys.lean: SEC public
  keys through `Crypto.Secp.secParse`, extended keys and WIF through Base58Check) are SOUND — an accepted text / byte
  string is exactly what the resulting key prints again — i.e. `KeyCodec Concrete.ops`, the hypothesis of
  `C12X.parse_print_idem`.
  Base58 canonicity comes from C11 through the bridge `Proofs/DescKeyB58.lean`; the compressed-SEC case needs that a
  decompressed `y` is never 0 (else `03‖x` would print as `02‖x`): `−7` is not a cube modulo `p` (C08Z).
-/
namespace Embit.Model.Descriptor.Concrete
open Embit Embit.Crypto Embit.Model Embit.Model.Descriptor

theorem beN_ofBe (b : Bytes) (k : Nat) (h : b.length = k) : beN k (ofBe b) = b := by
  subst h
  exact Embit.beN_ofBe b

theorem split78 (b : Bytes) (h : b.length = 78) :
    b = b.take 4 ++ [b.getD 4 0] ++ (b.drop 5).take 4 ++ (b.drop 9).take 4 ++ (b.drop 13).take 32 ++ b.drop 45 := by
  have e0 : b = b.take 4 ++ b.drop 4 := (List.take_append_drop 4 b).symm
  have e1 : b.drop 4 = b.getD 4 0 :: b.drop 5 := by
    have h4 : 4 < b.length := by omega
    rw [List.drop_eq_getElem_cons h4]; simp [List.getD_eq_getElem?_getD, List.getElem?_eq_getElem h4]
  have e2 : b.drop 5 = (b.drop 5).take 4 ++ b.drop 9 := by
    have := (List.take_append_drop 4 (b.drop 5)).symm
    rwa [List.drop_drop] at this
  have e3 : b.drop 9 = (b.drop 9).take 4 ++ b.drop 13 := by
    have := (List.take_append_drop 4 (b.drop 9)).symm
    rwa [List.drop_drop] at this
  have e4 : b.drop 13 = (b.drop 13).take 32 ++ b.drop 45 := by
    have := (List.take_append_drop 32 (b.drop 13)).symm
    rwa [List.drop_drop] at this
  conv => lhs; rw [e0, e1, e2, e3, e4]
  simp [List.append_assoc]

theorem powMod_go_lt (m : Nat) (hm : 0 < m) : ∀ (fuel b e acc : Nat), acc < m → Secp.powMod.go m fuel b e acc < m := by
  intro fuel
  induction fuel with
  | zero => intro b e acc h; simpa [Secp.powMod.go] using h
  | succ f ih =>
    intro b e acc h
    simp only [Secp.powMod.go]
    split
    · exact h
    · apply ih
      split
      · exact Nat.mod_lt _ hm
      · exact h

theorem powMod_lt (b e m : Nat) (hm : 1 < m) : Secp.powMod b e m < m := by
  unfold Secp.powMod
  exact powMod_go_lt m (by omega) _ _ _ _ (Nat.mod_lt _ (by omega))

theorem p_eq : PyCurve.secp256k1.p = Secp.p := rfl

theorem p_odd : Secp.p % 2 = 1 := by decide

theorem p_gt : 1 < Secp.p := by decide

local instance : Fact PyCurve.secp256k1.p.Prime := ⟨PyCurve.Primes.secp256k1P_prime⟩

/-- no `x` with `x³ + 7 ≡ 0 (mod p)`: the curve has no point with `y = 0` -/
theorem no_root (x : Nat) : (x * x % Secp.p * x + 7) % Secp.p ≠ 0 := by
  intro h
  have hd : Secp.p ∣ x * x % Secp.p * x + 7 := Nat.dvd_of_mod_eq_zero h
  have hz : ((x * x % Secp.p * x + 7 : Nat) : ZMod PyCurve.secp256k1.p) = 0 := by
    rw [ZMod.natCast_eq_zero_iff]; exact hd
  apply PyCurve.secp256k1_neg7_not_cube (x : ZMod PyCurve.secp256k1.p)
  push_cast at hz
  rw [show (Secp.p : Nat) = PyCurve.secp256k1.p from rfl] at hz
  rw [ZMod.natCast_mod] at hz
  push_cast at hz
  push_cast
  linear_combination hz

theorem liftX_sound (x : Nat) (odd : Bool) (pt : Nat × Nat) (h : Secp.liftX x odd = some pt) :
    pt.1 = x ∧ x < Secp.p ∧ pt.2 % 2 = (if odd then 1 else 0) := by
  unfold Secp.liftX at h
  split at h
  · cases h
  · rename_i hx
    cases hs : Secp.sqrtP ((x * x % Secp.p * x + 7) % Secp.p) with
    | none => simp [hs] at h
    | some y =>
      simp only [hs] at h
      unfold Secp.sqrtP at hs
      simp only [] at hs
      split at hs
      · rename_i hsq
        simp only [Option.some.injEq] at hs
        have hy : y < Secp.p := by rw [← hs]; exact powMod_lt _ _ _ p_gt
        have hy0 : y ≠ 0 := by
          intro e
          rw [hs, e] at hsq
          simp at hsq
          exact no_root x hsq.symm
        have hp := p_odd
        have hxp : x < Secp.p := by omega
        have hm : (Secp.p - y) % Secp.p = Secp.p - y := Nat.mod_eq_of_lt (by omega)
        -- `y` itself when its parity is the one asked for, else `p - y`, of the other parity since `p` is odd
        split at h
        all_goals
          rename_i hc
          cases h
          refine ⟨rfl, hxp, ?_⟩
        · cases odd <;> simp at hc ⊢ <;> omega
        · simp only [hm]
          cases odd <;> simp at hc ⊢ <;> omega
      · simp at hs

theorem secCompressed_liftX (r : Bytes) (hl : r.length = 32) (odd : Bool) (pt : Nat × Nat)
    (h : Secp.liftX (ofBe r) odd = some pt) : Secp.secCompressed (some pt) = (if odd then 3 else 2) :: r := by
  obtain ⟨h1, _, h3⟩ := liftX_sound _ _ _ h
  obtain ⟨px, py⟩ := pt
  simp only at h1 h3
  subst h1
  cases odd <;> simp at h3 <;> simp [Secp.secCompressed, h3, beN_ofBe r 32 hl]

theorem secParse_sound (b : Bytes) (pt : Nat × Nat) (h : Secp.secParse b = some pt) :
    secOf pt (b.head? != some 0x04) = b ∧ SecShape b := by
  unfold Secp.secParse at h
  split at h
  · rename_i r
    split at h
    · rename_i hl
      exact ⟨by simpa [secOf] using secCompressed_liftX r hl false pt h, 2, r, rfl, Or.inl ⟨hl, Or.inl rfl⟩⟩
    · cases h
  · rename_i r
    split at h
    · rename_i hl
      exact ⟨by simpa [secOf] using secCompressed_liftX r hl true pt h, 3, r, rfl, Or.inl ⟨hl, Or.inr rfl⟩⟩
    · cases h
  · rename_i r
    split at h
    · rename_i hl
      simp only [] at h
      split at h
      · cases h
        refine ⟨?_, 4, r, rfl, Or.inr ⟨hl, rfl⟩⟩
        simp only [secOf, Secp.secUncompressed, List.head?_cons, bne_self_eq_false, Bool.false_eq_true, if_false]
        rw [beN_ofBe _ 32 (by simp; omega), beN_ofBe _ 32 (by simp; omega), List.take_append_drop]
      · cases h
    · cases h
  · cases h

theorem parseSec_sound (b : Bytes) (key : CKey) (h : parseSec b = some key) :
    key.kind = .pub ∧ key.sec = b ∧ SecShape b := by
  unfold parseSec at h
  cases hp : Secp.secParse b with
  | none => simp [hp] at h
  | some pt =>
    simp only [hp, Option.some.injEq] at h
    subst h
    obtain ⟨h1, h2⟩ := secParse_sound b pt hp
    exact ⟨rfl, h1, h2⟩

theorem secParse_33 (k : Bytes) (pt : Nat × Nat) (h : Secp.secParse k = some pt) (hl : k.length = 33) :
    secOf pt true = k := by
  obtain ⟨h1, x, rest, hk, hs⟩ := secParse_sound k pt h
  subst hk
  rcases hs with ⟨_, hx⟩ | ⟨h64, _⟩
  · have e2 : ((some (2 : UInt8)) != some 4) = true := by decide
    have e3 : ((some (3 : UInt8)) != some 4) = true := by decide
    rcases hx with rfl | rfl
    · simp only [List.head?_cons, e2] at h1; exact h1
    · simp only [List.head?_cons, e3] at h1; exact h1
  · simp at hl; omega

theorem xkeyText_some (v : Bytes) (d : Nat) (fp : Bytes) (c : Nat) (cc : Bytes) (body : XBody) (t : Str)
    (h : xkeyText v d fp c cc body = some t) : t = b58encodeCheck (xkeySerialize v d fp c cc body) := by
  unfold xkeyText at h
  split at h
  · cases h
  · split at h <;> simp at h <;> first | exact h.1.symm | exact h.2.symm

def bodyBytes : XBody → Bytes
  | .priv d => 0 :: beN 32 d
  | .pub pt => secOf pt true

theorem xkeySerialize_eq (v : Bytes) (d : Nat) (fp : Bytes) (c : Nat) (cc : Bytes) (body : XBody) :
    xkeySerialize v d fp c cc body = v ++ [UInt8.ofNat d] ++ fp ++ beN 4 c ++ cc ++ bodyBytes body := by
  cases body <;> rfl

theorem body_bytes (k : Bytes) (hk : k.length = 33) (body : XBody)
    (hbody : (if k.head? = some 0 then
        (if (decide (ofBe (k.drop 1) = 0) || decide (ofBe (k.drop 1) ≥ N)) = true then none
         else some (XBody.priv (ofBe (k.drop 1))))
      else (Secp.secParse k).bind fun pt => if k.length = 33 then some (XBody.pub pt) else none) = some body) :
    bodyBytes body = k := by
  split at hbody
  · rename_i hh
    split at hbody
    · simp at hbody
    · simp only [Option.some.injEq] at hbody
      subst hbody
      cases k with
      | nil => simp at hk
      | cons a r =>
        simp at hh
        subst hh
        simp only [bodyBytes, List.drop_succ_cons, List.drop_zero]
        rw [beN_ofBe r 32 (by simpa using hk)]
  · cases hsp : Secp.secParse k with
    | none => simp [hsp] at hbody
    | some pt =>
      simp only [hsp, Option.bind_some, Option.some.injEq] at hbody
      subst hbody
      exact secParse_33 _ pt hsp hk

theorem parseXkey_sound (s : Str) (key : CKey) (h : parseXkey s = some key) :
    key.kind = .xkey ∧ key.text = some s ∧ ∃ b, b58decodeCheck s = some b ∧ b.length = 78 := by
  unfold parseXkey at h
  cases hd : b58decodeCheck s with
  | none => simp [hd] at h
  | some b =>
    simp only [hd] at h
    split at h
    · cases h
    · rename_i hlen
      have hlen : b.length = 78 := by simpa using hlen
      split at h
      · cases h
      · rename_i body hbody
        split at h
        · cases h
        · rename_i t ht
          have htext := ht
          have hser : xkeySerialize (b.take 4) (b.getD 4 0).toNat ((b.drop 5).take 4) (ofBe ((b.drop 9).take 4))
              ((b.drop 13).take 32) body = b := by
            have hk : (b.drop 45).length = 33 := by simp; omega
            have hbytes := body_bytes (b.drop 45) hk body hbody
            rw [xkeySerialize_eq, hbytes, beN_ofBe _ 4 (by simp; omega), UInt8.ofNat_toNat]
            exact (split78 b hlen).symm
          have ht' := xkeyText_some _ _ _ _ _ _ _ ht
          rw [hser, (b58decodeCheck_sound s b hd).1] at ht'
          subst ht'
          split at h
          · cases h
          · split at h
            · cases h
            · simp only [Option.some.injEq] at h
              subst h
              exact ⟨rfl, htext, b, rfl, hlen⟩

theorem parseWif_sound (s : Str) (key : CKey) (h : parseWif s = some key) :
    key.kind = .priv ∧ key.text = some s ∧ ∃ b, b58decodeCheck s = some b ∧ 33 ≤ b.length := by
  unfold parseWif at h
  cases hd : b58decodeCheck s with
  | none => simp [hd] at h
  | some b =>
    simp only [hd] at h
    split at h
    · cases h
    · rename_i hknown
      have hknown : knownWifPrefix (b.take 1) = true := by simpa using hknown
      split at h
      · cases h
      · rename_i hlen
        have hlen : b.length = 33 ∨ b.length = 34 := by
          simp at hlen; omega
        split at h
        · cases h
        · rename_i hflag
          split at h
          · cases h
          · simp only [Option.some.injEq] at h
            subst h
            refine ⟨rfl, ?_, b, rfl, by omega⟩
            simp only [CKey.text, hknown, if_true, Option.some.injEq]
            have hb : b.take 1 ++ beN 32 (ofBe ((b.drop 1).take 32)) ++
                (if (decide (b.length = 34)) = true then [1] else []) = b := by
              rw [beN_ofBe _ 32 (by simp; omega)]
              rcases hlen with h33 | h34
              · have : (b.drop 1).take 32 = b.drop 1 := List.take_of_length_le (by simp; omega)
                rw [this]
                simp only [h33, show decide ((33 : Nat) = 34) = false from rfl, Bool.false_eq_true, if_false,
                  List.append_nil]
                exact List.take_append_drop 1 b
              · have e : b.drop 1 = (b.drop 1).take 32 ++ b.drop 33 := by
                  have := (List.take_append_drop 32 (b.drop 1)).symm
                  rwa [List.drop_drop] at this
                have hl1 : (b.drop 33).length = 1 := by simp; omega
                have hlast : b.drop 33 = [1] := by
                  cases h33 : b.drop 33 with
                  | nil => rw [h33] at hl1; simp at hl1
                  | cons x r =>
                    rw [h33] at hl1
                    have hr : r = [] := by simpa using hl1
                    subst hr
                    have hg : b.getLast? = some x := by
                      rw [← List.take_append_drop 33 b, h33]; simp
                    simp [h34, hg] at hflag
                    rw [hflag]
                simp only [h34, decide_true, if_true]
                rw [← hlast, List.append_assoc, ← e, List.take_append_drop]
            rw [hb]
            exact (b58decodeCheck_sound s b hd).1

theorem concrete_codec : KeyCodec ops where
  sec := fun b key h => parseSec_sound b key h
  xkey := fun s key h => by
    obtain ⟨h1, h2, _⟩ := parseXkey_sound s key h
    exact ⟨h1, h2⟩
  wif := fun s key h => by
    obtain ⟨h1, h2, _⟩ := parseWif_sound s key h
    exact ⟨h1, h2⟩
  textShape := fun s key h => by
    rcases h with h | h
    · obtain ⟨_, _, b, hb, hl⟩ := parseXkey_sound s key h
      exact b58decodeCheck_textShape s b hb (by omega)
    · obtain ⟨_, _, b, hb, hl⟩ := parseWif_sound s key h
      exact b58decodeCheck_textShape s b hb (by omega)

/-! ### two of the four `KeyLaws` fields (Proofs/DescScripts.lean) for the same record -/

theorem ckdPath_none (k : CKey) (path : List (Option Nat)) (h : none ∈ path) : ckdPath k path = none := by
  induction path generalizing k with
  | nil => simp at h
  | cons a r ih =>
    cases a with
    | none => rfl
    | some i =>
      simp only [ckdPath]
      cases hc : ckd k i with
      | none => rfl
      | some c => simp only [Option.bind_some]; exact ih c (by simpa using h)

theorem sec_toPublic (k p : CKey) (h : k.toPublic = some p) : p.sec = k.sec := by
  cases k with
  | pub pt c => simp [CKey.toPublic] at h; subst h; rfl
  | priv d c w => simp [CKey.toPublic] at h; subst h; rfl
  | xkey v dep fp ch cc body =>
    cases body with
    | pub pt => simp [CKey.toPublic] at h
    | priv d =>
      simp only [CKey.toPublic] at h
      split at h
      · cases h
      · rename_i v' _
        cases ht : xkeyText v' dep fp ch cc (XBody.pub (pointOfSecret d)) with
        | none => simp [ht] at h
        | some t => simp [ht] at h; subst h; rfl

end Embit.Model.Descriptor.Concrete
