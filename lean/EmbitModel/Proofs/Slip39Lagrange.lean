import Mathlib.LinearAlgebra.Lagrange
import EmbitModel.Proofs.Slip39Field
import EmbitModel.Proofs.BasicBits
/-
  Model.interpolate (sums of logarithms, exp/log tables) = Lagrange interpolation over GF(256), bytewise,
  stated with Mathlib's `Lagrange.interpolate`.
-/

namespace Embit.Model.Slip39
open GF256

theorem ofNat_val {n : Nat} (h : n < 256) : (GF256.ofNat n).val = n := Nat.mod_eq_of_lt h

theorem ofNat_xor (a b : Nat) (ha : a < 256) (hb : b < 256) : GF256.ofNat (a ^^^ b) = GF256.ofNat a + GF256.ofNat b := by
  ext; simp [ofNat_val ha, ofNat_val hb, ofNat_val (xor_lt_256 ha hb)]

theorem ofNat_eq_zero {n : Nat} (h : n < 256) : GF256.ofNat n = 0 ↔ n = 0 := by
  constructor
  · intro e; have := congrArg GF256.val e; simpa [ofNat_val h] using this
  · intro e; subst e; rfl

theorem ofNat_mulL (a b : Nat) (ha : a < 256) (hb : b < 256) : GF256.ofNat (mulL a b) = GF256.ofNat a * GF256.ofNat b := by
  ext; simp [ofNat_val ha, ofNat_val hb, ofNat_val (mulL_lt a b)]

theorem prod_eq_exp_sum (as : List Nat) (h : ∀ a ∈ as, a ≠ 0 ∧ a < 256) :
    (as.map GF256.ofNat).prod = GF256.ofNat (expL (sumNat (as.map logL) % 255)) := by
  induction as with
  | nil => simp [sumNat, expL_zero]; rfl
  | cons a as ih =>
    have ha := h a (List.mem_cons_self)
    rw [List.map_cons, List.prod_cons, ih (fun a' h' => h a' (List.mem_cons_of_mem _ h'))]
    rw [← ofNat_mulL _ _ ha.2 (expL_lt _)]
    congr 1
    rw [mulL_nz ha.1 (expL_ne _), logL_expL]
    simp only [List.map_cons, sumNat, List.foldr_cons]
    congr 1
    change (logL a + sumNat (as.map logL) % 255) % 255 = (logL a + sumNat (as.map logL)) % 255
    omega

/-- `exp[(N - D) mod 255] = exp[N mod 255] / exp[D mod 255]` (Python's `%` on a possibly negative difference) -/
theorem exp_sub (N D : Nat) :
    GF256.ofNat (expL ((((N : Int) - (D : Int)) % 255).toNat)) =
      GF256.ofNat (expL (N % 255)) / GF256.ofNat (expL (D % 255)) := by
  have hm : (((N : Int) - (D : Int)) % 255).toNat = (((N : Int) - (D : Int)) % 255).toNat % 255 := by omega
  have hD : GF256.ofNat (expL (D % 255)) ≠ 0 := by
    rw [Ne, ofNat_eq_zero (expL_lt _)]; exact expL_ne _
  rw [eq_div_iff hD, hm, ← ofNat_mulL _ _ (expL_lt _) (expL_lt _), mulL_nz (expL_ne _) (expL_ne _), logL_expL, logL_expL]
  congr 2
  omega


theorem sumNat_erase (f : Nat → Nat) (l : List Nat) (a : Nat) (h : a ∈ l) :
    sumNat (l.map f) = f a + sumNat ((l.erase a).map f) := by
  induction l with
  | nil => simp at h
  | cons b l ih =>
    by_cases e : b = a
    · subst e; simp [sumNat]
    · have : a ∈ l := by
        rcases List.mem_cons.mp h with h | h
        · exact absurd h.symm e
        · exact h
      rw [List.erase_cons_tail (by simpa using e)]
      simp only [List.map_cons, sumNat, List.foldr_cons] at ih ⊢
      have := ih this
      omega

theorem lagrangeLog_lt (x : Nat) (xs : List Nat) (xi : Nat) : lagrangeLog x xs xi < 255 := by
  unfold lagrangeLog; simp only; omega

/-- the Lagrange basis value ℓ_i(x) over the x-coordinates `xs`, as a quotient of two list products -/
def basisVal (x : Nat) (xs : List Nat) (xi : Nat) : GF256 :=
  ((xs.erase xi).map fun xj => GF256.ofNat x - GF256.ofNat xj).prod /
  ((xs.erase xi).map fun xj => GF256.ofNat xi - GF256.ofNat xj).prod

theorem prod_sub_eq_exp (c : Nat) (l : List Nat) (hc : c < 256) (hl : ∀ a ∈ l, a < 256) (hne : c ∉ l) :
    (l.map fun a => GF256.ofNat c - GF256.ofNat a).prod =
      GF256.ofNat (expL (sumNat (l.map fun a => logL (c ^^^ a)) % 255)) := by
  have := prod_eq_exp_sum (l.map fun a => c ^^^ a) (by
    intro b hb
    obtain ⟨a, ha, rfl⟩ := List.mem_map.mp hb
    exact ⟨fun h0 => hne (eq_of_xor_eq_zero h0 ▸ ha), xor_lt_256 hc (hl a ha)⟩)
  rw [List.map_map, List.map_map] at this
  rw [show (fun a => logL (c ^^^ a)) = (logL ∘ fun a => c ^^^ a) from rfl, ← this]
  refine congrArg List.prod (List.map_congr_left fun a ha => ?_)
  simp only [Function.comp]
  rw [ofNat_xor _ _ hc (hl a ha), GF256.sub_eq_add]

theorem exp_lagrangeLog (x : Nat) (xs : List Nat) (xi : Nat) (hx : x < 256) (hxs : ∀ a ∈ xs, a < 256)
    (hnd : xs.Nodup) (hnot : x ∉ xs) (hi : xi ∈ xs) :
    GF256.ofNat (expL (lagrangeLog x xs xi)) = basisVal x xs xi := by
  have hsub : ∀ a ∈ xs.erase xi, a < 256 := fun a h => hxs a (List.mem_of_mem_erase h)
  -- the factor of `xi` itself: log (xi xor x) cancels in the numerator, log 0 = 0 in the denominator
  have hN : sumNat (xs.map fun sx => logL (sx ^^^ x)) = logL (xi ^^^ x) + sumNat ((xs.erase xi).map fun sx => logL (sx ^^^ x)) :=
    sumNat_erase (fun sx => logL (sx ^^^ x)) xs xi hi
  have hD : sumNat (xs.map fun ox => logL (xi ^^^ ox)) = sumNat ((xs.erase xi).map fun ox => logL (xi ^^^ ox)) := by
    rw [sumNat_erase (fun ox => logL (xi ^^^ ox)) xs xi hi]; simp [logL_zero]
  unfold lagrangeLog
  simp only [log_eq_logL]
  rw [hN, hD]
  have e1 : ((logL (xi ^^^ x) + sumNat ((xs.erase xi).map fun sx => logL (sx ^^^ x)) : Nat) : Int) - (logL (xi ^^^ x) : Int)
      = ((sumNat ((xs.erase xi).map fun sx => logL (sx ^^^ x)) : Nat) : Int) := by omega
  rw [e1, exp_sub, basisVal, prod_sub_eq_exp x _ hx hsub (fun h => hnot (List.mem_of_mem_erase h)),
    prod_sub_eq_exp xi _ (hxs xi hi) hsub (fun h => ((List.Nodup.mem_erase_iff hnd).mp h).1 rfl)]
  simp only [Nat.xor_comm x]


def toG (u : UInt8) : GF256 := ⟨u.toNat, u.toNat_lt⟩

theorem toG_eq_ofNat (u : UInt8) : toG u = GF256.ofNat u.toNat := by
  ext; simp [toG, ofNat_val u.toNat_lt]

theorem toG_zero : toG 0 = 0 := rfl

theorem toG_inj {a b : UInt8} (h : toG a = toG b) : a = b := by
  have := congrArg GF256.val h
  exact UInt8.toNat_inj.mp this

theorem mixByte_field (lg : Nat) (hlg : lg < 255) (y c : UInt8) :
    toG (mixByte lg y c) = toG c + toG y * GF256.ofNat (expL lg) := by
  have he := expL_facts lg hlg
  ext
  simp only [toG, mixByte, GF256.add_val, GF256.mul_val, UInt8.toNat_xor, ofNat_val he.2.1, exp_eq_expL, log_eq_logL]
  congr 1
  by_cases hy : y.toNat > 0
  · rw [if_pos hy, mulL_nz (by omega) (by omega), he.2.2]
    simp only [UInt8.toNat_ofNat']
    exact Nat.mod_eq_of_lt (expL_lt _)
  · rw [if_neg hy, show y.toNat = 0 by omega, mulL_zero_left]; rfl

theorem getD_zipWith {α β γ : Type} (f : α → β → γ) (l1 : List α) (l2 : List β) (b : Nat) (da : α) (db : β) (dc : γ)
    (h1 : b < l1.length) (h2 : b < l2.length) :
    (List.zipWith f l1 l2).getD b dc = f (l1.getD b da) (l2.getD b db) := by
  simp [List.getD, List.getElem?_zipWith, List.getElem?_eq_getElem h1, List.getElem?_eq_getElem h2]

theorem fold_mix (lg : Nat → Nat) (hlg : ∀ a, lg a < 255) (data : List (Nat × Bytes)) (init : Bytes)
    (hl : ∀ s ∈ data, s.2.length = init.length) :
    (data.foldl (fun result s => List.zipWith (mixByte (lg s.1)) s.2 result) init).length = init.length ∧
    ∀ b < init.length,
      toG ((data.foldl (fun result s => List.zipWith (mixByte (lg s.1)) s.2 result) init).getD b 0) =
        toG (init.getD b 0) + (data.map fun s => toG (s.2.getD b 0) * GF256.ofNat (expL (lg s.1))).sum := by
  induction data generalizing init with
  | nil => simp
  | cons s data ih =>
    have hs := hl s List.mem_cons_self
    have hlen : (List.zipWith (mixByte (lg s.1)) s.2 init).length = init.length := by simp [hs]
    have := ih (List.zipWith (mixByte (lg s.1)) s.2 init) (by
      intro s' hs'; rw [hlen]; exact hl s' (List.mem_cons_of_mem _ hs'))
    rw [hlen] at this
    refine ⟨this.1, ?_⟩
    intro b hb
    rw [List.foldl_cons, this.2 b hb, getD_zipWith _ _ _ _ 0 0 0 (by omega) hb, mixByte_field _ (hlg _)]
    simp only [List.map_cons, List.sum_cons]
    ring

/-- well-formed share data -/
structure Good (data : List (Nat × Bytes)) (L : Nat) : Prop where
  lt : ∀ s ∈ data, s.1 < 256
  nodup : (data.map (·.1)).Nodup
  len : ∀ s ∈ data, s.2.length = L
  ne : data ≠ []

theorem Good.xs_lt {data L} (g : Good data L) : ∀ a ∈ data.map (·.1), a < 256 := by
  intro a ha; obtain ⟨t, ht, rfl⟩ := List.mem_map.mp ha; exact g.lt t ht

theorem interpolate_bytes {data L} (g : Good data L) (x : Nat) :
    (interpolate x data).length = L ∧
    ∀ b < L, toG ((interpolate x data).getD b 0) =
      toG ((List.replicate L (0 : UInt8)).getD b 0) +
        (data.map fun s' => toG (s'.2.getD b 0) * GF256.ofNat (expL (lagrangeLog x (data.map (·.1)) s'.1))).sum := by
  cases data with
  | nil => exact absurd rfl g.ne
  | cons s data =>
    have hs := g.len s List.mem_cons_self
    have := fold_mix (lagrangeLog x ((s :: data).map (·.1))) (lagrangeLog_lt x _) (s :: data)
      (List.replicate s.2.length 0) (by simpa [hs] using g.len)
    unfold interpolate
    simpa [hs] using this

theorem interpolate_length' {data L} (g : Good data L) (x : Nat) : (interpolate x data).length = L :=
  (interpolate_bytes g x).1

theorem interpolate_byte {data L} (g : Good data L) (x : Nat) (hx : x < 256) (hnot : x ∉ data.map (·.1))
    (b : Nat) (hb : b < L) :
    toG ((interpolate x data).getD b 0) =
      (data.map fun s' => toG (s'.2.getD b 0) * basisVal x (data.map (·.1)) s'.1).sum := by
  rw [(interpolate_bytes g x).2 b hb]
  have h0 : toG ((List.replicate L (0 : UInt8)).getD b 0) = 0 := by
    simp [List.getD, hb]; rfl
  rw [h0, zero_add]
  refine congrArg List.sum (List.map_congr_left fun s' hs' => ?_)
  rw [exp_lagrangeLog x _ s'.1 hx g.xs_lt g.nodup hnot (List.mem_map_of_mem hs')]


section generic
variable {F : Type} [Field F] [DecidableEq F]
open Polynomial

def lookup (pts : List (F × F)) (a : F) : F :=
  match pts.find? (fun p => p.1 = a) with
  | some p => p.2
  | none => 0

theorem lookup_mem (pts : List (F × F)) (hnd : (pts.map (·.1)).Nodup) (p : F × F) (hp : p ∈ pts) :
    lookup pts p.1 = p.2 := by
  induction pts with
  | nil => simp at hp
  | cons q pts ih =>
    simp only [List.map_cons, List.nodup_cons] at hnd
    unfold lookup
    by_cases e : q.1 = p.1
    · simp only [List.find?_cons, e, decide_true]
      rcases List.mem_cons.mp hp with h | h
      · rw [h]
      · exfalso; apply hnd.1; rw [e]; exact List.mem_map_of_mem h
    · simp only [List.find?_cons, e, decide_false]
      rcases List.mem_cons.mp hp with h | h
      · exact absurd (by rw [h]) e
      · exact ih hnd.2 h

omit [Field F] in
theorem toFinset_erase_nodup (l : List F) (hnd : l.Nodup) (a : F) : l.toFinset.erase a = (l.erase a).toFinset := by
  ext b
  simp only [Finset.mem_erase, List.mem_toFinset, hnd.mem_erase_iff]

omit [DecidableEq F] in
theorem prod_map_div {α : Type} (l : List α) (f g : α → F) :
    (l.map f).prod / (l.map g).prod = (l.map fun j => f j / g j).prod := by
  induction l with
  | nil => simp
  | cons a l ih => simp only [List.map_cons, List.prod_cons, ← ih, div_mul_div_comm]

/-- Σ_i y_i · Π_{j≠i}(x − x_j) / Π_{j≠i}(x_i − x_j) over a list of points with distinct x-coordinates is the value
    at `x` of the Lagrange interpolation polynomial through the points -/
theorem list_lagrange_eq_eval (pts : List (F × F)) (hnd : (pts.map (·.1)).Nodup) (x : F) :
    (pts.map fun p => p.2 * ((((pts.map (·.1)).erase p.1).map fun xj => x - xj).prod /
        (((pts.map (·.1)).erase p.1).map fun xj => p.1 - xj).prod)).sum =
      eval x (Lagrange.interpolate (pts.map (·.1)).toFinset id (lookup pts)) := by
  rw [Lagrange.interpolate_apply, eval_finsetSum, List.sum_toFinset _ hnd, List.map_map]
  refine congrArg List.sum ?_
  apply List.map_congr_left
  intro p hp
  simp only [Function.comp, eval_mul, eval_C, lookup_mem pts hnd p hp]
  congr 1
  unfold Lagrange.basis
  rw [eval_prod, toFinset_erase_nodup _ hnd, List.prod_toFinset _ (hnd.erase _), prod_map_div]
  refine congrArg List.prod ?_
  apply List.map_congr_left
  intro j _
  simp only [Lagrange.basisDivisor, eval_mul, eval_C, eval_sub, eval_X, id]
  rw [div_eq_inv_mul]

end generic


open Polynomial

theorem ofNat_inj {a b : Nat} (ha : a < 256) (hb : b < 256) (h : GF256.ofNat a = GF256.ofNat b) : a = b := by
  have := congrArg GF256.val h
  rwa [ofNat_val ha, ofNat_val hb] at this

theorem map_ofNat_erase (l : List Nat) (hl : ∀ a ∈ l, a < 256) (a : Nat) (ha : a < 256) :
    (l.map GF256.ofNat).erase (GF256.ofNat a) = (l.erase a).map GF256.ofNat := by
  induction l with
  | nil => rfl
  | cons b l ih =>
    have hb := hl b List.mem_cons_self
    by_cases e : b = a
    · subst e; simp
    · have : GF256.ofNat b ≠ GF256.ofNat a := fun h => e (ofNat_inj hb ha h)
      rw [List.map_cons, List.erase_cons_tail (by simpa using this), List.erase_cons_tail (by simpa using e),
        List.map_cons, ih (fun a' h' => hl a' (List.mem_cons_of_mem _ h'))]

theorem map_ofNat_nodup (l : List Nat) (hl : ∀ a ∈ l, a < 256) (hnd : l.Nodup) : (l.map GF256.ofNat).Nodup := by
  rw [List.nodup_map_iff_inj_on hnd]
  intro a ha b hb h
  exact ofNat_inj (hl a ha) (hl b hb) h

/-- the points (x_i, y_i[b]) of byte position `b` as field elements -/
def col (data : List (Nat × Bytes)) (b : Nat) : List (GF256 × GF256) :=
  data.map fun s => (GF256.ofNat s.1, toG (s.2.getD b 0))

theorem col_fst (data : List (Nat × Bytes)) (b : Nat) : (col data b).map (·.1) = (data.map (·.1)).map GF256.ofNat := by
  simp [col, List.map_map, Function.comp_def]

noncomputable def sharePoly (data : List (Nat × Bytes)) (b : Nat) : GF256[X] :=
  Lagrange.interpolate ((col data b).map (·.1)).toFinset id (lookup (col data b))

theorem Good.col_nodup {data L} (g : Good data L) (b : Nat) : ((col data b).map (·.1)).Nodup := by
  rw [col_fst]; exact map_ofNat_nodup _ g.xs_lt g.nodup

theorem interpolate_eq_eval' {data L} (g : Good data L) (x : Nat) (hx : x < 256) (hnot : x ∉ data.map (·.1))
    (b : Nat) (hb : b < L) :
    toG ((interpolate x data).getD b 0) = eval (GF256.ofNat x) (sharePoly data b) := by
  rw [interpolate_byte g x hx hnot b hb, sharePoly, ← list_lagrange_eq_eval _ (g.col_nodup b)]
  rw [col, List.map_map]
  refine congrArg List.sum ?_
  apply List.map_congr_left
  intro t ht
  simp only [Function.comp]
  congr 1
  have e : List.map (fun p : GF256 × GF256 => p.1) (List.map (fun s => (GF256.ofNat s.1, toG (s.2.getD b 0))) data)
      = (data.map (·.1)).map GF256.ofNat := col_fst data b
  rw [e, map_ofNat_erase _ g.xs_lt _ (g.lt t ht), List.map_map, List.map_map]
  rfl

end Embit.Model.Slip39
