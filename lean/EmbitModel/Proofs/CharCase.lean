import EmbitModel.Model.Bech32
import EmbitModel.Spec.Bech32
/-
  Case of characters and strings. `Char.toLower` / `Char.toUpper` (Python's `str.lower` / `str.upper` on ASCII) and
  the specification's `isUpper` / `isLower` / `toLower` are read through `Char.toNat`, where each is a comparison
  with, or a shift by 32 of, the code point; the facts about strings follow characterwise. None of them needs the
  string to be ASCII.
-/
namespace Embit.Model.Bech32
open Spec.Bech32 (isUpper isLower mixedCase)

/-- printable ASCII: the characters `bech32_decode` admits -/
def Printable (s : List Char) : Prop := ∀ c ∈ s, 33 ≤ c.toNat ∧ c.toNat ≤ 126

theorem toNat_inj {c d : Char} : c = d ↔ c.toNat = d.toNat :=
  ⟨fun h => by rw [h], fun h => Char.ext (UInt32.toNat_inj.mp h)⟩

theorem isUpper_iff (c : Char) : isUpper c = true ↔ 65 ≤ c.toNat ∧ c.toNat ≤ 90 := by
  simp only [isUpper, Bool.and_eq_true, decide_eq_true_eq, Char.le_def, UInt32.le_iff_toNat_le]
  exact Iff.rfl

theorem isLower_iff (c : Char) : isLower c = true ↔ 97 ≤ c.toNat ∧ c.toNat ≤ 122 := by
  simp only [isLower, Bool.and_eq_true, decide_eq_true_eq, Char.le_def, UInt32.le_iff_toNat_le]
  exact Iff.rfl

theorem toNat_toLower (c : Char) :
    c.toLower.toNat = if 65 ≤ c.toNat ∧ c.toNat ≤ 90 then c.toNat + 32 else c.toNat := by
  unfold Char.toLower
  simp only [ge_iff_le, UInt32.le_iff_toNat_le]
  split
  · rename_i h
    have h' : 65 ≤ c.toNat ∧ c.toNat ≤ 90 := h
    have e : (('a' : Char).val - ('A' : Char).val).toNat = 32 := by decide
    rw [if_pos h']
    show (c.val + ('a'.val - 'A'.val)).toNat = _
    rw [UInt32.toNat_add, e]
    show (c.toNat + 32) % _ = _
    omega
  · rename_i h
    exact (if_neg (show ¬ (65 ≤ c.toNat ∧ c.toNat ≤ 90) from h)).symm

theorem toNat_toUpper (c : Char) :
    c.toUpper.toNat = if 97 ≤ c.toNat ∧ c.toNat ≤ 122 then c.toNat - 32 else c.toNat := by
  unfold Char.toUpper
  simp only [UInt32.le_iff_toNat_le]
  split
  · rename_i h
    have h' : 97 ≤ c.toNat ∧ c.toNat ≤ 122 := h
    have e : (('A' : Char).val - ('a' : Char).val).toNat = 2 ^ 32 - 32 := by decide
    rw [if_pos h']
    show (c.val + ('A'.val - 'a'.val)).toNat = _
    rw [UInt32.toNat_add, e]
    show (c.toNat + (2 ^ 32 - 32)) % _ = _
    omega
  · rename_i h
    exact (if_neg (show ¬ (97 ≤ c.toNat ∧ c.toNat ≤ 122) from h)).symm

theorem toNat_ofNat_small (n : Nat) (h : n < 0xd800) : (Char.ofNat n).toNat = n := by
  unfold Char.ofNat
  rw [dif_pos (Or.inl h)]
  show (Char.ofNatAux n _).val.toNat = n
  simp [Char.ofNatAux]

theorem toLower_eq_self_iff (c : Char) : c.toLower = c ↔ isUpper c = false := by
  rw [toNat_inj, toNat_toLower, ← Bool.not_eq_true, isUpper_iff]
  split <;> omega

theorem toUpper_eq_self_iff (c : Char) : c.toUpper = c ↔ isLower c = false := by
  rw [toNat_inj, toNat_toUpper, ← Bool.not_eq_true, isLower_iff]
  split <;> omega

theorem isUpper_toLower (c : Char) : isUpper c.toLower = false := by
  rw [← Bool.not_eq_true, isUpper_iff, toNat_toLower]
  split <;> omega

theorem toLower_toLower (c : Char) : c.toLower.toLower = c.toLower :=
  (toLower_eq_self_iff _).mpr (isUpper_toLower c)

theorem toUpper_toUpper (c : Char) : c.toUpper.toUpper = c.toUpper := by
  rw [toUpper_eq_self_iff, ← Bool.not_eq_true, isLower_iff, toNat_toUpper]
  split <;> omega

theorem toLower_toUpper {c : Char} (h : c.toLower = c) : c.toUpper.toLower = c := by
  rw [toLower_eq_self_iff, ← Bool.not_eq_true, isUpper_iff] at h
  rw [toNat_inj, toNat_toLower, toNat_toUpper]
  by_cases hl : 97 ≤ c.toNat ∧ c.toNat ≤ 122
  · rw [if_pos hl, if_pos (by omega)]; omega
  · rw [if_neg hl, if_neg h]

theorem toLower_eq_spec (c : Char) : (if isUpper c then Char.ofNat (c.toNat + 32) else c) = c.toLower := by
  rw [toNat_inj, toNat_toLower]
  by_cases h : isUpper c = true
  · have h' := (isUpper_iff c).mp h
    rw [if_pos h, if_pos h', toNat_ofNat_small _ (by omega)]
  · rw [if_neg h, if_neg (mt (isUpper_iff c).mpr h)]

theorem printable_toLower_iff (c : Char) :
    33 ≤ c.toLower.toNat ∧ c.toLower.toNat ≤ 126 ↔ 33 ≤ c.toNat ∧ c.toNat ≤ 126 := by
  rw [toNat_toLower]; split <;> omega

theorem printable_toUpper_iff (c : Char) :
    33 ≤ c.toUpper.toNat ∧ c.toUpper.toNat ≤ 126 ↔ 33 ≤ c.toNat ∧ c.toNat ≤ 126 := by
  rw [toNat_toUpper]; split <;> omega

theorem map_eq_self_iff {α : Type} (f : α → α) (l : List α) : l.map f = l ↔ ∀ x ∈ l, f x = x := by
  induction l with
  | nil => simp
  | cons y ys ih => simp [ih]

@[simp] theorem lower_length (s : List Char) : (lower s).length = s.length := List.length_map _
@[simp] theorem upper_length (s : List Char) : (upper s).length = s.length := List.length_map _

theorem lower_eq_self_iff (s : List Char) : lower s = s ↔ s.any isUpper = false := by
  simp only [lower, map_eq_self_iff, toLower_eq_self_iff, List.any_eq_false, Bool.not_eq_true]

theorem upper_eq_self_iff (s : List Char) : upper s = s ↔ s.any isLower = false := by
  simp only [upper, map_eq_self_iff, toUpper_eq_self_iff, List.any_eq_false, Bool.not_eq_true]

/-- the specification's "mixed case" is embit's `bech.lower() != bech and bech.upper() != bech` -/
theorem mixedCase_iff (s : List Char) : mixedCase s = true ↔ lower s ≠ s ∧ upper s ≠ s := by
  simp only [mixedCase, Bool.and_eq_true, ne_eq, lower_eq_self_iff, upper_eq_self_iff, Bool.not_eq_false]

theorem toLower_eq_lower (s : List Char) : Spec.Bech32.toLower s = lower s :=
  List.map_congr_left fun c _ => toLower_eq_spec c

theorem lower_lower (s : List Char) : lower (lower s) = lower s := by
  simp only [lower, List.map_map]
  exact List.map_congr_left fun c _ => toLower_toLower c

theorem upper_upper (s : List Char) : upper (upper s) = upper s := by
  simp only [upper, List.map_map]
  exact List.map_congr_left fun c _ => toUpper_toUpper c

theorem lower_upper {s : List Char} (h : lower s = s) : lower (upper s) = s := by
  simp only [lower, upper, List.map_map]
  rw [lower, map_eq_self_iff] at h
  exact (map_eq_self_iff _ _).mpr fun c hc => toLower_toUpper (h c hc)

theorem printable_lower_iff (s : List Char) : Printable (lower s) ↔ Printable s := by
  simp only [Printable, lower, List.forall_mem_map, printable_toLower_iff]

theorem printable_upper_iff (s : List Char) : Printable (upper s) ↔ Printable s := by
  simp only [Printable, upper, List.forall_mem_map, printable_toUpper_iff]

end Embit.Model.Bech32
