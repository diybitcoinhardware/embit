import EmbitModel.Proofs.SignWithView
/-
  `PSBTView.sign_with` and `PSBT.sign_with` agree: the in-memory variant runs key-major (for every key: all inputs),
  the stream variant input-major (for every input: all keys) over the same per-input function, whose digests only read
  the frame and whose counter only looks at the slots of its own input. Both therefore compute the same scopes and the
  same counter, and fail together (Mathlib-free).
-/
namespace Embit.Model.SignWith
open Embit Embit.Model

variable {HD : Type}

section Exchange
variable {κ σ : Type} (cell : κ → Nat → σ → Option (σ × Nat))

/-- one key over the states `l` numbered from `i` -/
def colFrom (k : κ) : Nat → List σ → Option (List σ × Nat)
  | _, [] => some ([], 0)
  | i, s :: r =>
    match cell k i s with
    | none => none
    | some (s', n) =>
      match colFrom k (i + 1) r with
      | none => none
      | some (ss, n') => some (s' :: ss, n + n')

/-- all keys on one state -/
def cellKeys : List κ → Nat → σ → Option (σ × Nat)
  | [], _, s => some (s, 0)
  | k :: ks, i, s =>
    match cell k i s with
    | none => none
    | some (s1, a) =>
      match cellKeys ks i s1 with
      | none => none
      | some (s2, c) => some (s2, a + c)

/-- key-major -/
def rows : List κ → Nat → List σ → Option (List σ × Nat)
  | [], _, l => some (l, 0)
  | k :: ks, i, l =>
    match colFrom cell k i l with
    | none => none
    | some (l1, n1) =>
      match rows ks i l1 with
      | none => none
      | some (l2, n2) => some (l2, n1 + n2)

/-- input-major -/
def cols (keys : List κ) : Nat → List σ → Option (List σ × Nat)
  | _, [] => some ([], 0)
  | i, s :: r =>
    match cellKeys cell keys i s with
    | none => none
    | some (s', n) =>
      match cols keys (i + 1) r with
      | none => none
      | some (ss, n') => some (s' :: ss, n + n')

theorem cols_nil_keys (i : Nat) (l : List σ) : cols cell [] i l = some (l, 0) := by
  induction l generalizing i with
  | nil => rfl
  | cons s r ih => simp [cols, cellKeys, ih]

theorem exchange_step (k : κ) (ks : List κ) (i : Nat) (l : List σ) :
    (match colFrom cell k i l with
      | none => none
      | some (l1, n1) =>
        match cols cell ks i l1 with
        | none => none
        | some (l2, n2) => some (l2, n1 + n2)) = cols cell (k :: ks) i l := by
  induction l generalizing i with
  | nil => simp [colFrom, cols]
  | cons s r ih =>
    have ih' := ih (i + 1)
    simp only [colFrom, cols, cellKeys]
    cases h1 : cell k i s with
    | none => simp
    | some r1 =>
      obtain ⟨s1, a⟩ := r1
      dsimp only
      rw [← ih']
      cases h2 : colFrom cell k (i + 1) r with
      | none =>
        dsimp only
        cases h3 : cellKeys cell ks i s1 with
        | none => rfl
        | some r3 => obtain ⟨s2, c⟩ := r3; rfl
      | some r2 =>
        obtain ⟨r1', b⟩ := r2
        dsimp only
        simp only [cols]
        cases h3 : cellKeys cell ks i s1 with
        | none => rfl
        | some r3 =>
          obtain ⟨s2, c⟩ := r3
          dsimp only
          cases h4 : cols cell ks (i + 1) r1' with
          | none => rfl
          | some r4 =>
            obtain ⟨r2', d⟩ := r4
            dsimp only
            congr 2
            omega

theorem rows_eq_cols (keys : List κ) (i : Nat) (l : List σ) : rows cell keys i l = cols cell keys i l := by
  induction keys generalizing l with
  | nil => rw [cols_nil_keys]; rfl
  | cons k ks ih =>
    rw [← exchange_step]
    unfold rows
    cases h1 : colFrom cell k i l with
    | none => rfl
    | some r1 =>
      obtain ⟨l1, n1⟩ := r1
      dsimp only
      rw [ih]

end Exchange

/-- the state of a cell: the scope and the slots of the input signed so far -/
abbrev St := InScope × List Slot

/-- one key on one input, digests over `p0`; a public descriptor key does nothing -/
def cell (O : Ops HD) (auth : Option Nat) (p0 : Psbt) (k : Single HD) (i : Nat) (st : St) : Option (St × Nat) :=
  if k.isPrivate then
    (signInput O k auth (dgOf O p0 i) st.2 st.1).map (fun r => ((r.1, st.2 ++ r.2.2.map Prod.fst), r.2.1))
  else some (st, 0)

theorem colFrom_public (O : Ops HD) (auth : Option Nat) (p0 : Psbt) (k : Single HD) (hk : k.isPrivate = false)
    (i : Nat) (l : List St) : colFrom (cell O auth p0) k i l = some (l, 0) := by
  induction l generalizing i with
  | nil => rfl
  | cons s r ih => simp [colFrom, cell, hk, ih]

theorem slotsOf_ge (H : List (Nat × Slot)) (i : Nat) (h : ∀ e ∈ H, i < e.1) : slotsOf H i = [] :=
  filterMap_index_nil H i fun e he => Nat.ne_of_gt (h e he)

theorem slotsOf_input_other (i j : Nat) (hij : i ≠ j) (ws : List (Slot × Bytes)) :
    slotsOf (ws.map (fun w => (i, w.1))) j = [] :=
  filterMap_index_nil _ j fun e he => by obtain ⟨w, _, rfl⟩ := List.mem_map.mp he; exact hij

/-- the relation between a run of the in-memory loops and a run of the canonical cells -/
def RelMem (G : List (Nat × Slot)) (q : Psbt) (pre : List InScope) :
    Option (Psbt × Nat × List Write) → Option (List St × Nat) → Prop
  | none, none => True
  | some (q', n, ws), some (sts', n') =>
    q' = { q with inputs := pre ++ sts'.map Prod.fst } ∧ n = n' ∧ (∀ e ∈ ws, pre.length ≤ e.1) ∧
    ∀ (j : Nat) st', sts'[j]? = some st' → slotsOf (G ++ ws.map Write.slot) (pre.length + j) = st'.2
  | _, _ => False

theorem RelMem.of_none {G : List (Nat × Slot)} {q : Psbt} {pre : List InScope} {b : Option (List St × Nat)}
    (h : RelMem G q pre none b) : b = none := by
  cases b with
  | none => rfl
  | some r => exact h.elim

theorem RelMem.of_some {G : List (Nat × Slot)} {q q' : Psbt} {pre : List InScope} {n : Nat} {ws : List Write}
    {b : Option (List St × Nat)} (h : RelMem G q pre (some (q', n, ws)) b) :
    ∃ sts', b = some (sts', n) ∧ q' = { q with inputs := pre ++ sts'.map Prod.fst } ∧ (∀ e ∈ ws, pre.length ≤ e.1) ∧
      ∀ (j : Nat) st', sts'[j]? = some st' → slotsOf (G ++ ws.map Write.slot) (pre.length + j) = st'.2 := by
  cases b with
  | none => exact h.elim
  | some r => exact ⟨r.1, by rw [h.2.1], h.1, h.2.2⟩

theorem signInputs_rel (O : Ops HD) (auth : Option Nat) (p0 : Psbt) (k : Single HD) (hk : k.isPrivate = true)
    (sts : List St) (G : List (Nat × Slot)) (q : Psbt) (pre : List InScope) (hq : pcore q = pcore p0)
    (hin : q.inputs = pre ++ sts.map Prod.fst)
    (hag : ∀ (j : Nat) st, sts[j]? = some st → slotsOf G (pre.length + j) = st.2) :
    RelMem G q pre (signInputs O k auth (List.range' pre.length sts.length) G q)
      (colFrom (cell O auth p0) k pre.length sts) := by
  induction sts generalizing G q pre with
  | nil =>
    have : ({ q with inputs := pre ++ [] } : Psbt) = q := by
      have : pre ++ [] = q.inputs := by rw [hin]; simp
      rw [this]
    simp only [List.length_nil, List.range'_zero, signInputs, colFrom, RelMem, List.map_nil, this, true_and]
    refine ⟨?_, ?_⟩
    · intro e he; cases he
    · intro j st' h; simp at h
  | cons st r ih =>
    obtain ⟨s, seen⟩ := st
    have hs : q.inputs[pre.length]? = some s := by rw [hin]; simp
    have hseen : slotsOf G pre.length = seen := by
      have := hag 0 (s, seen) (by simp)
      simpa using this
    simp only [List.length_cons, List.range'_succ]
    unfold signInputs colFrom
    rw [hs]
    dsimp only
    have hcg := signInput_congr O k auth (dgOf O q pre.length) (dgOf O p0 pre.length) (slotsOf G pre.length) s
      (dgOf_congr O p0 q hq pre.length s hs)
    rw [show (fun s' f leaf => psbtSighash O.sha (Psbt.setInput q pre.length s') pre.length f leaf)
        = dgOf O q pre.length from rfl, hcg, hseen]
    simp only [cell, hk, if_true]
    cases h1 : signInput O k auth (dgOf O p0 pre.length) seen s with
    | none => simp [RelMem]
    | some r1 =>
      obtain ⟨s1, n1, w1⟩ := r1
      simp only [Option.map_some]
      have hcg' : signInput O k auth (dgOf O q pre.length) seen s = some (s1, n1, w1) := by
        rw [← hseen, hcg, hseen]; exact h1
      have hc1 : core s1 = core s := (signInput_tr _ _ _ _ _ _ _ _ _ hcg').core
      have hq1 : pcore (Psbt.setInput q pre.length s1) = pcore p0 := by
        rw [pcore_setInput q pre.length s s1 hs hc1, hq]
      have hin1 : (Psbt.setInput q pre.length s1).inputs = (pre ++ [s1]) ++ r.map Prod.fst := by
        simp [Psbt.setInput, hin]
      have hl : (pre ++ [s1]).length = pre.length + 1 := by simp
      have hag1 : ∀ (j : Nat) st, r[j]? = some st →
          slotsOf (G ++ w1.map (fun w => (pre.length, w.1))) ((pre ++ [s1]).length + j) = st.2 := by
        intro j st hj
        rw [slotsOf_append, slotsOf_input_other pre.length _ (by rw [hl]; omega), List.append_nil, hl]
        have := hag (j + 1) st (by simpa using hj)
        rw [← this]; congr 1; omega
      have ih1 := ih (G ++ w1.map (fun w => (pre.length, w.1))) (Psbt.setInput q pre.length s1) (pre ++ [s1]) hq1 hin1 hag1
      rw [hl] at ih1
      cases h2 : signInputs O k auth (List.range' (pre.length + 1) r.length)
          (G ++ w1.map (fun w => (pre.length, w.1))) (Psbt.setInput q pre.length s1) with
      | none => rw [h2] at ih1; rw [ih1.of_none]; trivial
      | some r2 =>
        obtain ⟨q2, n2, w2⟩ := r2
        rw [h2] at ih1
        obtain ⟨ss, h3, e1, e3, e4⟩ := ih1.of_some
        rw [h3]
        refine ⟨?_, rfl, ?_, ?_⟩
        · rw [e1]; simp [Psbt.setInput]
        · intro e he
          rcases List.mem_append.mp he with he | he
          · obtain ⟨w, _, rfl⟩ := List.mem_map.mp he
            exact Nat.le_refl _
          · have := e3 e he
            omega
        · intro j st' hj
          have hsl : (w1.map (fun w => ((pre.length, w) : Write)) ++ w2).map Write.slot
              = w1.map (fun w => (pre.length, w.1)) ++ w2.map Write.slot := by
            rw [List.map_append, slots_of_input]
          rw [hsl, ← List.append_assoc]
          cases j with
          | zero =>
            simp only [List.getElem?_cons_zero, Option.some.injEq] at hj
            subst hj
            rw [Nat.add_zero, slotsOf_append, slotsOf_append, hseen, slotsOf_input_same,
              slotsOf_ge (w2.map Write.slot) pre.length (by
                intro e he
                obtain ⟨w, hw, rfl⟩ := List.mem_map.mp he
                have := e3 w hw
                simp only [Write.slot]; omega), List.append_nil]
          | succ j' =>
            simp only [List.getElem?_cons_succ] at hj
            have := e4 j' st' hj
            rw [← this]; congr 1; omega

theorem signSingle_rel (O : Ops HD) (auth : Option Nat) (p0 : Psbt) (k : Single HD) (sts : List St)
    (G : List (Nat × Slot)) (q : Psbt) (hq : pcore q = pcore p0) (hin : q.inputs = sts.map Prod.fst)
    (hag : ∀ (j : Nat) st, sts[j]? = some st → slotsOf G j = st.2) :
    RelMem G q [] (signSingle O k auth G q) (colFrom (cell O auth p0) k 0 sts) := by
  cases hk : k.isPrivate with
  | false =>
    rw [colFrom_public O auth p0 k hk, isPrivate_false hk]
    simp only [signSingle, RelMem, List.nil_append, List.map_nil, List.append_nil, List.length_nil, Nat.zero_add,
      true_and]
    refine ⟨by rw [← hin], fun e he => (by cases he), ?_⟩
    simpa using hag
  | true =>
    have := signInputs_rel O auth p0 k hk sts G q [] hq (by simpa using hin) (by simpa using hag)
    simp only [List.length_nil] at this
    have hlen : q.inputs.length = sts.length := by rw [hin]; simp
    have hr : List.range q.inputs.length = List.range' 0 sts.length := by rw [hlen]; exact List.range_eq_range'
    cases k with
    | keyPub => simp [Single.isPrivate] at hk
    | wif a b => simp only [signSingle, hr]; exact this
    | hd a => simp only [signSingle, hr]; exact this
    | keyHd a b => simp only [signSingle, hr]; exact this

/-- the relation for the loop over keys (only PSBT and counter) -/
def RelKeys (q : Psbt) : Option (Psbt × Nat × List Write) → Option (List St × Nat) → Prop
  | none, none => True
  | some (q', n, _), some (sts', n') => q' = { q with inputs := sts'.map Prod.fst } ∧ n = n'
  | _, _ => False

theorem RelKeys.of_none {q : Psbt} {b : Option (List St × Nat)} (h : RelKeys q none b) : b = none := by
  cases b with
  | none => rfl
  | some r => exact h.elim

theorem RelKeys.of_some {q q' : Psbt} {n : Nat} {ws : List Write} {b : Option (List St × Nat)}
    (h : RelKeys q (some (q', n, ws)) b) : ∃ sts', b = some (sts', n) ∧ q' = { q with inputs := sts'.map Prod.fst } := by
  cases b with
  | none => exact h.elim
  | some r => exact ⟨r.1, by rw [h.2], h.1⟩

theorem signKeys_rel (O : Ops HD) (auth : Option Nat) (p0 : Psbt) (keys : List (Single HD)) (sts : List St)
    (G : List (Nat × Slot)) (q : Psbt) (hq : pcore q = pcore p0) (hin : q.inputs = sts.map Prod.fst)
    (hag : ∀ (j : Nat) st, sts[j]? = some st → slotsOf G j = st.2) :
    RelKeys q (signKeys O auth keys G q) (rows (cell O auth p0) keys 0 sts) := by
  induction keys generalizing sts G q with
  | nil => simp only [signKeys, rows, RelKeys, and_true]; rw [← hin]
  | cons k ks ih =>
    have h1 := signSingle_rel O auth p0 k sts G q hq hin hag
    unfold signKeys rows
    cases hs : signSingle O k auth G q with
    | none => rw [hs] at h1; rw [h1.of_none]; trivial
    | some r1 =>
      obtain ⟨q1, n1, w1⟩ := r1
      rw [hs] at h1
      obtain ⟨l1, hc, e1, _, e4⟩ := h1.of_some
      simp only [List.nil_append, List.length_nil, Nat.zero_add] at e1 e4
      have hq1 : pcore q1 = pcore p0 := (signSingle_run (List.mem_singleton.mpr rfl) hs).ptr.pcore.trans hq
      have ih1 := ih l1 (G ++ w1.map Write.slot) q1 hq1 (by rw [e1]) e4
      rw [hc]
      dsimp only
      cases h2 : signKeys O auth ks (G ++ w1.map Write.slot) q1 with
      | none => rw [h2] at ih1; rw [ih1.of_none]; trivial
      | some r2 =>
        obtain ⟨q2, n2, w2⟩ := r2
        rw [h2] at ih1
        obtain ⟨l2, h3, e5⟩ := ih1.of_some
        rw [h3]
        exact ⟨by rw [e5, e1], rfl⟩

theorem signInputKeys_eq_cellKeys (O : Ops HD) (auth : Option Nat) (p0 : Psbt) (keys : List (Single HD)) (i : Nat)
    (seen : List Slot) (s : InScope) :
    (signInputKeys O auth (dgOf O p0 i) seen (keys.filter Single.isPrivate) s).map (fun r => (r.1, r.2.1))
      = (cellKeys (cell O auth p0) keys i (s, seen)).map (fun r => (r.1.1, r.2)) := by
  induction keys generalizing seen s with
  | nil => rfl
  | cons k ks ih =>
    cases hk : k.isPrivate with
    | false =>
      simp only [List.filter_cons, hk, Bool.false_eq_true, if_false, cellKeys, cell]
      rw [ih seen s]
      cases cellKeys (cell O auth p0) ks i (s, seen) with
      | none => rfl
      | some r => obtain ⟨a, b⟩ := r; simp
    | true =>
      simp only [List.filter_cons, hk, if_true, cellKeys, cell, signInputKeys]
      cases h1 : signInput O k auth (dgOf O p0 i) seen s with
      | none => rfl
      | some r1 =>
        obtain ⟨s1, n1, w1⟩ := r1
        simp only [Option.map_some]
        have := ih (seen ++ w1.map Prod.fst) s1
        cases h3 : cellKeys (cell O auth p0) ks i (s1, seen ++ w1.map Prod.fst) with
        | none => rw [h3] at this; rw [Option.map_eq_none_iff.mp this]; rfl
        | some r3 =>
          obtain ⟨st3, n3⟩ := r3
          rw [h3] at this
          obtain ⟨⟨s2, n2, w2⟩, h2, e⟩ := Option.map_eq_some_iff.mp this
          rw [h2]
          simp only [Option.map_some, Option.some.injEq, Prod.mk.injEq] at e ⊢
          exact ⟨e.1, by rw [e.2]⟩

theorem signInputKeys_utxo (O : Ops HD) (auth : Option Nat) (dg : Digest) (seen : List Slot) (k : Single HD)
    (ks : List (Single HD)) (s : InScope) (r : Res) (h : signInputKeys O auth dg seen (k :: ks) s = some r) :
    s.utxo ≠ none := by
  intro hu
  simp [signInputKeys, signInput, hu] at h

theorem viewSignInput_eq (O : Ops HD) (keys : List (Single HD)) (auth : Option Nat) (dg : Digest) (s : InScope) :
    (viewSignInput O keys auth dg s).map (fun r => (r.2.1, r.2.2.1))
      = (signInputKeys O auth dg [] (keys.filter Single.isPrivate) s).map (fun r => (r.1, r.2.1)) := by
  unfold viewSignInput
  dsimp only
  cases h1 : signInputKeys O auth dg [] (keys.filter Single.isPrivate) s with
  | none => rfl
  | some r1 =>
    obtain ⟨s1, n1, w1⟩ := r1
    dsimp only
    split
    · rfl
    · rename_i hne
      cases hp : keys.filter Single.isPrivate with
      | nil => simp [hp] at hne
      | cons k ks =>
        rw [hp] at h1
        have hu := signInputKeys_utxo O auth dg [] k ks s _ h1
        cases hu' : s.utxo with
        | none => exact absurd hu' hu
        | some u =>
          dsimp only
          split <;> rfl

theorem viewSignFrom_eq_cols (O : Ops HD) (auth : Option Nat) (p0 : Psbt) (keys : List (Single HD)) (i : Nat)
    (l : List InScope) :
    (viewSignFrom O keys auth p0 i l).map (fun r => (r.2.1, r.2.2.1))
      = (cols (cell O auth p0) keys i (l.map (fun s => (s, [])))).map (fun r => (r.1.map Prod.fst, r.2)) := by
  induction l generalizing i with
  | nil => rfl
  | cons s r ih =>
    unfold viewSignFrom
    simp only [List.map_cons, cols]
    have h1 := viewSignInput_eq O keys auth (dgOf O p0 i) s
    rw [signInputKeys_eq_cellKeys] at h1
    rw [show (fun s' f leaf => psbtSighash O.sha (Psbt.setInput p0 i s') i f leaf) = dgOf O p0 i from rfl]
    cases hc : cellKeys (cell O auth p0) keys i (s, []) with
    | none => rw [hc] at h1; rw [Option.map_eq_none_iff.mp h1]; rfl
    | some rc =>
      obtain ⟨st1, m1⟩ := rc
      rw [hc] at h1
      obtain ⟨⟨b1, s1, n1, w1⟩, hv, e⟩ := Option.map_eq_some_iff.mp h1
      simp only [Prod.mk.injEq] at e
      rw [hv]
      dsimp only
      have ih1 := ih (i + 1)
      cases h3 : cols (cell O auth p0) keys (i + 1) (r.map (fun s => (s, []))) with
      | none => rw [h3] at ih1; rw [Option.map_eq_none_iff.mp ih1]; rfl
      | some r3 =>
        obtain ⟨l3, m3⟩ := r3
        rw [h3] at ih1
        obtain ⟨⟨b2, ss, n2, w2⟩, h2, e'⟩ := Option.map_eq_some_iff.mp ih1
        simp only [Prod.mk.injEq] at e'
        rw [h2]
        simp only [Option.map_some, Option.some.injEq, Prod.mk.injEq]
        exact ⟨by rw [e.1, e'.1]; rfl, by rw [e.2, e'.2]⟩

/-- `PSBTView.sign_with` signs exactly what `PSBT.sign_with` signs and returns the same counter; one raises iff the
    other does -/
theorem viewSignWith_eq_signWith (O : Ops HD) (signer : Signer HD) (auth : Option Nat) (p : Psbt) :
    (viewSignWith O signer auth p).map (fun r => (r.2.2.1, r.2.1))
      = (signWith O signer auth p).map (fun r => (r.1, r.2.1)) := by
  rw [signWith_eq_signKeys]
  have hm := signKeys_rel O auth p signer.keys (p.inputs.map (fun s => (s, []))) [] p rfl
    (by simp [List.map_map, Function.comp_def])
    (by
      intro j st hj
      simp only [List.getElem?_map] at hj
      cases hp : p.inputs[j]? with
      | none => rw [hp] at hj; cases hj
      | some s => rw [hp] at hj; cases hj; rfl)
  rw [rows_eq_cols] at hm
  have hv := viewSignFrom_eq_cols O auth p signer.keys 0 p.inputs
  unfold viewSignWith
  cases h3 : signKeys O auth signer.keys [] p with
  | none =>
    rw [h3] at hm
    rw [hm.of_none] at hv
    cases h1 : viewSignFrom O signer.keys auth p 0 p.inputs with
    | none => rfl
    | some r1 => rw [h1] at hv; cases hv
  | some r3 =>
    obtain ⟨q', n', ws'⟩ := r3
    rw [h3] at hm
    obtain ⟨l2, h2, e1⟩ := hm.of_some
    rw [h2] at hv
    cases h1 : viewSignFrom O signer.keys auth p 0 p.inputs with
    | none => rw [h1] at hv; cases hv
    | some r1 =>
      obtain ⟨b, ss, n, ws⟩ := r1
      rw [h1] at hv
      simp only [Option.map_some, Option.some.injEq, Prod.mk.injEq] at hv ⊢
      exact ⟨by rw [e1, hv.1], hv.2⟩

end Embit.Model.SignWith
