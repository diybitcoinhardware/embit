import EmbitModel.Model.Bip32
import EmbitModel.Proofs.BasicBytes
/-
  Helper lemmas for C09 / C10: byte codecs and the binding layer.
-/
namespace Embit.Keys
open Embit

theorem pow_256_32 : (256:Nat)^32 = 2^256 := by decide

theorem beN32_ofBe (b : Bytes) (h : b.length = 32) : beN 32 (ofBe b) = b := by
  have := beN_ofBe b; rwa [h] at this

theorem seckeyValid_iff (E : EcOps) (d : Nat) : seckeyValid E d = true ↔ 0 < d ∧ d < E.n := by
  simp [seckeyValid]

theorem valid_lt (E : EcOps) (L : EcLaws E) {d : Nat} (h : seckeyValid E d = true) : d < 2^256 := by
  have := (seckeyValid_iff E d).mp h
  have := L.n_le
  omega

theorem privInit_beN {E : EcOps} (L : EcLaws E) (s : Nat) (hs : seckeyValid E s = true) (c : Bool) (net : Nat) :
    PrivateKey.init E (beN 32 s) c net = some ⟨s, c, net⟩ := by
  have := valid_lt E L hs
  simp [PrivateKey.init, ofBe_beN32 _ this, hs]

variable {E : EcOps}

theorem yOdd_eq (P : E.Pt) : E.yOdd P = true ↔ E.y P % 2 = 1 := by simp [EcOps.yOdd]
theorem yOdd_false (P : E.Pt) : E.yOdd P = false ↔ E.y P % 2 = 0 := by
  simp [EcOps.yOdd]

theorem pubkeySerialize_length (P : E.Pt) (c : Bool) :
    (pubkeySerialize E P c).length = if c then 33 else 65 := by
  cases c <;> simp [pubkeySerialize]

theorem xslice_serialize (P : E.Pt) (c : Bool) :
    ((pubkeySerialize E P c).drop 1).take 32 = beN 32 (E.x P) := by
  cases c
  · simp [pubkeySerialize, List.take_left']
  · simp [pubkeySerialize, List.take_of_length_le]

end Embit.Keys
