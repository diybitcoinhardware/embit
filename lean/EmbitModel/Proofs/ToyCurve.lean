import EmbitModel.Proofs.EcLaws
/-
  Non-vacuity of `EcLaws`: a real curve satisfies it. `y² = x³ + 7` over 𝔽₄₃ is a cyclic group of prime order 31
  generated by `G = (2, 12)` (no point with x = 0 or y = 0, n < p as for secp256k1). Points are represented by their
  discrete logarithm (`Fin 31`), coordinates by the table of multiples of `G` (computed with the affine formulas);
  the group laws are then arithmetic modulo 31; the coordinate laws follow from what `toyFind` returns for any
  predicate and two checks of the table done by the kernel (coordinate ranges; x and the parity of y determine
  the point).
-/
namespace Embit

def toyTable : List (Nat × Nat) :=
  [(2, 12), (7, 7), (35, 21), (21, 18), (12, 12), (29, 31), (25, 18), (32, 40), (20, 40), (42, 7), (40, 25),
   (37, 36), (13, 21), (34, 40), (38, 21), (38, 22), (34, 3), (13, 22), (37, 7), (40, 18), (42, 36), (20, 3),
   (32, 3), (25, 25), (29, 12), (12, 31), (21, 25), (35, 22), (7, 36), (2, 31)]

def toyXY (P : Fin 31) : Option (Nat × Nat) := if P.val = 0 then none else toyTable[P.val - 1]?

def toyFind (f : Nat × Nat → Bool) : Option (Fin 31) :=
  ((List.range 31).find? fun k => k ≠ 0 && (match toyTable[k - 1]? with | some xy => f xy | none => false)).map
    (Fin.ofNat 31)

def toyCurve : EcOps where
  Pt := Fin 31
  add := fun a b => a + b
  neg := fun a => -a
  mul := fun k P => Fin.ofNat 31 (k * P.val)
  g := 1
  n := 31
  p := 43
  xy := toyXY
  ofXY := fun x y => toyFind fun xy => xy.1 == x % 43 && xy.2 == y % 43
  liftX := fun x => toyFind fun xy => xy.1 == x && xy.2 % 2 == 0
  invN := fun a => a ^ 29 % 31

theorem toyTable_on_curve : ∀ xy ∈ toyTable, (xy.2 * xy.2) % 43 = (xy.1 * xy.1 * xy.1 + 7) % 43 := by decide

def forallPts (f : Fin 31 → Nat → Nat → Bool) : Bool :=
  (List.finRange 31).all fun P => match toyXY P with | none => true | some (x, y) => f P x y

theorem forallPts_spec (f : Fin 31 → Nat → Nat → Bool) (h : forallPts f = true) (P : Fin 31) (x y : Nat)
    (hxy : toyXY P = some (x, y)) : f P x y = true := by
  unfold forallPts at h
  rw [List.all_eq_true] at h
  have := h P (List.mem_finRange P)
  rw [hxy] at this
  exact this

theorem toyXY_range {P : Fin 31} {x y : Nat} (h : toyXY P = some (x, y)) : 0 < x ∧ x < 43 ∧ 0 < y ∧ y < 43 := by
  simpa using forallPts_spec (fun _ x y => decide (0 < x ∧ x < 43 ∧ 0 < y ∧ y < 43)) (by decide +kernel) P x y h

theorem toyXY_inj {P Q : Fin 31} {x y x' y' : Nat} (hP : toyXY P = some (x, y)) (hQ : toyXY Q = some (x', y'))
    (hx : x = x') (hy : y % 2 = y' % 2) : P = Q := by
  have := forallPts_spec (fun P x y => forallPts fun Q x' y' => decide (x = x' → y % 2 = y' % 2 → P = Q))
    (by decide +kernel) P x y hP
  exact of_decide_eq_true (forallPts_spec _ this Q x' y' hQ) hx hy

theorem toyFind_some {f : Nat × Nat → Bool} {P : Fin 31} (h : toyFind f = some P) :
    ∃ xy, toyXY P = some xy ∧ f xy = true := by
  obtain ⟨k, hk, rfl⟩ := Option.map_eq_some_iff.mp h
  have hlt := List.mem_range.mp (List.mem_of_find?_eq_some hk)
  have hp := List.find?_some hk
  simp only [Bool.and_eq_true, ne_eq, decide_eq_true_eq] at hp
  cases ht : toyTable[k - 1]? with
  | none => simp [ht] at hp
  | some xy => exact ⟨xy, by simp [toyXY, Nat.mod_eq_of_lt hlt, hp.1, ht], by simpa [ht] using hp.2⟩

theorem toyFind_unique {f : Nat × Nat → Bool} {P : Fin 31} {xy : Nat × Nat} (hP : toyXY P = some xy)
    (hf : f xy = true) (huniq : ∀ Q xy', toyXY Q = some xy' → f xy' = true → Q = P) : toyFind f = some P := by
  cases hq : toyFind f with
  | some Q =>
    obtain ⟨xy', h1, h2⟩ := toyFind_some hq
    rw [huniq Q xy' h1 h2]
  | none =>
    have hnone := List.find?_eq_none.mp (Option.map_eq_none_iff.mp hq) P.val (List.mem_range.mpr P.isLt)
    unfold toyXY at hP
    split at hP
    · cases hP
    · rename_i h0
      simp [h0, hP, hf] at hnone

theorem toy_mul_g (a : Nat) : toyCurve.mul a toyCurve.g = Fin.ofNat 31 a :=
  show Fin.ofNat 31 (a * 1) = _ by rw [Nat.mul_one]

theorem toyCurve_laws : EcLaws toyCurve where
  n_gt_one := by decide
  mul_add := by
    intro a b
    simp only [toy_mul_g]
    exact Fin.ext (Nat.add_mod a b 31).symm
  mul_mul := by
    intro a b
    simp only [toy_mul_g]
    exact Fin.ext (Nat.mul_mod_mod a b 31)
  mul_mod := by
    intro a
    simp only [toy_mul_g]
    exact Fin.ext (Nat.mod_mod a 31)
  neg_mul := by
    intro a ha
    simp only [toy_mul_g]
    have : a ≤ 31 := ha
    apply Fin.ext
    show (31 - a % 31) % 31 = (31 - a) % 31
    omega
  inv_mul := by
    have H : ∀ a, a < 31 → 0 < a → (a * (a ^ 29 % 31)) % 31 = 1 := by decide +kernel
    intro a h0 h1
    exact H a h1 h0
  xy_range := fun P x y h => toyXY_range h
  p_odd := by decide
  xy_neg := by
    intro P x y h
    exact of_decide_eq_true
      (forallPts_spec (fun P x y => decide (toyXY (-P) = some (x, 43 - y))) (by decide +kernel) P x y h)
  ofXY_xy := by
    intro P x y h
    have hx : x % 43 = x := Nat.mod_eq_of_lt (toyXY_range h).2.1
    have hy : y % 43 = y := Nat.mod_eq_of_lt (toyXY_range h).2.2.2
    refine toyFind_unique h (by simp [hx, hy]) fun Q xy' hQ hf => ?_
    simp only [Bool.and_eq_true, beq_iff_eq, hx, hy] at hf
    exact toyXY_inj hQ h hf.1 (by rw [hf.2])
  neg_neg := fun (P : Fin 31) => neg_neg P
  xy_neg_none := by
    have H : ∀ P : Fin 31, toyXY P = none → toyXY (-P) = none := by decide +kernel
    exact H
  mul_inj := by
    intro a b ha hb h
    simp only [toy_mul_g] at h
    have := congrArg Fin.val h
    rwa [show (Fin.ofNat 31 a).val = a from Nat.mod_eq_of_lt ha,
      show (Fin.ofNat 31 b).val = b from Nat.mod_eq_of_lt hb] at this
  xy_ofXY := by
    intro P x y hx hy h
    obtain ⟨⟨x', y'⟩, hP, hf⟩ := toyFind_some h
    have hx : x % 43 = x := Nat.mod_eq_of_lt hx
    have hy : y % 43 = y := Nat.mod_eq_of_lt hy
    simp only [Bool.and_eq_true, beq_iff_eq, hx, hy] at hf
    rw [← hf.1, ← hf.2]
    exact hP
  generated := by
    intro P
    refine ⟨P.val, P.isLt, ?_⟩
    rw [toy_mul_g]
    exact Fin.ext (Nat.mod_eq_of_lt P.isLt).symm
  liftX_sound := by
    intro x P h
    obtain ⟨⟨x', y'⟩, hP, hf⟩ := toyFind_some h
    simp only [Bool.and_eq_true, beq_iff_eq] at hf
    exact ⟨y', hf.1 ▸ hP, hf.2⟩
  liftX_even := by
    intro P x y h hy
    refine toyFind_unique h (by simp [hy]) fun Q xy' hQ hf => ?_
    simp only [Bool.and_eq_true, beq_iff_eq] at hf
    exact toyXY_inj hQ h hf.1 (by rw [hf.2, hy])

end Embit
