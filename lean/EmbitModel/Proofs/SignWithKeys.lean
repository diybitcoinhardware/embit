import EmbitModel.Proofs.SignWithValid
import EmbitModel.Proofs.BasicList
import EmbitModel.Proofs.PsbtAddPair
import EmbitModel.Proofs.PsbtTop
/-
  `PSBT.parse` only lets encodings of curve points into the derivation maps of an input scope: the hypothesis
  `KeysValid` of the validity theorems of C02X holds of every parsed PSBT (Mathlib-free).
-/
namespace Embit.Model.SignWith
open Embit Embit.Model

def KInv (ko : KeyOps) (s : InScope) : Prop :=
  (∀ e ∈ s.bip32, ko.validSec e.1 = true) ∧ (∀ e ∈ s.tapBip32, ko.validX e.1 = true)

theorem addPair_kinv (ko : KeyOps) (sha : Bytes → Bytes) (c : Nat) (s s' : InScope) (k v : Bytes)
    (hi : KInv ko s) (h : InScope.addPair ko sha c s k v = some s') : KInv ko s' := by
  cases InScope.addPair_step h with
  | bip32 hv _ _ => exact ⟨forall_snoc hi.1 hv, hi.2⟩
  | tapBip32 _ hx _ _ => exact ⟨hi.1, forall_snoc hi.2 hx⟩
  | _ => exact hi

theorem addPairs_kinv (ko : KeyOps) (sha : Bytes → Bytes) (c : Nat) (kvs : List KV) (s s' : InScope)
    (hi : KInv ko s) (h : InScope.addPairs ko sha c s kvs = some s') : KInv ko s' := by
  induction kvs generalizing s with
  | nil => simp only [InScope.addPairs, Option.some.injEq] at h; subst h; exact hi
  | cons kv r ih =>
    obtain ⟨k, v⟩ := kv
    unfold InScope.addPairs at h
    split at h
    · cases h
    · rename_i s1 h1
      exact ih s1 (addPair_kinv ko sha c s s1 k v hi h1) h

theorem kinv_empty (ko : KeyOps) (s : InScope) (h1 : s.bip32 = []) (h2 : s.tapBip32 = []) : KInv ko s := by
  refine ⟨fun e he => ?_, fun e he => ?_⟩
  · rw [h1] at he; cases he
  · rw [h2] at he; cases he

theorem seedIn_kinv (ko : KeyOps) (tx : Option Tx) (i : Nat) : KInv ko (seedIn tx i) := by
  unfold seedIn
  split
  · split
    · exact kinv_empty ko _ rfl rfl
    · exact kinv_empty ko _ rfl rfl
  · exact kinv_empty ko _ rfl rfl

/-- every input of a parsed PSBT is `addPairs` of its pairs onto the seed (`parse_frame`) -/
theorem parse_kinv (ko : KeyOps) (sha : Bytes → Bytes) (c : Nat) (b : Bytes) (p : Psbt)
    (h : Psbt.parse ko sha c b = some p) : ∀ s ∈ p.inputs, KInv ko s := by
  obtain ⟨g, kin, kout, tx, unk, gs, _, _, _, _, _, _, _, _, _, _, _, _, _, _, fi, _⟩ := parse_frame ko sha c b p h
  intro s hs
  obtain ⟨j, hj, e⟩ := List.getElem_of_mem hs
  obtain ⟨kvs, s', _, a2, a3⟩ := fi j hj
  rw [List.getElem?_eq_getElem hj, e, Option.some.injEq] at a2
  subst a2
  exact addPairs_kinv ko sha c kvs _ _ (seedIn_kinv ko tx j) a3

/-- `hx`: `from_xonly` is by definition the parse of the SEC key `02 ‖ x` -/
theorem parse_keysValid (ko : KeyOps) (hx : ∀ x, ko.validX x = true → ko.validSec (0x02 :: x) = true)
    (sha : Bytes → Bytes) (c : Nat) (b : Bytes) (p : Psbt) (h : Psbt.parse ko sha c b = some p) :
    ∀ s ∈ p.inputs, KeysValid ko.validSec s := by
  intro s hs
  obtain ⟨h1, h2⟩ := parse_kinv ko sha c b p h s hs
  exact ⟨h1, fun e he => hx _ (h2 e he)⟩

end Embit.Model.SignWith
