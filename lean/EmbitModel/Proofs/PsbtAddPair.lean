import EmbitModel.Proofs.PsbtKV
import EmbitModel.Props.C03
/-
  The accepted branches of `InputScope.read_value` / `OutputScope.read_value`, as relations: every successful
  `addPair` sets one optional field that was empty, appends one entry under a fresh key to one of the maps, or
  (memory-saving modes) drops the pair. Facts about a single step are proved by cases on these relations.
-/
namespace Embit
open Model

/-- `Step ko sha c s v k s'`: `read_value` (mode `c`) on scope `s` accepts key `k` with value `v` and yields `s'` -/
inductive InScope.Step (ko : KeyOps) (sha : Bytes → Bytes) (c : Nat) (s : InScope) (v : Bytes) :
    Bytes → InScope → Prop
  | sep : Step ko sha c s v [] s
  | utxoStreamed {o h} : (c ≠ 0 && s.txid.isSome && s.vout.isSome) = true → s.nonWitnessUtxo = none → s.txhash = none →
      readVoutAll sha v (s.vout.getD 0) = some (o, h) → Step ko sha c s v [0x00] { s with txhash := some h, utxoS := some o }
  | nonWitnessUtxo {t} : s.nonWitnessUtxo = none → s.txhash = none → (c ≠ 0 && s.txid.isSome && s.vout.isSome) = false →
      Tx.parse v = some t → Step ko sha c s v [0x00] { s with nonWitnessUtxo := some t }
  | witnessUtxo {o} : s.witnessUtxo = none → parseAll TxOut.read v = some o →
      Step ko sha c s v [0x01] { s with witnessUtxo := some o }
  | dropped {k0 kr} : c ≠ 0 → k0 = 0x02 ∨ k0 = 0x07 ∨ k0 = 0x08 → Step ko sha c s v (k0 :: kr) s
  | partialSig {p} : c = 0 → ko.validSec p → lookup p s.partialSigs = none →
      Step ko sha c s v (0x02 :: p) { s with partialSigs := s.partialSigs ++ [(p, v)] }
  | sighashType : s.sighashType = none → v.length = 4 → Step ko sha c s v [0x03] { s with sighashType := some (ofLe v) }
  | redeemScript : s.redeemScript = none → Step ko sha c s v [0x04] { s with redeemScript := some v }
  | witnessScript : s.witnessScript = none → Step ko sha c s v [0x05] { s with witnessScript := some v }
  | bip32 {p d} : ko.validSec p → lookup p s.bip32 = none → Deriv.parse v = some d →
      Step ko sha c s v (0x06 :: p) { s with bip32 := s.bip32 ++ [(p, d)] }
  | finalScriptSig : c = 0 → s.finalScriptSig = none → Step ko sha c s v [0x07] { s with finalScriptSig := some v }
  | finalWitness {w} : c = 0 → s.finalWitness = none → parseAll witnessRead v = some w →
      Step ko sha c s v [0x08] { s with finalWitness := some w }
  | txid : s.txid = none → v.length = 32 → Step ko sha c s v [0x0e] { s with txid := some v.reverse }
  | vout : s.vout = none → v.length = 4 → Step ko sha c s v [0x0f] { s with vout := some (ofLe v) }
  | sequence : s.sequence = none → v.length = 4 → Step ko sha c s v [0x10] { s with sequence := some (ofLe v) }
  | tapSig {p} : p.length = 64 → ko.validX (p.take 32) → lookup p s.tapSigs = none →
      Step ko sha c s v (0x14 :: p) { s with tapSigs := s.tapSigs ++ [(p, v)] }
  | tapScript {p} : lookup p s.tapScripts = none →
      Step ko sha c s v (0x15 :: p) { s with tapScripts := s.tapScripts ++ [(p, v)] }
  | tapBip32 {p x} : p.length = 32 → ko.validX p → lookup p s.tapBip32 = none → tapDerivParse v = some x →
      Step ko sha c s v (0x16 :: p) { s with tapBip32 := s.tapBip32 ++ [(p, x)] }
  | tapInternalKey : s.tapInternalKey = none → v.length = 32 → ko.validX v →
      Step ko sha c s v [0x17] { s with tapInternalKey := some v }
  | tapMerkleRoot : s.tapMerkleRoot = none → Step ko sha c s v [0x18] { s with tapMerkleRoot := some v }
  | unknown {k0 kr} : k0 ∉ [0x00, 0x01, 0x02, 0x03, 0x04, 0x05, 0x06, 0x07, 0x08, 0x14, 0x15, 0x16, 0x17, 0x18] →
      k0 :: kr ∉ [[0x0e], [0x0f], [0x10]] → lookup (k0 :: kr) s.unknown = none →
      Step ko sha c s v (k0 :: kr) { s with unknown := s.unknown ++ [(k0 :: kr, v)] }

/-- turns each guard `if g then none else x` in front of an accepted branch into a conjunct `¬g`, with `¬g` in the
    form the constructors of `Step` state it in -/
local macro "guards" "at" hs:(ppSpace colGt ident)+ : tactic => `(tactic|
  simp only [Option.ite_none_left_eq_some, Option.some.injEq, Bool.not_eq_eq_eq_not, Bool.not_true, Bool.not_eq_false,
    List.isEmpty_iff, Option.isSome_eq_false_iff, Option.isNone_iff_eq_none, Bool.not_eq_true, ne_eq,
    Decidable.not_not] at $hs*)

theorem InScope.addPair_step {ko : KeyOps} {sha : Bytes → Bytes} {c : Nat} {s s' : InScope} {k v : Bytes}
    (h : InScope.addPair ko sha c s k v = some s') : InScope.Step ko sha c s v k s' := by
  unfold InScope.addPair at h
  split at h
  · cases h; exact .sep
  rename_i k0 kr
  dsimp only at h
  by_cases h0 : k0 = 0x00
  · subst h0
    rw [if_pos rfl] at h
    guards at h
    obtain ⟨rfl, hn, ht, h⟩ := h
    split at h
    · rename_i hc
      split at h
      · cases h
      · rename_i o x hr; cases h; exact .utxoStreamed hc hn ht hr
    · rename_i hc
      split at h
      · cases h
      · rename_i t hp; cases h; exact .nonWitnessUtxo hn ht (Bool.not_eq_true _ ▸ hc) hp
  rw [if_neg h0] at h
  by_cases h1 : k0 = 0x01
  · subst h1
    rw [if_pos rfl] at h
    guards at h
    obtain ⟨rfl, hn, h⟩ := h
    split at h
    · cases h
    · rename_i o hp; cases h; exact .witnessUtxo hn hp
  rw [if_neg h1] at h
  by_cases h2 : k0 = 0x02
  · subst h2
    rw [if_pos rfl] at h
    split at h
    · rename_i hc; cases h; exact .dropped hc (.inl rfl)
    · rename_i hc
      guards at h hc
      obtain ⟨hv, hn, rfl⟩ := h
      exact .partialSig hc hv hn
  rw [if_neg h2] at h
  by_cases h3 : k0 = 0x03
  · subst h3
    rw [if_pos rfl] at h
    guards at h
    obtain ⟨rfl, hn, hl, rfl⟩ := h
    exact .sighashType hn hl
  rw [if_neg h3] at h
  by_cases h4 : k0 = 0x04
  · subst h4
    rw [if_pos rfl] at h
    guards at h
    obtain ⟨rfl, hn, rfl⟩ := h
    exact .redeemScript hn
  rw [if_neg h4] at h
  by_cases h5 : k0 = 0x05
  · subst h5
    rw [if_pos rfl] at h
    guards at h
    obtain ⟨rfl, hn, rfl⟩ := h
    exact .witnessScript hn
  rw [if_neg h5] at h
  by_cases h6 : k0 = 0x06
  · subst h6
    rw [if_pos rfl] at h
    guards at h
    obtain ⟨hv, hn, h⟩ := h
    split at h
    · cases h
    · rename_i d hp; cases h; exact .bip32 hv hn hp
  rw [if_neg h6] at h
  by_cases h7 : k0 = 0x07
  · subst h7
    rw [if_pos rfl] at h
    split at h
    · rename_i hc; cases h; exact .dropped hc (.inr (.inl rfl))
    · rename_i hc
      guards at h hc
      obtain ⟨rfl, hn, rfl⟩ := h
      exact .finalScriptSig hc hn
  rw [if_neg h7] at h
  by_cases h8 : k0 = 0x08
  · subst h8
    rw [if_pos rfl] at h
    split at h
    · rename_i hc; cases h; exact .dropped hc (.inr (.inr rfl))
    · rename_i hc
      guards at h hc
      obtain ⟨rfl, hn, h⟩ := h
      split at h
      · cases h
      · rename_i w hp; cases h; exact .finalWitness hc hn hp
  rw [if_neg h8] at h
  by_cases he : k0 :: kr = [0x0e]
  · cases he
    rw [if_pos rfl] at h
    guards at h
    obtain ⟨hn, hl, rfl⟩ := h
    exact .txid hn hl
  rw [if_neg he] at h
  by_cases hf : k0 :: kr = [0x0f]
  · cases hf
    rw [if_pos rfl] at h
    guards at h
    obtain ⟨hn, hl, rfl⟩ := h
    exact .vout hn hl
  rw [if_neg hf] at h
  by_cases hg : k0 :: kr = [0x10]
  · cases hg
    rw [if_pos rfl] at h
    guards at h
    obtain ⟨hn, hl, rfl⟩ := h
    exact .sequence hn hl
  rw [if_neg hg] at h
  by_cases h14 : k0 = 0x14
  · subst h14
    rw [if_pos rfl] at h
    guards at h
    obtain ⟨hl, hv, hn, rfl⟩ := h
    exact .tapSig (by simpa using hl) hv hn
  rw [if_neg h14] at h
  by_cases h15 : k0 = 0x15
  · subst h15
    rw [if_pos rfl] at h
    guards at h
    obtain ⟨hn, rfl⟩ := h
    exact .tapScript hn
  rw [if_neg h15] at h
  by_cases h16 : k0 = 0x16
  · subst h16
    rw [if_pos rfl] at h
    guards at h
    obtain ⟨hl, hv, hn, h⟩ := h
    split at h
    · cases h
    · rename_i x hp; cases h; exact .tapBip32 hl hv hn hp
  rw [if_neg h16] at h
  by_cases h17 : k0 = 0x17
  · subst h17
    rw [if_pos rfl] at h
    guards at h
    obtain ⟨rfl, hn, hl, hv, rfl⟩ := h
    exact .tapInternalKey hn hl hv
  rw [if_neg h17] at h
  by_cases h18 : k0 = 0x18
  · subst h18
    rw [if_pos rfl] at h
    guards at h
    obtain ⟨rfl, hn, rfl⟩ := h
    exact .tapMerkleRoot hn
  rw [if_neg h18] at h
  guards at h
  obtain ⟨hn, rfl⟩ := h
  refine .unknown ?_ ?_ hn
  · simp only [List.mem_cons, List.not_mem_nil, or_false, not_or]
    exact ⟨h0, h1, h2, h3, h4, h5, h6, h7, h8, h14, h15, h16, h17, h18⟩
  · simp only [List.mem_cons, List.not_mem_nil, or_false, not_or]
    exact ⟨he, hf, hg⟩

/-- `Step ko s v k s'`: `OutputScope.read_value` on scope `s` accepts key `k` with value `v` and yields `s'` -/
inductive OutScope.Step (ko : KeyOps) (s : OutScope) (v : Bytes) : Bytes → OutScope → Prop
  | sep : Step ko s v [] s
  | redeemScript : s.redeemScript = none → Step ko s v [0x00] { s with redeemScript := some v }
  | witnessScript : s.witnessScript = none → Step ko s v [0x01] { s with witnessScript := some v }
  | bip32 {p d} : ko.validSec p → lookup p s.bip32 = none → Deriv.parse v = some d →
      Step ko s v (0x02 :: p) { s with bip32 := s.bip32 ++ [(p, d)] }
  | value : s.value = none → v.length = 8 → Step ko s v [0x03] { s with value := some (ofLe v) }
  | spk : s.spk = none → Step ko s v [0x04] { s with spk := some v }
  | tapInternalKey : s.tapInternalKey = none → v.length = 32 → ko.validX v →
      Step ko s v [0x05] { s with tapInternalKey := some v }
  | tapBip32 {p x} : p.length = 32 → ko.validX p → lookup p s.tapBip32 = none → tapDerivParse v = some x →
      Step ko s v (0x07 :: p) { s with tapBip32 := s.tapBip32 ++ [(p, x)] }
  | unknown {k0 kr} : k0 ∉ [0x00, 0x01, 0x02, 0x05, 0x07] → k0 :: kr ∉ [[0x03], [0x04]] →
      lookup (k0 :: kr) s.unknown = none → Step ko s v (k0 :: kr) { s with unknown := s.unknown ++ [(k0 :: kr, v)] }

theorem OutScope.addPair_step {ko : KeyOps} {s s' : OutScope} {k v : Bytes}
    (h : OutScope.addPair ko s k v = some s') : OutScope.Step ko s v k s' := by
  unfold OutScope.addPair at h
  split at h
  · cases h; exact .sep
  rename_i k0 kr
  dsimp only at h
  by_cases h0 : k0 = 0x00
  · subst h0
    rw [if_pos rfl] at h
    guards at h
    obtain ⟨rfl, hn, rfl⟩ := h
    exact .redeemScript hn
  rw [if_neg h0] at h
  by_cases h1 : k0 = 0x01
  · subst h1
    rw [if_pos rfl] at h
    guards at h
    obtain ⟨rfl, hn, rfl⟩ := h
    exact .witnessScript hn
  rw [if_neg h1] at h
  by_cases h2 : k0 = 0x02
  · subst h2
    rw [if_pos rfl] at h
    guards at h
    obtain ⟨hv, hn, h⟩ := h
    split at h
    · cases h
    · rename_i d hp; cases h; exact .bip32 hv hn hp
  rw [if_neg h2] at h
  by_cases h3 : k0 :: kr = [0x03]
  · cases h3
    rw [if_pos rfl] at h
    guards at h
    obtain ⟨hn, hl, rfl⟩ := h
    exact .value hn hl
  rw [if_neg h3] at h
  by_cases h4 : k0 :: kr = [0x04]
  · cases h4
    rw [if_pos rfl] at h
    guards at h
    obtain ⟨hn, rfl⟩ := h
    exact .spk hn
  rw [if_neg h4] at h
  by_cases h5 : k0 = 0x05
  · subst h5
    rw [if_pos rfl] at h
    guards at h
    obtain ⟨rfl, hn, hl, hv, rfl⟩ := h
    exact .tapInternalKey hn hl hv
  rw [if_neg h5] at h
  by_cases h7 : k0 = 0x07
  · subst h7
    rw [if_pos rfl] at h
    guards at h
    obtain ⟨hl, hv, hn, h⟩ := h
    split at h
    · cases h
    · rename_i x hp; cases h; exact .tapBip32 hl hv hn hp
  rw [if_neg h7] at h
  guards at h
  obtain ⟨hn, rfl⟩ := h
  refine .unknown ?_ ?_ hn
  · simp only [List.mem_cons, List.not_mem_nil, or_false, not_or]
    exact ⟨h0, h1, h2, h5, h7⟩
  · simp only [List.mem_cons, List.not_mem_nil, or_false, not_or]
    exact ⟨h3, h4⟩

theorem InScope.Step.addPair {ko : KeyOps} {sha : Bytes → Bytes} {c : Nat} {s s' : InScope} {k v : Bytes}
    (h : InScope.Step ko sha c s v k s') : InScope.addPair ko sha c s k v = some s' := by
  cases h with
  | sep => rfl
  | dropped hc hk => rcases hk with rfl | rfl | rfl <;> simp [InScope.addPair, hc]
  | unknown h0 hk hn =>
    simp only [List.mem_cons, List.not_mem_nil, or_false, not_or] at h0 hk
    simp only [InScope.addPair, h0, hk, hn, if_false, Option.isSome_none, Bool.false_eq_true]
  | utxoStreamed hc hn ht hr =>
    simp only [InScope.addPair, List.isEmpty_nil, Bool.not_true, hn, ht, Option.isSome_none, Bool.false_eq_true, if_false,
      if_pos hc, if_true, hr]
  | nonWitnessUtxo hn ht hc hp =>
    simp only [InScope.addPair, List.isEmpty_nil, Bool.not_true, hn, ht, Option.isSome_none, Bool.false_eq_true, if_false,
      hc, if_true, hp]
  | _ => simp [InScope.addPair, *]

theorem OutScope.Step.addPair {ko : KeyOps} {s s' : OutScope} {k v : Bytes}
    (h : OutScope.Step ko s v k s') : OutScope.addPair ko s k v = some s' := by
  cases h with
  | sep => rfl
  | unknown h0 hk hn =>
    simp only [List.mem_cons, List.not_mem_nil, or_false, not_or] at h0 hk
    simp only [OutScope.addPair, h0, hk, hn, if_false, Option.isSome_none, Bool.false_eq_true]
  | _ => simp [OutScope.addPair, *]

def Inserted (kv : KV) (l l' : List KV) : Prop := ∃ p q, l = p ++ q ∧ l' = p ++ kv :: q

theorem len4 {v : Bytes} (h : v.length = 4) : leN 4 (ofLe v) = v := by
  have := leN_ofLe v; rwa [h] at this
theorem len8 {v : Bytes} (h : v.length = 8) : leN 8 (ofLe v) = v := by
  have := leN_ofLe v; rwa [h] at this

theorem Inserted.snoc (kv : KV) (l : List KV) : Inserted kv l (l ++ [kv]) := ⟨l, [], by simp, rfl⟩

theorem Inserted.append_right {kv : KV} {l l' : List KV} (h : Inserted kv l l') (r : List KV) :
    Inserted kv (l ++ r) (l' ++ r) := by
  obtain ⟨p, q, rfl, rfl⟩ := h
  exact ⟨p, q ++ r, by simp, by simp⟩

theorem Inserted.append_left {kv : KV} {l l' : List KV} (r : List KV) (h : Inserted kv l l') :
    Inserted kv (r ++ l) (r ++ l') := by
  obtain ⟨p, q, rfl, rfl⟩ := h
  exact ⟨r ++ p, q, by simp, by simp⟩

theorem Inserted.perm {kv : KV} {l l' : List KV} (h : Inserted kv l l') : l'.Perm (kv :: l) := by
  obtain ⟨p, q, rfl, rfl⟩ := h
  exact List.perm_middle

theorem foldlM_some_induction {σ α : Type} {f : σ → α → Option σ} {motive : σ → List α → σ → Prop}
    (nil : ∀ s, motive s [] s)
    (cons : ∀ {s a s1 l s'}, f s a = some s1 → l.foldlM f s1 = some s' → motive s1 l s' → motive s (a :: l) s') :
    ∀ {l s s'}, l.foldlM f s = some s' → motive s l s' := by
  intro l
  induction l with
  | nil => intro s s' h; cases h; exact nil s
  | cons a l ih =>
    intro s s' h
    rw [List.foldlM_cons] at h
    cases h1 : f s a with
    | none => rw [h1] at h; cases h
    | some s1 => rw [h1] at h; exact cons h1 h (ih h)

theorem InScope.addPairs_eq_foldlM (ko : KeyOps) (sha : Bytes → Bytes) (c : Nat) (kvs : List KV) (s : InScope) :
    InScope.addPairs ko sha c s kvs = kvs.foldlM (fun s kv => InScope.addPair ko sha c s kv.1 kv.2) s := by
  induction kvs generalizing s with
  | nil => rfl
  | cons kv kvs ih =>
    rw [List.foldlM_cons, InScope.addPairs]
    cases InScope.addPair ko sha c s kv.1 kv.2 with
    | none => rfl
    | some s1 => exact ih s1

theorem OutScope.addPairs_eq_foldlM (ko : KeyOps) (kvs : List KV) (s : OutScope) :
    OutScope.addPairs ko s kvs = kvs.foldlM (fun s kv => OutScope.addPair ko s kv.1 kv.2) s := by
  induction kvs generalizing s with
  | nil => rfl
  | cons kv kvs ih =>
    rw [List.foldlM_cons, OutScope.addPairs]
    cases OutScope.addPair ko s kv.1 kv.2 with
    | none => rfl
    | some s1 => exact ih s1

theorem InScope.addPairs_induction {ko : KeyOps} {sha : Bytes → Bytes} {c : Nat}
    {motive : InScope → List KV → InScope → Prop} (nil : ∀ s, motive s [] s)
    (cons : ∀ {s k v s1 kvs s'}, InScope.addPair ko sha c s k v = some s1 →
      InScope.addPairs ko sha c s1 kvs = some s' → motive s1 kvs s' → motive s ((k, v) :: kvs) s')
    {kvs : List KV} {s s' : InScope} (h : InScope.addPairs ko sha c s kvs = some s') : motive s kvs s' := by
  rw [InScope.addPairs_eq_foldlM] at h
  exact foldlM_some_induction nil (fun h1 h2 ih => cons h1 ((InScope.addPairs_eq_foldlM ..).trans h2) ih) h

theorem OutScope.addPairs_induction {ko : KeyOps} {motive : OutScope → List KV → OutScope → Prop}
    (nil : ∀ s, motive s [] s)
    (cons : ∀ {s k v s1 kvs s'}, OutScope.addPair ko s k v = some s1 →
      OutScope.addPairs ko s1 kvs = some s' → motive s1 kvs s' → motive s ((k, v) :: kvs) s')
    {kvs : List KV} {s s' : OutScope} (h : OutScope.addPairs ko s kvs = some s') : motive s kvs s' := by
  rw [OutScope.addPairs_eq_foldlM] at h
  exact foldlM_some_induction nil (fun h1 h2 ih => cons h1 ((OutScope.addPairs_eq_foldlM ..).trans h2) ih) h

theorem foldlM_some_invariant {σ α : Type} {f : σ → α → Option σ} {P : σ → Prop} {Q : α → Prop}
    (step : ∀ {s a s1}, Q a → P s → f s a = some s1 → P s1) {l : List α} {s s' : σ}
    (hq : ∀ a ∈ l, Q a) (hp : P s) (h : l.foldlM f s = some s') : P s' := by
  refine foldlM_some_induction (motive := fun s l s' => (∀ a ∈ l, Q a) → P s → P s')
    (fun _ _ hp => hp) (fun h1 _ ih hq hp => ?_) h hq hp
  exact ih (fun x hx => hq x (List.mem_cons_of_mem _ hx)) (step (hq _ List.mem_cons_self) hp h1)

theorem InScope.addPairs_invariant {ko : KeyOps} {sha : Bytes → Bytes} {c : Nat} {P : InScope → Prop} {Q : KV → Prop}
    (step : ∀ {s k v s1}, Q (k, v) → P s → InScope.addPair ko sha c s k v = some s1 → P s1)
    {kvs : List KV} {s s' : InScope} (hq : ∀ kv ∈ kvs, Q kv) (hp : P s)
    (h : InScope.addPairs ko sha c s kvs = some s') : P s' :=
  foldlM_some_invariant (fun hq hp h1 => step hq hp h1) hq hp ((InScope.addPairs_eq_foldlM ..).symm.trans h)

theorem OutScope.addPairs_invariant {ko : KeyOps} {P : OutScope → Prop} {Q : KV → Prop}
    (step : ∀ {s k v s1}, Q (k, v) → P s → OutScope.addPair ko s k v = some s1 → P s1)
    {kvs : List KV} {s s' : OutScope} (hq : ∀ kv ∈ kvs, Q kv) (hp : P s)
    (h : OutScope.addPairs ko s kvs = some s') : P s' :=
  foldlM_some_invariant (fun hq hp h1 => step hq hp h1) hq hp ((OutScope.addPairs_eq_foldlM ..).symm.trans h)

theorem InScope.addPairs_append (ko : KeyOps) (sha : Bytes → Bytes) (c : Nat) : ∀ (a b : List KV) (s : InScope),
    InScope.addPairs ko sha c s (a ++ b)
      = (InScope.addPairs ko sha c s a).bind (fun s' => InScope.addPairs ko sha c s' b) := by
  intro a b s
  simp only [InScope.addPairs_eq_foldlM, List.foldlM_append]; rfl

theorem OutScope.addPairs_append (ko : KeyOps) : ∀ (a b : List KV) (s : OutScope),
    OutScope.addPairs ko s (a ++ b) = (OutScope.addPairs ko s a).bind (fun s' => OutScope.addPairs ko s' b) := by
  intro a b s
  simp only [OutScope.addPairs_eq_foldlM, List.foldlM_append]; rfl

end Embit
