import EmbitModel.Proofs.SigLawsConcrete
/-
  The verifiers of `opsOf` against the standards, and the taproot tweak of `opsOf` against BIP341:

  * `ecdsaVerifySec` = SEC 1 §4.1.4 verification (`Spec.Ecdsa.verify`) on the strictly decoded SEC key
    (`Spec.KeyEnc.secDecode`, Props/C10) and the strictly decoded low-S DER signature (`Der.parse`, = BIP66 by Props/C07);
  * `schnorrVerifyX` = BIP340 verification (`Spec.Bip340.verify`, Props/C08) on 32 / 32 / 64-byte arguments;
  * the x-only key of `tapTweak sk h` is BIP341's `taproot_tweak_pubkey(xonly(sk), h)` (Props/C09).
-/
set_option linter.unusedSimpArgs false
namespace Embit.Model.SignWith
open Embit Embit.Model Embit.Model.Der Embit.Model.PySecp

variable {E : Embit.EcOps} (hs : Hashes) (fuel : Nat)

theorem verifyEcdsaKey_eq_spec (P : E.Pt) (der msg : Bytes) :
    PySecp.verifyEcdsaKey E P der msg true =
      match Der.parse E.n true der with
      | some (r, s) => Spec.Ecdsa.verify E P (ofBe msg) r s
      | none => false := by
  unfold PySecp.verifyEcdsaKey
  cases hp : Der.parse E.n true der with
  | none => rfl
  | some rs =>
    obtain ⟨r, s⟩ := rs
    have hr := Embit.Props.C07.der_range E.n true der r s hp
    have h1 : ¬ (r < 1 ∨ r ≥ E.n ∨ s < 1 ∨ s ≥ E.n) := by omega
    have e : ofBe msg % E.n * E.invN s % E.n = ofBe msg * E.invN s % E.n := by
      rw [Nat.mul_mod, Nat.mod_mod, ← Nat.mul_mod]
    simp only [Spec.Ecdsa.verify, h1, if_false, e]
    generalize E.xy (E.add (E.mul (ofBe msg * E.invN s % E.n) E.g) (E.mul (r * E.invN s % E.n) P)) = o
    cases o with
    | none => rfl
    | some xy => rfl

theorem ecdsaVerifySec_eq_spec (pub msg sig : Bytes) :
    ecdsaVerifySec E pub msg sig = ecdsaVerifySpec E pub msg sig := by
  unfold ecdsaVerifySec ecdsaVerifySpec
  rw [Embit.Props.C10.sec_parse_eq_spec]
  cases hd : Spec.KeyEnc.secDecode (toKeys E) pub with
  | none => rfl
  | some qc =>
    obtain ⟨Q, c⟩ := qc
    simp only [Option.map_some]
    have hq := verifyEcdsaKey_eq_spec (E := E) Q sig msg
    cases hp : Der.parse E.n true sig with
    | none => rw [hp] at hq; exact hq
    | some rs => rw [hp] at hq; exact hq

theorem schnorrVerifyX_eq_spec (L : Embit.EcLaws E) (H : HashOps) (xo msg sig : Bytes) :
    schnorrVerifyX E H xo msg sig =
      (decide (xo.length = 32 ∧ msg.length = 32 ∧ sig.length = 64) && Spec.Bip340.verify E H xo msg sig) := by
  unfold schnorrVerifyX
  by_cases hl : xo.length = 32 ∧ msg.length = 32 ∧ sig.length = 64
  · rw [Embit.Props.C08.py_verify_schnorr_eq_bip340 E H L xo sig msg hl.1 hl.2.1 hl.2.2]
    simp [hl]
  · have : PySecp.verifySchnorr E H xo sig msg = none := by
      unfold PySecp.verifySchnorr
      by_cases h1 : xo.length = 32
      · by_cases h2 : msg.length = 32
        · have h3 : sig.length ≠ 64 := fun h3 => hl ⟨h1, h2, h3⟩
          simp [h1, h2, h3]
        · simp [h1, h2]
      · simp [h1]
    rw [this]
    simp [hl]

/-- what `schnorrSign` of `opsOf` returns: a 64-byte string over a 32-byte message that BIP340 verification accepts
    under the 32-byte x-only key of `sk` -/
theorem schnorr_bip340 (L : Embit.EcLaws E) (hn : E.n ≤ 2 ^ 256) (hp : E.p ≤ 2 ^ 256)
    (sk : Bytes) (c : Bool) (m sig : Bytes) (h : (opsOf E hs fuel).schnorrSign sk m = some sig) :
    (xonlyOfSec ((opsOf E hs fuel).secOf sk c)).length = 32 ∧ m.length = 32 ∧ sig.length = 64 ∧
      Spec.Bip340.verify E hs.H (xonlyOfSec ((opsOf E hs fuel).secOf sk c)) m sig = true := by
  have hv := schnorr_ok_concrete hs fuel L hn hp sk c m sig h
  rw [schnorrVerifyX_eq_spec L] at hv
  simp only [Bool.and_eq_true, decide_eq_true_eq] at hv
  exact ⟨hv.1.1, hv.1.2.1, hv.1.2.2, hv.2⟩

theorem taprootTweak_valid (K : Embit.Keys.EcOps) (env : Embit.Keys.Env) (k k' : Embit.Keys.PrivateKey) (h : Bytes)
    (ht : Embit.Keys.PrivateKey.taprootTweak K env k h = some k') :
    Embit.Keys.seckeyValid K k.secret = true ∧ Embit.Keys.seckeyValid K k'.secret = true ∧ k'.compressed = true := by
  have hinit : ∀ b (r : Embit.Keys.PrivateKey), Embit.Keys.PrivateKey.init K b = some r →
      Embit.Keys.seckeyValid K r.secret = true ∧ r.compressed = true := by
    intro b r hr
    unfold Embit.Keys.PrivateKey.init at hr
    split at hr
    · cases hr
    · split at hr
      · rename_i hv
        cases hr
        exact ⟨hv, rfl⟩
      · cases hr
  unfold Embit.Keys.PrivateKey.taprootTweak at ht
  split at ht
  · cases ht
  · rename_i P hP
    have hk : Embit.Keys.seckeyValid K k.secret = true := by
      unfold Embit.Keys.pubkeyCreate at hP
      split at hP
      · assumption
      · cases hP
    simp only [] at ht
    split at ht
    · cases ht
    · split at ht
      · cases ht
      · split at ht
        · cases ht
        · split at ht
          · cases ht
          · rename_i pk hpk
            split at ht
            · cases ht
            · split at ht
              · exact ⟨hk, (hinit _ _ ht).1, (hinit _ _ ht).2⟩
              · cases ht
                exact ⟨hk, (hinit _ _ hpk).1, (hinit _ _ hpk).2⟩

/-- **the taproot output key**: when `tapTweak sk h` of `opsOf` returns `tsk`, the x-only public key of `tsk` is the
    x-only output key BIP341's `taproot_tweak_pubkey` computes from the x-only public key of `sk` and `h`
    (Props/C09 `taproot_commutes` + `taproot_output_key`, carried over the bridge) -/
theorem tweak_is_bip341 (L : Embit.EcLaws E) (hn : E.n ≤ 2 ^ 256) (hp : E.p ≤ 2 ^ 256) (hinf : InfUnique E)
    (htag : ∀ t m, (hs.env.tagged t m).length = 32) (sk h tsk : Bytes) (c : Bool)
    (ht : (opsOf E hs fuel).tapTweak sk h = some tsk) :
    ∃ x par X, xonlyOfSec ((opsOf E hs fuel).secOf sk c) = beN 32 x ∧ x < 2 ^ 256 ∧
      Spec.Bip341.tweakPubkey (toKeys E) hs.env.tagged x h = some (par, X) ∧
      xonlyOfSec ((opsOf E hs fuel).secOf tsk true) = beN 32 X ∧ X < 2 ^ 256 := by
  have K := toKeys_laws L hn hp hinf
  change (Embit.Keys.PrivateKey.taprootTweak (toKeys E) hs.env ⟨ofBe sk, true, 0⟩ h).map
    (fun k => beN 32 k.secret) = some tsk at ht
  cases hk' : Embit.Keys.PrivateKey.taprootTweak (toKeys E) hs.env ⟨ofBe sk, true, 0⟩ h with
  | none => rw [hk'] at ht; cases ht
  | some k' =>
    rw [hk'] at ht
    simp only [Option.map_some, Option.some.injEq] at ht
    subst ht
    obtain ⟨hv, hv', _⟩ := taprootTweak_valid (toKeys E) hs.env _ k' h hk'
    have hv1 : PySecp.seckeyValid E (ofBe sk) = true := hv
    have hlt' := Embit.Keys.valid_lt (toKeys E) K hv'
    have hofbe : ofBe (beN 32 k'.secret) = k'.secret := Embit.ofBe_beN32 _ hlt'
    have hv2 : PySecp.seckeyValid E (ofBe (beN 32 k'.secret)) = true := by rw [hofbe]; exact hv'
    have hfin := pub_finite hinf (ofBe sk) hv1
    have hfin' := pub_finite hinf k'.secret hv'
    -- commutation (C09)
    have hcomm := Embit.Props.C09.taproot_commutes K hs.env htag ⟨ofBe sk, true, 0⟩ hv h
    rw [hk'] at hcomm
    simp only [Option.bind_some, Embit.Keys.PrivateKey.getPublicKey, Embit.Keys.pubkeyCreate, hv, hv', if_true,
      Option.map_some] at hcomm
    obtain ⟨_, _, par, hpar⟩ := Embit.Props.C09.taproot_output_key K hs.env htag
      (⟨(toKeys E).mulG (ofBe sk), true⟩ : Embit.Keys.PublicKey (toKeys E)) hfin h _ hcomm.symm
    refine ⟨(toKeys E).x ((toKeys E).mulG (ofBe sk)), par, (toKeys E).x ((toKeys E).mulG k'.secret), ?_,
      (K.coord_lt _ hfin).1, hpar, ?_, (K.coord_lt _ hfin').1⟩
    · rw [secOf_valid hs fuel sk c hv1]
      unfold xonlyOfSec
      rw [Embit.Keys.xslice_serialize]
    · rw [secOf_valid hs fuel _ true hv2, hofbe]
      unfold xonlyOfSec
      rw [Embit.Keys.xslice_serialize]

/-! `keyOpsOf` (the key predicates of `PSBT.parse` over the key model of `opsOf`) is defined in Model/SignWithOps.lean
    (Mathlib-free: the driver's `sign.*` ops parse with it). -/

/-- `from_xonly(x)` IS the parse of `02 ‖ x` -/
theorem keyOpsOf_x (validXpub : Bytes → Bool) (x : Bytes) (h : (keyOpsOf E validXpub).validX x = true) :
    (keyOpsOf E validXpub).validSec (0x02 :: x) = true := by
  change (Embit.Keys.PublicKey.fromXonly (toKeys E) x).isSome = true at h
  unfold Embit.Keys.PublicKey.fromXonly at h
  split at h
  · exact h
  · cases h

theorem splitFlag_spec (v sig : Bytes) (f : Nat) (h : splitFlag v = some (sig, f)) :
    v = sig ++ (if f ≠ 0 then [UInt8.ofNat f] else []) ∧ sig.length = 64 := by
  unfold splitFlag at h
  split at h
  · rename_i hl
    cases h; simp [hl]
  · split at h
    · rename_i hl
      split at h
      · rename_i fb hfb
        split at h
        · rename_i hne
          cases h
          rw [if_pos hne]
          have : v ≠ [] := by intro hv; rw [hv] at hl; cases hl
          have hlast := List.dropLast_append_getLast? fb hfb
          refine ⟨?_, by simp [hl]⟩
          rw [UInt8.ofNat_toNat]; exact hlast.symm
        · cases h
      · cases h
    · cases h

/-- `writeValid … = true` implies the conclusion of the validity theorems for that write: `ValidWrite` with the
    standards' verifiers, for the flag the value carries, against `PSBT.sighash` of `p` -/
theorem writeValid_sound (O : Ops (Embit.Keys.HDKey (toKeys E))) (H : HashOps) (hsha : O.sha = H.sha256)
    (p : Psbt) (w : Write) (h : writeValid E H p w = true) :
    ∃ s u f, p.inputs[w.1]? = some s ∧ s.utxo = some u ∧
      ValidWrite (ecdsaVerifySpec E) (fun xo m sig => Spec.Bip340.verify E H xo m sig) O s u f
        (fun f leaf => psbtSighash H.sha256 p w.1 f leaf) w.2 := by
  obtain ⟨i, sl, v⟩ := w
  unfold writeValid at h
  split at h; · cases h
  rename_i s hs
  split at h; · cases h
  rename_i u hu
  simp only [] at h
  cases sl with
  | partialSig pub =>
    simp only [Bool.and_eq_true, Bool.not_eq_true'] at h
    obtain ⟨htap, h⟩ := h
    split at h; · cases h
    rename_i fb hfb
    split at h; · cases h
    rename_i hh hd
    simp only [Bool.and_eq_true] at h
    refine ⟨s, u, fb.toNat, hs, hu, htap, hh, v.dropLast, hd, ?_, h.2⟩
    rw [UInt8.ofNat_toNat]
    exact (List.dropLast_append_getLast? fb hfb).symm
  | tapKeySig =>
    simp only [Bool.and_eq_true] at h
    obtain ⟨⟨htap, hinfix⟩, h⟩ := h
    split at h; · cases h
    rename_i sig f hsf
    split at h; · cases h
    rename_i hh hd
    simp only [Bool.and_eq_true] at h
    exact ⟨s, u, f, hs, hu, htap, _, hh, sig, hinfix, hd, (splitFlag_spec v sig f hsf).1, h.2⟩
  | tapScriptSig key =>
    simp only [Bool.and_eq_true] at h
    obtain ⟨htap, h⟩ := h
    split at h; · cases h
    rename_i sig f hsf
    rw [List.any_eq_true] at h
    obtain ⟨e, he, h⟩ := h
    split at h; · cases h
    rename_i lv hlv
    simp only [Bool.and_eq_true, decide_eq_true_eq] at h
    obtain ⟨⟨hinfix, hkey⟩, h⟩ := h
    split at h; · cases h
    rename_i hh hd
    simp only [Bool.and_eq_true] at h
    refine ⟨s, u, f, hs, hu, htap, key.take 32, e.1, e.2, lv, hh, sig, he, hinfix, hlv, ?_, hd,
      (splitFlag_spec v sig f hsf).1, h.2⟩
    rw [hsha]; exact hkey

/-- the 31-point curve of Props/C07 satisfies the extra law: only `0` has no coordinates -/
theorem toyCurve_infUnique : InfUnique toyCurve := by
  intro a h
  change toyXY (Fin.ofNat 31 (a * 1)) = none at h
  unfold toyXY at h
  split at h
  · rename_i hz
    show a % 31 = 0
    simpa [Fin.ofNat] using hz
  · rename_i hz
    have hlt : (Fin.ofNat 31 (a * 1)).val < 31 := (Fin.ofNat 31 (a * 1)).isLt
    have : (Fin.ofNat 31 (a * 1)).val - 1 < toyTable.length := by
      have : toyTable.length = 30 := by decide
      omega
    rw [List.getElem?_eq_getElem this] at h
    cases h

end Embit.Model.SignWith
