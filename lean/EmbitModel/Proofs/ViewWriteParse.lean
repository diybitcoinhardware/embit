import EmbitModel.Proofs.ViewWrite
import EmbitModel.Proofs.ScopeRoundtrip
/-
  C05Y helpers: parsing what the view wrote. The scopes of a parsed PSBT are canonical (`Canon`), merging extra
  scopes and compressing keeps them canonical, canonical scopes survive write-then-read, hence
  `PSBT.parse(original global scope ++ merged scopes)` is the merged PSBT itself.
-/
set_option linter.unusedSimpArgs false
set_option linter.unusedVariables false
namespace Embit
open Model Spec.Wire Props.C05X

/-- the merge left the fields that describe the unsigned transaction alone (they are not written in version 0) -/
def Model.Psbt.sameTxFields (p p' : Psbt) : Bool :=
  (p.inputs.zip p'.inputs).all (fun x => x.1.txid == x.2.txid && x.1.vout == x.2.vout && x.1.sequence == x.2.sequence)
  && (p.outputs.zip p'.outputs).all (fun x => x.1.value == x.2.value && x.1.spk == x.2.spk)

theorem zip_self_all {α : Type} (f : α × α → Bool) (hf : ∀ x, f (x, x) = true) :
    ∀ l : List α, (l.zip l).all f = true
  | [] => rfl
  | x :: xs => by simp [hf x, zip_self_all f hf xs]

theorem Model.Psbt.sameTxFields_self (p : Psbt) : p.sameTxFields p = true := by
  simp [Psbt.sameTxFields, zip_self_all]

theorem zip_all_getElem {α β : Type} (f : α × β → Bool) : ∀ (l1 : List α) (l2 : List β),
    (l1.zip l2).all f = true → ∀ (i : Nat) (a : α) (b : β), l1[i]? = some a → l2[i]? = some b → f (a, b) = true := by
  intro l1
  induction l1 with
  | nil => intro l2 _ i a b h; simp at h
  | cons x xs ih =>
    intro l2 h i a b ha hb
    cases l2 with
    | nil => simp at hb
    | cons y ys =>
      simp only [List.zip_cons_cons, List.all_cons, Bool.and_eq_true] at h
      cases i with
      | zero => simp at ha hb; subst ha; subst hb; exact h.1
      | succ i => exact ih ys h.2 i a b (by simpa using ha) (by simpa using hb)

/-- an indexed description of a list (as `parse_frame` gives it) describes every member -/
theorem mem_of_indexed {α β : Type} {l : List α} {ks : List β} {R : Nat → β → α → Prop}
    (h : ∀ j, j < l.length → ∃ k s, ks[j]? = some k ∧ l[j]? = some s ∧ R j k s) :
    ∀ s ∈ l, ∃ j k, k ∈ ks ∧ R j k s := by
  intro s hs
  obtain ⟨j, hj, e⟩ := List.getElem_of_mem hs
  obtain ⟨k, s', a1, a2, a3⟩ := h j hj
  rw [List.getElem?_eq_getElem hj, e, Option.some.injEq] at a2
  exact ⟨j, k, List.mem_of_getElem? a1, a2 ▸ a3⟩

theorem mergeExtra_some {ko : KeyOps} {sha : Bytes → Bytes} {cm : Nat} {ei eo : List Bytes} {p p' : Psbt}
    (hm : Psbt.mergeExtra ko sha cm ei eo p = some p') :
    ∃ ins outs, mergeIns ko sha cm p.inputs ei = some ins ∧ mergeOuts ko cm p.outputs eo = some outs
      ∧ p' = { p with inputs := ins, outputs := outs } := by
  unfold Psbt.mergeExtra at hm
  cases hmi : mergeIns ko sha cm p.inputs ei with
  | none => rw [hmi] at hm; simp at hm
  | some ins =>
    cases hmo : mergeOuts ko cm p.outputs eo with
    | none => rw [hmi, hmo] at hm; simp at hm
    | some outs =>
      rw [hmi, hmo, Option.some.injEq] at hm
      exact ⟨ins, outs, rfl, rfl, hm.symm⟩

theorem seedIn_canon (ko : KeyOps) (tx : Option Tx) (hwf : ∀ t, tx = some t → WF t) (i : Nat) :
    InScope.Canon ko (seedIn tx i) := by
  unfold seedIn
  cases tx with
  | none => exact InScope.canon_empty ko
  | some t =>
    simp only []
    cases hi : t.vin[i]? with
    | none => exact InScope.canon_empty ko
    | some vi =>
      have hw := (hwf t rfl).ins vi (List.mem_of_getElem? hi)
      simp only []
      exact { InScope.canon_empty ko with
        txid := fun x hx => by simp at hx; subst hx; exact hw.txid
        vout := fun x hx => by simp at hx; subst hx; exact hw.vout
        seq := fun x hx => by simp at hx; subst hx; exact hw.sequence }

theorem seedOut_canon (ko : KeyOps) (tx : Option Tx) (hwf : ∀ t, tx = some t → WF t) (i : Nat) :
    OutScope.Canon ko (seedOut tx i) := by
  unfold seedOut
  cases tx with
  | none => exact OutScope.canon_empty ko
  | some t =>
    simp only []
    cases hi : t.vout[i]? with
    | none => exact OutScope.canon_empty ko
    | some vo =>
      have hw := (hwf t rfl).outs vo (List.mem_of_getElem? hi)
      simp only []
      exact { OutScope.canon_empty ko with
        value := fun x hx => by simp at hx; subst hx; exact hw.value
        spk := fun x hx => by simp at hx; subst hx; exact hw.script }

theorem InScope.compressed_canon (ko : KeyOps) (s : InScope) (c : Nat) (h : InScope.Canon ko s) :
    InScope.Canon ko (s.compressed c) := by
  unfold InScope.compressed
  split
  · exact InScope.clearMetadata_canon ko s c h
  · exact h

theorem OutScope.compressed_canon (ko : KeyOps) (s : OutScope) (c : Nat) (h : OutScope.Canon ko s) :
    OutScope.Canon ko (s.compressed c) := by
  unfold OutScope.compressed
  split
  · exact OutScope.clearMetadata_canon ko s c h
  · exact h

theorem mergeIns_canon (ko : KeyOps) (sha : Bytes → Bytes) (cm : Nat) (l : List InScope) (es : List Bytes)
    (r : List InScope) (hc : ∀ s ∈ l, InScope.Canon ko s) (h : mergeIns ko sha cm l es = some r) :
    r.length = l.length ∧ ∀ s ∈ r, InScope.Canon ko s :=
  mergeIns_inv ko sha cm (InScope.Canon ko)
    (fun s kvs o hs wk ho => InScope.update_canon ko s o hs
      (InScope.addPairs_canon ko sha kvs {} o (InScope.canon_empty ko) wk ho))
    (fun s hs => InScope.compressed_canon ko s cm hs) l es r hc h

theorem mergeOuts_canon (ko : KeyOps) (cm : Nat) (l : List OutScope) (es : List Bytes)
    (r : List OutScope) (hc : ∀ s ∈ l, OutScope.Canon ko s) (h : mergeOuts ko cm l es = some r) :
    r.length = l.length ∧ ∀ s ∈ r, OutScope.Canon ko s :=
  mergeOuts_inv ko cm (OutScope.Canon ko)
    (fun s kvs o hs wk ho => OutScope.update_canon ko s o hs
      (OutScope.addPairs_canon ko kvs {} o (OutScope.canon_empty ko) wk ho))
    (fun s hs => OutScope.compressed_canon ko s cm hs) l es r hc h

theorem readIns_write_canon (ko : KeyOps) (sha : Bytes → Bytes) (tx : Option Tx) (ver : Option Nat) :
    ∀ (r : List InScope) (k : Nat) (rest : Bytes),
      (∀ (i : Nat) (s : InScope), r[i]? = some s → (∀ kv ∈ s.pairs ver, KVWF kv)
          ∧ InScope.addPairs ko sha 0 (seedIn tx (k + i)) (s.pairs ver) = some s) →
      readIns ko sha 0 tx r.length k (r.flatMap (fun s => writeKVs (s.pairs ver)) ++ rest) = some (r, rest) := by
  intro r k rest h
  have := readScopes_write (fun i => InScope.addPairs ko sha 0 (seedIn tx i)) (fun s => s.pairs ver) id r k rest
    (fun s hs => let ⟨i, hi⟩ := List.getElem?_of_mem hs; (h i s hi).1) (fun i s hi => (h i s hi).2)
  rwa [List.map_id, ← readIns_eq] at this

theorem readOuts_write_canon (ko : KeyOps) (tx : Option Tx) (ver : Option Nat) :
    ∀ (r : List OutScope) (k : Nat) (rest : Bytes),
      (∀ (i : Nat) (s : OutScope), r[i]? = some s → (∀ kv ∈ s.pairs ver, KVWF kv)
          ∧ OutScope.addPairs ko (seedOut tx (k + i)) (s.pairs ver) = some s) →
      readOuts ko tx r.length k (r.flatMap (fun s => writeKVs (s.pairs ver)) ++ rest) = some (r, rest) := by
  intro r k rest h
  have := readScopes_write (fun i => OutScope.addPairs ko (seedOut tx i)) (fun s => s.pairs ver) id r k rest
    (fun s hs => let ⟨i, hi⟩ := List.getElem?_of_mem hs; (h i s hi).1) (fun i s hi => (h i s hi).2)
  rwa [List.map_id, ← readOuts_eq] at this

/-- the parser run over "global scope `g` ++ written scopes", given what the global scope folds to and that every
    written scope reads back from its seed -/
theorem parse_run_canon (ko : KeyOps) (sha : Bytes → Bytes) (p : Psbt) (g : List KV) (tx : Option Tx) (unk : List KV)
    (gs : GState) (wg : ∀ kv ∈ g, KVWF kv)
    (hgf : globalFold none none [] g = some (tx, p.version, unk))
    (hpu : parseUnknowns ko (p.version == some 2) (gstate0 tx) unk = some gs)
    (hver : (p.version = some 2 ∧ tx = none) ∨ (p.version ≠ some 2 ∧ ∃ t, tx = some t))
    (etv : p.txVersion = gs.txVersion) (elt : p.locktime = gs.locktime) (exp : p.xpubs = gs.xpubs)
    (eun : p.unknown = gs.unknown) (lni : p.inputs.length = gs.nin.getD 0) (lno : p.outputs.length = gs.nout.getD 0)
    (ins : List InScope) (outs : List OutScope) (li : ins.length = p.inputs.length) (lo : outs.length = p.outputs.length)
    (rin : ∀ (i : Nat) (s : InScope), ins[i]? = some s → (∀ kv ∈ s.pairs p.version, KVWF kv)
          ∧ InScope.addPairs ko sha 0 (seedIn tx (0 + i)) (s.pairs p.version) = some s)
    (rout : ∀ (i : Nat) (s : OutScope), outs[i]? = some s → (∀ kv ∈ s.pairs p.version, KVWF kv)
          ∧ OutScope.addPairs ko (seedOut tx (0 + i)) (s.pairs p.version) = some s) :
    Psbt.parse ko sha 0 (psbtMagic ++ (writeKVs g ++ (ins.flatMap (fun s => writeKVs (s.pairs p.version))
              ++ (outs.flatMap (fun s => writeKVs (s.pairs p.version)) ++ []))))
      = some { p with inputs := ins, outputs := outs } := by
  have hri := readIns_write_canon ko sha tx p.version ins 0
    (outs.flatMap (fun s => writeKVs (s.pairs p.version)) ++ []) rin
  have hro := readOuts_write_canon ko tx p.version outs 0 [] rout
  unfold Psbt.parse
  have e1 := takeN_append psbtMagic (writeKVs g ++ (ins.flatMap (fun s => writeKVs (s.pairs p.version))
          ++ (outs.flatMap (fun s => writeKVs (s.pairs p.version)) ++ [])))
  rw [show psbtMagic.length = 5 from rfl] at e1
  rw [e1]
  simp only [ne_eq, not_true_eq_false, if_false]
  rw [readKVs_write g _ wg]
  simp only []
  rw [hgf]
  simp only []
  have hcond1 : ((tx.isSome && (p.version == some 2)) = true) = False := by
    rcases hver with ⟨hv, rfl⟩ | ⟨hv, t, rfl⟩
    · simp
    · simp [hv]
  have hcond2 : ((tx.isNone && !(p.version == some 2)) = true) = False := by
    rcases hver with ⟨hv, rfl⟩ | ⟨hv, t, rfl⟩
    · simp [hv]
    · simp
  simp only [hcond1, hcond2, if_false]
  have hpu' : parseUnknowns ko (p.version == some 2)
      { txVersion := tx.map (·.version), locktime := tx.map (·.locktime), nin := tx.map (·.vin.length),
        nout := tx.map (·.vout.length), xpubs := [], unknown := [] } unk = some gs := hpu
  rw [hpu']
  simp only []
  rw [← lni, ← li, ← lno, ← lo, hri]
  simp only []
  rw [hro]
  simp [etv, elt, exp, eun]

theorem InScope.compressed_noHidden (s : InScope) (c : Nat) (h : InScope.NoHidden s) :
    InScope.NoHidden (s.compressed c) := by
  unfold InScope.compressed InScope.clearMetadata
  obtain ⟨h1, h2⟩ := h
  by_cases h0 : c = 0
  · simp [h0, InScope.NoHidden, h1, h2]
  · by_cases hc1 : c = 1 <;> simp [h0, hc1, InScope.NoHidden, h1, h2]

theorem mergeIns_noHidden (ko : KeyOps) (sha : Bytes → Bytes) (cm : Nat) (l : List InScope) (es : List Bytes)
    (r : List InScope) (hc : ∀ s ∈ l, InScope.NoHidden s) (h : mergeIns ko sha cm l es = some r) :
    ∀ s ∈ r, InScope.NoHidden s :=
  (mergeIns_inv ko sha cm InScope.NoHidden
    (fun s kvs o hs wk ho => by
      -- a scope read by the KEEP_ALL reader carries neither attribute, and `update` takes them from it only if set
      obtain ⟨o1, _⟩ := InScope.addPairs_hidden0 ko sha kvs {} o (fun kv hkv => (wk kv hkv).1) ho
      exact ⟨by simp [InScope.update, notNoneOr, o1, hs.1], hs.2⟩)
    (fun s hs => InScope.compressed_noHidden s cm hs) l es r hc h).2

theorem map_erase_of_noHidden : ∀ (l : List InScope), (∀ s ∈ l, InScope.NoHidden s) → l.map InScope.erase = l := by
  intro l
  induction l with
  | nil => intro _; rfl
  | cons s ss ih =>
    intro h
    simp [InScope.erase_of_noHidden s (h s (by simp)), ih (fun x hx => h x (by simp [hx]))]

theorem InScope.pairs_withTxOf (ver : Option Nat) (hv : ver ≠ some 2) (s o : InScope) :
    (s.withTxOf o).pairs ver = s.pairs ver := by
  simp [InScope.pairs, InScope.withTxOf, hv]

theorem OutScope.pairs_withTxOf (ver : Option Nat) (hv : ver ≠ some 2) (s o : OutScope) :
    (s.withTxOf o).pairs ver = s.pairs ver := by
  simp [OutScope.pairs, OutScope.withTxOf, hv]

theorem flatMap_zipWith_left {α β : Type} (f : α → β → α) (g : α → Bytes) (hg : ∀ a b, g (f a b) = g a) :
    ∀ (l1 : List α) (l2 : List β), l1.length = l2.length → (List.zipWith f l1 l2).flatMap g = l1.flatMap g := by
  intro l1
  induction l1 with
  | nil => intro l2 _; simp
  | cons a as ih =>
    intro l2 hl
    cases l2 with
    | nil => simp at hl
    | cons b bs => simp [List.flatMap_cons, hg, ih bs (by simpa using hl)]

theorem getElem?_zipWith_some {α β γ : Type} (f : α → β → γ) : ∀ (l1 : List α) (l2 : List β) (i : Nat) (c : γ),
    (List.zipWith f l1 l2)[i]? = some c → ∃ a b, l1[i]? = some a ∧ l2[i]? = some b ∧ c = f a b := by
  intro l1
  induction l1 with
  | nil => intro l2 i c h; simp at h
  | cons a as ih =>
    intro l2 i c h
    cases l2 with
    | nil => simp at h
    | cons b bs =>
      cases i with
      | zero => simp at h; exact ⟨a, b, by simp, by simp, h.symm⟩
      | succ i =>
        obtain ⟨a', b', h1, h2, h3⟩ := ih bs i c (by simpa using h)
        exact ⟨a', b', by simpa using h1, by simpa using h2, h3⟩

/-- `PSBT.parse` (KEEP_ALL) of what the view wrote — for EVERY reader mode `c` of the view — is the merged PSBT as a
    reader sees it: without the never-written `_utxo` / `_txhash` attributes (`eraseHidden`) and, for version 0,
    with the transaction fields of the original (`restoreTx`) -/
theorem parse_written_modes (ko : KeyOps) (sha : Bytes → Bytes) (c : Nat) (b : Bytes) (p p' : Psbt) (cm : Nat)
    (ei eo : List Bytes) (h : Psbt.parse ko sha c b = some p) (hm : Psbt.mergeExtra ko sha cm ei eo p = some p') :
    Psbt.parse ko sha 0 (psbtMagic ++ writeKVs (globalKVs b) ++ p'.scopeBytes)
      = some (p.restoreTx p'.eraseHidden) := by
  obtain ⟨g, kin, kout, tx, unk, gs, eb, wg, ws, hgf, hpu, hver, etv, elt, exp, eun, lki, lko, lni, lno, fi, fo, ftx⟩ :=
    parse_frame ko sha c b p h
  have hgk : globalKVs b = g := by rw [eb]; exact globalKVs_eq g _ wg
  have hwf : ∀ t, tx = some t → WF t := by
    intro t ht
    subst ht
    obtain ⟨g1, w, g2, eg, n1, n2, hparse, hu⟩ := globalFold_split g _ _ _ _ _ hgf
    exact (Props.C03.parse_sound w t hparse).1
  obtain ⟨ins, outs, hmi, hmo, rfl⟩ := mergeExtra_some hm
  have cin : ∀ s ∈ p.inputs, InScope.Canon ko s := fun s hs => by
    obtain ⟨j, kvs, hk, a3⟩ := mem_of_indexed fi s hs
    exact InScope.addPairs_canon_mode ko sha c kvs _ s (seedIn_canon ko tx hwf j)
      (ws kvs (List.mem_append_left _ hk)) a3
  have cout : ∀ s ∈ p.outputs, OutScope.Canon ko s := fun s hs => by
    obtain ⟨j, kvs, hk, a3⟩ := mem_of_indexed fo s hs
    exact OutScope.addPairs_canon ko kvs _ s (seedOut_canon ko tx hwf j)
      (ws kvs (List.mem_append_right _ hk)) a3
  obtain ⟨li, ci⟩ := mergeIns_canon ko sha cm p.inputs ei ins cin hmi
  obtain ⟨lo, co⟩ := mergeOuts_canon ko cm p.outputs eo outs cout hmo
  have hfe : (ins.map InScope.erase).flatMap (fun s => writeKVs (s.pairs p.version))
      = ins.flatMap (fun s => writeKVs (s.pairs p.version)) := by
    rw [List.flatMap_map]; rfl
  by_cases hv2 : p.version = some 2
  · -- version 2: unseeded scopes
    unfold Psbt.restoreTx
    rw [if_pos hv2]
    simp only [Psbt.eraseHidden]
    have htx : tx = none := by
      rcases hver with ⟨_, e⟩ | ⟨e, _⟩
      · exact e
      · exact absurd hv2 e
    subst htx
    have rin : ∀ (i : Nat) (s : InScope), (ins.map InScope.erase)[i]? = some s →
        (∀ kv ∈ s.pairs p.version, KVWF kv)
        ∧ InScope.addPairs ko sha 0 (seedIn none (0 + i)) (s.pairs p.version) = some s := by
      intro i s hs
      obtain ⟨s1, h1, rfl⟩ := Option.map_eq_some_iff.mp (List.getElem?_map .. ▸ hs)
      have hc := InScope.erase_canon ko s1 (ci s1 (List.mem_of_getElem? h1))
      exact ⟨InScope.canon_pairs_wf ko p.version _ hc,
        InScope.canon_roundtrip ko sha p.version _ none none none hc ⟨rfl, rfl⟩ (by simp [hv2])⟩
    have rout : ∀ (i : Nat) (s : OutScope), outs[i]? = some s → (∀ kv ∈ s.pairs p.version, KVWF kv)
        ∧ OutScope.addPairs ko (seedOut none (0 + i)) (s.pairs p.version) = some s := by
      intro i s hs
      have hc := co s (List.mem_of_getElem? hs)
      exact ⟨OutScope.canon_pairs_wf ko p.version s hc,
        OutScope.canon_roundtrip ko p.version s none none hc (by simp [hv2])⟩
    have hbytes : psbtMagic ++ writeKVs (globalKVs b)
          ++ Psbt.scopeBytes { p with inputs := ins, outputs := outs }
        = psbtMagic ++ (writeKVs g
            ++ ((ins.map InScope.erase).flatMap (fun s => writeKVs (s.pairs p.version))
            ++ (outs.flatMap (fun s => writeKVs (s.pairs p.version)) ++ []))) := by
      rw [hfe]; simp [hgk, Psbt.scopeBytes, List.append_assoc]
    rw [hbytes]
    exact parse_run_canon ko sha p g none unk gs wg hgf hpu hver etv elt exp eun lni lno _ _
      (by simp [li]) lo rin rout
  · -- version 0: scopes seeded from the (unchanged) global transaction
    unfold Psbt.restoreTx
    rw [if_neg hv2]
    simp only [Psbt.eraseHidden]
    obtain ⟨t, rfl⟩ : ∃ t, tx = some t := by
      rcases hver with ⟨e, _⟩ | ⟨_, e⟩
      · exact absurd e hv2
      · exact e
    obtain ⟨_, lt1, lt2⟩ := ftx t rfl
    have rin : ∀ (i : Nat) (s : InScope),
        (List.zipWith InScope.withTxOf (ins.map InScope.erase) p.inputs)[i]? = some s →
        (∀ kv ∈ s.pairs p.version, KVWF kv)
        ∧ InScope.addPairs ko sha 0 (seedIn (some t) (0 + i)) (s.pairs p.version) = some s := by
      intro i s hs
      obtain ⟨s1e, s0, h1e, h0, rfl⟩ := getElem?_zipWith_some _ _ _ _ _ hs
      obtain ⟨s1, h1, rfl⟩ := Option.map_eq_some_iff.mp (List.getElem?_map .. ▸ h1e)
      have hc1 := InScope.erase_canon ko s1 (ci s1 (List.mem_of_getElem? h1))
      have hc0 := cin s0 (List.mem_of_getElem? h0)
      have hc : InScope.Canon ko (s1.erase.withTxOf s0) :=
        { hc1 with txid := hc0.txid, vout := hc0.vout, seq := hc0.seq }
      refine ⟨InScope.canon_pairs_wf ko p.version _ hc, ?_⟩
      rw [Nat.zero_add]
      have hi : i < p.inputs.length := (List.getElem?_eq_some_iff.mp h0).1
      have hit : i < t.vin.length := by omega
      obtain ⟨kvs, s0', a1, a2, a3⟩ := fi i hi
      rw [h0] at a2; simp at a2; subst a2
      have hseed : seedIn (some t) i
          = { txid := some t.vin[i].txid, vout := some t.vin[i].vout, sequence := some t.vin[i].sequence } := by
        simp [seedIn, List.getElem?_eq_getElem hit]
      rw [hseed] at a3 ⊢
      exact InScope.canon_roundtrip ko sha p.version _ _ _ _ hc ⟨rfl, rfl⟩
        (by simp only [hv2, if_false]; exact InScope.addPairs_keeps_seed ko sha c kvs _ s0 a3 _ _ _ rfl rfl rfl)
    have rout : ∀ (i : Nat) (s : OutScope), (List.zipWith OutScope.withTxOf outs p.outputs)[i]? = some s →
        (∀ kv ∈ s.pairs p.version, KVWF kv)
        ∧ OutScope.addPairs ko (seedOut (some t) (0 + i)) (s.pairs p.version) = some s := by
      intro i s hs
      obtain ⟨s1, s0, h1, h0, rfl⟩ := getElem?_zipWith_some _ _ _ _ _ hs
      have hc1 := co s1 (List.mem_of_getElem? h1)
      have hc0 := cout s0 (List.mem_of_getElem? h0)
      have hc : OutScope.Canon ko (s1.withTxOf s0) := { hc1 with value := hc0.value, spk := hc0.spk }
      refine ⟨OutScope.canon_pairs_wf ko p.version _ hc, ?_⟩
      rw [Nat.zero_add]
      have hi : i < p.outputs.length := (List.getElem?_eq_some_iff.mp h0).1
      have hit : i < t.vout.length := by omega
      obtain ⟨kvs, s0', a1, a2, a3⟩ := fo i hi
      rw [h0] at a2; simp at a2; subst a2
      have hseed : seedOut (some t) i = { value := some t.vout[i].value, spk := some t.vout[i].spk } := by
        simp [seedOut, List.getElem?_eq_getElem hit]
      rw [hseed] at a3 ⊢
      exact OutScope.canon_roundtrip ko p.version _ _ _ hc
        (by simp only [hv2, if_false]; exact OutScope.addPairs_keeps_seed ko kvs _ s0 a3 _ _ rfl rfl)
    have hbytes : psbtMagic ++ writeKVs (globalKVs b)
          ++ Psbt.scopeBytes { p with inputs := ins, outputs := outs }
        = psbtMagic ++ (writeKVs g
            ++ ((List.zipWith InScope.withTxOf (ins.map InScope.erase) p.inputs).flatMap
                  (fun s => writeKVs (s.pairs p.version))
            ++ ((List.zipWith OutScope.withTxOf outs p.outputs).flatMap (fun s => writeKVs (s.pairs p.version))
                  ++ []))) := by
      rw [flatMap_zipWith_left InScope.withTxOf (fun s => writeKVs (s.pairs p.version))
            (fun a o => by simp only [InScope.pairs_withTxOf p.version hv2]) (ins.map InScope.erase) p.inputs
            (by simp [li]),
          flatMap_zipWith_left OutScope.withTxOf (fun s => writeKVs (s.pairs p.version))
            (fun a o => by simp only [OutScope.pairs_withTxOf p.version hv2]) outs p.outputs lo, hfe]
      simp [hgk, Psbt.scopeBytes, List.append_assoc]
    rw [hbytes]
    exact parse_run_canon ko sha p g (some t) unk gs wg hgf hpu hver etv elt exp eun lni lno _ _
      (by simp [li]) (by simp [lo]) rin rout

/-- under KEEP_ALL nothing is hidden: the merged PSBT has no `_utxo` / `_txhash` attributes -/
theorem mergeExtra_noHidden (ko : KeyOps) (sha : Bytes → Bytes) (b : Bytes) (p p' : Psbt) (cm : Nat) (ei eo : List Bytes)
    (h : Psbt.parse ko sha 0 b = some p) (hm : Psbt.mergeExtra ko sha cm ei eo p = some p') :
    p'.eraseHidden = p' := by
  obtain ⟨g, kin, kout, tx, unk, gs, eb, wg, ws, hgf, hpu, hver, etv, elt, exp, eun, lki, lko, lni, lno, fi, fo, ftx⟩ :=
    parse_frame ko sha 0 b p h
  have hin : ∀ s ∈ p.inputs, InScope.NoHidden s := fun s hs => by
    obtain ⟨j, kvs, hk, a3⟩ := mem_of_indexed fi s hs
    obtain ⟨q1, q2⟩ := InScope.addPairs_hidden0 ko sha kvs _ s
      (fun kv hkv => (ws kvs (List.mem_append_left _ hk) kv hkv).1) a3
    have hs0 : InScope.NoHidden (seedIn tx j) := by
      unfold seedIn
      cases tx with
      | none => exact ⟨rfl, rfl⟩
      | some t => simp only []; cases t.vin[j]? <;> exact ⟨rfl, rfl⟩
    exact ⟨q1.trans hs0.1, q2.trans hs0.2⟩
  obtain ⟨ins, outs, hmi, hmo, rfl⟩ := mergeExtra_some hm
  simp [Psbt.eraseHidden, map_erase_of_noHidden ins (mergeIns_noHidden ko sha cm p.inputs ei ins hin hmi)]

/-- KEEP_ALL reader: the parsed result is the merged PSBT with (version 0) the transaction fields of the original -/
theorem parse_written_total (ko : KeyOps) (sha : Bytes → Bytes) (b : Bytes) (p p' : Psbt) (cm : Nat)
    (ei eo : List Bytes) (h : Psbt.parse ko sha 0 b = some p) (hm : Psbt.mergeExtra ko sha cm ei eo p = some p') :
    Psbt.parse ko sha 0 (psbtMagic ++ writeKVs (globalKVs b) ++ p'.scopeBytes) = some (p.restoreTx p') := by
  have := parse_written_modes ko sha 0 b p p' cm ei eo h hm
  rwa [mergeExtra_noHidden ko sha b p p' cm ei eo h hm] at this

theorem zipWith_eq_left {α β : Type} (f : α → β → α) (g : β × α → Bool) (hg : ∀ a b, g (b, a) = true → f a b = a) :
    ∀ (l1 : List α) (l2 : List β), l1.length = l2.length → (l2.zip l1).all g = true → List.zipWith f l1 l2 = l1 := by
  intro l1
  induction l1 with
  | nil => intro l2 _ _; simp
  | cons a as ih =>
    intro l2 hl h
    cases l2 with
    | nil => simp at hl
    | cons b bs =>
      simp only [List.zip_cons_cons, List.all_cons, Bool.and_eq_true] at h
      rw [List.zipWith_cons_cons, hg a b h.1, ih bs (by simpa using hl) h.2]

/-- `PSBT.parse` (KEEP_ALL) of "original global scope ++ scopes of the merged PSBT" is the merged PSBT itself when
    (version 0) the merge left the transaction fields of the scopes alone (`sameTxFields`) -/
theorem parse_written (ko : KeyOps) (sha : Bytes → Bytes) (b : Bytes) (p p' : Psbt) (cm : Nat) (ei eo : List Bytes)
    (h : Psbt.parse ko sha 0 b = some p) (hm : Psbt.mergeExtra ko sha cm ei eo p = some p')
    (hk : p.version ≠ some 2 → p.sameTxFields p' = true) :
    Psbt.parse ko sha 0 (psbtMagic ++ writeKVs (globalKVs b) ++ p'.scopeBytes) = some p' := by
  rw [parse_written_total ko sha b p p' cm ei eo h hm]
  by_cases hv2 : p.version = some 2
  · simp [Psbt.restoreTx, hv2]
  · have hs := hk hv2
    simp only [Psbt.sameTxFields, Bool.and_eq_true] at hs
    have hl : p'.inputs.length = p.inputs.length ∧ p'.outputs.length = p.outputs.length := by
      obtain ⟨ins, outs, hmi, hmo, rfl⟩ := mergeExtra_some hm
      exact ⟨mergeIns_length ko sha cm _ _ _ hmi, mergeOuts_length ko cm _ _ _ hmo⟩
    have e1 := zipWith_eq_left InScope.withTxOf _ (fun a b h => by
      simp only [Bool.and_eq_true, beq_iff_eq] at h
      cases a; simp_all [InScope.withTxOf]) p'.inputs p.inputs hl.1 hs.1
    have e2 := zipWith_eq_left OutScope.withTxOf _ (fun a b h => by
      simp only [Bool.and_eq_true, beq_iff_eq] at h
      cases a; simp_all [OutScope.withTxOf]) p'.outputs p.outputs hl.2 hs.2
    simp only [Psbt.restoreTx, hv2, if_false, e1, e2]

end Embit
