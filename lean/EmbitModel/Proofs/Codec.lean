import EmbitModel.Model.Tx
/-
  Exact codecs. A reader is exact for a writer on a domain when it reads back every written value of the domain,
  whatever follows it, and reads nothing else (`ExactRead`); a whole-string decoder is exact when it accepts exactly
  the encodings of the domain (`ExactCodec`). `parseAll` of an exact reader is an exact codec, and what each format
  says of itself (round trip, re-encoding, one value per spelling, truncated and extended input refused) is proved
  here once. Also the weighted length bound for `readMany`.
-/
namespace Embit
open Model

/-- `dec` accepts `b` with result `a` exactly when `a` is in the domain `V` and `b` is its encoding -/
def ExactCodec {α β : Type} (dec : β → Option α) (enc : α → β) (V : α → Prop) : Prop :=
  ∀ b a, dec b = some a ↔ V a ∧ enc a = b

/-- a decoder that undoes the encoder at two values tells them apart -/
theorem enc_inj_of_roundtrip {α β : Type} {dec : β → Option α} {enc : α → β} {a a' : α}
    (ha : dec (enc a) = some a) (ha' : dec (enc a') = some a') (he : enc a = enc a') : a = a' :=
  Option.some.inj (ha.symm.trans (he ▸ ha'))

namespace ExactCodec
variable {α β : Type} {dec : β → Option α} {enc : α → β} {V : α → Prop}

theorem mk' (rt : ∀ a, V a → dec (enc a) = some a) (snd : ∀ b a, dec b = some a → V a ∧ enc a = b) :
    ExactCodec dec enc V :=
  fun b a => ⟨snd b a, fun ⟨hv, he⟩ => he ▸ rt a hv⟩

theorem roundtrip (h : ExactCodec dec enc V) {a : α} (ha : V a) : dec (enc a) = some a := (h _ _).2 ⟨ha, rfl⟩
theorem valid (h : ExactCodec dec enc V) {b : β} {a : α} (hd : dec b = some a) : V a := ((h _ _).1 hd).1
theorem reencode (h : ExactCodec dec enc V) {b : β} {a : α} (hd : dec b = some a) : enc a = b := ((h _ _).1 hd).2

/-- one spelling per value -/
theorem spelling_unique (h : ExactCodec dec enc V) {b b' : β} {a : α} (hd : dec b = some a) (hd' : dec b' = some a) :
    b = b' := (h.reencode hd).symm.trans (h.reencode hd')

/-- one value per spelling -/
theorem enc_inj (h : ExactCodec dec enc V) {a a' : α} (ha : V a) (ha' : V a') (he : enc a = enc a') : a = a' :=
  enc_inj_of_roundtrip (h.roundtrip ha) (h.roundtrip ha') he

end ExactCodec

/-- `read` undoes `ser` on the domain `WF` whatever follows, and reads nothing else -/
structure ExactRead {α : Type} (read : Parser α) (ser : α → Bytes) (WF : α → Prop) : Prop where
  read_ser : ∀ t r, WF t → read (ser t ++ r) = some (t, r)
  read_sound : ∀ {b r t}, read b = some (t, r) → b = ser t ++ r ∧ WF t

theorem parseAll_eq_some {α : Type} {p : Parser α} {v : Bytes} {x : α} :
    parseAll p v = some x ↔ p v = some (x, []) := by
  unfold parseAll
  split
  · rename_i y hy; rw [hy]; simp
  · rename_i hn; exact ⟨fun h => (nomatch h), fun h => absurd h (hn x)⟩

namespace ExactRead
variable {α : Type} {read : Parser α} {ser ser' : α → Bytes} {WF : α → Prop}

/-- another writer that agrees on the domain (the specification's) -/
theorem congr (X : ExactRead read ser WF) (he : ∀ t, WF t → ser t = ser' t) : ExactRead read ser' WF :=
  ⟨fun t r h => he t h ▸ X.read_ser t r h,
   fun hp => ⟨he _ (X.read_sound hp).2 ▸ (X.read_sound hp).1, (X.read_sound hp).2⟩⟩

theorem parseAll_iff (X : ExactRead read ser WF) : ExactCodec (parseAll read) ser WF := fun b t => by
  rw [parseAll_eq_some]
  constructor
  · intro h
    obtain ⟨hb, hwf⟩ := X.read_sound h
    exact ⟨hwf, by rw [hb, List.append_nil]⟩
  · rintro ⟨hwf, rfl⟩
    have := X.read_ser t [] hwf
    rwa [List.append_nil] at this

theorem parseAll_ser (X : ExactRead read ser WF) (t : α) (h : WF t) : parseAll read (ser t) = some t :=
  X.parseAll_iff.roundtrip h

theorem trailing (X : ExactRead read ser WF) (t : α) (h : WF t) (e : Bytes) (he : e ≠ []) :
    parseAll read (ser t ++ e) = none :=
  Option.eq_none_iff_forall_ne_some.mpr fun _ hp =>
    he (Prod.mk.inj (Option.some.inj ((X.read_ser t e h).symm.trans (parseAll_eq_some.mp hp)))).2

/-- were a proper prefix accepted as `t'`, the whole would be `ser t'` with bytes after it, and is accepted -/
theorem truncated (X : ExactRead read ser WF) (t : α) (h : WF t) (k : Nat) (hk : k < (ser t).length) :
    parseAll read ((ser t).take k) = none :=
  Option.eq_none_iff_forall_ne_some.mpr fun t' hp => by
    obtain ⟨hwf', he'⟩ := (X.parseAll_iff _ t').mp hp
    have := X.trailing t' hwf' ((ser t).drop k) (fun h0 => by
      have := congrArg List.length h0
      rw [List.length_drop, List.length_nil] at this
      omega)
    rw [he', List.take_append_drop, X.parseAll_ser t h] at this
    cases this

end ExactRead

/-- if every successful element read consumes at least `w` bytes, a counted read consumes `w` per element -/
theorem readMany_weight {α : Type} (p : Parser α) (w : Nat)
    (hp : ∀ b x r, p b = some (x, r) → w + r.length ≤ b.length) (n : Nat) (b : Bytes) (xs : List α) (r : Bytes)
    (h : readMany p n b = some (xs, r)) : w * xs.length + r.length ≤ b.length := by
  induction n generalizing b xs r with
  | zero => simp [readMany] at h; obtain ⟨rfl, rfl⟩ := h; simp
  | succ n ih =>
    simp only [readMany] at h
    split at h
    · rename_i x r1 h1
      split at h
      · rename_i xs' r2 h2
        simp at h; obtain ⟨rfl, rfl⟩ := h
        have := hp _ _ _ h1
        have := ih _ _ _ h2
        simp [Nat.mul_add]; omega
      · simp at h
    · simp at h

theorem Compact.exact : ExactRead Compact.read Compact.enc (· < 2^64) := ⟨Compact.read_enc, Compact.read_sound⟩

end Embit
