import EmbitModel.Proofs.Pratt
/-
  Both 256-bit parameters of secp256k1 are prime: the field size `p = 2^256 − 2^32 − 977` (10 Lucas steps) and the
  order `n` of the generator (12 Lucas steps) — Pratt certificates. The factorisations of the numbers `q − 1` were
  found off-line (GNU factor, and one elliptic-curve factorisation of a 62-digit cofactor); nothing of that is
  trusted: the witnesses and modular powers of every step are re-checked by the kernel (`pratt`, on top of Mathlib's
  `lucas_primality`), the prime factors below 100 000 by trial division.
-/
namespace Embit.Model.PyCurve.Primes
open Embit.Model.PyCurve

/-- the prime factors below 100 000 that the steps use -/
def smalls : List ℕ :=
  [2, 3, 5, 7, 11, 17, 19, 29, 31, 41, 53, 59, 97, 109, 113, 149, 293, 461, 631, 797, 971, 1373, 1627, 1871, 2011, 2621, 2657, 2731, 4051, 4423, 5323, 7723, 9349, 13441, 16699, 20113, 24809, 28181, 41201, 85831, 96557]

theorem smalls_prime : smalls.all trialPrime = true := by decide +kernel

/-- the Lucas steps `(q, witness, factorisation of q − 1)` for the order `n` (last row) -/
def certN : List (ℕ × ℕ × List (ℕ × ℕ)) :=
  [
   (120233, 3, [(2, 3), (7, 1), (19, 1), (113, 1)]),
   (305873, 3, [(2, 4), (7, 1), (2731, 1)]),
   (1627771, 3, [(2, 1), (3, 1), (5, 1), (29, 1), (1871, 1)]),
   (4681609, 23, [(2, 3), (3, 1), (97, 1), (2011, 1)]),
   (44706919, 6, [(2, 1), (3, 1), (797, 1), (9349, 1)]),
   (545358713, 5, [(2, 3), (41, 1), (59, 1), (28181, 1)]),
   (297159362677, 2, [(2, 2), (3, 2), (11, 1), (461, 1), (1627771, 1)]),
   (107361793816595537, 3, [(2, 4), (16699, 1), (85831, 1), (4681609, 1)]),
   (174723607534414371449, 3, [(2, 3), (17, 1), (59, 1), (4051, 1), (120233, 1), (44706919, 1)]),
   (29047611873442575647497758179, 2, [(2, 1), (293, 1), (305873, 1), (545358713, 1), (297159362677, 1)]),
   (341948486974166000522343609283189, 2, [(2, 2), (3, 3), (109, 1), (29047611873442575647497758179, 1)]),
   (115792089237316195423570985008687907852837564279074904382605163141518161494337, 7, [(2, 6), (3, 1), (149, 1), (631, 1), (107361793816595537, 1), (174723607534414371449, 1), (341948486974166000522343609283189, 1)])]

/-- the Lucas steps for the field size `p` (last row) -/
def certP : List (ℕ × ℕ × List (ℕ × ℕ)) :=
  [
   (1206781, 10, [(2, 2), (3, 1), (5, 1), (20113, 1)]),
   (7240687, 3, [(2, 1), (3, 1), (1206781, 1)]),
   (13331831, 13, [(2, 1), (5, 1), (971, 1), (1373, 1)]),
   (107590001, 3, [(2, 4), (5, 4), (7, 1), (29, 1), (53, 1)]),
   (173378833005251801, 6, [(2, 3), (5, 2), (2621, 1), (24809, 1), (13331831, 1)]),
   (22149492674086928081353, 5, [(2, 3), (3, 1), (5323, 1), (173378833005251801, 1)]),
   (132896956044521568488119, 6, [(2, 1), (3, 1), (22149492674086928081353, 1)]),
   (255515944373312847190720520512484175977, 3, [(2, 3), (7, 2), (11, 1), (1627, 1), (2657, 1), (4423, 1), (41201, 1), (96557, 1), (7240687, 1), (107590001, 1)]),
   (205115282021455665897114700593932402728804164701536103180137503955397371, 10, [(2, 1), (3, 1), (5, 1), (29, 2), (31, 1), (7723, 1), (132896956044521568488119, 1), (255515944373312847190720520512484175977, 1)]),
   (115792089237316195423570985008687907853269984665640564039457584007908834671663, 3, [(2, 1), (3, 1), (7, 1), (13441, 1), (205115282021455665897114700593932402728804164701536103180137503955397371, 1)])]

theorem secp256k1N_prime : secp256k1N.Prime :=
  pratt smalls_prime (cs := certN) (by decide +kernel) (by decide +kernel)

theorem secp256k1P_prime : secp256k1.p.Prime :=
  pratt smalls_prime (cs := certP) (by decide +kernel) (by decide +kernel)

end Embit.Model.PyCurve.Primes
