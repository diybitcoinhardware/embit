import EmbitModel.Proofs.Slip39Bits
/-
  `Share.mnemonic` / `Share.parse` (integer arithmetic) versus the bit-list layout of the SLIP-0039 text
  (`Spec.Slip39.encodeShare` / `decodeShare`).
-/
namespace Embit.Model.Slip39
open Embit Embit.Spec.Slip39 Embit.Digits

/-- the fields of the standard's layout carried by a share object of embit: embit's five-bit `exponent` is the
    extendable-backup flag followed by the four-bit iteration exponent -/
def Share.toFields (s : Share) : ShareFields :=
  ⟨s.id, s.exponent / 16, s.exponent % 16, s.groupIndex, s.groupThreshold, s.groupCount, s.memberIndex,
   s.memberThreshold, s.bytes⟩

theorem headerBits_length (f : ShareFields) : (headerBits f).length = 40 := by
  simp [headerBits, bitsBE_length]

theorem natOfBits_headerBits (f : ShareFields) :
    natOfBitsBE (headerBits f) =
      ((((((f.id % 2 ^ 15 * 2 + f.ext % 2) * 16 + f.e % 16) * 16 + f.GI % 16) * 16 + (f.Gt - 1) % 16) * 16 +
        (f.g - 1) % 16) * 16 + f.I % 16) * 16 + (f.t - 1) % 16 := by
  simp only [headerBits, natOfBits_append, natOfBits_bitsBE, bitsBE_length]
  norm_num

theorem natOfBits_headerBits_toFields (s : Share) (h : s.WF) :
    natOfBitsBE (headerBits s.toFields) = valueOfWords s.headerWords := by
  obtain ⟨hgi, hgt1, hgt, hgc1, hgc, hmi, hmt1, hmt, _⟩ := (Share.initOk_iff s).mp h.init
  have hid := h.id
  have he := h.exp
  rw [natOfBits_headerBits, valueOfWords_headerWords s h]
  simp only [Share.toFields]
  rw [Nat.mod_eq_of_lt hid, Nat.mod_eq_of_lt (by omega : s.exponent / 16 < 2), Nat.mod_eq_of_lt (by omega : s.groupIndex < 16),
    Nat.mod_eq_of_lt (by omega : s.groupThreshold - 1 < 16), Nat.mod_eq_of_lt (by omega : s.groupCount - 1 < 16),
    Nat.mod_eq_of_lt (by omega : s.memberIndex < 16), Nat.mod_eq_of_lt (by omega : s.memberThreshold - 1 < 16),
    show (s.id * 2 + s.exponent / 16) * 16 + s.exponent % 16 % 16 = s.id * 32 + s.exponent by omega]

theorem dataWords_toFields (s : Share) (h : s.WF) :
    dataWords s.toFields =
      wordsOfBits s.allBits (4 + ((10 - s.shareBitLength % 10) % 10 + s.shareBitLength) / 10) := by
  obtain ⟨m, hm⟩ : ∃ m, (10 - s.shareBitLength % 10) % 10 + s.shareBitLength = 10 * m :=
    ⟨((10 - s.shareBitLength % 10) % 10 + s.shareBitLength) / 10, by omega⟩
  have hval := (h.value_lt m hm).1
  have hL8 : 8 * (s.shareBitLength / 8) = s.shareBitLength := by have := h.sbl16; omega
  have hvlen : (s.toFields.value.flatMap fun b => bitsBE 8 b.toNat).length = s.shareBitLength := by
    rw [valueBits_eq, Spec.Bip39.bytesToBits_length]; simp [Share.toFields, Share.bytes, hL8]
  have hvnat : natOfBitsBE (s.toFields.value.flatMap fun b => bitsBE 8 b.toNat) = s.value := by
    rw [valueBits_eq, Spec.Bip39.bytesToBits_eq_bitsOfNat, natOfBitsBE_eq,
      Spec.Bip39.natOfBits_bitsOfNat _ _ (by rw [← pow256]; exact ofBe_lt _)]
    simp only [Share.toFields, Share.bytes]
    exact ofBe_beN _ _ (by rw [pow256, hL8]; exact hval)
  unfold dataWords
  simp only [hvlen]
  generalize hvb : (s.toFields.value.flatMap fun b => bitsBE 8 b.toNat) = vbits at hvlen hvnat
  have hlen : (headerBits s.toFields ++ List.replicate ((10 - s.shareBitLength % 10) % 10) false ++ vbits).length
      = 10 * (4 + m) := by
    simp only [List.length_append, headerBits_length, List.length_replicate, hvlen]; omega
  have hq : ((10 - s.shareBitLength % 10) % 10 + s.shareBitLength) / 10 = m := by omega
  rw [hlen, hq, show 10 * (4 + m) / 10 = 4 + m by omega, words10_eq _ _ hlen]
  refine congrArg (fun x => wordsOfBits x (4 + m)) ?_
  rw [natOfBits_append, natOfBits_append, natOfBits_replicate_false, hvnat, hvlen, allBits_eq s h m hm,
    natOfBits_headerBits_toFields s h, Nat.add_zero, Nat.mul_assoc, ← Nat.pow_add, List.length_replicate, hm, pow1024]

/-- `Share.mnemonic` = the standard's data words followed by embit's checksum (customisation string "shamir"
    whatever the extendable-backup bit says) -/
theorem mnemonic_eq_dataWords (s : Share) (h : s.WF) :
    s.mnemonic = dataWords s.toFields ++ rs1024Create csShamir (dataWords s.toFields) := by
  rw [dataWords_toFields s h]; rfl

theorem dataWords_lt (s : Share) (h : s.WF) : ∀ w ∈ dataWords s.toFields, w < 1024 := by
  rw [dataWords_toFields s h]; exact wordsOfBits_lt _ _

/-- **`Share.mnemonic` is the standard's `encodeShare`** for iteration exponents below 16 (extendable flag 0) -/
theorem mnemonic_eq_encodeShare (s : Share) (h : s.WF) (he : s.exponent < 16) :
    s.mnemonic = encodeShare s.toFields := by
  rw [mnemonic_eq_dataWords s h, create_eq_spec _ (dataWords_lt s h)]
  unfold encodeShare
  have : s.toFields.ext = 0 := by simp only [Share.toFields]; omega
  rw [this]

/-- embit's share object for the fields of the standard -/
def Share.ofFields (f : ShareFields) : Share :=
  ⟨8 * f.value.length, f.id, 16 * f.ext + f.e, f.GI, f.Gt, f.g, f.I, f.t, ofBe f.value⟩

theorem fld_eq (bits : List Bool) (m : Nat) (hlen : bits.length = 40 + 10 * m) (off w : Nat) (h : off + w ≤ 40) :
    natOfBitsBE ((bits.drop off).take w) = natOfBitsBE bits / 2 ^ (10 * m + (40 - off - w)) % 2 ^ w := by
  rw [natOfBits_slice bits off w (by omega), hlen]
  congr 3; omega

theorem valueBytes_eq (vbits : List Bool) (n : Nat) (hlen : vbits.length = 8 * n) :
    ((List.range (vbits.length / 8)).map fun k => UInt8.ofNat (natOfBitsBE ((vbits.drop (8 * k)).take 8)))
      = beN n (natOfBitsBE vbits) := by
  rw [beN_eq, fixedBE_eq_map_range, List.map_map, hlen, Nat.mul_div_cancel_left n (by decide : 0 < 8)]
  refine List.map_congr_left fun k hk => ?_
  rw [List.mem_range] at hk
  rw [Function.comp, natOfBits_slice vbits (8 * k) 8 (by omega), hlen, pow256]
  congr 4; omega

/-- the part of `decodeShare` after the checksum test, as arithmetic on the number spelled by the data bits -/
theorem decode_body (ext : Nat) (bits : List Bool) (m : Nat) (hlen : bits.length = 40 + 10 * m) :
    (let fld (off w : Nat) : Nat := natOfBitsBE ((bits.drop off).take w)
     let vbitsPadded := bits.drop 40
     let pad := vbitsPadded.length % 16
     if pad > 8 then none else
     if (vbitsPadded.take pad).any id then none else
     let vbits := vbitsPadded.drop pad
     let Gt := fld 24 4 + 1
     let g := fld 28 4 + 1
     if Gt > g then none else
     some (ShareFields.mk (fld 0 15) ext (fld 16 4) (fld 20 4) Gt g (fld 32 4) (fld 36 4 + 1)
            ((List.range (vbits.length / 8)).map fun k =>
              UInt8.ofNat (natOfBitsBE ((vbits.drop (8 * k)).take 8)))))
    = (let N := natOfBitsBE bits
       let pad := 10 * m % 16
       let sbl := 10 * m - pad
       if pad > 8 then none else
       if N / 2 ^ sbl % 2 ^ pad ≠ 0 then none else
       if N / 2 ^ (10 * m + 12) % 16 + 1 > N / 2 ^ (10 * m + 8) % 16 + 1 then none else
       some ⟨N / 2 ^ (10 * m + 25) % 2 ^ 15, ext, N / 2 ^ (10 * m + 20) % 16, N / 2 ^ (10 * m + 16) % 16,
             N / 2 ^ (10 * m + 12) % 16 + 1, N / 2 ^ (10 * m + 8) % 16 + 1, N / 2 ^ (10 * m + 4) % 16,
             N / 2 ^ (10 * m) % 16 + 1, beN (sbl / 8) (N % 2 ^ sbl)⟩) := by
  have hd : (bits.drop 40).length = 10 * m := by rw [List.length_drop]; omega
  simp only [hd]
  by_cases hp : 10 * m % 16 > 8
  · simp only [hp, if_true]
  simp only [hp, if_false]
  have hpad : natOfBitsBE ((bits.drop 40).take (10 * m % 16)) =
      natOfBitsBE bits / 2 ^ (10 * m - 10 * m % 16) % 2 ^ (10 * m % 16) := by
    rw [natOfBits_slice bits 40 _ (by omega), hlen]
    congr 3; omega
  have hany : ((bits.drop 40).take (10 * m % 16)).any id = true ↔
      natOfBitsBE bits / 2 ^ (10 * m - 10 * m % 16) % 2 ^ (10 * m % 16) ≠ 0 := by
    rw [← hpad, ne_eq, natOfBits_eq_zero]; simp
  by_cases hz : natOfBitsBE bits / 2 ^ (10 * m - 10 * m % 16) % 2 ^ (10 * m % 16) ≠ 0
  · rw [if_pos (hany.mpr hz), if_pos hz]
  rw [if_neg (fun h => hz (hany.mp h)), if_neg hz]
  have hvl : ((bits.drop 40).drop (10 * m % 16)).length = 8 * ((10 * m - 10 * m % 16) / 8) := by
    rw [List.length_drop, hd]; omega
  have hvn : natOfBitsBE ((bits.drop 40).drop (10 * m % 16)) = natOfBitsBE bits % 2 ^ (10 * m - 10 * m % 16) := by
    rw [List.drop_drop, natOfBits_drop bits _ (by omega), hlen]
    congr 2; omega
  rw [valueBytes_eq _ _ hvl, hvn]
  rw [fld_eq bits m hlen 24 4 (by omega), fld_eq bits m hlen 28 4 (by omega), fld_eq bits m hlen 0 15 (by omega),
    fld_eq bits m hlen 16 4 (by omega), fld_eq bits m hlen 20 4 (by omega), fld_eq bits m hlen 32 4 (by omega),
    fld_eq bits m hlen 36 4 (by omega)]
  rfl


theorem div_header (H v m j : Nat) (hv : v < 1024 ^ m) : (H * 1024 ^ m + v) / 2 ^ (10 * m + j) = H / 2 ^ j := by
  rw [Nat.pow_add, pow1024, ← Nat.div_div_eq_div_mul, Nat.add_comm, Nat.add_mul_div_right _ _ (Nat.pow_pos (by decide)),
    Nat.div_eq_of_lt hv, Nat.zero_add]

/-- the header fields as digit groups of the number spelled by the four header words -/
theorem header_slices (i0 i1 i2 i3 : Nat) (h0 : i0 < 1024) (h1 : i1 < 1024) (h2 : i2 < 1024) (h3 : i3 < 1024)
    (H : Nat) (hH : H = ((i0 * 1024 + i1) * 1024 + i2) * 1024 + i3) :
    H / 2 ^ 25 % 2 ^ 15 = i0 * 32 + i1 / 32 ∧ H / 2 ^ 20 % 16 = i1 % 16 ∧ H / 2 ^ 16 % 16 = i2 / 64 ∧
    H / 2 ^ 12 % 16 = i2 / 4 % 16 ∧ H / 2 ^ 8 % 16 = i2 % 4 * 4 + i3 / 256 ∧ H / 2 ^ 4 % 16 = i3 / 16 % 16 ∧
    H % 16 = i3 % 16 := by
  subst hH
  refine ⟨?_, ?_, ?_, ?_, ?_, ?_, ?_⟩ <;> omega

theorem parse_short (idx : List Nat) (h : idx.length < 20) : Share.parse idx = none := by
  cases hp : Share.parse idx with
  | none => rfl
  | some s =>
    obtain ⟨i0, i1, i2, i3, vw, a, b, c, rfl, _, _, h128, _⟩ := parse_inv idx s hp
    simp only [List.length_cons, List.length_append, List.length_nil] at h
    omega

/-- **`Share.parse` is the standard's `decodeShare`** on every word sequence whose extendable-backup bit (bit 4 of
    the second word) is 0 -/
theorem parse_eq_decodeShare (idx : List Nat) (hw : ∀ w ∈ idx, w < 1024) (hext : (idx.getD 1 0 >>> 4) &&& 1 = 0) :
    Share.parse idx = (decodeShare idx).map Share.ofFields := by
  by_cases hlen : idx.length < 20
  · rw [parse_short idx hlen]; unfold decodeShare; simp [hlen]
  obtain ⟨i0, i1, i2, i3, vw, a, b, c, rfl⟩ := exists_words idx (by omega)
  unfold decodeShare
  simp only [hlen, if_false, hext, ← verify_eq_spec _ hw]
  cases hv : rs1024Verify csShamir (i0 :: i1 :: i2 :: i3 :: (vw ++ [a, b, c])) with
  | false => unfold Share.parse; simp [hv]
  | true =>
    simp only [Bool.not_true, Bool.false_eq_true, if_false]
    have h0 : i0 < 1024 := hw i0 (by simp)
    have h1 : i1 < 1024 := hw i1 (by simp)
    have h2 : i2 < 1024 := hw i2 (by simp)
    have h3 : i3 < 1024 := hw i3 (by simp)
    have hvw : ∀ w ∈ vw, w < 1024 := fun w hm => hw w (by simp [hm])
    have hdata : ∀ w ∈ [i0, i1, i2, i3] ++ vw, w < 1024 := fun w hm => hw w (by
      simp only [List.cons_append, List.nil_append, List.mem_cons, List.mem_append] at hm ⊢; tauto)
    simp only [List.length_cons, List.length_append, List.length_nil] at hlen
    obtain ⟨m, hm⟩ : ∃ m, vw.length = m := ⟨_, rfl⟩
    have hm13 : 13 ≤ m := by omega
    have htake : (i0 :: i1 :: i2 :: i3 :: (vw ++ [a, b, c])).take ((i0 :: i1 :: i2 :: i3 :: (vw ++ [a, b, c])).length - 3) =
        [i0, i1, i2, i3] ++ vw :=
      List.take_left' (l₁ := [i0, i1, i2, i3] ++ vw) (l₂ := [a, b, c]) (by
        simp only [List.length_cons, List.length_append, List.length_nil]; omega)
    have hbl : (([i0, i1, i2, i3] ++ vw).flatMap (bitsBE 10)).length = 40 + 10 * m := by
      rw [funext (bitsBE_eq 10), Spec.Bip39.flatMap_bitsOfNat_length, List.length_append, hm]
      simp only [List.length_cons, List.length_nil]; omega
    obtain ⟨H, hH⟩ : ∃ H, H = ((i0 * 1024 + i1) * 1024 + i2) * 1024 + i3 := ⟨_, rfl⟩
    obtain ⟨V, hV⟩ : ∃ V, valueOfWords vw = V := ⟨_, rfl⟩
    have hVlt : V < 1024 ^ m := by rw [← hV, ← hm]; exact valueOfWords_lt _ hvw
    rw [htake, decode_body _ _ m hbl, natOfBits_flatMap10 _ hdata, valueOfWords_append _ _ hdata,
      valueOfWords_four _ _ _ _ h0 h1 h2 h3, hm, hV, ← hH, parse_cons i0 i1 i2 i3 vw [a, b, c] rfl hv, hm, hV]
    -- the value part of the number spelled by the data words
    have hsplit : 1024 ^ m = 2 ^ (10 * m % 16) * 2 ^ (10 * m - 10 * m % 16) := by
      rw [← Nat.pow_add, ← pow1024]; congr 1; omega
    have hq : V / 2 ^ (10 * m - 10 * m % 16) < 2 ^ (10 * m % 16) := by
      rw [Nat.div_lt_iff_lt_mul (Nat.pow_pos (by decide)), ← hsplit]; exact hVlt
    have hpadv : (H * 1024 ^ m + V) / 2 ^ (10 * m - 10 * m % 16) % 2 ^ (10 * m % 16) =
        V / 2 ^ (10 * m - 10 * m % 16) := by
      rw [hsplit, ← Nat.mul_assoc, Nat.add_comm, Nat.add_mul_div_right _ _ (Nat.pow_pos (by decide)),
        Nat.add_mul_mod_self_right, Nat.mod_eq_of_lt hq]
    have hmodv : (H * 1024 ^ m + V) % 2 ^ (10 * m - 10 * m % 16) = V % 2 ^ (10 * m - 10 * m % 16) := by
      rw [hsplit, ← Nat.mul_assoc, Nat.add_comm, Nat.add_mul_mod_self_right]
    have hd0 : (H * 1024 ^ m + V) / 2 ^ (10 * m) = H := by
      have := div_header H V m 0 hVlt; simpa using this
    obtain ⟨f1, f2, f3, f4, f5, f6, f7⟩ := header_slices i0 i1 i2 i3 h0 h1 h2 h3 H hH
    simp only [div_header H V m _ hVlt, hd0, hpadv, hmodv, f1, f2, f3, f4, f5, f6, f7, Nat.shiftRight_eq_div_pow]
    rw [show m * 10 / 16 * 16 = 10 * m - 10 * m % 16 by omega]
    obtain ⟨sbl, hS⟩ : ∃ sbl, 10 * m - 10 * m % 16 = sbl := ⟨_, rfl⟩
    rw [hS]
    by_cases hp : 10 * m % 16 > 8
    · rw [if_pos hp, if_neg (by omega), Option.map_none]
    by_cases hz : V / 2 ^ sbl ≠ 0
    · rw [if_neg hp, if_pos hz, if_neg (fun h => hz h.1), Option.map_none]
    have hVs : V < 2 ^ sbl :=
      (Nat.div_eq_zero_iff.mp (not_not.mp hz)).resolve_left (Nat.ne_of_gt (Nat.pow_pos (by decide)))
    have hs8 : 8 * (sbl / 8) = sbl := by omega
    have hV256 : V < 256 ^ (sbl / 8) := by rw [pow256, hs8]; exact hVs
    have hi1 : i1 / 16 % 2 = 0 := by
      simpa [Nat.shiftRight_eq_div_pow, Nat.and_one_is_mod] using hext
    rw [if_neg hp, if_neg hz, if_pos ⟨not_not.mp hz, by omega, by omega⟩, headerOf_arith i0 i1 i2 i3 sbl V h1 h3,
      Nat.mod_eq_of_lt hVs, Share.new?]
    by_cases hg : i2 / 4 % 16 + 1 > i2 % 4 * 4 + i3 / 256 + 1
    · rw [if_pos hg, Option.map_none, if_neg]
      simp only [Share.initOk_iff]
      omega
    · rw [if_neg hg, Option.map_some, if_pos]
      · simp only [Share.ofFields, beN_length, ofBe_beN _ _ hV256, hs8, Option.some.injEq, Share.mk.injEq, true_and,
          and_true]
        omega
      · simp only [Share.initOk_iff, hV256, and_true]
        omega

theorem decodeShare_fields (idx : List Nat) (f : ShareFields) (h : decodeShare idx = some f) :
    f.ext = (idx.getD 1 0 >>> 4) &&& 1 ∧ f.e < 16 := by
  unfold decodeShare at h
  simp only at h
  split at h
  · simp at h
  split at h
  · simp at h
  split at h
  · simp at h
  split at h
  · simp at h
  split at h
  · simp at h
  simp only [Option.some.injEq] at h
  subst h
  refine ⟨rfl, ?_⟩
  have := natOfBits_lt (((List.take (idx.length - 3) idx).flatMap (bitsBE 10)).drop 16 |>.take 4)
  have hl : (((List.take (idx.length - 3) idx).flatMap (bitsBE 10)).drop 16 |>.take 4).length ≤ 4 := by
    rw [List.length_take]; omega
  exact Nat.lt_of_lt_of_le this (Nat.pow_le_pow_right (by decide) hl)

theorem toFields_ofFields (f : ShareFields) (he : f.e < 16) : (Share.ofFields f).toFields = f := by
  obtain ⟨id, ext, e, GI, Gt, g, I, t, value⟩ := f
  simp only [Share.toFields, Share.ofFields, Share.bytes, ShareFields.mk.injEq, true_and]
  simp only at he
  refine ⟨by omega, by omega, ?_⟩
  rw [show 8 * value.length / 8 = value.length by omega]
  exact beN_ofBe value

theorem decodeShare_eq_parse (idx : List Nat) (hw : ∀ w ∈ idx, w < 1024) (hext : (idx.getD 1 0 >>> 4) &&& 1 = 0) :
    decodeShare idx = (Share.parse idx).map Share.toFields := by
  rw [parse_eq_decodeShare idx hw hext]
  cases hd : decodeShare idx with
  | none => rfl
  | some f =>
    simp only [Option.map_some, Option.some.injEq]
    exact (toFields_ofFields f (decodeShare_fields idx f hd).2).symm

theorem create_lt (cs data : List Nat) : ∀ w ∈ rs1024Create cs data, w < 1024 := by
  intro w hw
  simp only [rs1024Create, List.mem_cons, List.not_mem_nil, or_false] at hw
  rcases hw with rfl | rfl | rfl <;> (rw [and1023]; exact Nat.mod_lt _ (by decide))

theorem mnemonic_lt (s : Share) : ∀ w ∈ s.mnemonic, w < 1024 := by
  intro w hw
  simp only [Share.mnemonic, List.mem_append] at hw
  rcases hw with h | h
  · exact wordsOfBits_lt _ _ w h
  · exact create_lt _ _ w h

theorem mnemonic_extbit (s : Share) (h : s.WF) : (s.mnemonic.getD 1 0 >>> 4) &&& 1 = s.exponent / 16 := by
  have hp := share_text_roundtrip s h
  obtain ⟨i0, i1, i2, i3, vw, a, b, c, hidx, _, _, _, _, hs, _⟩ := parse_inv _ s hp
  have hlt := mnemonic_lt s
  rw [hidx] at hlt ⊢
  have h1 : i1 < 1024 := hlt i1 (by simp)
  have he : s.exponent = i1 % 32 := by
    rw [hs]; simp only [headerOf]; exact Nat.and_two_pow_sub_one_eq_mod i1 5
  simp only [List.getD_cons_succ, List.getD_cons_zero, Nat.shiftRight_eq_div_pow]
  rw [Nat.and_one_is_mod, he]
  omega

/-- the standard's decoder inverts the standard's encoder on the fields of every well-formed share with
    extendable flag 0 (a statement about the spec alone, obtained through the model) -/
theorem decode_encodeShare (s : Share) (h : s.WF) (he : s.exponent < 16) :
    decodeShare (encodeShare s.toFields) = some s.toFields := by
  rw [← mnemonic_eq_encodeShare s h he,
    decodeShare_eq_parse _ (mnemonic_lt s) (by rw [mnemonic_extbit s h]; omega), share_text_roundtrip s h]
  rfl

end Embit.Model.Slip39
