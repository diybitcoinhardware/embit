import EmbitModel.Proofs.Bip39Pack
import EmbitModel.Model.Slip39
/-
  C17: mnemonic / share parsers.
  BIP39 `mnemonic_to_bytes`: the bit-packing loop `while remaining > 0` needs at most `remaining` (= 11) rounds per
  word — the fuel of the model is never used up (`packLoop_fuel`) — and the packed string has ⌈11·words/8⌉ bytes,
  so the result has at most 11 bits per word (`toBytes_bits`). Holds for every word list and every hash function.
  SLIP39 `Share.parse`: value < 2^(10·(words−7)), iteration exponent < 32; `_crypt` uses PBKDF2 with the iteration
  count `2500·2^e` and nothing else (`crypt_pbkdf2_param`); `interpolate` returns at most the length of a share.
-/
set_option linter.unusedSimpArgs false
set_option linter.unusedVariables false
namespace Embit.Model.Cost
open Embit

section bip39
open Embit.Model.Bip39

theorem packLoop_fuel : ∀ (f1 f2 : Nat) (seed : Bytes) (off index remaining : Nat), off < 8 →
    remaining ≤ f1 → remaining ≤ f2 → packLoop f1 ⟨seed, off⟩ index remaining = packLoop f2 ⟨seed, off⟩ index remaining := by
  intro f1
  induction f1 with
  | zero =>
    intro f2 seed off index remaining ho h1 h2
    have : remaining = 0 := by omega
    subst this
    rw [packLoop_zero, packLoop_zero]
  | succ f1 ih =>
    intro f2 seed off index remaining ho h1 h2
    by_cases hr : remaining = 0
    · subst hr; rw [packLoop_zero, packLoop_zero]
    · cases f2 with
      | zero => omega
      | succ f2 =>
        have hpos : remaining > 0 := by omega
        simp only [packLoop, hpos, if_true]
        split
        · split
          · cases baAppend seed index with
            | none => rfl
            | some s => simp only [Option.bind_eq_bind, Option.bind_some]; rw [packLoop_zero, packLoop_zero]
          · cases baOrLast seed index with
            | none => rfl
            | some s => simp only [Option.bind_eq_bind, Option.bind_some]; rw [packLoop_zero, packLoop_zero]
        · split
          · rename_i hgt
            simp at hgt
            split
            · cases baAppend seed (index >>> (remaining - 8)) with
              | none => rfl
              | some s =>
                simp only [Option.bind_eq_bind, Option.bind_some]
                exact ih f2 s 0 _ _ (by omega) (by omega) (by omega)
            · cases baOrLast seed (index >>> (remaining - (8 - off))) with
              | none => rfl
              | some s =>
                simp only [Option.bind_eq_bind, Option.bind_some]
                exact ih f2 s 0 _ _ (by omega) (by omega) (by omega)
          · cases baAppend seed (index <<< (8 - remaining)) with
            | none => rfl
            | some s => simp only [Option.bind_eq_bind, Option.bind_some]; rw [packLoop_zero, packLoop_zero]

def padBits (off : Nat) : Nat := if off = 0 then 0 else 8 - off

theorem baAppend_len {s s' : Bytes} {v : Nat} (h : baAppend s v = some s') : s'.length = s.length + 1 := by
  unfold baAppend at h; split at h
  · simp at h; subst h; simp
  · simp at h

theorem baOrLast_len {s s' : Bytes} {v : Nat} (h : baOrLast s v = some s') : s'.length = s.length ∧ 0 < s.length := by
  unfold baOrLast at h
  split at h
  · simp at h
  · rename_i l hl
    have hne : s ≠ [] := by intro e; subst e; simp at hl
    have : 0 < s.length := List.length_pos_iff.mpr hne
    simp only [] at h
    split at h
    · simp at h; subst h; simp; omega
    · simp at h

theorem packLoop_size0 : ∀ (fuel : Nat) (seed : Bytes) (index remaining : Nat) (st' : Pack),
    packLoop fuel ⟨seed, 0⟩ index remaining = some st' →
    st'.offset < 8 ∧ 8 * st'.seed.length = 8 * seed.length + remaining + padBits st'.offset := by
  intro fuel
  induction fuel with
  | zero =>
    intro seed index remaining st' h
    simp only [packLoop] at h
    split at h
    · simp at h
    · simp at h; subst h; simp [padBits]; omega
  | succ fuel ih =>
    intro seed index remaining st' h
    rcases Nat.eq_zero_or_pos remaining with rfl | hpos
    · rw [packLoop_zero] at h; cases h; simp [padBits]
    by_cases h8 : remaining ≤ 8
    · rw [packLoop_aligned_le _ _ _ _ hpos h8, Option.map_eq_some_iff] at h
      obtain ⟨s, ha, rfl⟩ := h
      have := baAppend_len ha
      simp only [padBits]
      refine ⟨Nat.mod_lt _ (by decide), ?_⟩
      split <;> omega
    · rw [packLoop_aligned_gt _ _ _ _ (by omega), Option.bind_eq_some_iff] at h
      obtain ⟨s, ha, h⟩ := h
      have := baAppend_len ha
      obtain ⟨a1, a2⟩ := ih _ _ _ _ h
      exact ⟨a1, by omega⟩

theorem packIndex_size (st st' : Pack) (index L : Nat) (ho : st.offset < 8)
    (hL : 8 * st.seed.length = L + padBits st.offset) (h : packIndex st index = some st') :
    st'.offset < 8 ∧ 8 * st'.seed.length = L + 11 + padBits st'.offset := by
  obtain ⟨seed, off⟩ := st
  simp only [] at ho hL
  by_cases h0 : off = 0
  · subst h0
    obtain ⟨a1, a2⟩ := packLoop_size0 11 seed index 11 st' h
    simp [padBits] at hL
    exact ⟨a1, by omega⟩
  · rw [packIndex, packLoop_unaligned 10 _ _ _ _ (by omega) (by omega), Option.bind_eq_some_iff] at h
    obtain ⟨s, ha, h⟩ := h
    obtain ⟨l1, l2⟩ := baOrLast_len ha
    obtain ⟨a1, a2⟩ := packLoop_size0 _ _ _ _ _ h
    simp [padBits, h0] at hL
    exact ⟨a1, by omega⟩

theorem packWords_size {W : Type} [DecidableEq W] (wl : List W) : ∀ (ws : List W) (st st' : Pack) (L : Nat),
    st.offset < 8 → 8 * st.seed.length = L + padBits st.offset → packWords wl st ws = some st' →
    st'.offset < 8 ∧ 8 * st'.seed.length = L + 11 * ws.length + padBits st'.offset := by
  intro ws
  induction ws with
  | nil => intro st st' L ho hL h; simp [packWords] at h; subst h; exact ⟨ho, by simpa using hL⟩
  | cons w ws ih =>
    intro st st' L ho hL h
    simp only [packWords] at h
    cases hi : indexOf? wl w with
    | none => simp [hi] at h
    | some index =>
      simp [hi] at h
      cases hp : packIndex st index with
      | none => simp [hp] at h
      | some st1 =>
        simp [hp] at h
        obtain ⟨a1, a2⟩ := packIndex_size st st1 index L ho hL hp
        obtain ⟨b1, b2⟩ := ih st1 st' (L + 11) a1 a2 h
        refine ⟨b1, ?_⟩
        simp; omega

theorem toBytes_bits {W : Type} [DecidableEq W] (sha256 : Bytes → Bytes) (wl : List W) (ign : Bool) (ws : List W)
    (data : Bytes) (h : toBytes sha256 wl ign ws = some data) : 8 * data.length ≤ 11 * ws.length := by
  unfold toBytes at h
  split at h
  · simp at h
  · rename_i hlen
    simp at hlen
    cases hp : packWords wl ⟨[], 0⟩ ws with
    | none => simp [hp] at h
    | some st =>
      obtain ⟨a1, a2⟩ := packWords_size wl ws ⟨[], 0⟩ st 0 (by simp) (by simp [padBits]) hp
      have hpad : padBits st.offset ≤ 7 := by
        unfold padBits; split <;> omega
      simp only [hp, Option.bind_eq_bind, Option.bind_some] at h
      rw [Option.bind_eq_some_iff] at h
      obtain ⟨c, _, hd⟩ := h
      have hcl : 1 ≤ (if (ws.length * 11 / 33 % 8 != 0) = true then (ws.length * 11 / 33 / 8 + 1, 8 - ws.length * 11 / 33 % 8)
              else (ws.length * 11 / 33 / 8, 0)).fst := by
        split
        · simp
        · rename_i hz
          simp at hz
          simp
          omega
      generalize (if (ws.length * 11 / 33 % 8 != 0) = true then (ws.length * 11 / 33 / 8 + 1, 8 - ws.length * 11 / 33 % 8)
              else (ws.length * 11 / 33 / 8, 0)).fst = cl at hd hcl
      split at hd
      · simp at hd
      · simp at hd
        subst hd
        unfold sliceToNeg
        split
        · simp
        · simp at a2 ⊢
          omega

end bip39

section slip39
open Embit.Model.Slip39

theorem shareParse_bounds (indices : List Nat) (s : Share) (h : Share.parse indices = some s) :
    s.exponent < 32 ∧ 7 ≤ indices.length ∧ s.shareBitLength ≤ 10 * (indices.length - 7) ∧
    s.value < 2 ^ s.shareBitLength ∧ s.bytes.length * 8 ≤ 10 * indices.length := by
  unfold Share.parse at h
  split at h
  · simp at h
  · split at h
    · rename_i i0 i1 i2 i3 rest hver
      split at h
      · simp at h
      · rename_i hlen
        simp only [] at h
        split at h
        · simp at h
        · rename_i hv
          split at h
          · simp at h
          · split at h
            · simp at h
            · unfold Share.new? at h
              split at h
              · simp at h
                subst h
                simp only [headerOf, Share.bytes, beN_length]
                simp at hv hlen
                refine ⟨?_, by simpa using hlen, by simp; omega, ?_, by simp; omega⟩
                · have : i1 &&& 31 = i1 % 32 := Nat.and_two_pow_sub_one_eq_mod i1 5
                  rw [this]; omega
                · rw [Nat.shiftRight_eq_div_pow] at hv
                  exact (Nat.div_eq_zero_iff_lt (Nat.pow_pos (by decide))).mp hv
              · simp at h
    · simp at h

/-- **`_crypt` calls PBKDF2 only with the iteration count `2500·2^exponent` and `dklen = len(payload)/2`**: two
    primitives that agree on these parameters give the same result (one call per Feistel round: 4) -/
theorem crypt_pbkdf2_param (P P' : Prims) (payload : Bytes) (id exponent : Nat) (passphrase : Bytes) (indices : List UInt8)
    (hagree : ∀ pw salt, P.pbkdf2 pw salt (2500 <<< exponent) (payload.length / 2)
        = P'.pbkdf2 pw salt (2500 <<< exponent) (payload.length / 2)) :
    crypt P payload id exponent passphrase indices = crypt P' payload id exponent passphrase indices := by
  unfold crypt
  have hr : ∀ salt, feistelRound P salt passphrase (2500 <<< exponent) (payload.length / 2)
      = feistelRound P' salt passphrase (2500 <<< exponent) (payload.length / 2) := by
    intro salt; funext st i; simp [feistelRound, hagree]
  simp only [hr]

theorem iterations_eq (e : Nat) : 2500 <<< e = 2500 * 2 ^ e := Nat.shiftLeft_eq _ _

theorem interpolate_length (x : Nat) (sd : List (Nat × Bytes)) :
    (interpolate x sd).length ≤ (match sd with | [] => 0 | s :: _ => s.2.length) := by
  unfold interpolate
  simp only []
  have key : ∀ (l : List (Nat × Bytes)) (init : Bytes) (f : Nat → Nat),
      (l.foldl (fun result s => List.zipWith (mixByte (f s.1)) s.2 result) init).length ≤ init.length := by
    intro l
    induction l with
    | nil => intro init f; simp
    | cons a l ih =>
      intro init f
      simp only [List.foldl_cons]
      have := ih (List.zipWith (mixByte (f a.1)) a.2 init) f
      simp at this ⊢
      omega
  cases sd with
  | nil => simp
  | cons s rest =>
    have := key (s :: rest) (List.replicate s.2.length 0) (fun sx => lagrangeLog x ((s :: rest).map (·.1)) sx)
    simpa using this

end slip39

end Embit.Model.Cost
