import EmbitModel.Model.PyCurve
import Mathlib.NumberTheory.LucasPrimality
/-
  Pratt certificates: a number `p` is prime when `p − 1 = ∏ qᵢ^eᵢ` with every `qᵢ` prime and some `a` has
  `a^(p−1) ≡ 1`, `a^((p−1)/qᵢ) ≢ 1 (mod p)` (Lucas, `lucas_primality`). The modular powers are run by the kernel on the
  literals through `natPow`.
  A certificate is a list of such steps, checked by one Boolean function (`prattChain`): the prime factors a step uses
  are the subject of an earlier step, or come from a list of primes below `320²` checked by trial division.
-/
namespace Embit.Model.PyCurve

/-- `a ^ e % m`, eight bits of `e` at a time: the kernel computes `x ^ 256`, `*` and `%` on large naturals natively, so
    a 256-bit exponent takes 32 steps -/
def natPowAux (a m : ℕ) : ℕ → ℕ → ℕ
  | 0, _ => 1 % m
  | fuel + 1, e => if e = 0 then 1 % m else (natPowAux a m fuel (e / 256) ^ 256 * a ^ (e % 256)) % m

def natPow (a e m : ℕ) : ℕ := natPowAux a m (e.log2 + 1) e

theorem natPowAux_cast (a m : ℕ) : ∀ fuel e : ℕ, e < 256 ^ fuel →
    ((natPowAux a m fuel e : ℕ) : ZMod m) = (a : ZMod m) ^ e
  | 0, e, h => by
    obtain rfl : e = 0 := by simpa using h
    simp [natPowAux]
  | fuel + 1, e, h => by
    unfold natPowAux
    split
    · rename_i h0; simp [h0]
    · rw [ZMod.natCast_mod, Nat.cast_mul, Nat.cast_pow, Nat.cast_pow,
        natPowAux_cast a m fuel (e / 256) (Nat.div_lt_of_lt_mul (by rwa [pow_succ'] at h)),
        ← pow_mul, ← pow_add, Nat.div_add_mod']

theorem natPow_cast (a e m : ℕ) : ((natPow a e m : ℕ) : ZMod m) = (a : ZMod m) ^ e :=
  natPowAux_cast a m _ e (lt_of_lt_of_le Nat.lt_log2_self (Nat.pow_le_pow_left (by norm_num) _))

theorem natPow_lt (a e : ℕ) {m : ℕ} (hm : 0 < m) : natPow a e m < m := by
  unfold natPow natPowAux
  split <;> exact Nat.mod_lt _ hm

/-- the arithmetic of one Lucas step for `p`: witness `a`, `fs` factors `p − 1` -/
def lucasStep (p a : ℕ) (fs : List (ℕ × ℕ)) : Bool :=
  decide (1 < p) && decide ((fs.map fun qe => qe.1 ^ qe.2).prod = p - 1) &&
    decide (natPow a (p - 1) p = 1) && fs.all fun qe => decide (natPow a ((p - 1) / qe.1) p ≠ 1)

theorem lucasStep_sound {p a : ℕ} {fs : List (ℕ × ℕ)} (h : lucasStep p a fs = true)
    (hprime : ∀ qe ∈ fs, qe.1.Prime) : p.Prime := by
  simp only [lucasStep, Bool.and_eq_true, decide_eq_true_eq, List.all_eq_true] at h
  obtain ⟨⟨⟨hp, hprod⟩, h1⟩, h2⟩ := h
  apply lucas_primality p (a : ZMod p)
  · rw [← natPow_cast, h1, Nat.cast_one]
  · intro q hq hdvd
    rw [← hprod] at hdvd
    obtain ⟨x, hx, hqx⟩ := (Prime.dvd_prod_iff hq.prime).mp hdvd
    simp only [List.mem_map] at hx
    obtain ⟨qe, hqe, rfl⟩ := hx
    have hq' : q ∣ qe.1 := hq.prime.dvd_of_dvd_pow hqx
    have heq : q = qe.1 := (Nat.prime_dvd_prime_iff_eq hq (hprime qe hqe)).mp hq'
    rw [← natPow_cast, heq]
    intro h
    apply h2 qe hqe
    have := (ZMod.natCast_eq_natCast_iff' (natPow a ((p - 1) / qe.1) p) 1 p).mp (by rw [h, Nat.cast_one])
    rwa [Nat.mod_eq_of_lt (natPow_lt a _ (by omega)), Nat.mod_eq_of_lt hp] at this

/-- trial division from `d` upwards: `true` when a `d' ≥ d` with `q < d'²` is reached without meeting a divisor -/
def trialLoop (q : ℕ) : ℕ → ℕ → Bool
  | 0, _ => false
  | fuel + 1, d => if q < d * d then true else if q % d = 0 then false else trialLoop q fuel (d + 1)

theorem trialLoop_sound (q : ℕ) : ∀ fuel d : ℕ, (∀ m, 2 ≤ m → m < d → ¬ m ∣ q) → trialLoop q fuel d = true →
    ∀ m, 2 ≤ m → m * m ≤ q → ¬ m ∣ q
  | 0, _, _, h => by simp [trialLoop] at h
  | fuel + 1, d, hinv, h => by
    unfold trialLoop at h
    split at h
    · rename_i hlt
      exact fun m hm hmq => hinv m hm (Nat.mul_self_lt_mul_self_iff.mp (lt_of_le_of_lt hmq hlt))
    · split at h
      · cases h
      · rename_i hmod
        refine trialLoop_sound q fuel (d + 1) (fun m hm hlt hdiv => ?_) h
        rcases Nat.lt_succ_iff_lt_or_eq.mp hlt with hl | rfl
        · exact hinv m hm hl hdiv
        · exact hmod (Nat.mod_eq_zero_of_dvd hdiv)

/-- primality by trial division (for `q < 320²`) -/
def trialPrime (q : ℕ) : Bool := decide (2 ≤ q) && trialLoop q 320 2

theorem trialPrime_sound {q : ℕ} (h : trialPrime q = true) : q.Prime := by
  simp only [trialPrime, Bool.and_eq_true, decide_eq_true_eq] at h
  refine Nat.prime_def_le_sqrt.mpr ⟨h.1, fun m hm hle => ?_⟩
  exact trialLoop_sound q 320 2 (fun m h2 hlt => by omega) h.2 m hm (Nat.le_sqrt.mp hle)

/-- a Pratt certificate: Lucas steps `(p, a, fs)` in an order in which every prime factor used is in `known` — a list
    of primes to start from, then also the `p` of the earlier steps -/
def prattChain : List ℕ → List (ℕ × ℕ × List (ℕ × ℕ)) → Bool
  | _, [] => true
  | known, (p, a, fs) :: cs =>
    lucasStep p a fs && (fs.all fun qe => known.contains qe.1) && prattChain (p :: known) cs

theorem prattChain_sound : ∀ (cs : List (ℕ × ℕ × List (ℕ × ℕ))) (known : List ℕ), (∀ q ∈ known, q.Prime) →
    prattChain known cs = true → ∀ p ∈ cs.map (·.1), p.Prime
  | [], _, _, _, _, hp => by simp at hp
  | (p, a, fs) :: cs, known, hk, h, p', hp' => by
    simp only [prattChain, Bool.and_eq_true, List.all_eq_true, List.contains_iff_mem] at h
    obtain ⟨⟨hl, hf⟩, hrest⟩ := h
    have hp : p.Prime := lucasStep_sound hl fun qe hqe => hk _ (hf qe hqe)
    rcases List.mem_cons.mp hp' with rfl | hp'
    · exact hp
    · exact prattChain_sound cs (p :: known) (List.forall_mem_cons.mpr ⟨hp, hk⟩) hrest p' hp'

/-- … started from primes that pass trial division -/
theorem pratt {smalls : List ℕ} {cs : List (ℕ × ℕ × List (ℕ × ℕ))} (hs : smalls.all trialPrime = true)
    (hc : prattChain smalls cs = true) {p : ℕ} (hp : (cs.map (·.1)).contains p = true) : p.Prime :=
  prattChain_sound cs smalls (fun q hq => trialPrime_sound (List.all_eq_true.mp hs q hq)) hc p
    (List.contains_iff_mem.mp hp)

end Embit.Model.PyCurve
