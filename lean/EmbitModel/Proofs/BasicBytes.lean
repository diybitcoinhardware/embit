import EmbitModel.Basic.Bytes
/-
  Facts about the big- and little-endian codecs of `Basic/Bytes.lean` that several areas use. Mathlib-free.
-/
namespace Embit

theorem map_ofNat_toNat (b : Bytes) : (b.map UInt8.toNat).map UInt8.ofNat = b := by
  rw [List.map_map]
  exact (List.map_congr_left fun x _ => by simp).trans (List.map_id b)

theorem pow256 (k : Nat) : 256 ^ k = 2 ^ (8 * k) := by
  rw [Nat.pow_mul]

theorem beN_ofBe (b : Bytes) : beN b.length (ofBe b) = b := by
  have := leN_ofLe b.reverse
  simp only [List.length_reverse] at this
  simp [beN, ofBe, this]

theorem ofBe_lt (b : Bytes) : ofBe b < 256 ^ b.length := by
  have := ofLe_lt b.reverse
  simpa [ofBe] using this

theorem ofBe_beN32 (v : Nat) (h : v < 2 ^ 256) : ofBe (beN 32 v) = v := by
  apply ofBe_beN; rw [pow256]; exact h

theorem ofLe_append (a b : Bytes) : ofLe (a ++ b) = ofLe a + 256 ^ a.length * ofLe b := by
  induction a with
  | nil => simp [ofLe]
  | cons x r ih =>
    simp only [List.cons_append, ofLe, ih, List.length_cons, Nat.pow_succ]
    rw [Nat.mul_add, Nat.mul_comm (256 ^ r.length) 256, Nat.mul_assoc]
    omega

theorem ofBe_append (a b : Bytes) : ofBe (a ++ b) = ofBe a * 256 ^ b.length + ofBe b := by
  simp only [ofBe, List.reverse_append, ofLe_append, List.length_reverse]
  rw [Nat.mul_comm]; omega

theorem ofBe_cons (x : UInt8) (xs : Bytes) : ofBe (x :: xs) = x.toNat * 256 ^ xs.length + ofBe xs := by
  simpa [ofBe, ofLe] using ofBe_append [x] xs

end Embit
