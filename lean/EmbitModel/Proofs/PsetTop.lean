import EmbitModel.Proofs.PsbtTop
import EmbitModel.Proofs.PsetScope
/-
  C18 (deepening): the whole-PSET statements — framing of `PSET.parse`, global scope, scope counts, and the
  version-0 reconstruction of the global transaction outside the D53 region.
-/
set_option linter.unusedSimpArgs false
set_option linter.unusedVariables false
namespace Embit
open Model Spec.LWire

theorem readLIns_eq (ko : KeyOps) (tx : Option LTx) : ∀ (n i : Nat),
    readLIns ko tx n i = readScopes (fun i kvs => LInScope.addPairs ko (lseedIn tx i) kvs) n i := by
  intro n
  induction n with
  | zero => intro i; rfl
  | succ n ih =>
    intro i; funext b
    simp only [readLIns, readScopes, ih]
    rcases readKVs b with _ | ⟨kvs, r⟩
    · rfl
    · dsimp only
      cases LInScope.addPairs ko (lseedIn tx i) kvs with
      | none => rfl
      | some s => dsimp only; cases readScopes _ n (i + 1) r <;> rfl

theorem readLOuts_eq (ko : KeyOps) (tx : Option LTx) : ∀ (n i : Nat),
    readLOuts ko tx n i = readScopes (fun i kvs => LOutScope.addPairs ko (lseedOut tx i) kvs) n i := by
  intro n
  induction n with
  | zero => intro i; rfl
  | succ n ih =>
    intro i; funext b
    simp only [readLOuts, readScopes, ih]
    rcases readKVs b with _ | ⟨kvs, r⟩
    · rfl
    · dsimp only
      cases LOutScope.addPairs ko (lseedOut tx i) kvs with
      | none => rfl
      | some s => dsimp only; cases readScopes _ n (i + 1) r <;> rfl

/-- what embit checks of a Liquid global transaction: empty scriptSigs (the witness test of `psbt.py` looks for a
    bitcoin `Witness` object and never fires on a `TxInWitness`) -/
def LUnsigned (t : LTx) : Prop := ∀ i ∈ t.vin, i.scriptSig = []

theorem lglobalFold_cons {tx : Option LTx} {ver : Option Nat} {unk r : List KV} {k v : Bytes}
    {res : Option LTx × Option Nat × List KV} (h : lglobalFold tx ver unk ((k, v) :: r) = some res) :
    (k = [0x00] ∧ tx = none ∧ ∃ t, LTx.parse v = some t ∧ LUnsigned t ∧ LTx.hasWitness t = false
        ∧ lglobalFold (some t) ver unk r = some res)
    ∨ (k ≠ [0x00] ∧ k = [0xfb] ∧ ver = none ∧ v.length = 4 ∧ lglobalFold tx (some (ofLe v)) unk r = some res)
    ∨ (k ≠ [0x00] ∧ k ≠ [0xfb] ∧ lookup k unk = none ∧ lglobalFold tx ver (unk ++ [(k, v)]) r = some res) := by
  simp only [lglobalFold] at h
  split at h
  · rename_i hk
    simp only [Option.ite_none_left_eq_some, Bool.not_eq_true, Option.isSome_eq_false_iff, Option.isNone_iff_eq_none] at h
    obtain ⟨htx, h⟩ := h
    split at h
    · cases h
    · rename_i t ht
      simp only [Option.ite_none_left_eq_some, Bool.not_eq_true] at h
      obtain ⟨hu, hw, h⟩ := h
      refine .inl ⟨hk, htx, t, ht, fun i hi => ?_, hw, h⟩
      simpa using List.any_eq_false.mp hu i hi
  · rename_i hk
    split at h
    · rename_i hfb
      simp only [Option.ite_none_left_eq_some, Bool.not_eq_true, Option.isSome_eq_false_iff, Option.isNone_iff_eq_none,
        ne_eq, Decidable.not_not] at h
      exact .inr (.inl ⟨hk, hfb, h.1, h.2.1, h.2.2⟩)
    · rename_i hfb
      simp only [Option.ite_none_left_eq_some, Bool.not_eq_true, Option.isSome_eq_false_iff, Option.isNone_iff_eq_none] at h
      exact .inr (.inr ⟨hk, hfb, h.1, h.2⟩)

/-- the global scope: the transaction and the version are set at most once, from the pair under their key; the
    transaction accepted is well-formed, has empty scriptSigs and (fix `b4`) carries no witness; every other pair is
    kept in the unknown map -/
theorem lglobalFold_spec : ∀ (g : List KV) (tx : Option LTx) (ver : Option Nat) (unk : List KV)
    (tx' : Option LTx) (ver' : Option Nat) (unk' : List KV),
    lglobalFold tx ver unk g = some (tx', ver', unk') →
      (∀ t, tx = some t → tx' = some t) ∧ (∀ n, ver = some n → ver' = some n)
      ∧ (∀ kv ∈ unk, kv ∈ unk')
      ∧ (∀ t, tx' = some t → tx = some t
            ∨ (([0x00], LTx.ser t) ∈ g ∧ LUnsigned t ∧ WF t ∧ LTx.hasWitness t = false))
      ∧ (∀ kv ∈ g, (kv.1 = [0x00] ∧ ∃ t, tx' = some t ∧ LTx.ser t = kv.2)
                  ∨ (kv.1 = [0xfb] ∧ ∃ n, ver' = some n ∧ leN 4 n = kv.2)
                  ∨ (kv ∈ unk' ∧ kv.1 ≠ [0x00] ∧ kv.1 ≠ [0xfb])) := by
  intro g
  induction g with
  | nil =>
    intro tx ver unk tx' ver' unk' h
    cases h
    exact ⟨fun _ h => h, fun _ h => h, fun _ h => h, fun _ h => .inl h, fun _ h => nomatch h⟩
  | cons kv g ih =>
    intro tx ver unk tx' ver' unk' h
    obtain ⟨k, v⟩ := kv
    rcases lglobalFold_cons h with ⟨rfl, rfl, t, ht, hu, hw, h⟩ | ⟨hk, rfl, rfl, hlen, h⟩ | ⟨hk, hfb, _, h⟩
    · obtain ⟨a1, a2, a3, a5, a4⟩ := ih _ _ _ _ _ _ h
      obtain ⟨hser, hwf⟩ := LTx.parse_sound ht
      have htx' := a1 t rfl
      refine ⟨nofun, a2, a3, fun t0 ht0 => ?_, fun x hx => ?_⟩
      · obtain rfl : t = t0 := Option.some.inj (htx'.symm.trans ht0)
        exact .inr ⟨by simp [hser], hu, hwf, hw⟩
      · rcases List.mem_cons.mp hx with rfl | hx
        · exact .inl ⟨rfl, t, htx', hser⟩
        · exact a4 x hx
    · obtain ⟨a1, a2, a3, a5, a4⟩ := ih _ _ _ _ _ _ h
      refine ⟨a1, nofun, a3, fun t ht => (a5 t ht).imp_right fun ⟨m, r⟩ => ⟨List.mem_cons_of_mem _ m, r⟩,
        fun x hx => ?_⟩
      rcases List.mem_cons.mp hx with rfl | hx
      · exact .inr (.inl ⟨rfl, ofLe v, a2 _ rfl, len4 hlen⟩)
      · exact a4 x hx
    · obtain ⟨a1, a2, a3, a5, a4⟩ := ih _ _ _ _ _ _ h
      refine ⟨a1, a2, fun x hx => a3 x (by simp [hx]),
        fun t ht => (a5 t ht).imp_right fun ⟨m, r⟩ => ⟨List.mem_cons_of_mem _ m, r⟩, fun x hx => ?_⟩
      rcases List.mem_cons.mp hx with rfl | hx
      · exact .inr (.inr ⟨a3 _ (by simp), hk, hfb⟩)
      · exact a4 x hx

theorem lglobalFold_nodup : ∀ (g : List KV) (tx : Option LTx) (ver : Option Nat) (unk : List KV)
    (tx' : Option LTx) (ver' : Option Nat) (unk' : List KV),
    lglobalFold tx ver unk g = some (tx', ver', unk') → (unk.map Prod.fst).Nodup → (unk'.map Prod.fst).Nodup := by
  intro g
  induction g with
  | nil => intro tx ver unk tx' ver' unk' h hn; cases h; exact hn
  | cons kv g ih =>
    intro tx ver unk tx' ver' unk' h hn
    obtain ⟨k, v⟩ := kv
    rcases lglobalFold_cons h with ⟨_, _, t, _, _, _, h⟩ | ⟨_, _, _, _, h⟩ | ⟨_, _, hl, h⟩
    · exact ih _ _ _ _ _ _ h hn
    · exact ih _ _ _ _ _ _ h hn
    · exact ih _ _ _ _ _ _ h (nodup_snoc _ _ _ hn hl)

theorem LInScope.addPairs_facts (ko : KeyOps) : ∀ (kvs : List KV) (s s' : LInScope), InSeeded s.base →
    LInScope.addPairs ko s kvs = some s' →
    (s'.base.txid = s.base.txid ∧ s'.base.vout = s.base.vout ∧ s'.base.sequence = s.base.sequence)
    ∧ ∀ f, lget s.lf f = none → (∀ kv ∈ kvs, kv.1 ≠ f.key) → lget s'.lf f = none := by
  intro kvs
  induction kvs with
  | nil => intro s s' _ h; simp [LInScope.addPairs] at h; subst h; exact ⟨⟨rfl, rfl, rfl⟩, fun f hf _ => hf⟩
  | cons kv kvs ih =>
    intro s s' hs h
    obtain ⟨k, v⟩ := kv
    simp only [LInScope.addPairs] at h
    split at h
    · simp at h
    · rename_i s1 h1
      obtain ⟨_, hs1, ⟨e1, e2, e3⟩, hl⟩ := LInScope.addPair_seeded ko s s1 k v hs h1
      obtain ⟨⟨f1, f2, f3⟩, hl'⟩ := ih s1 s' hs1 h
      refine ⟨⟨f1.trans e1, f2.trans e2, f3.trans e3⟩, ?_⟩
      intro f hf hk
      apply hl' f
      · rcases hl with hl | ⟨g, hg, hl⟩
        · rw [hl]; exact hf
        · rw [hl, lget_append_ne _ _ _ _ (by intro e; subst e; exact hk (k, v) (by simp) hg.symm)]; exact hf
      · intro x hx; exact hk x (by simp [hx])

/-- the scope `read_from` starts with writes nothing: it is empty (version 2), or holds transaction fields only, which
    version 0 does not write -/
theorem lseedIn_pairs (tx : Option LTx) (j : Nat) (ver : Option Nat) (h : tx = none ∨ ver ≠ some 2) :
    (lseedIn tx j).pairs ver = [] := by
  have h0 : ({} : LInScope).pairs ver = [] := by
    simp [LInScope.pairs, LInScope.lpairs, InScope.pairs, optKV, lget]
  unfold lseedIn
  split
  · split
    · have hv : ver ≠ some 2 := h.resolve_left nofun
      simp [LInScope.pairs, LInScope.lpairs, InScope.pairs, optKV, lget, hv]
    · exact h0
  · exact h0

theorem lseedOut_pairsL (tx : Option LTx) (j : Nat) (ver : Option Nat) (h : tx = none ∨ ver ≠ some 2) :
    (lseedOut tx j).pairsL ver = [] := by
  have h0 : ({} : LOutScope).pairsL ver = [] := by
    simp [LOutScope.pairsL, LOutScope.lpairs, OutScope.pairs, optKV, lget]
  unfold lseedOut
  split
  · split
    · have hv : ver ≠ some 2 := h.resolve_left nofun
      have hb : (ver == some 2) = false := by simp [hv]
      split <;> simp [LOutScope.pairsL, LOutScope.lpairs, OutScope.pairs, optKV, lget, hv, hb, LOutField.order]
    · exact h0
  · exact h0

theorem lseedIn_seeded (t : LTx) (j : Nat) (hj : j < t.vin.length) : InSeeded (lseedIn (some t) j).base := by
  simp [lseedIn, List.getElem?_eq_getElem hj, InSeeded]

theorem lseedOut_seeded (t : LTx) (j : Nat) (hj : j < t.vout.length) : LOutSeededG (lseedOut (some t) j) := by
  cases hv : t.vout[j].value <;> simp [lseedOut, List.getElem?_eq_getElem hj, hv, LOutSeededG, lget]

/-- the initial state of `parse_unknowns` -/
def lgstate0 (tx : Option LTx) : GState :=
  { txVersion := tx.map (·.version), locktime := tx.map (·.locktime),
    nin := tx.map (·.vin.length), nout := tx.map (·.vout.length), xpubs := [], unknown := [] }

/-- `PSET.parse` (KEEP_ALL) accepted `b`: the framing, the global fold, the `parse_unknowns` pass and the per-scope
    folds, with every equation -/
theorem LPset.parse_decomp (ko : KeyOps) (b : Bytes) (p : LPset) (h : LPset.parse ko b = some p) :
    ∃ (g : List KV) (kin kout : List (List KV)) (tx : Option LTx) (unk : List KV) (gs : GState),
      b = psetMagic ++ (writeKVs g ++ ((kin ++ kout).flatMap writeKVs))
      ∧ (∀ kv ∈ g, KVWF kv) ∧ (∀ kvs ∈ kin ++ kout, ∀ kv ∈ kvs, KVWF kv)
      ∧ lglobalFold none none [] g = some (tx, p.version, unk)
      ∧ parseUnknowns ko (p.version == some 2) (lgstate0 tx) unk = some gs
      ∧ ((p.version = some 2 ∧ tx = none) ∨ (p.version ≠ some 2 ∧ ∃ t, tx = some t))
      ∧ p.txVersion = gs.txVersion ∧ p.locktime = gs.locktime ∧ p.xpubs = gs.xpubs ∧ p.unknown = gs.unknown
      ∧ kin.length = p.inputs.length ∧ kout.length = p.outputs.length
      ∧ p.inputs.length = gs.nin.getD 0 ∧ p.outputs.length = gs.nout.getD 0
      ∧ (∀ j, j < p.inputs.length → ∃ kvs s, kin[j]? = some kvs ∧ p.inputs[j]? = some s
            ∧ LInScope.addPairs ko (lseedIn tx j) kvs = some s)
      ∧ (∀ j, j < p.outputs.length → ∃ kvs s, kout[j]? = some kvs ∧ p.outputs[j]? = some s
            ∧ LOutScope.addPairs ko (lseedOut tx j) kvs = some s) := by
  unfold LPset.parse at h
  split at h
  · simp at h
  · rename_i m r0 hm
    obtain ⟨em, lm⟩ := takeN_sound hm
    split at h
    · simp at h
    · rename_i hmagic
      simp only [ne_eq, Decidable.not_not] at hmagic
      split at h
      · simp at h
      · rename_i g r1 hg
        obtain ⟨eg, wg⟩ := readKVs_sound hg
        split at h
        · simp at h
        · rename_i tx ver unk hgf
          simp only [] at h
          split at h
          · simp at h
          · rename_i hc1
            split at h
            · simp at h
            · rename_i hc2
              split at h
              · simp at h
              · rename_i gs hpu
                generalize hnin : gs.nin.getD 0 = nin at h
                generalize hnout : gs.nout.getD 0 = nout at h
                split at h
                · simp at h
                · rename_i ins' r2 hins
                  split at h
                  · simp at h
                  · rename_i outs' r3 houts
                    split at h
                    · simp at h
                    · rename_i hr3
                      simp at h
                      have hr3' : r3 = [] := by simpa using hr3
                      rw [readLIns_eq] at hins
                      rw [readLOuts_eq] at houts
                      obtain ⟨kin, ei, li1, li2, wi, fi⟩ := readScopes_spec _ nin 0 r1 ins' r2 hins
                      obtain ⟨kout, eo, lo1, lo2, wo, fo⟩ := readScopes_spec _ nout 0 r2 outs' r3 houts
                      subst h
                      have hver : (ver = some 2 ∧ tx = none) ∨ (ver ≠ some 2 ∧ ∃ t, tx = some t) := by
                        by_cases hv : ver = some 2
                        · left; refine ⟨hv, ?_⟩
                          cases tx with
                          | none => rfl
                          | some t => simp [hv] at hc1
                        · right; refine ⟨hv, ?_⟩
                          cases tx with
                          | none => simp [hv] at hc2
                          | some t => exact ⟨t, rfl⟩
                      refine ⟨g, kin, kout, tx, unk, gs, ?_, wg, ?_, hgf, hpu, hver, rfl, rfl, rfl, rfl,
                        by simp [li1, li2], by simp [lo1, lo2], by simp [li2, hnin], by simp [lo2, hnout], ?_, ?_⟩
                      · simp [em, hmagic, eg, ei, eo, hr3', List.append_assoc]
                      · intro kvs hk
                        rcases List.mem_append.mp hk with hk | hk
                        · exact wi kvs hk
                        · exact wo kvs hk
                      · intro j hj
                        obtain ⟨kvs, s, a1, a2, a3⟩ := fi j (by simpa [li2] using hj)
                        exact ⟨kvs, s, a1, a2, by simpa using a3⟩
                      · intro j hj
                        obtain ⟨kvs, s, a1, a2, a3⟩ := fo j (by simpa [lo2] using hj)
                        exact ⟨kvs, s, a1, a2, by simpa using a3⟩

theorem WFAsset_norm (a : Bytes) (h : WFAsset a) : normAsset a = a := by
  rcases h with h | ⟨h, h1⟩
  · unfold normAsset
    split
    · rfl
    · rename_i c rest
      have : rest.length ≠ 32 := by simp at h; omega
      simp [this]
  · exact normAsset_other a h1

theorem WFAsset_truthy (a : Bytes) (h : WFAsset a) : truthyB (some a) = true := by
  have : a ≠ [] := by
    rintro rfl
    rcases h with h | ⟨h, _⟩ <;> simp at h
  simp [truthyB, this]

theorem LTx.fits_of_wf (t : LTx) (h : WF t) : LTx.fits t = true := by
  unfold LTx.fits
  simp only [Bool.and_eq_true, decide_eq_true_eq, List.all_eq_true]
  refine ⟨⟨⟨h.version, h.locktime⟩, ?_⟩, ?_⟩
  · intro i hi
    have wi := h.ins i hi
    refine ⟨⟨?_, wi.sequence⟩, ?_⟩
    · unfold LTxIn.wireVout
      rcases wi.index with ⟨h1, _⟩ | ⟨h1, h2, h3⟩
      · split <;> split <;> omega
      · simp [h1, h2, h3]
    · cases hiss : i.issuance with
      | none => rfl
      | some a =>
        have wa := wi.issuance a hiss
        have ha := wa.amount
        have ht := wa.token
        simp only [Bool.and_eq_true]
        constructor
        · cases hx : a.amount <;> simp [Commit.fits]
          rw [hx] at ha; exact ha
        · cases hx : a.token <;> simp [Commit.fits]
          rw [hx] at ht; exact ht
  · intro o ho
    have wo := (h.outs o ho).value
    cases hv : o.value with
    | explicit v =>
      rw [hv] at wo
      have : v < 2^64 := wo
      simpa using this
    | conf b => rfl

theorem LInScope.addPairs_txparts (ko : KeyOps) (kvs : List KV) (s s' : LInScope)
    (h : LInScope.addPairs ko s kvs = some s') : s'.isPegin = s.isPegin ∧ s'.txIssuance = s.txIssuance :=
  LInScope.addPairs_invariant (P := fun x => x.isPegin = s.isPegin ∧ x.txIssuance = s.txIssuance) (Q := fun _ => True)
    (fun _ hi ha => by rw [(LInScope.addPair_txparts ko _ _ _ _ ha).1, (LInScope.addPair_txparts ko _ _ _ _ ha).2]; exact hi)
    (fun _ _ => trivial) ⟨rfl, rfl⟩ h

theorem LOutScope.addPairs_txparts (ko : KeyOps) (kvs : List KV) (s s' : LOutScope)
    (h : LOutScope.addPairs ko s kvs = some s') : s'.txNonce = s.txNonce :=
  LOutScope.addPairs_invariant (P := fun x => x.txNonce = s.txNonce) (Q := fun _ => True)
    (fun _ hi ha => (LOutScope.addPair_txparts ko _ _ _ _ ha).trans hi) (fun _ _ => trivial) rfl h

/-- outside the D53 region: the global transaction of a version-0 PSET has nothing the scopes cannot hold (no
    issuance, no peg-in flag, no witness data, no output nonce) and no input scope carries the PSETv2 issuance
    fields from which `LInputScope.vin` would build an issuance of its own -/
def D53Free (t : LTx) (ins : List (List KV)) : Bool :=
  t.vin.all (fun i => i.issuance.isNone && !i.isPegin && decide (i.witness = {}))
  && t.vout.all (fun o => o.nonce.isNone && decide (o.witness = {}))
  && ins.all (fun kvs => kvs.all (fun kv => kv.1 != LInField.key .issueValue && kv.1 != LInField.key .issueCommitment))

/-- the side condition of the version-0 statements: no input scope carries the PSETv2 issuance fields `pset 00` /
    `pset 01` (which by design take precedence over the issuance of the global transaction) -/
def NoOwnIssuance (ins : List (List KV)) : Bool :=
  ins.all (fun kvs => kvs.all (fun kv => kv.1 != LInField.key .issueValue && kv.1 != LInField.key .issueCommitment))

/-- no input scope builds an issuance from fields of its own (`LInputScope.asset_issuance` before the fall-back to the
    global transaction's issuance is None): the object-level form of `NoOwnIssuance` (weaker: a scope may hold
    `pset 00` with value 0 and / or an empty `pset 01`) -/
def Model.LPset.noOwnIssuance (p : LPset) : Bool := p.inputs.all (fun s => s.assetIssuance.isNone)

theorem LTx.noWitness_parts (t : LTx) (h : LTx.hasWitness t = false) :
    (∀ i ∈ t.vin, i.witness = {}) ∧ (∀ o ∈ t.vout, o.witness = {}) := by
  simp only [LTx.hasWitness, Bool.or_eq_false_iff, List.any_eq_false, Bool.not_eq_true, Bool.not_eq_false'] at h
  constructor
  · intro i hi
    have := h.1 i hi
    cases hw : i.witness with
    | mk a b c d => simp [hw, LInWitness.isEmpty] at this; simp [this]
  · intro o ho
    have := h.2 o ho
    cases hw : o.witness with
    | mk a b => simp [hw, LOutWitness.isEmpty] at this; simp [this]

/-- input scope read on top of its version-0 seed and building no issuance of its own: the input rebuilt from it IS
    the input of the global transaction, whatever issuance / peg-in flag that input carries -/
theorem LInScope.vin_of_seed_obj (ko : KeyOps) (t : LTx) (j : Nat) (hj : j < t.vin.length) (kvs : List KV) (s : LInScope)
    (h : LInScope.addPairs ko (lseedIn (some t) j) kvs = some s)
    (hu : t.vin[j].scriptSig = []) (hw : t.vin[j].witness = {}) (hai : s.assetIssuance = none) :
    s.vin = some t.vin[j] := by
  obtain ⟨⟨e1, e2, e3⟩, _⟩ := LInScope.addPairs_facts ko kvs _ s (lseedIn_seeded t j hj) h
  obtain ⟨p1, p2⟩ := LInScope.addPairs_txparts ko kvs _ s h
  simp only [lseedIn, List.getElem?_eq_getElem hj] at e1 e2 e3 p1 p2
  simp only [LInScope.vin, LInScope.issuance, e1, e2, e3, hai, p1, p2, Option.getD_some]
  cases hh : t.vin[j] with
  | mk a1 a2 a3 a4 a5 a6 a7 => rw [hh] at hu hw; simp only at hu hw; rw [hu, hw]

theorem LInScope.assetIssuance_of_seed (ko : KeyOps) (tx : Option LTx) (j : Nat) (kvs : List KV) (s : LInScope)
    (h : LInScope.addPairs ko (lseedIn tx j) kvs = some s) (hs : InSeeded (lseedIn tx j).base)
    (hk : ∀ kv ∈ kvs, kv.1 ≠ LInField.key .issueValue ∧ kv.1 ≠ LInField.key .issueCommitment) :
    s.assetIssuance = none := by
  have hlf : ∀ f, lget (lseedIn tx j).lf f = none := by
    intro f; unfold lseedIn; repeat' split
    all_goals rfl
  obtain ⟨_, hl⟩ := LInScope.addPairs_facts ko kvs _ s hs h
  have l1 := hl .issueValue (hlf _) (fun kv hkv => (hk kv hkv).1)
  have l2 := hl .issueCommitment (hlf _) (fun kv hkv => (hk kv hkv).2)
  simp [LInScope.assetIssuance, LInScope.geti, l1, l2, truthyN, truthyB]

theorem LOutScope.vout_of_seed_kept (ko : KeyOps) (t : LTx) (j : Nat) (hj : j < t.vout.length) (kvs : List KV)
    (s : LOutScope) (h : LOutScope.addPairs ko (lseedOut (some t) j) kvs = some s)
    (hne : ∀ kv ∈ kvs, kv.1 ≠ [])
    (hwa : WFAsset t.vout[j].asset) (hw : t.vout[j].witness = {}) :
    s.vout = some t.vout[j] := by
  have hseed := lseedOut_seeded t j hj
  obtain ⟨_, _, e0, e⟩ := LOutScope.addPairs_losslessG ko none kvs _ s (Or.inr hseed) hne h
  obtain ⟨e1, e2, e3⟩ := e hseed
  have q := LOutScope.addPairs_txparts ko kvs _ s h
  have ht := WFAsset_truthy _ hwa
  have hn := WFAsset_norm _ hwa
  cases hh : t.vout[j] with
  | mk a1 a2 a3 a4 a5 =>
    rw [hh] at hw ht hn; simp only at hw ht hn
    cases a2 <;>
      simp only [lseedOut, List.getElem?_eq_getElem hj, hh, lget, if_true] at e0 e1 e2 e3 q <;>
      simp [LOutScope.vout, LOutScope.get, e0, e1, e2, e3, q, ht, hn, hw]

theorem optAll_map_eq_get {α β : Type} (f : α → Option β) : ∀ (l : List α) (l' : List β), l.length = l'.length →
    (∀ (j : Nat) (a : α), l[j]? = some a → ∃ b, l'[j]? = some b ∧ f a = some b) → optAll (l.map f) = some l' := by
  intro l
  induction l with
  | nil => intro l' hl _; cases l' with
    | nil => rfl
    | cons _ _ => simp at hl
  | cons a l ih =>
    intro l' hl h
    cases l' with
    | nil => simp at hl
    | cons b l' =>
      obtain ⟨b', hb1, hb2⟩ := h 0 a (by simp)
      simp at hb1; subst hb1
      have := ih l' (by simpa using hl) (fun j x hx => by
        obtain ⟨y, hy1, hy2⟩ := h (j+1) x (by simpa using hx)
        exact ⟨y, by simpa using hy1, hy2⟩)
      simp [optAll, hb2, this]

/-- version 0 (fixes `d53` / `b4`): the transaction rebuilt from the scopes IS the global transaction (any
    issuance, peg-in flag, nonce), provided it carries no witness (which the global scope checks) and no input scope
    builds an issuance of its own -/
theorem LPset.tx_of_v0_obj (ko : KeyOps) (p : LPset) (t : LTx) (kin kout : List (List KV))
    (hwf : WF t) (hu : LUnsigned t) (hnw : LTx.hasWitness t = false)
    (wo : ∀ kvs ∈ kout, ∀ kv ∈ kvs, KVWF kv)
    (hv : p.txVersion = some t.version) (hl : p.locktime = some t.locktime)
    (li : p.inputs.length = t.vin.length) (lo : p.outputs.length = t.vout.length)
    (fi : ∀ j, j < p.inputs.length → ∃ kvs s, kin[j]? = some kvs ∧ p.inputs[j]? = some s
            ∧ LInScope.addPairs ko (lseedIn (some t) j) kvs = some s)
    (fo : ∀ j, j < p.outputs.length → ∃ kvs s, kout[j]? = some kvs ∧ p.outputs[j]? = some s
            ∧ LOutScope.addPairs ko (lseedOut (some t) j) kvs = some s)
    (hfree : p.noOwnIssuance = true) : p.tx = some t := by
  simp only [LPset.noOwnIssuance, List.all_eq_true, Option.isNone_iff_eq_none] at hfree
  obtain ⟨hwi, hwo⟩ := LTx.noWitness_parts t hnw
  have hvin : optAll (p.inputs.map LInScope.vin) = some t.vin := by
    apply optAll_map_eq_get _ _ _ li
    intro j a ha
    have hj : j < p.inputs.length := (List.getElem?_eq_some_iff.mp ha).1
    have hjt : j < t.vin.length := by omega
    obtain ⟨kvs, s, a1, a2, a3⟩ := fi j hj
    rw [ha] at a2; simp at a2; subst a2
    have hm := List.getElem_mem hjt
    exact ⟨t.vin[j], List.getElem?_eq_getElem hjt,
      LInScope.vin_of_seed_obj ko t j hjt kvs a a3 (hu _ hm) (hwi _ hm) (hfree a (List.mem_of_getElem? ha))⟩
  have hvout : optAll (p.outputs.map LOutScope.vout) = some t.vout := by
    apply optAll_map_eq_get _ _ _ lo
    intro j a ha
    have hj : j < p.outputs.length := (List.getElem?_eq_some_iff.mp ha).1
    have hjt : j < t.vout.length := by omega
    obtain ⟨kvs, s, a1, a2, a3⟩ := fo j hj
    rw [ha] at a2; simp at a2; subst a2
    have hm := List.getElem_mem hjt
    exact ⟨t.vout[j], List.getElem?_eq_getElem hjt, LOutScope.vout_of_seed_kept ko t j hjt kvs a a3
      (fun kv hkv => (wo kvs (List.mem_of_getElem? a1) kv hkv).1) (hwf.outs _ hm).asset (hwo _ hm)⟩
  simp only [LPset.tx, hvin, hvout, hv, hl]
  simp

theorem LPset.noOwnIssuance_of_keys (ko : KeyOps) (p : LPset) (t : LTx) (kin : List (List KV))
    (li : p.inputs.length = t.vin.length)
    (fi : ∀ j, j < p.inputs.length → ∃ kvs s, kin[j]? = some kvs ∧ p.inputs[j]? = some s
            ∧ LInScope.addPairs ko (lseedIn (some t) j) kvs = some s)
    (hfree : NoOwnIssuance kin = true) : p.noOwnIssuance = true := by
  simp only [NoOwnIssuance, Bool.and_eq_true, List.all_eq_true, bne_iff_ne, ne_eq] at hfree
  simp only [LPset.noOwnIssuance, List.all_eq_true, Option.isNone_iff_eq_none]
  intro s hs
  obtain ⟨j, hj⟩ := List.mem_iff_getElem?.mp hs
  have hjl : j < p.inputs.length := (List.getElem?_eq_some_iff.mp hj).1
  obtain ⟨kvs, s', a1, a2, a3⟩ := fi j hjl
  rw [hj] at a2; simp at a2; subst a2
  exact LInScope.assetIssuance_of_seed ko _ j kvs s a3 (lseedIn_seeded t j (li ▸ hjl))
    (fun kv hkv => hfree kvs (List.mem_of_getElem? a1) kv hkv)

theorem optAll_map_of_forall {α β : Type} (f : α → Option β) (g : α → β) : ∀ (l : List α),
    (∀ a ∈ l, f a = some (g a)) → optAll (l.map f) = some (l.map g) := by
  intro l
  induction l with
  | nil => intro _; rfl
  | cons a l ih =>
    intro h
    simp [optAll, h a (by simp), ih (fun x hx => h x (by simp [hx]))]

/-- `PSET.write_to` succeeds as soon as the global scope can be written and no output scope holds a raw commitment
    in the place of a version-2 value -/
theorem LPset.ser_of_globalPairs (p : LPset) (gp : List KV) (hgp : p.globalPairs = some gp)
    (ho : ∀ s ∈ p.outputs, s.pairs p.version = some (s.pairsL p.version)) :
    LPset.ser p = some (psetMagic ++ writeKVs gp
      ++ p.inputs.flatMap (fun s => writeKVs (s.pairs p.version))
      ++ p.outputs.flatMap (fun s => writeKVs (s.pairsL p.version))) := by
  have := optAll_map_of_forall (fun s : LOutScope => s.pairs p.version) (fun s => s.pairsL p.version) p.outputs ho
  simp only [LPset.ser, hgp, this]
  simp [List.flatMap_map]

end Embit
