import EmbitModel.Model.Lock
/-
  C20 — helper lemmas: the simulation between the interleaved machine and the threads run alone.
  Invariant `Inv`: a buffer is written only by the lock holder (or is private to the writer) and read only by its
  owner / by the lock holder that wrote it in the same hold; the shared context is used by one call at a time.
-/
namespace Embit.Model.Lock

theorem upd_same {α β : Type} [DecidableEq α] (f : α → β) (a : α) (b : β) : upd f a b a = b := by
  simp [upd]

theorem upd_other {α β : Type} [DecidableEq α] (f : α → β) {a x : α} (b : β) (h : x ≠ a) : upd f a b x = f x := by
  simp [upd, h]

theorem writeAll_congr (ok : Bool) (outs : List (Buf × Val)) (f g : Buf → Val) (b : Buf)
    (h : b ∈ outs.map (·.1) ∨ f b = g b) : writeAll ok outs f b = writeAll ok outs g b := by
  induction outs generalizing f g with
  | nil =>
    rcases h with h | h
    · simp at h
    · simpa [writeAll] using h
  | cons bv rest ih =>
    simp only [writeAll, List.foldl_cons]
    apply ih
    by_cases hb : b = bv.1
    · right; subst hb; simp [upd]
    · rcases h with h | h
      · left
        simp only [List.map_cons, List.mem_cons] at h
        rcases h with h | h
        · exact absurd h hb
        · exact h
      · right; simp [upd, hb, h]

theorem writeAll_not_mem (ok : Bool) (outs : List (Buf × Val)) (f : Buf → Val) (b : Buf)
    (h : b ∉ outs.map (·.1)) : writeAll ok outs f b = f b := by
  induction outs generalizing f with
  | nil => rfl
  | cons bv rest ih =>
    simp only [List.map_cons, List.mem_cons, not_or] at h
    simp only [writeAll, List.foldl_cons]
    have := ih (upd f bv.1 (if ok then bv.2 else garble bv.2)) h.2
    simp only [writeAll] at this
    rw [this, upd_other _ _ h.1]

theorem lrun_snoc (l : Local) (p : List Step) (st : Step) : lrun l (p ++ [st]) = lstep (lrun l p) st := by
  simp [lrun, List.foldl_append]

/-- the ghost step: the thread-local state advances exactly when the machine executes a step of the thread -/
def gstep (t : Tid) (s : State) (ls : Tid → Local) : Tid → Local :=
  match s.rest t with
  | [] => ls
  | .acquire :: _ => if s.lock.isNone then upd ls t (lstep (ls t) .acquire) else ls
  | .nativeCall f outs :: _ => if s.mid t then upd ls t (lstep (ls t) (.nativeCall f outs)) else ls
  | st :: _ => upd ls t (lstep (ls t) st)

structure Inv (progs : Tid → List Step) (s : State) (ls : Tid → Local) : Prop where
  res : ∀ t, s.res t = (ls t).res
  priv : ∀ t k, s.bufs (.priv t k) = (ls t).view (.priv t k)
  lock : ∀ t, (ls t).hold.isSome = true ↔ s.lock = some t
  held : ∀ t ws, (ls t).hold = some ws → ∀ b ∈ ws, s.bufs b = (ls t).view b
  safe : ∀ t, safe t (ls t).hold (s.rest t) = true
  mid : ∀ t, s.mid t = true → s.ctx = some t ∧ (ls t).hold.isSome = true ∧ ∃ f outs r, s.rest t = .nativeCall f outs :: r
  pre : ∀ t, ∃ pre, progs t = pre ++ s.rest t ∧ ls t = lrun local0 pre

theorem inv_init (progs : Tid → List Step) (h : ∀ t, safe t none (progs t) = true) :
    Inv progs (init progs) (fun _ => local0) := by
  refine ⟨fun _ => rfl, fun _ _ => rfl, ?_, ?_, ?_, ?_, ?_⟩
  · intro t; simp [init, local0]
  · intro t ws hw; simp [local0] at hw
  · intro t; simpa [init, local0] using h t
  · intro t hm; simp [init] at hm
  · intro t; exact ⟨[], by simp [init], rfl⟩

/-- advancing thread `t` by its next step `st` keeps the "executed prefix" bookkeeping -/
theorem pre_advance {progs : Tid → List Step} {s : State} {ls : Tid → Local} {t : Tid} {st : Step} {r : List Step}
    (hp : ∀ t, ∃ pre, progs t = pre ++ s.rest t ∧ ls t = lrun local0 pre) (hrest : s.rest t = st :: r) :
    ∀ t', ∃ pre, progs t' = pre ++ upd s.rest t r t' ∧ upd ls t (lstep (ls t) st) t' = lrun local0 pre := by
  intro t'
  by_cases h : t' = t
  · subst h
    obtain ⟨pre, h1, h2⟩ := hp t'
    refine ⟨pre ++ [st], ?_, ?_⟩
    · rw [upd_same, h1, hrest]; simp
    · rw [upd_same, lrun_snoc, h2]
  · obtain ⟨pre, h1, h2⟩ := hp t'
    exact ⟨pre, by rw [upd_other _ _ h]; exact h1, by rw [upd_other _ _ h]; exact h2⟩

/-- only the holder of the lock has a write set -/
theorem Inv.hold_none {progs : Tid → List Step} {s : State} {ls : Tid → Local} (I : Inv progs s ls) {t t' : Tid}
    (hl : s.lock = none ∨ s.lock = some t) (h : t' ≠ t) : (ls t').hold = none := by
  cases hh : (ls t').hold with
  | none => rfl
  | some ws =>
    have := (I.lock t').1 (by simp [hh])
    rcases hl with hl | hl <;> rw [hl] at this
    · cases this
    · exact absurd (Option.some.inj this).symm h

/-- a thread whose next step is not a native call is not inside one -/
theorem Inv.mid_false {progs : Tid → List Step} {s : State} {ls : Tid → Local} (I : Inv progs s ls) {t : Tid}
    {st : Step} {r : List Step} (hrest : s.rest t = st :: r) (hst : ∀ f outs, st ≠ .nativeCall f outs) :
    s.mid t = false := by
  cases hm : s.mid t with
  | false => rfl
  | true =>
    obtain ⟨_, _, f, o, r', hr⟩ := I.mid t hm
    rw [hrest] at hr
    cases hr
    exact absurd rfl (hst f o)

/-- Thread `t` executes its next step `st` and the machine goes to `s'` (same context user, nobody new inside a native
    call): the invariant holds again when its clauses hold for `t`, and what the other threads look at — their
    results, their private buffers, whether they hold the lock, the buffers in their write set — is as before. -/
theorem Inv.move {progs : Tid → List Step} {s s' : State} {ls : Tid → Local} (I : Inv progs s ls) {t : Tid}
    {st : Step} {r : List Step} (hrest : s.rest t = st :: r) (hr : s'.rest = upd s.rest t r) (hctx : s'.ctx = s.ctx)
    (hmid : ∀ t', s'.mid t' = true → t' ≠ t ∧ s.mid t' = true)
    (hsafe : Lock.safe t (lstep (ls t) st).hold r = true)
    (res : s'.res t = (lstep (ls t) st).res) (ores : ∀ t', t' ≠ t → s'.res t' = s.res t')
    (priv : ∀ k, s'.bufs (.priv t k) = (lstep (ls t) st).view (.priv t k))
    (opriv : ∀ t', t' ≠ t → ∀ k, s'.bufs (.priv t' k) = s.bufs (.priv t' k))
    (lock : (lstep (ls t) st).hold.isSome = true ↔ s'.lock = some t)
    (olock : ∀ t', t' ≠ t → (s'.lock = some t' ↔ s.lock = some t'))
    (held : ∀ ws, (lstep (ls t) st).hold = some ws → ∀ b ∈ ws, s'.bufs b = (lstep (ls t) st).view b)
    (oheld : ∀ t', t' ≠ t → ∀ ws, (ls t').hold = some ws → ∀ b ∈ ws, s'.bufs b = s.bufs b) :
    Inv progs s' (upd ls t (lstep (ls t) st)) := by
  refine ⟨fun t' => ?_, fun t' k => ?_, fun t' => ?_, fun t' ws hw b hb => ?_, fun t' => ?_, fun t' hm => ?_,
    by rw [hr]; exact pre_advance I.pre hrest⟩
  · by_cases h : t' = t
    · rw [h, upd_same]; exact res
    · rw [upd_other _ _ h, ores t' h]; exact I.res t'
  · by_cases h : t' = t
    · rw [h, upd_same]; exact priv k
    · rw [upd_other _ _ h, opriv t' h]; exact I.priv t' k
  · by_cases h : t' = t
    · rw [h, upd_same]; exact lock
    · rw [upd_other _ _ h, olock t' h]; exact I.lock t'
  · by_cases h : t' = t
    · rw [h, upd_same] at hw ⊢; exact held ws hw b hb
    · rw [upd_other _ _ h] at hw ⊢
      rw [oheld t' h ws hw b hb]; exact I.held t' ws hw b hb
  · rw [hr]
    by_cases h : t' = t
    · rw [h, upd_same, upd_same]; exact hsafe
    · rw [upd_other _ _ h, upd_other _ _ h]; exact I.safe t'
  · obtain ⟨h, hm⟩ := hmid t' hm
    rw [hctx, hr, upd_other _ _ h, upd_other _ _ h]
    exact I.mid t' hm

theorem inv_step {progs : Tid → List Step} {s : State} {ls : Tid → Local} (t : Tid) (I : Inv progs s ls) :
    Inv progs (step t s) (gstep t s ls) := by
  have hsafe := I.safe t
  cases hrest : s.rest t with
  | nil =>
    simpa only [step, gstep, hrest] using I
  | cons st r =>
    rw [hrest] at hsafe
    -- for a step other than a native call: `t` is not inside one, before or after
    have notmid : (∀ f outs, st ≠ .nativeCall f outs) → ∀ t', s.mid t' = true → t' ≠ t ∧ s.mid t' = true :=
      fun hst t' hm => ⟨fun h => (by rw [h, I.mid_false hrest hst] at hm; cases hm), hm⟩
    cases st with
    | acquire =>
      simp only [safe, Bool.and_eq_true, Option.isNone_iff_eq_none] at hsafe
      cases hl : s.lock with
      | some o =>
        simpa only [step, gstep, hrest, hl, Option.isNone_some, Bool.false_eq_true, if_false] using I
      | none =>
        simp only [step, gstep, hrest, hl, Option.isNone_none, if_true]
        exact I.move hrest rfl rfl (notmid nofun) hsafe.2 (I.res t) (fun _ _ => rfl) (I.priv t) (fun _ _ _ => rfl)
          (by simp [lstep]) (fun t' h => by simp [hl, Ne.symm h]) (fun ws hw b hb => by cases hw; cases hb)
          (fun _ _ _ _ _ _ => rfl)
    | release =>
      simp only [safe, Bool.and_eq_true] at hsafe
      have hl : s.lock = some t := (I.lock t).1 hsafe.1
      simp only [step, gstep, hrest]
      exact I.move hrest rfl rfl (notmid nofun) hsafe.2 (I.res t) (fun _ _ => rfl) (I.priv t) (fun _ _ _ => rfl)
        (by simp [lstep]) (fun t' h => by simp [hl, Ne.symm h]) (fun ws hw => nomatch hw) (fun _ _ _ _ _ _ => rfl)
    | nativeCall f outs =>
      cases hh : (ls t).hold with
      | none => rw [hh] at hsafe; simp [safe] at hsafe
      | some ws =>
      rw [hh] at hsafe
      simp only [safe, Bool.and_eq_true, List.all_eq_true] at hsafe
      obtain ⟨hw, hsafe'⟩ := hsafe
      have hl : s.lock = some t := (I.lock t).1 (by simp [hh])
      have others : ∀ t', t' ≠ t → (ls t').hold = none := fun t' h => I.hold_none (.inr hl) h
      by_cases hm : s.mid t = true
      · -- exit of the native call: the out-buffers are written
        simp only [step, gstep, hrest, hm, (I.mid t hm).1, if_true, beq_self_eq_true]
        refine I.move hrest rfl (I.mid t hm).1.symm (fun t' hm' => ?_) (by simpa [lstep, hh] using hsafe') (I.res t) (fun _ _ => rfl)
          (fun k => writeAll_congr true outs _ _ _ (Or.inr (I.priv t k))) (fun t' h k => ?_)
          (by simp [lstep, hh, hl]) (fun _ _ => Iff.rfl) (fun ws' hw' b hb => ?_)
          (fun t' h ws' hw' => by rw [others t' h] at hw'; cases hw')
        · by_cases h : t' = t
          · rw [h] at hm'; simp [upd_same] at hm'
          · exact ⟨h, by simpa [upd_other _ _ h] using hm'⟩
        · -- the call writes buffers of `t` and shared ones only
          refine writeAll_not_mem _ _ _ _ fun hmem => ?_
          simp only [List.mem_map] at hmem
          obtain ⟨bv, hbv, hb⟩ := hmem
          have := hw bv hbv
          rw [hb] at this
          simp [okWrite] at this
          exact h this
        · simp only [lstep, hh, Option.map_some, Option.some.injEq] at hw'
          subst hw'
          apply writeAll_congr
          rcases List.mem_append.1 hb with hb | hb
          · exact Or.inr (I.held t ws hh b hb)
          · exact Or.inl hb
      · -- entry: the call starts to use the shared context
        simp only [step, gstep, hrest, hm, Bool.false_eq_true, if_false]
        refine ⟨I.res, I.priv, I.lock, I.held, I.safe, ?_, I.pre⟩
        intro t' hmt
        by_cases h : t' = t
        · subst h; exact ⟨rfl, by simp [hh], f, outs, r, hrest⟩
        · simp only [upd_other _ _ h] at hmt
          have := (I.mid t' hmt).2.1
          rw [others t' h] at this; simp at this
    | copyOut b =>
      simp only [safe, Bool.and_eq_true] at hsafe
      obtain ⟨hread, hsafe'⟩ := hsafe
      have hval : s.bufs b = (ls t).view b := by
        cases b with
        | priv o k =>
          simp [okRead] at hread; subst hread; exact I.priv o k
        | shared k =>
          cases hh : (ls t).hold with
          | none => rw [hh] at hread; simp [okRead] at hread
          | some ws =>
            rw [hh] at hread
            simp only [okRead, List.contains_iff_mem] at hread
            exact I.held t ws hh _ hread
      simp only [step, gstep, hrest]
      exact I.move hrest rfl rfl (notmid nofun) hsafe' (by simp [upd_same, lstep, I.res, hval])
        (fun t' h => upd_other _ _ h) (I.priv t) (fun _ _ _ => rfl) (I.lock t) (fun _ _ => Iff.rfl) (I.held t)
        (fun _ _ _ _ _ _ => rfl)
    | «local» =>
      simp only [safe] at hsafe
      simp only [step, gstep, hrest]
      exact I.move hrest rfl rfl (notmid nofun) hsafe (I.res t) (fun _ _ => rfl) (I.priv t) (fun _ _ _ => rfl)
        (I.lock t) (fun _ _ => Iff.rfl) (I.held t) (fun _ _ _ _ _ _ => rfl)

def grun : List Tid → State → (Tid → Local) → (Tid → Local)
  | [], _, ls => ls
  | t :: r, s, ls => grun r (step t s) (gstep t s ls)

theorem run_cons (t : Tid) (r : List Tid) (s : State) : run (t :: r) s = run r (step t s) := rfl

theorem run_append (a b : List Tid) (s : State) : run (a ++ b) s = run b (run a s) := by
  simp [run, List.foldl_append]

theorem inv_run {progs : Tid → List Step} (sched : List Tid) {s : State} {ls : Tid → Local} (I : Inv progs s ls) :
    Inv progs (run sched s) (grun sched s ls) := by
  induction sched generalizing s ls with
  | nil => exact I
  | cons t r ih => rw [run_cons]; exact ih (inv_step t I)

theorem step_rest_other (t t' : Tid) (s : State) (h : t' ≠ t) : (step t s).rest t' = s.rest t' := by
  unfold step
  split <;> (try split) <;> first | rfl | simp [upd_other _ _ h]

theorem gstep_other (t t' : Tid) (s : State) (ls : Tid → Local) (h : t' ≠ t) : gstep t s ls t' = ls t' := by
  cases hrest : s.rest t with
  | nil => simp [gstep, hrest]
  | cons st r =>
    cases st with
    | acquire => cases hl : s.lock <;> simp [gstep, hrest, hl, upd_other _ _ h]
    | nativeCall f o => cases hm : s.mid t <;> simp [gstep, hrest, hm, upd_other _ _ h]
    | release | copyOut b | «local» => simp [gstep, hrest, upd_other _ _ h]

def ticksLeft (s : State) (t : Tid) : Nat := ticks (s.rest t) - (if s.mid t then 1 else 0)

theorem hold_none_of_done {progs : Tid → List Step} {s : State} {ls : Tid → Local} (I : Inv progs s ls) {t : Tid}
    (h : s.rest t = []) : (ls t).hold = none := by
  have := I.safe t
  rw [h] at this
  simpa [safe] using this

/-- one tick of any thread: nothing happens (it has finished, or stands in front of `acquire` while the lock is taken),
    or exactly one tick of work is done -/
theorem step_dichotomy {progs : Tid → List Step} {s : State} {ls : Tid → Local} (I : Inv progs s ls) (t : Tid) :
    (step t s = s ∧ (s.rest t = [] ∨ ∃ o r, s.lock = some o ∧ s.rest t = .acquire :: r))
      ∨ ticksLeft (step t s) t + 1 = ticksLeft s t := by
  cases hrest : s.rest t with
  | nil => exact .inl ⟨by simp [step, hrest], .inl rfl⟩
  | cons st r =>
    have midf := I.mid_false hrest
    cases st with
    | acquire =>
      have hm := midf nofun
      cases hl : s.lock with
      | some o => exact .inl ⟨by simp [step, hrest, hl], .inr ⟨o, r, rfl, rfl⟩⟩
      | none => right; simp [ticksLeft, step, hrest, hl, upd_same, hm, ticks]; omega
    | nativeCall f outs =>
      right
      cases hm : s.mid t <;> simp [ticksLeft, step, hrest, upd_same, hm, ticks] <;> omega
    | release | copyOut b | «local» =>
      have hm := midf nofun
      right; simp [ticksLeft, step, hrest, upd_same, hm, ticks]; omega

/-- when nobody else holds the lock, a tick of `t` is never blocked -/
theorem progress {progs : Tid → List Step} {s : State} {ls : Tid → Local} (I : Inv progs s ls) (t : Tid)
    (others : ∀ t', t' ≠ t → (ls t').hold = none) (n : Nat) (hn : ticksLeft s t = n + 1) :
    ticksLeft (step t s) t = n := by
  rcases step_dichotomy I t with ⟨_, hdone | ⟨o, r, hl, hrest⟩⟩ | h
  · simp [ticksLeft, hdone, ticks] at hn
  · -- the lock would be taken by a thread with a write set: not `t`, which is about to acquire, nor another one
    have ho := (I.lock o).2 hl
    by_cases h : o = t
    · subst h
      have := I.safe o
      rw [hrest] at this
      simp only [safe, Bool.and_eq_true, Option.isNone_iff_eq_none] at this
      simp [this.1] at ho
    · simp [others o h] at ho
  · omega

theorem done_of_ticksLeft_zero {progs : Tid → List Step} {s : State} {ls : Tid → Local} (I : Inv progs s ls) (t : Tid)
    (h : ticksLeft s t = 0) : s.rest t = [] := by
  cases hrest : s.rest t with
  | nil => rfl
  | cons st r =>
    exfalso
    cases hm : s.mid t with
    | false => cases st <;> simp [ticksLeft, hrest, ticks, hm] at h <;> omega
    | true =>
      obtain ⟨_, _, f, o, r', hr⟩ := I.mid t hm
      rw [hrest] at hr; cases hr
      simp [ticksLeft, hrest, ticks, hm] at h

/-- running thread `t` alone for the ticks it needs finishes it and leaves everybody else where they were -/
theorem run_thread {progs : Tid → List Step} (t : Tid) (n : Nat) :
    ∀ (s : State) (ls : Tid → Local), Inv progs s ls → (∀ t', t' ≠ t → (ls t').hold = none) → ticksLeft s t = n →
      ∃ ls', Inv progs (run (List.replicate n t) s) ls' ∧ (∀ t', (ls' t').hold = none) ∧
        (∀ t', t' ≠ t → (run (List.replicate n t) s).rest t' = s.rest t') ∧
        (run (List.replicate n t) s).rest t = [] := by
  induction n with
  | zero =>
    intro s ls I others hn
    have hdone := done_of_ticksLeft_zero I t hn
    refine ⟨ls, I, ?_, fun _ _ => rfl, hdone⟩
    intro t'
    by_cases h : t' = t
    · subst h; exact hold_none_of_done I hdone
    · exact others t' h
  | succ n ih =>
    intro s ls I others hn
    have I' := inv_step t I
    have others' : ∀ t', t' ≠ t → (gstep t s ls t').hold = none := by
      intro t' h; rw [gstep_other t t' s ls h]; exact others t' h
    obtain ⟨ls', I'', hnone, hrest, hdone⟩ := ih (step t s) (gstep t s ls) I' others' (progress I t others n hn)
    refine ⟨ls', ?_, hnone, ?_, ?_⟩
    · simpa [List.replicate_succ, run_cons] using I''
    · intro t' h
      simp only [List.replicate_succ, run_cons]
      rw [hrest t' h, step_rest_other t t' s h]
    · simpa [List.replicate_succ, run_cons] using hdone

theorem mid_false_of_hold_none {progs : Tid → List Step} {s : State} {ls : Tid → Local} (I : Inv progs s ls) (t : Tid)
    (h : (ls t).hold = none) : s.mid t = false := by
  cases hm : s.mid t with
  | false => rfl
  | true => have := (I.mid t hm).2.1; simp [h] at this

/-- from a state in which nobody holds the lock, the serial schedule of what is left of the programs finishes threads
    `0 … k-1` one after the other and does not touch the others -/
theorem serial_from {progs : Tid → List Step} (k : Nat) {s : State} {ls : Tid → Local} (I : Inv progs s ls)
    (hn : ∀ t, (ls t).hold = none) :
    ∃ ls', Inv progs (run (serialSched s.rest k) s) ls' ∧ (∀ t, (ls' t).hold = none) ∧
      (∀ t, t < k → (run (serialSched s.rest k) s).rest t = []) ∧
      (∀ t, k ≤ t → (run (serialSched s.rest k) s).rest t = s.rest t) := by
  induction k with
  | zero => exact ⟨ls, I, hn, fun t h => absurd h (Nat.not_lt_zero t), fun _ _ => rfl⟩
  | succ k ih =>
    obtain ⟨ls1, I1, hn1, hdone1, hrest1⟩ := ih
    have hticks : ticksLeft (run (serialSched s.rest k) s) k = ticks (s.rest k) := by
      simp [ticksLeft, mid_false_of_hold_none I1 k (hn1 k), hrest1 k (Nat.le_refl k)]
    obtain ⟨ls2, I2, hn2, hrest2, hdone2⟩ :=
      run_thread k (ticks (s.rest k)) _ ls1 I1 (fun t' _ => hn1 t') hticks
    refine ⟨ls2, ?_, hn2, ?_, ?_⟩
    · simpa [serialSched, run_append] using I2
    · intro t ht
      simp only [serialSched, run_append]
      by_cases h : t = k
      · subst h; exact hdone2
      · rw [hrest2 t h]; exact hdone1 t (by omega)
    · intro t ht
      simp only [serialSched, run_append]
      have h : t ≠ k := by omega
      rw [hrest2 t h]; exact hrest1 t (by omega)

/-! ### no deadlock: every reachable state can be driven to completion -/

/-- a thread with something left to do is one of the `n` threads that have a program -/
theorem unfinished_lt {progs : Tid → List Step} {s : State} {ls : Tid → Local} (I : Inv progs s ls) (n : Nat)
    (hn : ∀ t, n ≤ t → progs t = []) (t : Tid) (h : s.rest t ≠ []) : t < n := by
  apply Classical.byContradiction
  intro hlt
  obtain ⟨pre, hp, _⟩ := I.pre t
  rw [hn t (Nat.le_of_not_lt hlt)] at hp
  have := congrArg List.length hp
  simp at this
  exact h (List.eq_nil_of_length_eq_zero (by omega))

theorem can_finish_aux {progs : Tid → List Step} (hs : ∀ t, safe t none (progs t) = true) (n : Nat)
    (hn : ∀ t, n ≤ t → progs t = []) (sched : List Tid) :
    ∃ ext, complete (run (sched ++ ext) (init progs)) := by
  have I := inv_run sched (inv_init progs hs)
  -- first let the lock holder (if any) run to its end: afterwards nobody holds the lock
  have quiet : ∃ ext0 ls0, Inv progs (run ext0 (run sched (init progs))) ls0 ∧ (∀ t, (ls0 t).hold = none) := by
    cases hl : (run sched (init progs)).lock with
    | none =>
      exact ⟨[], _, I, fun t => I.hold_none (.inl hl) (Nat.ne_of_lt t.lt_succ_self)⟩
    | some o =>
      obtain ⟨ls', I', hn', _, _⟩ := run_thread o (ticksLeft (run sched (init progs)) o) _ _ I
        (fun t' h => I.hold_none (.inr hl) h) rfl
      exact ⟨_, ls', I', hn'⟩
  obtain ⟨ext0, ls0, I0, hn0⟩ := quiet
  obtain ⟨ls1, I1, _, hdone, _⟩ := serial_from n I0 hn0
  refine ⟨ext0 ++ serialSched (run ext0 (run sched (init progs))).rest n, ?_⟩
  intro t
  simp only [run_append]
  by_cases h : t < n
  · exact hdone t h
  · exact Classical.not_not.1 fun hne => h (unfinished_lt I1 n hn t hne)

theorem results_prefix_aux {progs : Tid → List Step} (hs : ∀ t, safe t none (progs t) = true) (sched : List Tid) (t : Tid) :
    ∃ pre, progs t = pre ++ (run sched (init progs)).rest t ∧ (run sched (init progs)).res t = solo pre := by
  have I := inv_run sched (inv_init progs hs)
  obtain ⟨pre, h1, h2⟩ := I.pre t
  exact ⟨pre, h1, by rw [I.res t, h2]; rfl⟩

theorem results_complete_aux {progs : Tid → List Step} (hs : ∀ t, safe t none (progs t) = true) (sched : List Tid)
    (t : Tid) (hc : (run sched (init progs)).rest t = []) : (run sched (init progs)).res t = solo (progs t) := by
  obtain ⟨pre, h1, h2⟩ := results_prefix_aux hs sched t
  rw [hc, List.append_nil] at h1
  rw [h2, h1]

theorem serial_complete_aux {progs : Tid → List Step} (hs : ∀ t, safe t none (progs t) = true) (n : Nat)
    (hn : ∀ t, n ≤ t → progs t = []) : complete (run (serialSched progs n) (init progs)) := by
  obtain ⟨ls, _, _, hdone, hrest⟩ := serial_from n (inv_init progs hs) fun _ => rfl
  intro t
  by_cases h : t < n
  · exact hdone t h
  · exact (hrest t (Nat.le_of_not_lt h)).trans (hn t (Nat.le_of_not_lt h))

theorem safe_append (t : Tid) (p q : List Step) : ∀ h, safe t h p = true → safe t none q = true →
    safe t h (p ++ q) = true := by
  induction p with
  | nil =>
    intro h hp hq
    simp only [safe, Option.isNone_iff_eq_none] at hp
    subst hp; simpa using hq
  | cons st r ih =>
    intro h hp hq
    cases st with
    | acquire | release | copyOut b =>
      simp only [List.cons_append, safe, Bool.and_eq_true] at hp ⊢
      exact ⟨hp.1, ih _ hp.2 hq⟩
    | nativeCall f outs =>
      cases h with
      | none => simp [safe] at hp
      | some ws =>
        simp only [List.cons_append, safe, Bool.and_eq_true] at hp ⊢
        exact ⟨hp.1, ih _ hp.2 hq⟩
    | «local» =>
      simp only [List.cons_append, safe] at hp ⊢
      exact ih _ hp hq

theorem okWrite_bufOf (t op : Nat) (b : ABuf) : okWrite t (bufOf t op b) = true := by
  cases b with
  | mk o i => cases o <;> simp [bufOf, okWrite]

theorem compile_safe (t op : Nat) (steps : List AStep) : ∀ h : Option (List ABuf), okSteps h steps = true →
    safe t (h.map (List.map (bufOf t op))) (compile t op steps) = true := by
  induction steps with
  | nil => intro h hk; cases h <;> simp_all [okSteps, compile, safe]
  | cons st r ih =>
    intro h hk
    cases st with
    | acq | rel =>
      simp only [okSteps, Bool.and_eq_true] at hk
      have := ih _ hk.2
      cases h <;> simp_all [compile, compileStep, safe]
    | native sym u outs =>
      cases h with
      | none => simp [okSteps] at hk
      | some ws =>
        simp only [okSteps] at hk
        have := ih (some (ws ++ outs)) hk
        simp only [compile, List.map_cons, compileStep, Option.map_some, safe, Bool.and_eq_true, List.all_eq_true]
        refine ⟨?_, ?_⟩
        · intro bv hbv
          simp only [List.mem_map] at hbv
          obtain ⟨b, _, rfl⟩ := hbv
          exact okWrite_bufOf t op b
        · simpa [compile, List.map_append, List.map_map, Function.comp_def] using this
    | read b =>
      simp only [okSteps, Bool.and_eq_true] at hk
      have := ih h hk.2
      simp only [compile, List.map_cons, compileStep, safe, Bool.and_eq_true]
      refine ⟨?_, this⟩
      cases b with
      | mk o i =>
        cases o with
        | fresh => simp [bufOf, okRead]
        | callerArg => simp [bufOf, okRead]
        | shared =>
          cases h with
          | none => simp at hk
          | some ws =>
            have hm : (⟨.shared, i⟩ : ABuf) ∈ ws := by simpa using hk.1
            simp only [bufOf, Option.map_some, okRead, List.contains_iff_mem]
            exact List.mem_map.2 ⟨_, hm, by simp [bufOf]⟩

theorem ok_of_locked_fresh (steps : List AStep) : ∀ h : Option (List ABuf),
    stepsLocked h.isSome steps = true → stepsFresh steps = true → okSteps h steps = true := by
  induction steps with
  | nil => intro h hl _; cases h <;> simp_all [stepsLocked, okSteps]
  | cons st r ih =>
    intro h hl hf
    cases st with
    | acq =>
      simp only [stepsLocked, Bool.and_eq_true] at hl
      have := ih (some []) (by simpa using hl.2) hf
      cases h <;> simp_all [okSteps]
    | rel =>
      simp only [stepsLocked, Bool.and_eq_true] at hl
      have := ih none (by simpa using hl.2) hf
      cases h <;> simp_all [okSteps]
    | native sym u outs =>
      simp only [stepsLocked, Bool.and_eq_true] at hl
      simp only [stepsFresh, Bool.and_eq_true] at hf
      cases h with
      | none => simp at hl
      | some ws =>
        simp only [okSteps]
        exact ih (some (ws ++ outs)) (by simpa using hl.2) hf.2
    | read b =>
      simp only [stepsLocked] at hl
      simp only [stepsFresh, Bool.and_eq_true] at hf
      simp only [okSteps, Bool.and_eq_true]
      refine ⟨?_, ih h hl hf.2⟩
      cases b with
      | mk o i => cases o <;> simp_all

theorem compileOps_safe (t : Nat) (ops : List (List AStep)) : ∀ op, (∀ f ∈ ops, okSteps none f = true) →
    safe t none (compileOps t op ops) = true := by
  induction ops with
  | nil => intro _ _; rfl
  | cons f r ih =>
    intro op h
    simp only [compileOps]
    apply safe_append
    · simpa using compile_safe t op f none (h f (by simp))
    · exact ih (op + 1) (fun g hg => h g (by simp [hg]))

theorem progsOf_safe (threads : List (List (List AStep)))
    (h : ∀ ops ∈ threads, ∀ f ∈ ops, okSteps none f = true) (t : Tid) : safe t none (progsOf threads t) = true := by
  unfold progsOf
  cases hg : threads[t]? with
  | none => rfl
  | some ops => exact compileOps_safe t ops 0 (h ops (List.mem_of_getElem? hg))

theorem progsOf_beyond (threads : List (List (List AStep))) (t : Tid) (h : threads.length ≤ t) :
    progsOf threads t = [] := by
  unfold progsOf
  rw [List.getElem?_eq_none h]

/-- programs built from functions whose recorded steps reach native code only under the lock and let it write only fresh
    buffers follow the discipline -/
theorem progsOf_steps_safe (threads : List (List BindingFn))
    (h : ∀ ops ∈ threads, ∀ f ∈ ops, stepsLocked false f.steps = true ∧ stepsFresh f.steps = true) (t : Tid) :
    safe t none (progsOf (threads.map (·.map (·.steps))) t) = true := by
  refine progsOf_safe _ (fun ops hops f hf => ?_) t
  obtain ⟨ops', hops', rfl⟩ := List.mem_map.1 hops
  obtain ⟨g, hg, rfl⟩ := List.mem_map.1 hf
  exact ok_of_locked_fresh g.steps none (h ops' hops' g hg).1 (h ops' hops' g hg).2

theorem progsOf_steps_beyond (threads : List (List BindingFn)) (t : Tid) (h : threads.length ≤ t) :
    progsOf (threads.map (·.map (·.steps))) t = [] :=
  progsOf_beyond _ t (by simpa using h)

/-- … in particular the native-calling functions of a table whose summaries describe the steps, say "under the lock" of
    every function that calls native code and "fresh" of all -/
theorem progsOf_table_safe (table : List BindingFn)
    (hcons : ∀ f ∈ table, f.nativeUnderLock = stepsLocked false f.steps ∧ f.outBuffersFresh = stepsFresh f.steps)
    (hlock : ∀ f ∈ table, f.callsNative = true → f.nativeUnderLock = true)
    (hfresh : ∀ f ∈ table, f.outBuffersFresh = true)
    (threads : List (List BindingFn)) (hin : ∀ ops ∈ threads, ∀ f ∈ ops, f ∈ table ∧ f.callsNative = true) (t : Tid) :
    safe t none (progsOf (threads.map (·.map (·.steps))) t) = true :=
  progsOf_steps_safe threads (fun ops hops f hf =>
    have ⟨hf1, hf2⟩ := hin ops hops f hf
    ⟨(hcons f hf1).1 ▸ hlock f hf1 hf2, (hcons f hf1).2 ▸ hfresh f hf1⟩) t

/-- a search may be preceded by a search for a special case of what is looked for -/
theorem any_eq_any_or {α : Type} {l : List α} {p q : α → Bool} (h : ∀ a, p a = true → q a = true) :
    l.any q = (l.any p || l.any q) := by
  cases hp : l.any p
  · rfl
  · obtain ⟨a, ha, hpa⟩ := List.any_eq_true.1 hp
    exact List.any_eq_true.2 ⟨a, ha, h a hpa⟩

end Embit.Model.Lock
