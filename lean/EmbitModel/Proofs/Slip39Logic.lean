import EmbitModel.Model.Slip39
/-
  Decision logic of `ShareSet.__init__` / `ShareSet.recover` / `recover_secret`: what is refused.
-/
namespace Embit.Model.Slip39

theorem nodupB_iff (l : List (Nat × Nat)) : nodupB l = true ↔ l.Nodup := by
  induction l with
  | nil => simp [nodupB]
  | cons a l ih => simp [nodupB, ih]

/-- everything `ShareSet(shares)` accepts is consistent: one identifier, exponent, group threshold, group count
    and length, and no (group index, member index) twice -/
theorem shareSet_consistent (shares : List Share) (ss : ShareSet) (h : ShareSet.new? shares = some ss) :
    ss.shares = shares ∧ shares ≠ [] ∧
    (∀ s ∈ shares, s.id = ss.id ∧ s.exponent = ss.exponent ∧ s.groupThreshold = ss.groupThreshold ∧
      s.groupCount = ss.groupCount ∧ s.shareBitLength = ss.shareBitLength) ∧
    (shares.map fun s => (s.groupIndex, s.memberIndex)).Nodup := by
  unfold ShareSet.new? at h
  cases shares with
  | nil => simp at h
  | cons s0 rest =>
    simp only at h
    split at h
    · simp at h
    · rename_i hc
      simp only [Option.some.injEq] at h
      subst h
      refine ⟨rfl, by simp, ?_, ?_⟩
      · by_cases hl : (s0 :: rest).length > 1
        · simp only [hl, decide_true, Bool.true_and, Bool.not_eq_true', Bool.not_eq_false] at hc
          simp only [consistent, Bool.and_eq_true, List.all_eq_true, beq_iff_eq] at hc
          intro s hs
          exact ⟨hc.1.1.1.1.1.1 s hs, hc.1.1.1.1.1.2 s hs, hc.1.1.1.1.2 s hs, hc.1.1.1.2 s hs, hc.1.2 s hs⟩
        · have : rest = [] := by
            cases rest with
            | nil => rfl
            | cons _ _ => simp at hl
          subst this
          intro s hs
          simp at hs; subst hs
          exact ⟨rfl, rfl, rfl, rfl, rfl⟩
      · by_cases hl : (s0 :: rest).length > 1
        · simp only [hl, decide_true, Bool.true_and, Bool.not_eq_true', Bool.not_eq_false] at hc
          simp only [consistent, Bool.and_eq_true] at hc
          exact (nodupB_iff _).mp hc.2
        · have : rest = [] := by
            cases rest with
            | nil => rfl
            | cons _ _ => simp at hl
          subst this
          simp

theorem ShareSet.new?_eq_some (shares : List Share) (hne : shares ≠ []) (id e gt gc L : Nat)
    (h : ∀ s ∈ shares, s.id = id ∧ s.exponent = e ∧ s.groupThreshold = gt ∧ s.groupCount = gc ∧ s.shareBitLength = L)
    (hgt : gt ≤ gc) (hnd : (shares.map fun s => (s.groupIndex, s.memberIndex)).Nodup) :
    ShareSet.new? shares = some ⟨shares, id, e, gt, gc, L⟩ := by
  cases shares with
  | nil => exact absurd rfl hne
  | cons s0 rest =>
    obtain ⟨e1, e2, e3, e4, e5⟩ := h s0 List.mem_cons_self
    have hc : consistent s0 (s0 :: rest) = true := by
      simp only [consistent, Bool.and_eq_true, List.all_eq_true, beq_iff_eq, Bool.not_eq_true',
        decide_eq_false_iff_not, Nat.not_lt, e1, e2, e3, e4, e5]
      exact ⟨⟨⟨⟨⟨⟨fun s hs => (h s hs).1, fun s hs => (h s hs).2.1⟩, fun s hs => (h s hs).2.2.1⟩,
        fun s hs => (h s hs).2.2.2.1⟩, hgt⟩, fun s hs => (h s hs).2.2.2.2⟩, (nodupB_iff _).mpr hnd⟩
    simp only [ShareSet.new?, hc, Bool.not_true, Bool.and_false, Bool.false_eq_true, if_false, e1, e2, e3, e4, e5]

/-- a returned secret always satisfies the digest equation (so a set whose interpolated digest share does not
    match is refused, never answered with the interpolated value) -/
theorem recoverSecret_digest (P : Prims) (T : List (Nat × Bytes)) (s : Bytes) (h : recoverSecret P T = some s) :
    s = interpolate 255 T ∧ (interpolate 254 T).take 4 = digest P ((interpolate 254 T).drop 4) s := by
  unfold recoverSecret at h
  simp only at h
  split at h
  · simp at h
  · rename_i hd
    simp only [Option.some.injEq] at h
    subst h
    exact ⟨rfl, by simpa using hd⟩

theorem recoverSecret_bad_digest (P : Prims) (T : List (Nat × Bytes))
    (h : (interpolate 254 T).take 4 ≠ digest P ((interpolate 254 T).drop 4) (interpolate 255 T)) :
    recoverSecret P T = none := by
  unfold recoverSecret
  simp only [h, ne_eq, not_false_eq_true, if_true]

end Embit.Model.Slip39
