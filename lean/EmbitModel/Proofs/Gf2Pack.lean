import EmbitModel.Proofs.Gf2
/-
  A kernel-evaluable decision procedure for `Gf2.Good` on bit-packed tables: all vectors (< 2^30) of all groups lie
  in ONE natural number, 32 bits apart, so that eliminating a pivot from every later vector is a handful of
  big-number operations (`elimAll`), and "no non-trivial combination of a later group vanishes" is tested for all
  later groups at once (`level1`). Soundness: `checkP_sound`. The functions on packed tables carry the suffix `P`;
  their arguments are `w` (vectors per group), `u1` (`ones n`: a 1 in every block), `len` (groups left), `c` and `hi`
  (`carry` and `hiMask` for `len` groups) and the packed table `X`.
-/
namespace Embit.Gf2

/-- blocks of 32 bits, lowest first -/
def pack : List Nat → Nat
  | [] => 0
  | v :: l => v + 2 ^ 32 * pack l

def ones (n : Nat) : Nat := pack (List.replicate n 1)

/-- evaluate `x` before continuing (the kernel is lazy: an unevaluated accumulator would be recomputed at every use) -/
def force {α : Type} (x : Nat) (k : Nat → α) : α :=
  match x with
  | .zero => k .zero
  | .succ n => k (.succ n)

@[simp] theorem force_eq {α : Type} (x : Nat) (k : Nat → α) : force x k = k x := by cases x <;> rfl

theorem eq_cons_of_mod_div {X a A : Nat} (hm : X % 2 ^ 32 = a) (hd : X / 2 ^ 32 = A) : X = a + 2 ^ 32 * A := by
  rw [← hm, ← hd]; exact (Nat.mod_add_div X (2 ^ 32)).symm

theorem cons_mod {a A : Nat} (ha : a < 2 ^ 32) : (a + 2 ^ 32 * A) % 2 ^ 32 = a := by
  rw [Nat.add_mul_mod_self_left, Nat.mod_eq_of_lt ha]

theorem cons_div {a A : Nat} (ha : a < 2 ^ 32) : (a + 2 ^ 32 * A) / 2 ^ 32 = A := by
  rw [Nat.add_mul_div_left _ _ (Nat.two_pow_pos 32), Nat.div_eq_of_lt ha, Nat.zero_add]

theorem cons_xor {a b A B : Nat} (ha : a < 2 ^ 32) (hb : b < 2 ^ 32) :
    (a + 2 ^ 32 * A) ^^^ (b + 2 ^ 32 * B) = (a ^^^ b) + 2 ^ 32 * (A ^^^ B) :=
  eq_cons_of_mod_div (by rw [Nat.xor_mod_two_pow, cons_mod ha, cons_mod hb])
    (by rw [Nat.xor_div_two_pow, cons_div ha, cons_div hb])

/-- bit `p` of every block, as a block of its own -/
theorem cons_mask {a A O p : Nat} (ha : a < 2 ^ 32) (hp : p < 32) :
    (a + 2 ^ 32 * A) >>> p &&& (1 + 2 ^ 32 * O) = (a >>> p) % 2 + 2 ^ 32 * (A >>> p &&& O) := by
  apply eq_cons_of_mod_div
  · rw [Nat.and_mod_two_pow, cons_mod (by decide), Nat.and_one_is_mod, Nat.mod_mod_of_dvd _ (by decide),
      Nat.shiftRight_eq_div_pow, Nat.shiftRight_eq_div_pow, ← Nat.toNat_testBit, ← Nat.toNat_testBit,
      Nat.add_comm, Nat.testBit_two_pow_mul_add _ ha, if_pos hp]
  · rw [Nat.and_div_two_pow, cons_div (by decide)]
    congr 1
    rw [Nat.shiftRight_eq_div_pow, Nat.shiftRight_eq_div_pow, Nat.div_div_eq_div_mul, Nat.mul_comm (2 ^ p),
      ← Nat.div_div_eq_div_mul, cons_div ha]

theorem pack_lt {l : List Nat} (h : ∀ x ∈ l, x < 2 ^ 32) : pack l < 2 ^ (32 * l.length) := by
  induction l with
  | nil => exact Nat.two_pow_pos _
  | cons v l ih =>
    have hv := h v (by simp)
    have := ih (fun x hx => h x (by simp [hx]))
    rw [List.length_cons, Nat.mul_succ, Nat.pow_add]
    calc v + 2 ^ 32 * pack l < 2 ^ 32 + 2 ^ 32 * pack l := by omega
      _ = 2 ^ 32 * (pack l + 1) := by rw [Nat.mul_add, Nat.mul_one, Nat.add_comm]
      _ ≤ 2 ^ 32 * 2 ^ (32 * l.length) := Nat.mul_le_mul_left _ this
      _ = _ := Nat.mul_comm _ _

theorem pack_append {l r : List Nat} : pack (l ++ r) = pack l + 2 ^ (32 * l.length) * pack r := by
  induction l with
  | nil => simp only [List.nil_append, pack, List.length_nil, Nat.mul_zero, Nat.pow_zero, Nat.one_mul, Nat.zero_add]
  | cons v l ih =>
    show v + 2 ^ 32 * pack (l ++ r) = v + 2 ^ 32 * pack l + 2 ^ (32 * (l.length + 1)) * pack r
    rw [ih, Nat.mul_succ, Nat.pow_add, Nat.mul_add, Nat.add_assoc, Nat.mul_comm (2 ^ (32 * l.length)) (2 ^ 32),
      Nat.mul_assoc]

theorem pack_append_div {l r : List Nat} (h : ∀ x ∈ l, x < 2 ^ 32) : pack (l ++ r) / 2 ^ (32 * l.length) = pack r := by
  rw [pack_append, Nat.add_mul_div_left _ _ (Nat.two_pow_pos _), Nat.div_eq_of_lt (pack_lt h), Nat.zero_add]

/-- `elim v p` applied to every block of `X` (`u1` = `ones n` has a 1 in every block that `X` occupies) -/
def elimAll (u1 v p X : Nat) : Nat := X ^^^ (X >>> p &&& u1) * v

theorem elimAll_pack {v p : Nat} (hv : v < 2 ^ 32) (hp : p < 32) :
    ∀ (l : List Nat) (n : Nat), (∀ x ∈ l, x < 2 ^ 32) → l.length ≤ n →
      elimAll (ones n) v p (pack l) = pack (l.map (elim v p)) := by
  intro l
  induction l with
  | nil => intro n _ _; simp [elimAll, pack]
  | cons a l ih =>
    intro n hl hn
    obtain ⟨n, rfl⟩ : ∃ m, n = m + 1 := ⟨n - 1, by simp at hn; omega⟩
    have ha := hl a (by simp)
    have hbit : (a >>> p) % 2 * v < 2 ^ 32 := by
      have : (a >>> p) % 2 = 0 ∨ (a >>> p) % 2 = 1 := by omega
      rcases this with h | h <;> simp [h, hv]
    have := ih n (fun x hx => hl x (by simp [hx])) (by simpa using hn)
    simp only [elimAll] at this ⊢
    simp only [ones, List.replicate_succ, pack, List.map_cons] at this ⊢
    rw [cons_mask ha hp, Nat.add_mul, Nat.mul_assoc, cons_xor ha hbit, this]
    rfl

/-- eliminate the first `k` vectors of `X`, each (pivot = its top bit) from everything after it;
    the result starts after them; `none` when one of them has become zero -/
def reduceP (u1 : Nat) : Nat → Nat → Option Nat
  | 0, X => some X
  | k + 1, X =>
    force (X % 2 ^ 32) fun v =>
      if v = 0 then none
      else force (elimAll u1 v v.log2 (X / 2 ^ 32)) fun X' => reduceP u1 k X'

def Small (l : List Nat) : Prop := ∀ x ∈ l, x < 2 ^ 30

theorem Small.lt32 {l : List Nat} (h : Small l) : ∀ x ∈ l, x < 2 ^ 32 :=
  fun x hx => Nat.lt_trans (h x hx) (by decide)

theorem reduceP_sound (n : Nat) : ∀ (g rest : List Nat) (X' : Nat), Small g → Small rest →
    g.length + rest.length ≤ n → reduceP (ones n) g.length (pack (g ++ rest)) = some X' →
    ∃ E : Nat → Nat, Kills E g ∧ (∀ u, u < 2 ^ 30 → E u < 2 ^ 30) ∧ X' = pack (rest.map E) := by
  intro g
  induction hk : g.length generalizing g n with
  | zero =>
    intro rest X' _ _ _ h
    obtain rfl : g = [] := List.eq_nil_of_length_eq_zero hk
    exact ⟨id, Kills.nil, fun _ h => h, by simpa [reduceP] using h.symm⟩
  | succ k ih =>
    intro rest X' hg hrest hn h
    obtain ⟨v, g, rfl⟩ : ∃ v g', g = v :: g' := by
      cases g with
      | nil => simp at hk
      | cons v g' => exact ⟨v, g', rfl⟩
    have hv30 := hg v (by simp)
    have hv : v < 2 ^ 32 := Nat.lt_trans hv30 (by decide)
    have hall : Small (g ++ rest) := by
      intro x hx
      rcases List.mem_append.mp hx with hx | hx
      · exact hg x (by simp [hx])
      · exact hrest x hx
    simp only [reduceP, force_eq, List.cons_append, pack, cons_mod hv, cons_div hv] at h
    split at h
    · simp at h
    · rename_i hv0
      have hp : v.testBit v.log2 = true := Nat.testBit_log2 hv0
      have hp32 : v.log2 < 32 := by
        apply Nat.lt_of_not_le; intro hle
        have := Nat.testBit_lt_two_pow (Nat.lt_of_lt_of_le hv (Nat.pow_le_pow_right (by decide) hle))
        simp [hp] at this
      have hgk : g.length = k := by simpa using hk
      have hlen : (g ++ rest).length ≤ n := by rw [List.length_append]; omega
      rw [elimAll_pack hv hp32 (g ++ rest) n hall.lt32 hlen, List.map_append] at h
      have hmap : ∀ {l : List Nat}, Small l → Small (l.map (elim v v.log2)) := by
        intro l hl x hx
        obtain ⟨y, hy, rfl⟩ := List.mem_map.mp hx
        exact elim_lt hv30 (hl y hy)
      obtain ⟨E, hE, hE30, rfl⟩ := ih n (g.map (elim v v.log2)) (by simpa using hgk) (rest.map (elim v v.log2))
        X' (hmap fun x hx => hg x (by simp [hx])) (hmap hrest)
        (by rw [List.length_append, hgk] at hlen; simpa using hlen) (by simpa using h)
      exact ⟨E ∘ elim v v.log2, Kills.cons hp hE, fun u hu => hE30 _ (elim_lt hv30 hu), by simp⟩

/-- bit 30 of the first block of each of `len` groups that lie `s` bits apart -/
def hiMask (s : Nat) : Nat → Nat
  | 0 => 0
  | len + 1 => 2 ^ 30 + 2 ^ s * hiMask s len

/-- `2^30 - 1` in the same blocks: added to a block below `2^30` it carries into bit 30 iff the block is not 0 -/
def carry (s : Nat) : Nat → Nat
  | 0 => 0
  | len + 1 => (2 ^ 30 - 1) + 2 ^ s * carry s len

theorem hiMask_shift {s : Nat} (hs : 32 ≤ s) (len : Nat) : hiMask s (len + 1) >>> s = hiMask s len := by
  rw [hiMask, Nat.shiftRight_eq_div_pow, Nat.add_mul_div_left _ _ (Nat.two_pow_pos s),
    Nat.div_eq_of_lt (Nat.pow_lt_pow_right (by decide) (by omega)), Nat.zero_add]

theorem carry_shift {s : Nat} (hs : 32 ≤ s) (len : Nat) : carry s (len + 1) >>> s = carry s len := by
  rw [carry, Nat.shiftRight_eq_div_pow, Nat.add_mul_div_left _ _ (Nat.two_pow_pos s),
    Nat.div_eq_of_lt (Nat.lt_of_lt_of_le (by decide : 2 ^ 30 - 1 < 2 ^ 32) (Nat.pow_le_pow_right (by decide) hs)),
    Nat.zero_add]

/-- the first block of each of the `len` groups of `Y` is not zero -/
def nzTest (c hi Y : Nat) : Bool := (Y + c) &&& hi == hi

theorem nzTest_sound {s : Nat} (hs : 32 ≤ s) : ∀ (len Y : Nat), (∀ i, i < len → Y / 2 ^ (s * i) % 2 ^ 32 < 2 ^ 30) →
    nzTest (carry s len) (hiMask s len) Y = true → ∀ i, i < len → Y / 2 ^ (s * i) % 2 ^ 32 ≠ 0 := by
  intro len
  induction len with
  | zero => intro _ _ _ i hi; omega
  | succ len ih =>
    intro Y hb h i hi
    have h32s : (2 : Nat) ^ 32 ≤ 2 ^ s := Nat.pow_le_pow_right (by decide) hs
    have hd32 : (2 : Nat) ^ 32 ∣ 2 ^ s := Nat.pow_dvd_pow 2 hs
    -- the lowest group `y0 = b0 + 2^32 * J` and the rest `Y'`
    have hb0 : Y % 2 ^ s % 2 ^ 32 < 2 ^ 30 := by
      have := hb 0 (by omega); rwa [Nat.mul_zero, Nat.pow_zero, Nat.div_one, ← Nat.mod_mod_of_dvd _ hd32] at this
    have hy0 : Y % 2 ^ s = Y % 2 ^ s % 2 ^ 32 + 2 ^ 32 * (Y % 2 ^ s / 2 ^ 32) := (Nat.mod_add_div _ _).symm
    generalize Y % 2 ^ s % 2 ^ 32 = b0 at hb0 hy0
    have hJ : Y % 2 ^ s / 2 ^ 32 < 2 ^ (s - 32) := by
      rw [Nat.div_lt_iff_lt_mul (Nat.two_pow_pos 32), ← Nat.pow_add, Nat.sub_add_cancel hs]
      exact Nat.mod_lt _ (Nat.two_pow_pos s)
    generalize Y % 2 ^ s / 2 ^ 32 = J at hJ hy0
    have hsum : Y % 2 ^ s + (2 ^ 30 - 1) < 2 ^ s := by
      calc Y % 2 ^ s + (2 ^ 30 - 1) < 2 ^ 32 * (J + 1) := by rw [hy0]; omega
        _ ≤ 2 ^ 32 * 2 ^ (s - 32) := Nat.mul_le_mul_left _ hJ
        _ = 2 ^ s := by rw [← Nat.pow_add]; congr 1; omega
    have hY : Y + carry s (len + 1) = (Y % 2 ^ s + (2 ^ 30 - 1)) + 2 ^ s * (Y / 2 ^ s + carry s len) := by
      rw [carry, Nat.mul_add]
      have := Nat.mod_add_div Y (2 ^ s)
      omega
    simp only [nzTest, beq_iff_eq] at h
    rw [hY] at h
    have hlow := congrArg (· % 2 ^ s) h
    have hhigh := congrArg (· / 2 ^ s) h
    simp only [Nat.and_mod_two_pow, Nat.and_div_two_pow, hiMask, Nat.add_mul_mod_self_left,
      Nat.add_mul_div_left _ _ (Nat.two_pow_pos s), Nat.mod_eq_of_lt hsum, Nat.div_eq_of_lt hsum,
      Nat.mod_eq_of_lt (Nat.pow_lt_pow_right (by decide : 1 < 2) (by omega : 30 < s)),
      Nat.div_eq_of_lt (Nat.pow_lt_pow_right (by decide : 1 < 2) (by omega : 30 < s)), Nat.zero_add] at hlow hhigh
    cases i with
    | zero =>
      rw [Nat.mul_zero, Nat.pow_zero, Nat.div_one, ← Nat.mod_mod_of_dvd _ hd32]
      intro h0
      have hb0' : b0 = 0 := by rw [hy0, Nat.add_mul_mod_self_left, Nat.mod_eq_of_lt (by omega)] at h0; exact h0
      -- then bit 30 of `y0 + 2^30 - 1` is clear
      have hbit := congrArg (·.testBit 30) hlow
      simp only [Nat.testBit_and, Nat.testBit_two_pow_self, Bool.and_true] at hbit
      have e : Y % 2 ^ s + (2 ^ 30 - 1) = 2 ^ 32 * J + (2 ^ 30 - 1) := by rw [hy0, hb0', Nat.zero_add]
      rw [e, Nat.testBit_two_pow_mul_add J (by decide : 2 ^ 30 - 1 < 2 ^ 32), if_pos (by decide),
        Nat.testBit_lt_two_pow (by decide)] at hbit
      exact Bool.noConfusion hbit
    | succ i =>
      have := ih (Y / 2 ^ s) (fun j hj => by
        have := hb (j + 1) (by omega)
        rwa [Nat.mul_succ, Nat.pow_add, Nat.mul_comm, ← Nat.div_div_eq_div_mul] at this)
        (by simpa [nzTest] using hhigh) i (by omega)
      rwa [Nat.mul_succ, Nat.pow_add, Nat.mul_comm (2 ^ (s * i)), ← Nat.div_div_eq_div_mul]

/-- every XOR of `acc` with some of the `zs` passes the test -/
def subsetsNZ (c hi : Nat) : List Nat → Nat → Bool
  | [], acc => nzTest c hi acc
  | z :: zs, acc => subsetsNZ c hi zs acc && force (acc ^^^ z) fun a => subsetsNZ c hi zs a

/-- every XOR of some (not none) of the `zs` passes the test -/
def firstsNZ (c hi : Nat) : List Nat → Bool
  | [] => true
  | z :: zs => subsetsNZ c hi zs z && firstsNZ c hi zs

theorem subsetsNZ_sound {c hi : Nat} : ∀ (zs : List Nat) (acc : Nat), subsetsNZ c hi zs acc = true →
    ∀ cs : List Bool, nzTest c hi (acc ^^^ comb cs zs) = true := by
  intro zs
  induction zs with
  | nil => intro acc h cs; cases cs <;> simpa [comb, subsetsNZ] using h
  | cons z zs ih =>
    intro acc h cs
    simp only [subsetsNZ, force_eq, Bool.and_eq_true] at h
    cases cs with
    | nil => simpa [comb] using ih acc h.1 []
    | cons b cs =>
      cases b
      · simpa [comb] using ih acc h.1 cs
      · simpa [comb, Nat.xor_assoc] using ih _ h.2 cs

theorem firstsNZ_sound {c hi : Nat} : ∀ (zs : List Nat), firstsNZ c hi zs = true →
    ∀ cs : List Bool, cs.length ≤ zs.length → (∃ b ∈ cs, b = true) → nzTest c hi (comb cs zs) = true := by
  intro zs
  induction zs with
  | nil => intro _ cs hl ⟨b, hb, _⟩; cases cs <;> simp_all
  | cons z zs ih =>
    intro h cs hl hne
    simp only [firstsNZ, Bool.and_eq_true] at h
    cases cs with
    | nil => simp at hne
    | cons b cs =>
      cases b
      · simpa [comb] using ih h.2 cs (by simpa using hl) (by simpa using hne)
      · simpa [comb] using subsetsNZ_sound zs z h.1 cs

def mapForce {α : Type} : List Nat → (List Nat → α) → α
  | [], k => k []
  | x :: xs, k => force x fun y => mapForce xs fun ys => k (y :: ys)

@[simp] theorem mapForce_eq {α : Type} (l : List Nat) (k : List Nat → α) : mapForce l k = k l := by
  induction l generalizing k with
  | nil => rfl
  | cons x xs ih => simp [mapForce, ih]

/-- `X` shifted down by 0, 1, …, `w - 1` blocks: block `w * i` of the `t`-th copy is vector `t` of group `i` -/
def shifts (w X : Nat) : List Nat := (List.range w).map fun t => X >>> (32 * t)

def level1 (w c hi X : Nat) : Bool := mapForce (shifts w X) fun zs => firstsNZ c hi zs

/-- the first `w` blocks of `X`, through the shifted copies -/
theorem shifts_mod (w : Nat) (g rest : List Nat) (hg : g.length = w) (h : ∀ x ∈ g, x < 2 ^ 32) :
    (shifts w (pack (g ++ rest))).map (· % 2 ^ 32) = g := by
  subst hg
  apply List.ext_getElem (by simp [shifts])
  intro t h1 h2
  have ht : t < g.length := by simpa [shifts] using h1
  simp only [shifts, List.getElem_map, List.getElem_range, Nat.shiftRight_eq_div_pow]
  have e : g ++ rest = g.take t ++ (g[t] :: (g.drop (t + 1) ++ rest)) := by
    rw [← List.cons_append, ← List.append_assoc, ← List.drop_eq_getElem_cons ht, List.take_append_drop]
  have hlen : 32 * t = 32 * (g.take t).length := by simp; omega
  rw [e, hlen, pack_append_div (fun x hx => h x (List.mem_of_mem_take hx)), pack, cons_mod (h _ (by simp))]

theorem shifts_div (w s X : Nat) : (shifts w X).map (· / 2 ^ s) = shifts w (X / 2 ^ s) := by
  simp only [shifts, List.map_map]
  apply List.map_congr_left
  intro t _
  simp only [Function.comp, Nat.shiftRight_eq_div_pow, Nat.div_div_eq_div_mul, Nat.mul_comm]

theorem comb_small (cs : List Bool) : ∀ g : List Nat, Small g → comb cs g < 2 ^ 30 := by
  induction cs with
  | nil => intro g _; simp [comb]
  | cons b cs ih =>
    intro g hg
    cases g with
    | nil => simp [comb]
    | cons v g =>
      simp only [comb]
      exact Nat.xor_lt_two_pow (by cases b <;> simp [hg v (by simp)]) (ih g fun x hx => hg x (by simp [hx]))

/-- block `w * i` of a combination of the shifted copies is that combination of group `i` -/
theorem comb_shifts_block {w : Nat} (cs : List Bool) : ∀ (G : List (List Nat)), (∀ g ∈ G, g.length = w) →
    Small G.flatten → ∀ i, (hi : i < G.length) →
      comb cs (shifts w (pack G.flatten)) / 2 ^ (32 * w * i) % 2 ^ 32 = comb cs G[i] := by
  intro G
  induction G with
  | nil => intro _ _ i hi; simp at hi
  | cons g G ih =>
    intro hlen hsm i hi
    have hg : Small g := fun x hx => hsm x (by simp [hx])
    have hG : Small G.flatten := fun x hx => hsm x (by simp [hx])
    cases i with
    | zero =>
      rw [Nat.mul_zero, Nat.pow_zero, Nat.div_one,
        ← comb_mapLin (· % 2 ^ 32) (fun a b => Nat.xor_mod_two_pow) (Nat.zero_mod _), List.flatten_cons,
        shifts_mod w g _ (hlen g (by simp)) hg.lt32]
      rfl
    | succ i =>
      have := ih (fun g hg => hlen g (by simp [hg])) hG i (by simpa using hi)
      rw [List.getElem_cons_succ, ← this, Nat.mul_succ, Nat.pow_add, Nat.mul_comm (2 ^ (32 * w * i)),
        ← Nat.div_div_eq_div_mul, ← comb_mapLin (· / 2 ^ (32 * w)) (fun a b => Nat.xor_div_two_pow) (Nat.zero_div _),
        shifts_div, List.flatten_cons]
      congr 4
      have := pack_append_div (r := G.flatten) hg.lt32
      rwa [hlen g (by simp)] at this

theorem level1_sound {w : Nat} (hw : 0 < w) : ∀ (G : List (List Nat)), (∀ g ∈ G, g.length = w) → Small G.flatten →
    level1 w (carry (32 * w) G.length) (hiMask (32 * w) G.length) (pack G.flatten) = true → ∀ g ∈ G, Indep w g := by
  intro G hlen hsm h g hg x hx h0
  -- a non-zero symbol selects a non-empty combination `cs`, whose value on every group is not zero
  by_cases hx0 : x = 0
  · exact hx0
  have hne : ∃ b ∈ bitsN w x, b = true := by
    apply Classical.byContradiction
    intro hno
    exact hx0 (bitsN_false hx fun b hb => by cases b <;> simp_all)
  simp only [level1, mapForce_eq] at h
  have ht := firstsNZ_sound _ h (bitsN w x) (by simp [bitsN_length, shifts]) hne
  obtain ⟨i, hi, rfl⟩ := List.getElem_of_mem hg
  have hb : ∀ j, j < G.length →
      comb (bitsN w x) (shifts w (pack G.flatten)) / 2 ^ (32 * w * j) % 2 ^ 32 < 2 ^ 30 := by
    intro j hj
    rw [comb_shifts_block _ G hlen hsm j hj]
    exact comb_small _ _ (fun y hy => hsm y (List.mem_flatten.mpr ⟨_, List.getElem_mem hj, hy⟩))
  have := nzTest_sound (by omega : 32 ≤ 32 * w) G.length _ hb ht i hi
  rw [comb_shifts_block _ G hlen hsm i hi] at this
  exact absurd h0 this

/-- for every group of `X` in turn: eliminate it from the later groups, and let `next` judge what is left -/
def loopP (w u1 : Nat) (next : Nat → Nat → Nat → Nat → Bool) : Nat → Nat → Nat → Nat → Bool
  | 0, _, _, _ => true
  | len + 1, c, hi, X =>
    match reduceP u1 w X with
    | none => false
    | some X' =>
      force (c >>> (32 * w)) fun c' => force (hi >>> (32 * w)) fun hi' =>
        next len c' hi' X' && force (X >>> (32 * w)) fun X2 => loopP w u1 next len c' hi' X2

/-- `checkP w on n len c hi X`: the `len` groups of `w` vectors packed in `X` satisfy `Good w n` -/
def checkP (w u1 : Nat) : Nat → Nat → Nat → Nat → Nat → Bool
  | 0, _, _, _, _ => true
  | 1, _, c, hi, X => level1 w c hi X
  | n + 2, len, c, hi, X => loopP w u1 (checkP w u1 (n + 1)) len c hi X

structure Table (w : Nat) (G : List (List Nat)) : Prop where
  length : ∀ g ∈ G, g.length = w
  small : Small G.flatten

theorem Table.tail {w : Nat} {g : List Nat} {G : List (List Nat)} (h : Table w (g :: G)) : Table w G :=
  ⟨fun g' hg' => h.length g' (by simp [hg']), fun x hx => h.small x (by simp [hx])⟩

theorem Table.cons {w : Nat} {g : List Nat} {G : List (List Nat)} (hg : g.length = w) (hs : Small g) (h : Table w G) :
    Table w (g :: G) := by
  refine ⟨fun g' hg' => ?_, fun x hx => ?_⟩
  · rcases List.mem_cons.mp hg' with rfl | hg'
    · exact hg
    · exact h.length g' hg'
  · rw [List.flatten_cons, List.mem_append] at hx
    exact hx.elim (hs x) (h.small x)

theorem Table.map {w : Nat} {G : List (List Nat)} (h : Table w G) {E : Nat → Nat} (hE : ∀ u, u < 2 ^ 30 → E u < 2 ^ 30) :
    Table w (G.map (List.map E)) := by
  refine ⟨fun g hg => ?_, fun x hx => ?_⟩
  · obtain ⟨g', hg', rfl⟩ := List.mem_map.mp hg
    simpa using h.length g' hg'
  · rw [← List.map_flatten] at hx
    obtain ⟨y, hy, rfl⟩ := List.mem_map.mp hx
    exact hE y (h.small y hy)

theorem Table.flatten_length {w : Nat} : ∀ {G : List (List Nat)}, Table w G → G.flatten.length = w * G.length
  | [], _ => rfl
  | g :: G, h => by
    rw [List.flatten_cons, List.length_append, h.tail.flatten_length, h.length g (by simp), List.length_cons,
      Nat.mul_succ, Nat.add_comm]

theorem checkP_sound {w : Nat} (hw : 0 < w) (N : Nat) : ∀ (n : Nat) (G : List (List Nat)), Table w G →
    w * G.length ≤ N →
    checkP w (ones N) n G.length (carry (32 * w) G.length) (hiMask (32 * w) G.length) (pack G.flatten) = true →
    Good w n G := by
  intro n
  induction n using Nat.strongRecOn with
  | _ n ih =>
    match n with
    | 0 => intro G _ _ _; exact Good.zero w G
    | 1 => intro G hT _ h; exact Good.one (level1_sound hw G hT.length hT.small h)
    | n + 2 =>
      intro G
      induction G with
      | nil => intro _ _ _; exact Good.nil w _
      | cons g G ihG =>
        intro hT hN h
        have hs : 32 ≤ 32 * w := by omega
        have hg : g.length = w := hT.length g (by simp)
        have hgs : Small g := fun x hx => hT.small x (by simp [hx])
        have hGs : Small G.flatten := hT.tail.small
        simp only [checkP, List.length_cons, loopP, force_eq] at h
        rw [carry_shift hs, hiMask_shift hs] at h
        split at h
        · simp at h
        · rename_i X' hred
          rw [List.flatten_cons, ← hg] at hred
          have hlenF := hT.tail.flatten_length
          obtain ⟨E, hE, hE30, rfl⟩ := reduceP_sound N g G.flatten X' hgs hGs
            (by rw [hlenF, hg]; simp [Nat.mul_succ] at hN; omega) hred
          simp only [Bool.and_eq_true] at h
          have hT' := hT.tail.map hE30
          refine Good.cons hg hE (ihG hT.tail (by simp [Nat.mul_succ] at hN; omega) ?_)
            (ih (n + 1) (by omega) _ hT' (by simp [Nat.mul_succ] at hN ⊢; omega) ?_)
          · have e : pack (g ++ G.flatten) / 2 ^ (32 * w) = pack G.flatten := by
              rw [← hg]; exact pack_append_div hgs.lt32
            have := h.2
            rwa [List.flatten_cons, Nat.shiftRight_eq_div_pow, e] at this
          · have := h.1
            rwa [List.map_flatten, List.length_map] at *

/-- decides `Good w n G` for a table of literals -/
def goodP (w n : Nat) (G : List (List Nat)) : Bool :=
  force (ones (w * G.length)) fun u1 =>
    force (carry (32 * w) G.length) fun c => force (hiMask (32 * w) G.length) fun hi =>
      force (pack G.flatten) fun X => checkP w u1 n G.length c hi X

theorem goodP_sound {w n : Nat} {G : List (List Nat)} (hw : 0 < w) (hT : Table w G) (h : goodP w n G = true) :
    Good w n G :=
  checkP_sound hw _ n G hT (Nat.le_refl _) (by simpa [goodP] using h)

/-- the first group eliminated, then `Good w n` for the rest: decides that a word of weight at most `n + 1`
    with syndrome zero does not start with a non-zero symbol -/
def headP (w n : Nat) : List (List Nat) → Bool
  | [] => true
  | g :: G =>
    force (ones (w * (G.length + 1))) fun u1 =>
      force (carry (32 * w) G.length) fun c => force (hiMask (32 * w) G.length) fun hi =>
        force (pack (g ++ G.flatten)) fun X =>
          match reduceP u1 w X with
          | none => false
          | some X' => checkP w u1 n G.length c hi X'

theorem headP_sound {w n : Nat} {g : List Nat} {G : List (List Nat)} (hw : 0 < w) (hT : Table w (g :: G))
    (h : headP w n (g :: G) = true) {x : Nat} {r : List Nat} (hx : x < 2 ^ w) (hrl : r.length ≤ G.length)
    (hrlt : ∀ y ∈ r, y < 2 ^ w) (hwt : weight (x :: r) ≤ n + 1) (hs : synG w (x :: r) (g :: G) = 0) : x = 0 := by
  have hg : g.length = w := hT.length g (by simp)
  simp only [headP, force_eq] at h
  split at h
  · simp at h
  · rename_i X' hred
    rw [← hg] at hred
    obtain ⟨E, hE, hE30, rfl⟩ := reduceP_sound _ g G.flatten X' (fun x hx => hT.small x (by simp [hx])) hT.tail.small
      (by rw [hT.tail.flatten_length, hg, Nat.mul_succ]; omega) hred
    have hT' := hT.tail.map hE30
    have hn := checkP_sound hw (w * (G.length + 1)) n _ hT' (by rw [List.length_map, Nat.mul_succ]; omega)
      (by simpa [List.map_flatten] using h)
    exact hE.head hg hn hx hrl hrlt hwt hs

theorem Good.cons_of_headP {w n : Nat} {g : List Nat} {G : List (List Nat)} (hw : 0 < w) (hT : Table w (g :: G))
    (h : headP w n (g :: G) = true) (hG : Good w (n + 1) G) : Good w (n + 1) (g :: G) :=
  Good.cons_of_head (headP_sound hw hT h) hG

end Embit.Gf2
