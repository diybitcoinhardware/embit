import EmbitModel.Proofs.Bech32Sound
/-
  Completeness of the segwit decoder: every string that is a valid BIP173/BIP350 segwit address in the sense of
  `Spec.Bech32.IsSegwitAddress` (in particular the all-upper-case spelling) is decoded by `bech32.decode`, with
  exactly the specified version and program. Together with `decode_sound` this is an exact characterisation.
-/
namespace Embit.Model.Bech32
open Embit Digits

theorem decode_lower (hrp s : List Char) (hm : ¬ (lower s ≠ s ∧ upper s ≠ s)) :
    decode hrp s = decode hrp (lower s) := by
  unfold decode; rw [bech32Decode_lower s hm]

theorem decode_of_spec (hrp s : List Char) (ver : Nat) (pb : Bytes)
    (h : Spec.Bech32.IsSegwitAddress hrp s ver pb) : decode hrp s = some (ver, pb.map UInt8.toNat) := by
  obtain ⟨⟨hv16, hlo, hhi, hv0⟩, hlen, hmix, ⟨hh1, _, hhr⟩, _, henc⟩ := h
  have hv32 : ver < 32 := by omega
  have htext : lower s = segwitText hrp ver (Address.convOf pb) := by
    rw [← toLower_eq_lower, henc, segwitText_eq_spec hrp ver pb hv32]; rfl
  have hnm : ¬ (lower s ≠ s ∧ upper s ≠ s) := mt (mixedCase_iff s).mpr (by simp [hmix])
  -- the human-readable part is lower case: it is a piece of `lower s`
  have hlow : ∀ c ∈ hrp, c.toLower = c := fun c hc =>
    (map_eq_self_iff _ _).mp (lower_lower s) c (by rw [htext, segwitText_eq]; simp [hc])
  have hsl : s.length = hrp.length + 1 + (1 + (8 * pb.length + 4) / 5) + 6 := by
    rw [← lower_length s, htext, Address.segwitText_length, convOf_length]
  have hok : SegwitOk hrp ver (pb.map UInt8.toNat) :=
    ⟨⟨List.length_pos_iff.mp hh1, hhr, hlow⟩, hv16, bytes_lt pb, by simpa using hlo, by simpa using hhi,
      fun hz => by simpa using hv0 hz, by simp only [List.length_map]; omega⟩
  rw [decode_lower hrp s hnm, htext]
  exact (encode_decode_convOf hrp ver pb hok).2

theorem decode_iff_spec (hrp s : List Char) (ver : Nat) (prog : List Nat) :
    decode hrp s = some (ver, prog) ↔
      ∃ pb : Bytes, prog = pb.map UInt8.toNat ∧ Spec.Bech32.IsSegwitAddress hrp s ver pb := by
  constructor
  · exact decode_sound hrp s ver prog
  · rintro ⟨pb, rfl, h⟩
    exact decode_of_spec hrp s ver pb h

end Embit.Model.Bech32
