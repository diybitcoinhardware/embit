import EmbitModel.Model.Sign
/-
  `signPolicy` with a caller flag, in closed form; the digest dispatch of an input that has a witness script
  (Mathlib-free).
-/
namespace Embit.Model

/-- with a caller flag `x`: let `n` map DEFAULT to ALL on non-taproot inputs, `e` be the input's own flag (else the
    caller's) so normalised; the input is signed with `e` unless `e` differs from `n x` by more than ALL / DEFAULT.
    (`n` and `e` are parameters so that a caller can use its own names for them.) -/
theorem signPolicy_some (x : Nat) (r : Option Nat) (t : Bool) (n : Nat → Nat)
    (hn : n = fun y => if !t && y = 0 then 1 else y) (e : Nat) (he : e = match r with | some f => n f | none => n x) :
    signPolicy (some x) r t =
      if e ≠ n x && (!(e = 0 || e = 1) || !(n x = 0 || n x = 1)) then none else some e := by
  subst hn he
  -- the model wraps the caller's flag in `some` before normalising it
  have hreq : (if (!t && x = 0) then some 1 else some x) = some (if (!t && x = 0) then 1 else x) := by split <;> rfl
  cases r with
  | some f => simp only [signPolicy, hreq]
  | none =>
    -- `n (n x) = n x`
    have hnn : (if (!t && (if !t && x = 0 then 1 else x) = 0) then 1 else (if !t && x = 0 then 1 else x))
        = if !t && x = 0 then 1 else x := by
      cases t <;> by_cases hx : x = 0 <;> simp [hx]
    simp only [signPolicy, hreq, hnn]

/-- an input with a witness script, whatever its scriptPubKey (taproot apart): BIP143 over the witness script, unless
    that has P2WPKH shape -/
theorem sighashDispatch_witnessScript (spk ws : Bytes) (rs : Option Bytes) (wu : Bool)
    (htr : scriptType spk ≠ some "p2tr") (hne : ws ≠ []) (hnot : scriptType ws ≠ some "p2wpkh") :
    sighashDispatch spk (some ws) rs wu = (Algo.segwit, ws) := by
  have hw : ws.isEmpty = false := by cases ws <;> simp_all
  simp [sighashDispatch, htr, truthy, hw, hnot]

end Embit.Model
