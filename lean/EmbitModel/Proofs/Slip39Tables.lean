import EmbitModel.Model.Slip39
import EmbitModel.Spec.Slip39Spec
/-
  The exp/log tables built by `ShareSet._load` (as modelled), evaluated once by the kernel into literals,
  and their defining facts. `mulL` is "multiplication through the tables" as `interpolate` performs it.
-/
namespace Embit.Model.Slip39

def expLit : List Nat := [
  1, 3, 5, 15, 17, 51, 85, 255, 26, 46, 114, 150, 161, 248, 19, 53, 95, 225, 56, 72, 216, 115, 149, 164,
  247, 2, 6, 10, 30, 34, 102, 170, 229, 52, 92, 228, 55, 89, 235, 38, 106, 190, 217, 112, 144, 171, 230, 49,
  83, 245, 4, 12, 20, 60, 68, 204, 79, 209, 104, 184, 211, 110, 178, 205, 76, 212, 103, 169, 224, 59, 77, 215,
  98, 166, 241, 8, 24, 40, 120, 136, 131, 158, 185, 208, 107, 189, 220, 127, 129, 152, 179, 206, 73, 219, 118, 154,
  181, 196, 87, 249, 16, 48, 80, 240, 11, 29, 39, 105, 187, 214, 97, 163, 254, 25, 43, 125, 135, 146, 173, 236,
  47, 113, 147, 174, 233, 32, 96, 160, 251, 22, 58, 78, 210, 109, 183, 194, 93, 231, 50, 86, 250, 21, 63, 65,
  195, 94, 226, 61, 71, 201, 64, 192, 91, 237, 44, 116, 156, 191, 218, 117, 159, 186, 213, 100, 172, 239, 42, 126,
  130, 157, 188, 223, 122, 142, 137, 128, 155, 182, 193, 88, 232, 35, 101, 175, 234, 37, 111, 177, 200, 67, 197, 84,
  252, 31, 33, 99, 165, 244, 7, 9, 27, 45, 119, 153, 176, 203, 70, 202, 69, 207, 74, 222, 121, 139, 134, 145,
  168, 227, 62, 66, 198, 81, 243, 14, 18, 54, 90, 238, 41, 123, 141, 140, 143, 138, 133, 148, 167, 242, 13, 23,
  57, 75, 221, 124, 132, 151, 162, 253, 28, 36, 108, 180, 199, 82, 246]

def logLit : List Nat := [
  0, 0, 25, 1, 50, 2, 26, 198, 75, 199, 27, 104, 51, 238, 223, 3, 100, 4, 224, 14, 52, 141, 129, 239,
  76, 113, 8, 200, 248, 105, 28, 193, 125, 194, 29, 181, 249, 185, 39, 106, 77, 228, 166, 114, 154, 201, 9, 120,
  101, 47, 138, 5, 33, 15, 225, 36, 18, 240, 130, 69, 53, 147, 218, 142, 150, 143, 219, 189, 54, 208, 206, 148,
  19, 92, 210, 241, 64, 70, 131, 56, 102, 221, 253, 48, 191, 6, 139, 98, 179, 37, 226, 152, 34, 136, 145, 16,
  126, 110, 72, 195, 163, 182, 30, 66, 58, 107, 40, 84, 250, 133, 61, 186, 43, 121, 10, 21, 155, 159, 94, 202,
  78, 212, 172, 229, 243, 115, 167, 87, 175, 88, 168, 80, 244, 234, 214, 116, 79, 174, 233, 213, 231, 230, 173, 232,
  44, 215, 117, 122, 235, 22, 11, 245, 89, 203, 95, 176, 156, 169, 81, 160, 127, 12, 246, 111, 23, 196, 73, 236,
  216, 67, 31, 45, 164, 118, 123, 183, 204, 187, 62, 90, 251, 96, 177, 134, 59, 82, 161, 108, 170, 85, 41, 157,
  151, 178, 135, 144, 97, 190, 220, 252, 188, 149, 207, 205, 55, 63, 91, 209, 83, 57, 132, 60, 65, 162, 109, 71,
  20, 42, 158, 93, 86, 242, 211, 171, 68, 17, 146, 217, 35, 32, 46, 137, 180, 124, 184, 38, 119, 153, 227, 165,
  103, 74, 237, 222, 197, 49, 254, 24, 13, 99, 140, 128, 192, 247, 112, 7]

set_option maxRecDepth 100000 in
theorem expTable_eq : expTable = expLit := by decide +kernel
set_option maxRecDepth 100000 in
theorem logTable_eq : logTable = logLit := by decide +kernel

def expL (i : Nat) : Nat := expLit.getD i 0
def logL (a : Nat) : Nat := logLit.getD a 0

theorem exp_eq_expL : exp = expL := by funext i; simp [exp, expL, expTable_eq]
theorem log_eq_logL : log = logL := by funext i; simp [log, logL, logTable_eq]

/-- multiplication as the byte update of `interpolate` computes it: `exp[(log a + log b) % 255]`, 0 if a factor is 0 -/
def mulL (a b : Nat) : Nat := if a = 0 ∨ b = 0 then 0 else expL ((logL a + logL b) % 255)

/-! The tables once more as two numerals, entry `i` in byte `i`. A lookup in `expLit` costs the kernel a walk along
  the list at every row of every sweep below; a shift and a mask it computes on the number. One comparison ties each
  numeral to its list. -/

def expNum : Nat := 0xf652c7b46c241cfda297847cdd4b39170df2a794858a8f8c8d7b29ee5a36120ef351c6423ee3a891868b79de4acf45ca46cbb099772d1b0907f4a563211ffc54c543c8b16f25eaaf6523e858c1b69b80898e7adfbc9d827e2aefac64d5ba9f75dabf9c742ced5bc040c9473de25ec3413f15fa5632e75dc2b76dd24e3a16fba06020e9ae93712fecad92877d2b19fea361d6bb69271d0bf0503010f957c4b59a76db49ceb398817fdcbd6bd0b99e838878281808f1a662d74d3be0a967d44ccdb26ed3b868d14fcc443c140c04f55331e6ab9070d9be6a26eb5937e45c34e5aa66221e0a0602f7a49573d84838e15f3513f8a196722e1aff5533110f050301
def logNum : Nat := 0x770f7c0808c630d18fe31c5deed4a67a5e3997726b87cb4892e2023d9921144abd3f2565d9e2a14476da2413c843953d15b3f37cdcf95bcfcdcbe619087b2979d2955aa6ca1523b86b160fb5a3ebbccb77b76a42d1f43d8ec49c4176ff60c7fa051a99cb05fcb59f50b16eb7a75d72ce8ade6e7d5e9ae4f74d6eaf450a858af57a773f3e5acd44eca5e9f9b150a792bba3d85fa54286b3a421eb6a3c3486e7e1091882298e225b3628b06bf30fddd6638834640f1d25c1394ced036bddb8f968eda93354582f01224e10f21058a2f657809c99a72a6e44d6a27b9f9b51dc27dc11c69f8c808714cef818d340ee0046403dfee33681bc74bc61a023201190000

def ue (i : Nat) : Nat := (expNum >>> (8 * i)) &&& 255
def ul (a : Nat) : Nat := (logNum >>> (8 * a)) &&& 255

theorem expLit_unpack : expLit = (List.range 255).map ue := by decide +kernel
theorem logLit_unpack : logLit = (List.range 256).map ul := by decide +kernel

theorem expL_eq_ue (i : Nat) (hi : i < 255) : expL i = ue i := by
  rw [expL, expLit_unpack, List.getD, List.getElem?_map, List.getElem?_range hi]; rfl

theorem logL_eq_ul (a : Nat) (ha : a < 256) : logL a = ul a := by
  rw [logL, logLit_unpack, List.getD, List.getElem?_map, List.getElem?_range ha]; rfl

theorem ue_facts : ∀ i < 255, 0 < ue i ∧ ue i < 256 ∧ ul (ue i) = i := by decide +kernel

theorem ul_facts : ∀ a < 256, a ≠ 0 → ul a < 255 ∧ ue (ul a) = a := by decide +kernel

theorem ue_step : ∀ i < 255, ue ((i + 1) % 255) = Spec.Slip39.gfMul (ue i) 3 := by decide +kernel

theorem expL_facts : ∀ i < 255, 0 < expL i ∧ expL i < 256 ∧ logL (expL i) = i := by
  intro i hi
  have h := ue_facts i hi
  rw [expL_eq_ue i hi, logL_eq_ul _ h.2.1]; exact h

theorem logL_facts : ∀ a < 256, a ≠ 0 → logL a < 255 ∧ expL (logL a) = a := by
  intro a ha h0
  have h := ul_facts a ha h0
  rw [logL_eq_ul a ha, expL_eq_ue _ h.1]; exact h

theorem expL_lt (i : Nat) : expL (i % 255) < 256 := (expL_facts _ (Nat.mod_lt _ (by decide))).2.1
theorem expL_ne (i : Nat) : expL (i % 255) ≠ 0 := Nat.pos_iff_ne_zero.mp (expL_facts _ (Nat.mod_lt _ (by decide))).1
theorem logL_expL (i : Nat) : logL (expL (i % 255)) = i % 255 := (expL_facts _ (Nat.mod_lt _ (by decide))).2.2

theorem logL_zero : logL 0 = 0 := by decide +kernel
theorem expL_zero : expL 0 = 1 := by decide +kernel
theorem expL_one : expL 1 = 3 := by decide +kernel

theorem expL_step : ∀ i < 255, expL ((i + 1) % 255) = Spec.Slip39.gfMul (expL i) 3 := by
  intro i hi
  rw [expL_eq_ue i hi, expL_eq_ue _ (Nat.mod_lt _ (by decide))]; exact ue_step i hi

def invL (a : Nat) : Nat := if a = 0 then 0 else expL ((255 - logL a) % 255)

end Embit.Model.Slip39
