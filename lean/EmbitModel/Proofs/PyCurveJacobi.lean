import EmbitModel.Model.PyCurve
import Mathlib.NumberTheory.LegendreSymbol.JacobiSymbol
/-
  key.py's `jacobi_symbol(n, k)` (binary algorithm: strip factors 2 with the supplementary law, swap with
  quadratic reciprocity, reduce) computes Mathlib's Jacobi symbol `J(n | k)` for every integer `n` and every odd
  `k > 0` — hence, for a prime `p`, `is_x_coord` decides whether `x³ + a x + b` is a square modulo `p`.
  The fuel of both loops is sufficient (the theorems state the value, not `none`).
-/
namespace Embit.Model.PyCurve
open NumberTheorySymbols

/-- `-1 if t else 1` -/
def sgn (t : Bool) : ℤ := if t then -1 else 1

theorem sgn_xor (t u : Bool) : sgn (t ^^ u) = sgn t * sgn u := by cases t <;> cases u <;> simp [sgn]

theorem sgn_mul (t : Bool) (x : ℤ) : sgn t * x = if t then -x else x := by cases t <;> simp [sgn]

theorem and3_eq (a b : ℕ) : (a &&& b &&& 3 = 3) ↔ (a % 4 = 3 ∧ b % 4 = 3) := by
  have h := Nat.and_two_pow_sub_one_eq_mod (a &&& b) 2
  have h' : a &&& b &&& 3 = (a &&& b) % 4 := by simpa using h
  rw [h', show (4 : ℕ) = 2 ^ 2 from rfl, Nat.and_mod_two_pow]
  have key : ∀ x < 4, ∀ y < 4, (x &&& y = 3 ↔ x = 3 ∧ y = 3) := by decide
  exact key _ (Nat.mod_lt _ (by norm_num)) _ (Nat.mod_lt _ (by norm_num))

theorem and7_eq (k : ℕ) : k &&& 7 = k % 8 := by
  simpa using Nat.and_two_pow_sub_one_eq_mod k 3

/-- the inner loop: strips the factors 2 of `n`, flipping `t` by the second supplementary law -/
theorem jacobiStrip_spec (k : ℕ) (hk : k % 2 = 1) : ∀ (fuel n : ℕ) (t : Bool), 0 < n → n ≤ fuel →
    (jacobiStrip fuel n k t).1 % 2 = 1 ∧ 0 < (jacobiStrip fuel n k t).1 ∧ (jacobiStrip fuel n k t).1 ≤ n ∧
      sgn (jacobiStrip fuel n k t).2 * J(((jacobiStrip fuel n k t).1 : ℤ) | k) = sgn t * J((n : ℤ) | k) := by
  intro fuel
  induction fuel with
  | zero => intro n t h0 h1; omega
  | succ f ih =>
    intro n t h0 h1
    unfold jacobiStrip
    rw [Nat.and_one_is_mod]
    by_cases he : n % 2 = 0
    · rw [if_pos he]
      simp only [Nat.shiftRight_one, and7_eq]
      obtain ⟨a1, a2, a3, a4⟩ := ih (n / 2) (t ^^ (k % 8 == 3 || k % 8 == 5)) (by omega) (by omega)
      refine ⟨a1, a2, by omega, ?_⟩
      rw [a4, sgn_xor, mul_assoc]
      congr 1
      have heo := jacobiSym.even_odd (a := (n : ℤ)) (b := k) (by exact_mod_cast he) hk
      rw [← heo]
      have hdiv : ((n / 2 : ℕ) : ℤ) = (n : ℤ) / 2 := by push_cast; rfl
      rw [hdiv, sgn_mul]
      simp only [Bool.or_eq_true, beq_iff_eq]
    · rw [if_neg he]
      exact ⟨by omega, h0, le_rfl, rfl⟩

theorem jacobiLoop_spec : ∀ (fuel n k : ℕ) (t : Bool), n < fuel → k % 2 = 1 →
    jacobiLoop fuel n k t = some (sgn t * J((n : ℤ) | k)) := by
  intro fuel
  induction fuel with
  | zero => intro n k t h; omega
  | succ f ih =>
    intro n k t hn hk
    unfold jacobiLoop
    by_cases h0 : n = 0
    · subst h0
      rw [if_pos rfl]
      by_cases h1 : k = 1
      · subst h1
        simp [sgn, jacobiSym.one_right]
      · rw [if_neg h1]
        have : 1 < k := by omega
        simp [jacobiSym.zero_left this]
    · rw [if_neg h0]
      obtain ⟨a1, a2, a3, a4⟩ := jacobiStrip_spec k hk n n t (by omega) le_rfl
      simp only
      generalize (jacobiStrip n n k t).1 = n1 at a1 a2 a3 a4 ⊢
      generalize (jacobiStrip n n k t).2 = t1 at a4 ⊢
      have hlt : k % n1 < f := by
        have := Nat.mod_lt k a2
        omega
      rw [ih (k % n1) n1 _ hlt a1, sgn_xor, ← a4]
      congr 1
      have hq := jacobiSym.quadratic_reciprocity_if (a := n1) (b := k) a1 hk
      rw [← hq, mul_assoc]
      congr 1
      have hm : J(((k % n1 : ℕ) : ℤ) | n1) = J((k : ℤ) | n1) := by
        rw [jacobiSym.mod_left (k : ℤ) n1]; push_cast; rfl
      rw [hm, sgn_mul]
      simp only [beq_iff_eq, and3_eq, and_comm]

theorem jacobiSymbol_eq (n : ℤ) (k : ℕ) (hk0 : 0 < k) (hk : k % 2 = 1) : jacobiSymbol n k = some (J(n | k)) := by
  unfold jacobiSymbol
  rw [if_pos ⟨hk0, by rw [Nat.and_one_is_mod]; exact hk⟩]
  rw [jacobiLoop_spec _ _ _ _ (Nat.lt_succ_self _) hk]
  have h0 : 0 ≤ n % (k : ℤ) := Int.emod_nonneg _ (by exact_mod_cast hk0.ne')
  rw [Int.toNat_of_nonneg h0, ← jacobiSym.mod_left]
  simp [sgn]

/-- the assertion `k > 0 and k & 1` -/
theorem jacobiSymbol_assert (n : ℤ) (k : ℕ) (hk : k = 0 ∨ k % 2 = 0) : jacobiSymbol n k = none := by
  unfold jacobiSymbol
  rw [if_neg]
  rw [Nat.and_one_is_mod]
  omega

end Embit.Model.PyCurve
