import EmbitModel.Proofs.Digits
import EmbitModel.Proofs.Base58
import EmbitModel.Spec.Bip39Spec
import EmbitModel.Spec.Slip39Spec
import EmbitModel.Model.Slip39
/-
  The bit strings of the BIP39 and SLIP39 specifications, the ten-bit words of the SLIP39 share text and the
  big-endian bytes of `Basic/Bytes.lean` are fixed-width digit lists: one equation per representation carries it to
  `Digits.fixedBE` / `Digits.ofBE`, whose laws (append, split, slice, regroup, round trip) then apply.
  For bytes the second equation is `Base58.ofBe_eq`. None of the equations is a `simp` lemma.
-/
namespace Embit.Digits

def ofBit (b : Bool) : Nat := b.toNat
def toBit (d : Nat) : Bool := d % 2 == 1

theorem toBit_ofBit (b : Bool) : toBit (ofBit b) = b := by cases b <;> rfl

theorem ofBit_toBit {d : Nat} (h : d < 2) : ofBit (toBit d) = d := by
  obtain rfl | rfl : d = 0 ∨ d = 1 := by omega
  all_goals rfl

theorem map_toBit_ofBit (bs : List Bool) : (bs.map ofBit).map toBit = bs := by
  rw [List.map_map]; conv => rhs; rw [← List.map_id bs]
  exact List.map_congr_left fun b _ => toBit_ofBit b

theorem map_ofBit_toBit (ds : List Nat) (h : ∀ d ∈ ds, d < 2) : (ds.map toBit).map ofBit = ds := by
  rw [List.map_map]; conv => rhs; rw [← List.map_id ds]
  exact List.map_congr_left fun d hd => ofBit_toBit (h d hd)

theorem ofBit_lt (bs : List Bool) : ∀ d ∈ bs.map ofBit, d < 2 := by
  intro d hd; obtain ⟨b, _, rfl⟩ := List.mem_map.mp hd; cases b <;> decide

end Embit.Digits

namespace Embit.Spec.Bip39
open Embit.Digits

theorem bitsOfNat_eq (w n : Nat) : bitsOfNat w n = (fixedBE 2 w n).map toBit := by
  induction w generalizing n with
  | zero => rfl
  | succ w ih =>
    rw [bitsOfNat, fixedBE_succ, List.map_append, ih, List.map_singleton, toBit, Nat.mod_mod]

theorem natOfBits_eq (bs : List Bool) : natOfBits bs = ofBE 2 (bs.map ofBit) := by
  rw [natOfBits, ofBE, List.foldl_map]
  congr 1; funext a b; rw [Nat.mul_comm]; rfl

theorem bitsOfNat_eq_testBit (w v : Nat) : bitsOfNat w v = (List.range w).map fun i => v.testBit (w - 1 - i) := by
  rw [bitsOfNat_eq, fixedBE_eq_map_range, List.map_map]
  exact List.map_congr_left fun i _ => by
    rw [Function.comp, toBit, Nat.mod_mod, Nat.testBit_eq_decide_div_mod_eq]; rfl

end Embit.Spec.Bip39

namespace Embit.Model.Slip39
open Embit Embit.Digits Embit.Spec.Slip39

/-- the two specifications' bit strings are the same functions -/
theorem bitsBE_eq (w v : Nat) : bitsBE w v = Spec.Bip39.bitsOfNat w v := (Spec.Bip39.bitsOfNat_eq_testBit w v).symm

theorem natOfBitsBE_eq : natOfBitsBE = Spec.Bip39.natOfBits := by
  funext bs
  unfold natOfBitsBE Spec.Bip39.natOfBits
  congr 1; funext a b; cases b <;> rfl

theorem wordsOfBits_eq (A n : Nat) : wordsOfBits A n = fixedBE 1024 n A := by
  rw [fixedBE_eq_map_range]
  exact List.map_congr_left fun i _ => by
    rw [Nat.and_two_pow_sub_one_eq_mod _ 10, Nat.shiftRight_eq_div_pow, Nat.pow_mul, Nat.sub_right_comm]

theorem valueOfWords_eq (ws : List Nat) (h : ∀ w ∈ ws, w < 1024) : valueOfWords ws = ofBE 1024 ws := by
  unfold valueOfWords ofBE
  generalize 0 = a
  induction ws generalizing a with
  | nil => rfl
  | cons d ws ih =>
    rw [List.foldl_cons, List.foldl_cons, ← Nat.shiftLeft_add_eq_or_of_lt (show d < 2 ^ 10 from h d List.mem_cons_self),
      Nat.shiftLeft_eq]
    exact ih (fun w hw => h w (List.mem_cons_of_mem _ hw)) _

end Embit.Model.Slip39

namespace Embit
open Embit.Digits

theorem beN_eq (n v : Nat) : beN n v = (fixedBE 256 n v).map UInt8.ofNat := by
  induction n generalizing v with
  | zero => rfl
  | succ n ih =>
    rw [fixedBE_succ, List.map_append, ← ih]
    simp [beN, leN]

end Embit
