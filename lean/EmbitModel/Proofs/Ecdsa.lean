import EmbitModel.Proofs.Der
import EmbitModel.Proofs.EcLaws
import EmbitModel.Model.PySecp
/-
  ECDSA correctness of the model signer / verifier relative to `EcLaws`; range / low-S of the signer's output.
-/
namespace Embit
open Embit.Model Embit.Model.Der Embit.Model.PySecp

variable {E : EcOps}

/-- `Der.parse` on the model's own encoding -/
theorem parse_serRS (n : Nat) (lowS : Bool) (r s : Nat) (hn : n ≤ 2 ^ 256) (hok : rangeOk n lowS r s = true) :
    Der.parse n lowS (serRS r s) = some (r, s) := by
  have hr : r < n ∧ s < n := by
    unfold rangeOk at hok; simp at hok; omega
  unfold Der.parse
  rw [parseRS_serRS r s (by omega) (by omega)]
  simp [hok]

theorem parse_strict (n : Nat) (lowS : Bool) (b : Bytes) (r s : Nat) (h : Der.parse n lowS b = some (r, s)) :
    b = serRS r s ∧ rangeOk n lowS r s = true := by
  unfold Der.parse at h
  split at h
  · cases h
  · rename_i r' s' hp
    split at h
    · rename_i hok
      cases h
      exact ⟨parseRS_strict b r s hp, hok⟩
    · cases h

theorem rangeOk_iff (n : Nat) (lowS : Bool) (r s : Nat) :
    rangeOk n lowS r s = true ↔ (1 ≤ r ∧ r < n ∧ 1 ≤ s ∧ s < n ∧ (lowS = true → s ≤ n / 2)) := by
  unfold rangeOk
  cases lowS <;> simp <;> omega

theorem lowS_norm (n s0 : Nat) (h0 : 0 < s0) (hlt : s0 < n) :
    let s := if s0 > n / 2 then n - s0 else s0
    1 ≤ s ∧ s < n ∧ s ≤ n / 2 := by
  intro s
  by_cases h : s0 > n / 2
  · have : s = n - s0 := by simp [s, h]
    omega
  · have : s = s0 := by simp [s, h]
    omega

/-- what `sign_ecdsa` computes from the nonce `k`: `r = x(kG) mod n` and the low one of `±s0`, `s0 = k⁻¹(z + d r)` -/
theorem signRS_inv (L : EcLaws E) (d z k r s : Nat) (h : signRS E d z k = some (r, s)) (hs : s ≠ 0) :
    ∃ rx ry s0, E.xy (E.mul k E.g) = some (rx, ry) ∧ r = rx % E.n ∧ s0 = (E.invN k * (z + d * r)) % E.n ∧
      0 < s0 ∧ s0 < E.n ∧ (s = s0 ∨ s = E.n - s0) ∧ r < E.n ∧ 1 ≤ s ∧ s < E.n ∧ s ≤ E.n / 2 := by
  unfold signRS at h
  split at h
  · cases h
  · rename_i rx ry hR
    simp only [Option.some.injEq, Prod.mk.injEq] at h
    obtain ⟨rfl, hs'⟩ := h
    have hs0lt := Nat.mod_lt (E.invN k * (z + d * (rx % E.n))) L.n_pos
    have hs0pos : 0 < (E.invN k * (z + d * (rx % E.n))) % E.n := by
      rcases Nat.eq_zero_or_pos ((E.invN k * (z + d * (rx % E.n))) % E.n) with h0 | h0
      · rw [h0] at hs'; exact absurd hs'.symm (by simpa using hs)
      · exact h0
    refine ⟨rx, ry, _, hR, rfl, rfl, hs0pos, hs0lt, ?_, Nat.mod_lt _ L.n_pos, ?_⟩
    · rw [← hs']; split <;> simp
    · have := lowS_norm E.n _ hs0pos hs0lt
      rwa [hs'] at this

theorem verify_point (L : EcLaws E) (d z k r s0 s : Nat) (hk : 0 < k ∧ k < E.n)
    (hs0 : s0 = (E.invN k * (z + d * r)) % E.n) (hs0pos : 0 < s0)
    (hs : s = s0 ∨ s = E.n - s0) :
    let w := E.invN s
    E.add (E.mul (z * w % E.n) E.g) (E.mul (r * w % E.n) (E.mul d E.g)) = E.mul k E.g ∨
    E.add (E.mul (z * w % E.n) E.g) (E.mul (r * w % E.n) (E.mul d E.g)) = E.neg (E.mul k E.g) := by
  intro w
  have hs0lt : s0 < E.n := by rw [hs0]; exact Nat.mod_lt _ L.n_pos
  have hki := inv_cast L k hk.1 hk.2
  have hsw : (s : ZMod E.n) * (w : ZMod E.n) = 1 := inv_cast L s (by omega) (by omega)
  have hs0c : (s0 : ZMod E.n) = (E.invN k : ZMod E.n) * ((z : ZMod E.n) + d * r) := by
    rw [hs0]; simp [ZMod.natCast_mod]
  rw [L.lin_comb, L.mul_mod]
  rcases hs with hs | hs
  · left
    apply mul_congr L
    rw [hs, hs0c] at hsw
    simpa [ZMod.natCast_mod] using ecdsa_alg (k : ZMod E.n) _ z d r w hki hsw
  · right
    rw [L.neg_mul k (by omega)]
    apply mul_congr L
    rw [hs, cast_sub_self s0 (by omega), hs0c] at hsw
    rw [cast_sub_self k (by omega)]
    simpa [ZMod.natCast_mod] using ecdsa_alg_neg (k : ZMod E.n) _ z d r w hki hsw

/-- **ECDSA correctness** at the level of `key.py`: what `sign_ecdsa` produces from a nonce `k` (with low-S
    normalisation) passes `verify_ecdsa` (with the low-S rule) under the matching public key. -/
theorem verify_signRS (L : EcLaws E) (hn : E.n ≤ 2 ^ 256) (d z k r s : Nat) (hk : 0 < k ∧ k < E.n)
    (h : signRS E d z k = some (r, s)) (hr : r ≠ 0) (hs : s ≠ 0) (msg : Bytes) (hz : ofBe msg = z) :
    verifyEcdsaKey E (E.mul d E.g) (serRS r s) msg true = true := by
  obtain ⟨rx, ry, s0, hR, hr', hs0, hs0pos, _, hsor, hrlt, hs1, hsn, hlow⟩ := signRS_inv L d z k r s h hs
  have hok : rangeOk E.n true r s = true :=
    (rangeOk_iff E.n true r s).mpr ⟨by omega, hrlt, hs1, hsn, fun _ => hlow⟩
  unfold verifyEcdsaKey
  rw [parse_serRS E.n true r s hn hok]
  simp only [hz]
  rcases verify_point L d z k r s0 s hk hs0 hs0pos hsor with hpt | hpt
  · rw [hpt, hR]; simp [hr']
  · rw [hpt, L.xy_neg _ _ _ hR]; simp [hr']

end Embit
