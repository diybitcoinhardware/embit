import Mathlib.Data.List.Perm.Subperm
import EmbitModel.Spec.Slip39Groups
import EmbitModel.Proofs.Slip39Layout
import EmbitModel.Proofs.Slip39InterpSpec
import EmbitModel.Proofs.Slip39CryptSpec
import EmbitModel.Proofs.Slip39Logic
/-
  Two-level (group) recovery: `ShareSet.recover` on a set of shares that is valid in the sense of the standard
  equals `Spec.Slip39.combineShares` (RecoverSecret per group, RecoverSecret on the group shares, decryption);
  and what the code refuses: fewer groups than the group threshold, a group below its member threshold.
-/
namespace Embit.Model.Slip39
open Embit Embit.Spec.Slip39

theorem recoverGroup_nonempty (P : Prims) (i : Nat) (g0 : Share) (rest : List Share) :
    recoverGroup P i (g0 :: rest) ≠ some none := by
  simp only [recoverGroup]
  split_ifs <;> try simp
  split <;> simp

/-- one group: its share data, `none` when the group loop raises -/
def groupData (P : Prims) (g : Nat × List Share) : Option (Nat × Bytes) :=
  match recoverGroup P g.1 g.2 with
  | some (some d) => some d
  | _ => none

theorem gather_eq_mapOpt (P : Prims) (gs : List (Nat × List Share)) :
    gatherGroups P gs = mapOpt (groupData P) (gs.filter fun g => !g.2.isEmpty) := by
  induction gs with
  | nil => rfl
  | cons g gs ih =>
    obtain ⟨i, grp⟩ := g
    cases grp with
    | nil =>
      simp only [gatherGroups, recoverGroup, ih, List.filter_cons, List.isEmpty_nil, Bool.not_true, Bool.false_eq_true,
        if_false]
      cases mapOpt _ _ <;> rfl
    | cons g0 rest =>
      have hne : (!(g0 :: rest).isEmpty) = true := rfl
      simp only [gatherGroups, List.filter_cons, hne, if_true, mapOpt, ih, groupData]
      cases hr : recoverGroup P i (g0 :: rest) with
      | none => rfl
      | some r =>
        cases r with
        | none => exact absurd hr (recoverGroup_nonempty P i g0 rest)
        | some d => simp only []; cases mapOpt (groupData P) _ <;> rfl

theorem mapOpt_congr {α β : Type} (f g : α → Option β) (l : List α) (h : ∀ a ∈ l, f a = g a) :
    mapOpt f l = mapOpt g l := by
  induction l with
  | nil => rfl
  | cons a l ih =>
    simp only [mapOpt, h a List.mem_cons_self, ih (fun b hb => h b (List.mem_cons_of_mem _ hb))]

theorem mapOpt_map {α β γ : Type} (f : β → Option γ) (g : α → β) (l : List α) :
    mapOpt f (l.map g) = mapOpt (fun a => f (g a)) l := by
  induction l with
  | nil => rfl
  | cons a l ih => simp only [List.map_cons, mapOpt, ih]

theorem gather_range (P : Prims) (shares : List Share) (G : Nat) :
    gatherGroups P ((List.range G).map fun i => (i, shares.filter fun s => s.groupIndex == i)) =
      mapOpt (fun i => groupData P (i, shares.filter fun s => s.groupIndex == i))
        ((List.range G).filter fun i => shares.any fun s => s.groupIndex == i) := by
  rw [gather_eq_mapOpt, List.filter_map]
  have : (List.range G).filter ((fun g : Nat × List Share => !g.2.isEmpty) ∘ fun i =>
      (i, shares.filter fun s => s.groupIndex == i)) =
      (List.range G).filter fun i => shares.any fun s => s.groupIndex == i := by
    apply List.filter_congr
    intro i _
    simp only [Function.comp]
    cases hf : shares.filter (fun s => s.groupIndex == i) with
    | nil =>
      rw [List.filter_eq_nil_iff] at hf
      have : (shares.any fun s => s.groupIndex == i) = false := by
        rw [List.any_eq_false]; exact hf
      rw [this]; rfl
    | cons a l =>
      have ha : a ∈ shares.filter (fun s => s.groupIndex == i) := by rw [hf]; exact List.mem_cons_self
      have : (shares.any fun s => s.groupIndex == i) = true := by
        rw [List.any_eq_true]; exact ⟨a, List.mem_of_mem_filter ha, (List.mem_filter.mp ha).2⟩
      rw [this]; rfl
  rw [this, mapOpt_map]

theorem mapOpt_length {α β : Type} (f : α → Option β) (l : List α) (r : List β) (h : mapOpt f l = some r) :
    r.length = l.length := by
  induction l generalizing r with
  | nil => simp only [mapOpt, Option.some.injEq] at h; subst h; rfl
  | cons a l ih =>
    simp only [mapOpt] at h
    split at h
    · simp at h
    · split at h
      · simp at h
      · rename_i bs hbs
        simp only [Option.some.injEq] at h; subst h
        rw [List.length_cons, List.length_cons, ih bs hbs]

theorem mapOpt_none_of_mem {α β : Type} (f : α → Option β) (l : List α) (a : α) (ha : a ∈ l) (h : f a = none) :
    mapOpt f l = none := by
  induction l with
  | nil => simp at ha
  | cons b l ih =>
    simp only [List.mem_cons] at ha
    simp only [mapOpt]
    rcases ha with rfl | ha
    · rw [h]
    · rw [ih ha]; cases f b <;> rfl

theorem range_filter_eq (p : Nat → Bool) (m n : Nat) (hmn : m ≤ n) (hp : ∀ i, p i = true → i < m) :
    (List.range n).filter p = (List.range m).filter p := by
  obtain ⟨d, rfl⟩ : ∃ d, n = m + d := ⟨n - m, by omega⟩
  rw [List.range_add, List.filter_append]
  have : (List.map (fun x => m + x) (List.range d)).filter p = [] := by
    rw [List.filter_eq_nil_iff]
    intro a ha
    obtain ⟨x, _, rfl⟩ := List.mem_map.mp ha
    intro h; have := hp _ h; omega
  rw [this, List.append_nil]


theorem pairwiseDistinct_iff (l : List Nat) : pairwiseDistinct l = true ↔ l.Nodup := by
  induction l with
  | nil => simp [pairwiseDistinct]
  | cons a l ih => simp [pairwiseDistinct, ih]

theorem bytes_length (s : Share) : s.bytes.length = s.shareBitLength / 8 := by simp [Share.bytes]

theorem groupData_eq_spec (P : Prims) (i : Nat) (grp : List Share) (hinit : ∀ s ∈ grp, s.initOk = true)
    (L : Nat) (hL : ∀ s ∈ grp, s.shareBitLength / 8 = L) (hv : validGroup (grp.map Share.toFields) = true) :
    groupData P (i, grp) = groupShare (toSpec P) i (grp.map Share.toFields) ∧
    ∀ d, groupData P (i, grp) = some d → d.1 = i ∧ d.2.length = L := by
  cases grp with
  | nil => simp [validGroup] at hv
  | cons g0 rest =>
    simp only [List.map_cons, validGroup, Bool.and_eq_true, List.all_eq_true, beq_iff_eq, pairwiseDistinct_iff,
      List.length_cons, List.length_map] at hv
    obtain ⟨⟨hsame, hnd⟩, hcount⟩ := hv
    have hsame' : ∀ s ∈ g0 :: rest, s.memberThreshold = g0.memberThreshold := by
      intro s hs
      have := hsame s.toFields (by rw [← List.map_cons]; exact List.mem_map_of_mem hs)
      simpa [Share.toFields] using this
    have hall : (g0 :: rest).all (fun s => s.memberThreshold == g0.memberThreshold) = true := by
      rw [List.all_eq_true]; intro s hs; simpa using hsame' s hs
    have hmt : g0.toFields.t = g0.memberThreshold := rfl
    rw [hmt] at hcount
    have hmembers : ((g0 :: rest).map Share.toFields).map (fun m => (m.I, m.value)) =
        (g0 :: rest).map fun s => (s.memberIndex, s.bytes) := by
      rw [List.map_map]; rfl
    by_cases h1 : g0.memberThreshold = 1
    · have hall1 := hall
      rw [h1] at hall1
      have hd : groupData P (i, g0 :: rest) = some (i, g0.bytes) := by
        simp only [groupData, recoverGroup, h1, hall1, Bool.not_true, Bool.false_eq_true, if_false, if_true]
      refine ⟨?_, ?_⟩
      · rw [hd]
        simp only [groupShare, List.map_cons, hmt, h1, Spec.Slip39.recoverSecret, if_true, Option.map_some]
        rfl
      · intro d hd'
        rw [hd] at hd'; simp only [Option.some.injEq] at hd'; subst hd'
        exact ⟨rfl, by rw [bytes_length]; exact hL g0 List.mem_cons_self⟩
    · have hgood : Good ((g0 :: rest).map fun s => (s.memberIndex, s.bytes)) L := by
        refine ⟨?_, ?_, ?_, by simp⟩
        · intro t ht
          obtain ⟨s, hs, rfl⟩ := List.mem_map.mp ht
          have := ((Share.initOk_iff s).mp (hinit s hs)).2.2.2.2.2.1
          show s.memberIndex < 256
          omega
        · rw [List.map_map]
          have : ((g0 :: rest).map Share.toFields).map (·.I) = (g0 :: rest).map ((·.1) ∘ fun s => (s.memberIndex, s.bytes)) := by
            rw [List.map_map]; rfl
          rw [← this]; exact hnd
        · intro t ht
          obtain ⟨s, hs, rfl⟩ := List.mem_map.mp ht
          show s.bytes.length = L
          rw [bytes_length]; exact hL s hs
      have hlt16 : ∀ x ∈ ((g0 :: rest).map fun s => (s.memberIndex, s.bytes)).map (·.1), x < 16 := by
        intro x hx
        rw [List.map_map] at hx
        obtain ⟨s, hs, rfl⟩ := List.mem_map.mp hx
        have := ((Share.initOk_iff s).mp (hinit s hs)).2.2.2.2.2.1
        show s.memberIndex < 16
        omega
      have hspec := recoverSecret_eq_spec P hgood g0.memberThreshold h1
        (not_mem_of_lt16 hlt16 254 (by decide)) (not_mem_of_lt16 hlt16 255 (by decide))
      have hd : groupData P (i, g0 :: rest) =
          (recoverSecret P ((g0 :: rest).map fun s => (s.memberIndex, s.bytes))).map fun v => (i, v) := by
        simp only [groupData, recoverGroup, hall, Bool.not_true, Bool.false_eq_true, if_false, h1,
          show ¬ g0.memberThreshold > (g0 :: rest).length by simp only [List.length_cons]; omega]
        cases recoverSecret P _ <;> rfl
      refine ⟨?_, ?_⟩
      · rw [hd, hspec]
        simp only [groupShare, hmembers]
        rfl
      · intro d hd'
        rw [hd] at hd'
        cases hr : recoverSecret P ((g0 :: rest).map fun s => (s.memberIndex, s.bytes)) with
        | none => rw [hr] at hd'; simp at hd'
        | some v =>
          rw [hr] at hd'; simp only [Option.map_some, Option.some.injEq] at hd'; subst hd'
          refine ⟨rfl, ?_⟩
          rw [(recoverSecret_digest P _ v hr).1]
          exact interpolate_length' hgood 255


theorem nodup_pairs (l : List Share)
    (h : ∀ gi, ((l.filter fun s => s.groupIndex == gi).map (·.memberIndex)).Nodup) :
    (l.map fun s => (s.groupIndex, s.memberIndex)).Nodup := by
  induction l with
  | nil => simp
  | cons a l ih =>
    rw [List.map_cons, List.nodup_cons]
    constructor
    · intro hmem
      obtain ⟨b, hb, hab⟩ := List.mem_map.mp hmem
      simp only [Prod.mk.injEq] at hab
      have := h a.groupIndex
      rw [List.filter_cons, if_pos (by simp), List.map_cons, List.nodup_cons] at this
      apply this.1
      exact List.mem_map.mpr ⟨b, List.mem_filter.mpr ⟨hb, by simp [hab.1]⟩, hab.2⟩
    · apply ih
      intro gi
      have := h gi
      rw [List.filter_cons] at this
      split at this
      · rw [List.map_cons, List.nodup_cons] at this; exact this.2
      · exact this

theorem mapOpt_fst {β : Type} (f : Nat → Option (Nat × β)) (l : List Nat) (r : List (Nat × β))
    (h : mapOpt f l = some r) (hf : ∀ a ∈ l, ∀ b, f a = some b → b.1 = a) : r.map (·.1) = l := by
  induction l generalizing r with
  | nil => simp only [mapOpt, Option.some.injEq] at h; subst h; rfl
  | cons a l ih =>
    simp only [mapOpt] at h
    split at h
    · simp at h
    · rename_i b hb
      split at h
      · simp at h
      · rename_i bs hbs
        simp only [Option.some.injEq] at h; subst h
        rw [List.map_cons, hf a List.mem_cons_self b hb,
          ih bs hbs (fun a' ha' => hf a' (List.mem_cons_of_mem _ ha'))]

theorem mapOpt_mem {α β : Type} (f : α → Option β) (l : List α) (r : List β) (h : mapOpt f l = some r) :
    ∀ b ∈ r, ∃ a ∈ l, f a = some b := by
  induction l generalizing r with
  | nil => simp only [mapOpt, Option.some.injEq] at h; subst h; simp
  | cons a l ih =>
    simp only [mapOpt] at h
    split at h
    · simp at h
    · rename_i b hb
      split at h
      · simp at h
      · rename_i bs hbs
        simp only [Option.some.injEq] at h; subst h
        intro b' hb'
        simp only [List.mem_cons] at hb'
        rcases hb' with rfl | hb'
        · exact ⟨a, List.mem_cons_self, hb⟩
        · obtain ⟨a', ha', hfa⟩ := ih bs hbs b' hb'
          exact ⟨a', List.mem_cons_of_mem _ ha', hfa⟩

theorem validSet_facts (s0 : Share) (rest : List Share) (hwf : ∀ s ∈ s0 :: rest, s.WF)
    (hv : validSet ((s0 :: rest).map Share.toFields) = true) :
    (∀ s ∈ s0 :: rest, s.id = s0.id ∧ s.exponent = s0.exponent ∧ s.groupThreshold = s0.groupThreshold ∧
      s.groupCount = s0.groupCount ∧ s.shareBitLength = s0.shareBitLength ∧ s.groupIndex < s0.groupCount) ∧
    (groupIndices ((s0 :: rest).map Share.toFields)).length = s0.groupThreshold ∧
    ∀ gi ∈ groupIndices ((s0 :: rest).map Share.toFields),
      validGroup (membersOf ((s0 :: rest).map Share.toFields) gi) = true := by
  simp only [List.map_cons, validSet, Bool.and_eq_true, List.all_eq_true, beq_iff_eq, decide_eq_true_eq] at hv
  obtain ⟨⟨⟨⟨hall, _⟩, hgi⟩, hcnt⟩, hgrp⟩ := hv
  refine ⟨?_, hcnt, hgrp⟩
  intro s hs
  have hm : s.toFields ∈ s0.toFields :: rest.map Share.toFields := by
    rw [← List.map_cons]; exact List.mem_map_of_mem hs
  obtain ⟨⟨⟨⟨⟨e1, e2⟩, e3⟩, e4⟩, e5⟩, e6⟩ := hall _ hm
  have g1 := hgi _ hm
  simp only [Share.toFields, Share.bytes, beN_length] at e1 e2 e3 e4 e5 e6 g1
  have w := (hwf s hs).sbl16
  have w0 := (hwf s0 List.mem_cons_self).sbl16
  exact ⟨e1, by omega, e4, e5, by omega, g1⟩

/-- **two-level recovery**: on every set of well-formed shares (non-extendable) that is valid in the sense of the
    standard — one id / exponent / group threshold / group count / length, exactly GT groups, each with exactly
    its member threshold of distinct members — `ShareSet(shares).recover(passphrase)` is the standard's
    combination: RecoverSecret(T_i, ·) per group, RecoverSecret(GT, ·) on the group shares, decryption -/
theorem recover_eq_combine (P : Prims) (shares : List Share) (pass : Bytes) (hwf : ∀ s ∈ shares, s.WF)
    (hext : ∀ s ∈ shares, s.exponent < 16) (hv : validSet (shares.map Share.toFields) = true) :
    (ShareSet.new? shares).bind (fun ss => ss.recover P pass) =
      combineShares (toSpec P) (shares.map Share.toFields) pass := by
  cases shares with
  | nil => simp [validSet] at hv
  | cons s0 rest =>
    obtain ⟨hall, hcnt, hgrp⟩ := validSet_facts s0 rest hwf hv
    have hwf0 := hwf s0 List.mem_cons_self
    obtain ⟨_, hgt1, hgtle, _, hgc16, _⟩ := (Share.initOk_iff s0).mp hwf0.init
    -- ShareSet(shares) is accepted
    have hnd : ((s0 :: rest).map fun s => (s.groupIndex, s.memberIndex)).Nodup := by
      apply nodup_pairs
      intro gi
      by_cases hin : gi ∈ groupIndices ((s0 :: rest).map Share.toFields)
      · have := hgrp gi hin
        simp only [membersOf, List.filter_map] at this
        generalize hF : List.filter ((fun s => s.GI == gi) ∘ Share.toFields) (s0 :: rest) = F at this
        have hF' : (s0 :: rest).filter (fun s => s.groupIndex == gi) = F := by rw [← hF]; rfl
        rw [hF']
        cases F with
        | nil => simp
        | cons f0 F =>
          simp only [List.map_cons, validGroup, Bool.and_eq_true, pairwiseDistinct_iff] at this
          have h2 := this.1.2
          simp only [List.map_map] at h2
          exact h2
      · have : (s0 :: rest).filter (fun s => s.groupIndex == gi) = [] := by
          rw [List.filter_eq_nil_iff]
          intro s hs hsg
          apply hin
          simp only [groupIndices, List.mem_filter, List.mem_range, List.any_map]
          have := ((Share.initOk_iff s).mp (hwf s hs).init).1
          simp only [beq_iff_eq] at hsg
          refine ⟨by omega, ?_⟩
          rw [List.any_eq_true]
          exact ⟨s, hs, by simp [Share.toFields, hsg]⟩
        rw [this]; simp
    have hnew : ShareSet.new? (s0 :: rest) = some ⟨s0 :: rest, s0.id, s0.exponent, s0.groupThreshold,
        s0.groupCount, s0.shareBitLength⟩ :=
      ShareSet.new?_eq_some _ (by simp) _ _ _ _ _
        (fun s hs => ⟨(hall s hs).1, (hall s hs).2.1, (hall s hs).2.2.1, (hall s hs).2.2.2.1, (hall s hs).2.2.2.2.1⟩)
        hgtle hnd
    rw [hnew, Option.bind_some]
    generalize hGIs : ((List.range s0.groupCount).filter fun i => (s0 :: rest).any fun s => s.groupIndex == i) = GIs
    have hspecGIs : groupIndices ((s0 :: rest).map Share.toFields) = GIs := by
      rw [← hGIs]
      unfold groupIndices
      rw [range_filter_eq _ s0.groupCount 16 hgc16]
      · apply List.filter_congr
        intro i _
        rw [List.any_map]; rfl
      · intro i hi
        rw [List.any_map, List.any_eq_true] at hi
        obtain ⟨s, hs, hsi⟩ := hi
        simp only [Function.comp, Share.toFields, beq_iff_eq] at hsi
        rw [← hsi]; exact (hall s hs).2.2.2.2.2
    have hmembers : ∀ gi, membersOf ((s0 :: rest).map Share.toFields) gi =
        ((s0 :: rest).filter fun s => s.groupIndex == gi).map Share.toFields := by
      intro gi; unfold membersOf; rw [List.filter_map]; rfl
    rw [hspecGIs] at hcnt hgrp
    have hL : ∀ s ∈ s0 :: rest, s.shareBitLength / 8 = s0.shareBitLength / 8 := by
      intro s hs; rw [(hall s hs).2.2.2.2.1]
    -- per group: embit's step is the standard's
    have hgroup : ∀ gi ∈ GIs,
        groupData P (gi, (s0 :: rest).filter fun s => s.groupIndex == gi) =
          groupShare (toSpec P) gi (membersOf ((s0 :: rest).map Share.toFields) gi) ∧
        ∀ d, groupData P (gi, (s0 :: rest).filter fun s => s.groupIndex == gi) = some d →
          d.1 = gi ∧ d.2.length = s0.shareBitLength / 8 := by
      intro gi hgi
      rw [hmembers gi]
      apply groupData_eq_spec P gi _ (fun s hs => (hwf s (List.mem_of_mem_filter hs)).init) _
        (fun s hs => hL s (List.mem_of_mem_filter hs))
      rw [← hmembers gi]; exact hgrp gi hgi
    have hgather : gatherGroups P ((List.range s0.groupCount).map fun i =>
        (i, (s0 :: rest).filter fun s => s.groupIndex == i)) =
        mapOpt (fun gi => groupShare (toSpec P) gi (membersOf ((s0 :: rest).map Share.toFields) gi)) GIs := by
      rw [gather_range, hGIs]
      exact mapOpt_congr _ _ _ (fun gi hgi => (hgroup gi hgi).1)
    have hidx : ((s0 :: rest).any fun s => decide (s.groupIndex ≥ s0.groupCount)) = false := by
      rw [List.any_eq_false]
      intro s hs
      have := (hall s hs).2.2.2.2.2
      simp only [decide_eq_true_eq]; omega
    have hext0 : s0.toFields.ext = 0 := by
      have := hext s0 List.mem_cons_self
      simp only [Share.toFields]; omega
    have he0 : s0.toFields.e = s0.exponent := by
      have := hext s0 List.mem_cons_self
      simp only [Share.toFields]; omega
    have hsd : ∀ sd, mapOpt (fun gi => groupShare (toSpec P) gi (membersOf ((s0 :: rest).map Share.toFields) gi)) GIs
        = some sd → sd.length = s0.groupThreshold ∧ Good sd (s0.shareBitLength / 8) ∧
          ∀ x ∈ sd.map (·.1), x < 16 := by
      intro sd hm
      rw [← mapOpt_congr _ _ _ (fun gi hgi => (hgroup gi hgi).1)] at hm
      have hlen := mapOpt_length _ _ _ hm
      have hfst := mapOpt_fst _ _ _ hm (fun a ha b hb => ((hgroup a ha).2 b hb).1)
      have hmem := mapOpt_mem _ _ _ hm
      have hGlt : ∀ x ∈ GIs, x < 16 := by
        intro x hx; rw [← hGIs] at hx
        have := (List.mem_filter.mp hx).1
        rw [List.mem_range] at this; omega
      refine ⟨by rw [hlen, hcnt], ⟨?_, ?_, ?_, ?_⟩, by rw [hfst]; exact hGlt⟩
      · intro d hd
        have := hGlt d.1 (by rw [← hfst]; exact List.mem_map_of_mem hd)
        omega
      · rw [hfst, ← hGIs]; exact List.Nodup.sublist List.filter_sublist List.nodup_range
      · intro d hd
        obtain ⟨a, ha, hfa⟩ := hmem d hd
        exact ((hgroup a ha).2 d hfa).2
      · intro h; rw [h] at hlen; simp at hlen; omega
    have hid : s0.id < 65536 := by have := hwf0.id; omega
    have hdec : ∀ x : Bytes, x.length = s0.shareBitLength / 8 →
        decrypt P x s0.id s0.exponent pass = some (decryptMS (toSpec P) x s0.id s0.exponent pass) := by
      intro x hx
      have h16 := hwf0.sbl16
      have h128 := hwf0.sbl128
      exact (crypt_eq_spec P x s0.id s0.exponent pass (by omega) (by intro h; rw [h] at hx; simp at hx; omega) hid).2
    unfold ShareSet.recover
    unfold combineShares
    simp only [List.map_cons] at hv hgather hspecGIs hsd ⊢
    simp only [hidx, Bool.false_eq_true, if_false, hgather, hv, Bool.not_true, hext0, ne_eq, not_true_eq_false, he0,
      hspecGIs]
    cases hm : mapOpt (fun gi => groupShare (toSpec P) gi (membersOf (s0.toFields :: List.map Share.toFields rest) gi))
        GIs with
    | none => rfl
    | some sd =>
      obtain ⟨hlen, hgood, hlt16⟩ := hsd sd hm
      have hGt : s0.toFields.Gt = s0.groupThreshold := rfl
      have hId : s0.toFields.id = s0.id := rfl
      simp only [hGt, hId]
      by_cases h1 : s0.groupThreshold = 1
      · simp only [h1, if_true]
        obtain ⟨d, rfl⟩ := List.length_eq_one_iff.mp (hlen.trans h1)
        simp only [Spec.Slip39.recoverSecret, if_true]
        exact hdec d.2 (hgood.len d List.mem_cons_self)
      · simp only [h1, if_false]
        rw [if_neg (by omega)]
        have hrs : recoverSecret P sd = Spec.Slip39.recoverSecret (toSpec P) s0.groupThreshold sd :=
          recoverSecret_eq_spec P hgood s0.groupThreshold h1
            (not_mem_of_lt16 hlt16 254 (by decide)) (not_mem_of_lt16 hlt16 255 (by decide))
        cases hr : recoverSecret P sd with
        | none => rw [← hrs, hr]
        | some sec =>
          rw [← hrs, hr]
          have hsl : sec.length = s0.shareBitLength / 8 := by
            rw [(recoverSecret_digest P _ sec hr).1]; exact interpolate_length' hgood 255
          exact hdec sec hsl


/-- **fewer groups than the group threshold** (threshold ≥ 2): if all group indices of the given shares lie in a
    list of fewer than `group_threshold` numbers, `recover` raises — whatever the shares contain -/
theorem fewer_groups_refused (P : Prims) (ss : ShareSet) (pass : Bytes) (hk : 2 ≤ ss.groupThreshold)
    (D : List Nat) (hD : ∀ s ∈ ss.shares, s.groupIndex ∈ D) (hfew : D.length < ss.groupThreshold) :
    ss.recover P pass = none := by
  unfold ShareSet.recover
  split
  · rfl
  simp only [gather_range]
  split
  · rfl
  rename_i sd hsd
  -- one entry of share data per group index that occurs, and those all lie in D
  have hlen : sd.length = _ := mapOpt_length _ _ _ hsd
  have hle : ((List.range ss.groupCount).filter fun i => ss.shares.any fun s => s.groupIndex == i).length ≤ D.length :=
    (List.subperm_of_subset (List.Nodup.sublist List.filter_sublist List.nodup_range) (fun i hi => by
      obtain ⟨s, hs, hsi⟩ := List.any_eq_true.mp (List.mem_filter.mp hi).2
      rw [← beq_iff_eq.mp hsi]; exact hD s hs)).length_le
  rw [if_neg (by omega), if_pos (by omega)]

/-- **fewer shares than the group threshold are refused** (threshold ≥ 2), whatever they contain -/
theorem fewer_refused (P : Prims) (ss : ShareSet) (pass : Bytes) (hk : 2 ≤ ss.groupThreshold)
    (hfew : ss.shares.length < ss.groupThreshold) : ss.recover P pass = none :=
  fewer_groups_refused P ss pass hk (ss.shares.map (·.groupIndex)) (fun _ hs => List.mem_map_of_mem hs)
    (by rw [List.length_map]; exact hfew)

/-- **a group with fewer shares than its member threshold**: if some given share's group holds fewer shares than
    that share's member threshold, `recover` raises — also when the group threshold is 1 and another group is
    complete (every non-empty group is processed before the group threshold is looked at) -/
theorem fewer_members_refused (P : Prims) (ss : ShareSet) (pass : Bytes) (s : Share) (hs : s ∈ ss.shares)
    (hfew : (ss.shares.filter fun t => t.groupIndex == s.groupIndex).length < s.memberThreshold) :
    ss.recover P pass = none := by
  unfold ShareSet.recover
  split
  · rfl
  · rename_i hidx
    simp only
    have hlt : s.groupIndex < ss.groupCount := by
      simp only [Bool.not_eq_true, List.any_eq_false, decide_eq_true_eq] at hidx
      have := hidx s hs; omega
    have hin : s ∈ ss.shares.filter (fun t => t.groupIndex == s.groupIndex) :=
      List.mem_filter.mpr ⟨hs, by simp⟩
    have hnone : groupData P (s.groupIndex, ss.shares.filter fun t => t.groupIndex == s.groupIndex) = none := by
      cases hg : ss.shares.filter (fun t => t.groupIndex == s.groupIndex) with
      | nil => rw [hg] at hin; simp at hin
      | cons g0 rest =>
        rw [hg] at hin hfew
        simp only [groupData, recoverGroup]
        by_cases hall : (g0 :: rest).all (fun t => t.memberThreshold == g0.memberThreshold) = true
        · have hsm : s.memberThreshold = g0.memberThreshold := by
            rw [List.all_eq_true] at hall; simpa using hall s hin
          simp only [List.length_cons] at hfew
          simp only [hall, Bool.not_true, Bool.false_eq_true, if_false]
          rw [if_neg (by omega), if_pos (by simp only [List.length_cons]; omega)]
        · simp only [hall, Bool.not_false, if_true]
    rw [gather_eq_mapOpt]
    rw [mapOpt_none_of_mem (groupData P) _ (s.groupIndex, ss.shares.filter fun t => t.groupIndex == s.groupIndex) ?_ hnone]
    rw [List.mem_filter]
    refine ⟨List.mem_map.mpr ⟨s.groupIndex, List.mem_range.mpr hlt, rfl⟩, ?_⟩
    simp only [Bool.not_eq_true', List.isEmpty_eq_false_iff]
    exact List.ne_nil_of_mem hin

end Embit.Model.Slip39
