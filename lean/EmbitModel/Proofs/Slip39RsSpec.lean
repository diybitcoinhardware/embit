import EmbitModel.Proofs.Slip39Rs
import EmbitModel.Proofs.BasicBits
import EmbitModel.Spec.Slip39Spec
/- embit's rs1024_polymod with its ten generator constants = remainder modulo the Reed-Solomon generator
   polynomial (x-a)(x-a^2)(x-a^3) over GF(1024) = GF(2)[z]/(z^10+z^3+1) of the standard. -/
namespace Embit.Model.Slip39
open Embit.Spec.Slip39 (gf1024Mul rsG0 rsG1 rsG2 rsStep rsResidue rsValid rsChecksum)

/-- the 30-bit state as three GF(1024) coefficients -/
def pack (c : Nat × Nat × Nat) : Nat := (((c.1 <<< 10) ^^^ c.2.1) <<< 10) ^^^ c.2.2

def Small (c : Nat × Nat × Nat) : Prop := c.1 < 1024 ∧ c.2.1 < 1024 ∧ c.2.2 < 1024

theorem pack_eq (c : Nat × Nat × Nat) (h : Small c) : pack c = c.1 * 1048576 + c.2.1 * 1024 + c.2.2 := by
  obtain ⟨c2, c1, c0⟩ := c
  obtain ⟨_, h1, h0⟩ := h
  simp only at h1 h0
  simp only [pack]
  rw [shl_xor_eq_add c2 c1 10 h1, shl_xor_eq_add _ c0 10 h0]
  omega

theorem pack_xor (c d : Nat × Nat × Nat) : pack (c.1 ^^^ d.1, c.2.1 ^^^ d.2.1, c.2.2 ^^^ d.2.2) = pack c ^^^ pack d := by
  obtain ⟨c2, c1, c0⟩ := c
  obtain ⟨d2, d1, d0⟩ := d
  show (((c2 ^^^ d2) <<< 10 ^^^ (c1 ^^^ d1)) <<< 10) ^^^ (c0 ^^^ d0) =
    ((((c2 <<< 10) ^^^ c1) <<< 10) ^^^ c0) ^^^ ((((d2 <<< 10) ^^^ d1) <<< 10) ^^^ d0)
  simp only [Nat.shiftLeft_xor_distrib]
  generalize c2 <<< 10 <<< 10 = A
  generalize d2 <<< 10 <<< 10 = B
  generalize c1 <<< 10 = C
  generalize d1 <<< 10 = D
  apply Nat.eq_of_testBit_eq
  intro i
  simp only [Nat.testBit_xor]
  cases A.testBit i <;> cases B.testBit i <;> cases C.testBit i <;> cases D.testBit i <;>
    cases c0.testBit i <;> cases d0.testBit i <;> rfl

set_option maxRecDepth 100000 in
/-- the generator constants are the multiples 2^i·(g2, g1, g0) of the Reed-Solomon generator polynomial
    g(x) = (x−a)(x−a²)(x−a³) over GF(1024): folding them in along the bits of `b` multiplies g by `b` -/
theorem genFold_eq_mul : ∀ b < 1024, genFold b rs1024Gen 0 0 = pack (gf1024Mul b rsG2, gf1024Mul b rsG1, gf1024Mul b rsG0)
    ∧ gf1024Mul b rsG2 < 1024 ∧ gf1024Mul b rsG1 < 1024 ∧ gf1024Mul b rsG0 < 1024 := by decide +kernel

theorem step_eq_spec (c : Nat × Nat × Nat) (v : Nat) (hc : Small c) (hv : v < 1024) :
    rs1024Step (pack c) v = pack (rsStep c v) ∧ Small (rsStep c v) := by
  obtain ⟨c2, c1, c0⟩ := c
  obtain ⟨h2, h1, h0⟩ := hc
  simp only at h2 h1 h0
  obtain ⟨hg, b2, b1, b0⟩ := genFold_eq_mul c2 h2
  have lt : ∀ {a b : Nat}, a < 1024 → b < 1024 → a ^^^ b < 1024 := fun ha hb => Nat.xor_lt_two_pow (n := 10) ha hb
  refine ⟨?_, lt h1 b2, lt h0 b1, lt hv b0⟩
  have hp := pack_eq (c2, c1, c0) ⟨h2, h1, h0⟩
  simp only at hp
  unfold rs1024Step
  have eF : (0xFFFFF : Nat) = 2 ^ 20 - 1 := by decide
  rw [genFold_acc, eF, Nat.and_two_pow_sub_one_eq_mod, Nat.shiftRight_eq_div_pow, hp]
  have d1 : (c2 * 1048576 + c1 * 1024 + c0) / 2 ^ 20 = c2 := by omega
  have d2 : (c2 * 1048576 + c1 * 1024 + c0) % 2 ^ 20 = c1 * 1024 + c0 := by omega
  rw [d1, d2, hg]
  have e1 : ((c1 * 1024 + c0) <<< 10) ^^^ v = pack (c1, c0, v) := by
    simp only [pack]
    rw [shl_xor_eq_add c1 c0 10 h0]
  rw [e1, ← pack_xor]
  rfl

theorem fold_eq_spec (vs : List Nat) (hv : ∀ v ∈ vs, v < 1024) (c : Nat × Nat × Nat) (hc : Small c) :
    vs.foldl rs1024Step (pack c) = pack (vs.foldl rsStep c) ∧ Small (vs.foldl rsStep c) := by
  induction vs generalizing c with
  | nil => exact ⟨rfl, hc⟩
  | cons v vs ih =>
    have := step_eq_spec c v hc (hv v List.mem_cons_self)
    simp only [List.foldl_cons]
    rw [this.1]
    exact ih (fun v' h' => hv v' (List.mem_cons_of_mem _ h')) _ this.2

theorem unpack_pack (c : Nat × Nat × Nat) (hc : Small c) (h : pack c = 1) : c = (0, 0, 1) := by
  rw [pack_eq c hc] at h
  obtain ⟨c2, c1, c0⟩ := c
  obtain ⟨h2, h1, h0⟩ := hc
  simp only at h h2 h1 h0
  have : c2 = 0 ∧ c1 = 0 ∧ c0 = 1 := by omega
  rw [this.1, this.2.1, this.2.2]

theorem customization_eq : Spec.Slip39.customization 0 = csShamir := by decide

theorem polymod_eq_spec (vs : List Nat) (hv : ∀ v ∈ vs, v < 1024) :
    rs1024Polymod vs = pack (rsResidue vs) ∧ Small (rsResidue vs) :=
  fold_eq_spec vs hv (0, 0, 1) ⟨by decide, by decide, by decide⟩

theorem csShamir_lt : ∀ v ∈ csShamir, v < 1024 := by decide

theorem verify_eq_spec (ws : List Nat) (hw : ∀ w ∈ ws, w < 1024) : rs1024Verify csShamir ws = rsValid 0 ws := by
  have hall : ∀ v ∈ csShamir ++ ws, v < 1024 := by
    intro v h; rcases List.mem_append.mp h with h | h
    · exact csShamir_lt v h
    · exact hw v h
  obtain ⟨e, hs⟩ := polymod_eq_spec _ hall
  unfold rs1024Verify rsValid
  rw [customization_eq, e]
  by_cases h : pack (rsResidue (csShamir ++ ws)) = 1
  · have := unpack_pack _ hs h
    rw [this]; rfl
  · have : rsResidue (csShamir ++ ws) ≠ (0, 0, 1) := by
      intro e'; apply h; rw [e']; rfl
    rw [beq_eq_false_iff_ne.mpr h, beq_eq_false_iff_ne.mpr this]

theorem create_eq_spec (data : List Nat) (hd : ∀ w ∈ data, w < 1024) : rs1024Create csShamir data = rsChecksum 0 data := by
  have hall : ∀ v ∈ csShamir ++ data ++ [0, 0, 0], v < 1024 := by
    intro v h
    simp only [List.mem_append, List.mem_cons, List.not_mem_nil, or_false] at h
    rcases h with (h | h) | h
    · exact csShamir_lt v h
    · exact hd v h
    · omega
  obtain ⟨e, hs⟩ := polymod_eq_spec _ hall
  unfold rs1024Create rsChecksum
  rw [customization_eq]
  simp only
  rw [e]
  generalize rsResidue (csShamir ++ data ++ [0, 0, 0]) = c at hs ⊢
  obtain ⟨c2, c1, c0⟩ := c
  obtain ⟨h2, h1, h0⟩ := hs
  simp only at h2 h1 h0
  have hx : c0 ^^^ 1 < 1024 := Nat.xor_lt_two_pow (n := 10) h0 (by decide)
  have : pack (c2, c1, c0) ^^^ 1 = pack (c2, c1, c0 ^^^ 1) := by
    simp only [pack, Nat.xor_assoc]
  rw [this, pack_eq _ ⟨h2, h1, hx⟩]
  simp only [and1023, Nat.shiftRight_eq_div_pow]
  have a : (c2 * 1048576 + c1 * 1024 + (c0 ^^^ 1)) / 2 ^ 20 % 1024 = c2 := by omega
  have b : (c2 * 1048576 + c1 * 1024 + (c0 ^^^ 1)) / 2 ^ 10 % 1024 = c1 := by omega
  have d : (c2 * 1048576 + c1 * 1024 + (c0 ^^^ 1)) % 1024 = c0 ^^^ 1 := by omega
  rw [a, b, d]

end Embit.Model.Slip39
