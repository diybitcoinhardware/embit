import EmbitModel.Proofs.PyCurveField
import Mathlib.AlgebraicGeometry.EllipticCurve.Jacobian.Point
/-
  key.py's Jacobian formulas (`negate`, `double`, `add_mixed`, `add`) against Mathlib's group law.

  `W C` is the Weierstrass curve `y² = x³ + a x + b` over `ZMod C.p`; `pt C P` is the point of Mathlib's group
  `(W C).toAffine.Point` that a Jacobian tuple `P` denotes (`Jacobian.Point.toAffine`; `0` when `z ≡ 0`).
  * `double` computes exactly Mathlib's `dblXYZ` (`double_toF`);
  * the general branch of `add` / `add_mixed` computes `(-(z₁ z₂)) • addXYZ` — another representative of the same
    Jacobian point (`add_short`);
  * Mathlib proves `toAffine (W.add P Q) = toAffine P + toAffine Q` (`Jacobian.Point.toAffine_add`), so
    `pt (add P Q) = pt P + pt Q`, `pt (double P) = pt P + pt P`, `pt (negate P) = - pt P` for valid tuples
    (`Valid`: entries reduced, on the curve or `z = 0`), and the results are valid again.
-/
namespace Embit.Model.PyCurve
open WeierstrassCurve WeierstrassCurve.Jacobian

/-- the short Weierstrass curve `y² = x³ + a x + b` -/
def Wab {R : Type} [CommRing R] (a b : R) : Jacobian R := ⟨0, 0, 0, a, b⟩

theorem vec3_congr {R : Type} {a b c a' b' c' : R} (ha : a = a') (hb : b = b') (hc : c = c') :
    ![a, b, c] = ![a', b', c'] := by rw [ha, hb, hc]

/-- the general branch of key.py's addition, on `u₁ = x₁z₂²`, `s₁ = y₁z₂³`, `u₂ = x₂z₁²`, `s₂ = y₂z₁³`, `zz = z₁z₂` -/
def addCore {R : Type} [CommRing R] (u1 s1 u2 s2 zz : R) : Fin 3 → R :=
  let h := u2 - u1; let r := s2 - s1
  let x3 := r ^ 2 - h ^ 3 - 2 * (u1 * h ^ 2)
  ![x3, r * (u1 * h ^ 2 - x3) - s1 * h ^ 3, h * zz]

section generic
variable {F : Type} [Field F]

theorem eqn_short (a b x y z : F) :
    (Wab a b).Equation ![x, y, z] ↔ y ^ 2 = x ^ 3 + a * x * z ^ 4 + b * z ^ 6 := by
  rw [equation_iff]
  simp only [Wab, fin3_def_ext]
  constructor <;> intro h <;> linear_combination h

/-- key.py's addition formulas are Mathlib's `addXYZ` scaled by the unit `-(z₁ z₂)` (on the curve): Mathlib's
    `addX_eq'`, `negAddY_eq'` express `addX · (z₁z₂)²` and `negAddY · (z₁z₂)³` through `u₁ s₁ u₂ s₂` -/
theorem add_short {a b : F} {P Q : Fin 3 → F} (hP : (Wab a b).Equation P) (hQ : (Wab a b).Equation Q) :
    (-(P 2 * Q 2)) • (Wab a b).addXYZ P Q =
      addCore (P 0 * Q 2 ^ 2) (P 1 * Q 2 ^ 3) (Q 0 * P 2 ^ 2) (Q 1 * P 2 ^ 3) (P 2 * Q 2) := by
  have hX := addX_eq' hP hQ
  have hY := negAddY_eq' (W' := Wab a b) P Q
  simp only [smul_fin3, addXYZ, addY, negY_eq, addCore, fin3_def_ext]
  simp only [Wab, addZ] at hX hY ⊢
  refine vec3_congr ?_ ?_ ?_
  · linear_combination hX
  · linear_combination hY + (P 1 * Q 2 ^ 3 - Q 1 * P 2 ^ 3) * hX
  · ring

variable [DecidableEq F] {W : Jacobian F}

theorem toAffine_opposite {P Q : Fin 3 → F} (hP : W.Nonsingular P) (hQ : W.Nonsingular Q) (hPz : P 2 ≠ 0)
    (hQz : Q 2 ≠ 0) (hx : P 0 * Q 2 ^ 2 = Q 0 * P 2 ^ 2) (hy : P 1 * Q 2 ^ 3 ≠ Q 1 * P 2 ^ 3) :
    Point.toAffine W P + Point.toAffine W Q = 0 := by
  rw [← Point.toAffine_add hP hQ, add_of_Y_ne hP.left hQ.left hPz hQz hx hy,
    Point.toAffine_smul _ (isUnit_addU_of_Y_ne hPz hQz hy), Point.toAffine_zero]

theorem toAffine_same {P Q : Fin 3 → F} (hP : W.Nonsingular P) (hQ : W.Nonsingular Q) (hPz : P 2 ≠ 0)
    (hQz : Q 2 ≠ 0) (hx : P 0 * Q 2 ^ 2 = Q 0 * P 2 ^ 2) (hy : P 1 * Q 2 ^ 3 = Q 1 * P 2 ^ 3) :
    Point.toAffine W (W.dblXYZ P) = Point.toAffine W P + Point.toAffine W Q := by
  rw [← Point.toAffine_add hP hQ, add_of_equiv (equiv_of_X_eq_of_Y_eq hPz hQz hx hy)]

theorem toAffine_dbl {P : Fin 3 → F} (hP : W.Nonsingular P) :
    Point.toAffine W (W.dblXYZ P) = Point.toAffine W P + Point.toAffine W P := by
  rw [← Point.toAffine_add hP hP, add_self]

omit [DecidableEq F] in
theorem nonsingular_dbl {P : Fin 3 → F} (hP : W.Nonsingular P) : W.Nonsingular (W.dblXYZ P) := by
  rw [← add_self]; exact nonsingular_add hP hP

/-- different `x`: any unit multiple of `addXYZ` represents the sum -/
theorem toAffine_generic {P Q : Fin 3 → F} (hP : W.Nonsingular P) (hQ : W.Nonsingular Q)
    (hx : P 0 * Q 2 ^ 2 ≠ Q 0 * P 2 ^ 2) {u : F} (hu : IsUnit u) :
    Point.toAffine W (u • W.addXYZ P Q) = Point.toAffine W P + Point.toAffine W Q := by
  rw [Point.toAffine_smul _ hu, ← Point.toAffine_add hP hQ, add_of_not_equiv (not_equiv_of_X_ne hx)]

omit [DecidableEq F] in
theorem nonsingular_generic {P Q : Fin 3 → F} (hP : W.Nonsingular P) (hQ : W.Nonsingular Q)
    (hx : P 0 * Q 2 ^ 2 ≠ Q 0 * P 2 ^ 2) {u : F} (hu : IsUnit u) : W.Nonsingular (u • W.addXYZ P Q) := by
  rw [nonsingular_smul _ hu, ← add_of_not_equiv (not_equiv_of_X_ne hx)]
  exact nonsingular_add hP hQ

end generic

variable (C : Curve)

def W : Jacobian (ZMod C.p) := Wab (C.a : ZMod C.p) (C.b : ZMod C.p)

def toF (P : JPt) : Fin 3 → ZMod C.p := ![(P.1 : ZMod C.p), (P.2.1 : ZMod C.p), (P.2.2 : ZMod C.p)]

def Red (P : JPt) : Prop :=
  (0 ≤ P.1 ∧ P.1 < C.p) ∧ (0 ≤ P.2.1 ∧ P.2.1 < C.p) ∧ (0 ≤ P.2.2 ∧ P.2.2 < C.p)

structure Valid (P : JPt) : Prop where
  red : Red C P
  ns : P.2.2 = 0 ∨ (W C).Nonsingular (toF C P)

theorem red_inf (hp : 1 < C.p) : Red C inf := by
  have h0 : (0 : ℤ) < C.p := by exact_mod_cast (by omega : 0 < C.p)
  have h1 : (1 : ℤ) < C.p := by exact_mod_cast hp
  exact ⟨⟨le_rfl, h0⟩, ⟨show (0 : ℤ) ≤ 1 by norm_num, h1⟩, ⟨le_rfl, h0⟩⟩

theorem valid_inf (hp : 1 < C.p) : Valid C inf := ⟨red_inf C hp, Or.inl rfl⟩

variable [Fact C.p.Prime]

noncomputable def pt (P : JPt) : (W C).toAffine.Point := Point.toAffine (W C) (toF C P)

theorem p_pos : 0 < C.p := (Fact.out : C.p.Prime).pos
theorem p_gt_one : 1 < C.p := (Fact.out : C.p.Prime).one_lt

theorem pt_of_z_zero {P : JPt} (h : P.2.2 = 0) : pt C P = 0 := by
  unfold pt
  apply Point.toAffine_of_Z_eq_zero
  show ((P.2.2 : ℤ) : ZMod C.p) = 0
  rw [h]; simp

theorem pt_inf : pt C inf = 0 := pt_of_z_zero C rfl

theorem equation_short (x y : ZMod C.p) :
    (W C).toAffine.Equation x y ↔ y ^ 2 = x ^ 3 + (C.a : ZMod C.p) * x + (C.b : ZMod C.p) := by
  rw [Affine.equation_iff]
  simp only [W, Wab]
  constructor <;> intro h <;> linear_combination h

theorem point_eqn {x y : ZMod C.p} (h : (W C).toAffine.Nonsingular x y) :
    y ^ 2 = x ^ 3 + (C.a : ZMod C.p) * x + (C.b : ZMod C.p) := (equation_short C x y).mp h.left

theorem toF_z_ne {P : JPt} (hr : Red C P) (h : P.2.2 ≠ 0) : toF C P 2 ≠ 0 := by
  show ((P.2.2 : ℤ) : ZMod C.p) ≠ 0
  intro h0
  exact h ((cast_eq_zero_iff hr.2.2.1 hr.2.2.2).mp h0)

omit [Fact C.p.Prime] in
theorem Valid.nonsingular {P : JPt} (hv : Valid C P) (h : P.2.2 ≠ 0) : (W C).Nonsingular (toF C P) := by
  rcases hv.ns with h0 | h0
  · exact absurd h0 h
  · exact h0

theorem Valid.eqn {x y z : ℤ} (hv : Valid C (x, y, z)) (h : z ≠ 0) :
    (y : ZMod C.p) ^ 2 = (x : ZMod C.p) ^ 3 + (C.a : ZMod C.p) * x * (z : ZMod C.p) ^ 4 + (C.b : ZMod C.p) * (z : ZMod C.p) ^ 6 := by
  have h1 : (Wab (C.a : ZMod C.p) (C.b : ZMod C.p)).Equation ![(x : ZMod C.p), (y : ZMod C.p), (z : ZMod C.p)] :=
    (hv.nonsingular C h).left
  exact (eqn_short _ _ _ _ _).mp h1

theorem negate_toF (P : JPt) : toF C (negate C P) = (W C).neg (toF C P) := by
  obtain ⟨x, y, z⟩ := P
  simp only [negate, toF, Jacobian.neg, negY, fin3_def_ext, cast_emod]
  simp only [W, Wab]
  push_cast
  simp

theorem red_negate {P : JPt} (hr : Red C P) : Red C (negate C P) := by
  obtain ⟨x, y, z⟩ := P
  exact ⟨hr.1, emod_range (p_pos C) _, hr.2.2⟩

theorem valid_negate {P : JPt} (hv : Valid C P) : Valid C (negate C P) := by
  refine ⟨red_negate C hv.red, ?_⟩
  rcases hv.ns with h | h
  · left; obtain ⟨x, y, z⟩ := P; exact h
  · right; rw [negate_toF]; exact nonsingular_neg h

theorem pt_negate {P : JPt} (hv : Valid C P) : pt C (negate C P) = - pt C P := by
  rcases hv.ns with h | h
  · have h' : (negate C P).2.2 = 0 := by obtain ⟨x, y, z⟩ := P; exact h
    rw [pt_of_z_zero C h, pt_of_z_zero C h', neg_zero]
  · unfold pt; rw [negate_toF]; exact Point.toAffine_neg h

theorem double_toF (x y z : ℤ) (hz : z ≠ 0) : toF C (double C (x, y, z)) = (W C).dblXYZ (toF C (x, y, z)) := by
  have hm : (((if C.a ≠ 0 then 3 * (x ^ 2 % (C.p : ℤ)) + C.a * powMod z 4 C.p else 3 * (x ^ 2 % (C.p : ℤ))) : ℤ) : ZMod C.p)
      = 3 * (x : ZMod C.p) ^ 2 + (C.a : ZMod C.p) * (z : ZMod C.p) ^ 4 := by
    split
    · push_cast [cast_emod, powMod_cast]; ring
    · rename_i h
      have : C.a = 0 := by simpa using h
      push_cast [cast_emod, this]; ring
  simp only [double, if_neg hz, toF, W, Wab, dblXYZ, dblX, dblY, dblZ, negDblY, dblU_eq, negY, fin3_def_ext]
  refine vec3_congr ?_ ?_ ?_
  all_goals push_cast [cast_emod, hm]; ring

theorem red_double (P : JPt) : Red C (double C P) := by
  obtain ⟨x, y, z⟩ := P
  by_cases hz : z = 0
  · simp only [double, if_pos hz]; exact red_inf C (p_gt_one C)
  · simp only [double, if_neg hz]
    exact ⟨emod_range (p_pos C) _, emod_range (p_pos C) _, emod_range (p_pos C) _⟩

theorem valid_double {P : JPt} (hv : Valid C P) : Valid C (double C P) := by
  refine ⟨red_double C P, ?_⟩
  obtain ⟨x, y, z⟩ := P
  by_cases hz : z = 0
  · left; simp only [double, if_pos hz]
  · right; rw [double_toF C x y z hz]; exact nonsingular_dbl (hv.nonsingular C hz)

theorem pt_double {P : JPt} (hv : Valid C P) : pt C (double C P) = pt C P + pt C P := by
  obtain ⟨x, y, z⟩ := P
  by_cases hz : z = 0
  · have : double C (x, y, z) = inf := by simp only [double, if_pos hz]; rfl
    rw [this, pt_inf, pt_of_z_zero C (P := (x, y, z)) hz, add_zero]
  · unfold pt; rw [double_toF C x y z hz]; exact toAffine_dbl (hv.nonsingular C hz)

def Rep (u : ℤ) (v : ZMod C.p) : Prop := (0 ≤ u ∧ u < C.p) ∧ (u : ZMod C.p) = v

theorem rep_emod {a : ℤ} {v : ZMod C.p} (h : (a : ZMod C.p) = v) : Rep C (a % (C.p : ℤ)) v :=
  ⟨emod_range (p_pos C) a, by rw [cast_emod, h]⟩

theorem Rep.eq_iff {u u' : ℤ} {v v' : ZMod C.p} (h : Rep C u v) (h' : Rep C u' v') : u = u' ↔ v = v' := by
  rw [← h.2, ← h'.2]
  exact ⟨fun e => by rw [e], eq_of_cast_eq h.1.1 h.1.2 h'.1.1 h'.1.2⟩

/-- the general formulas of `add` / `add_mixed` on the integers `u₁ s₁ u₂ s₂`; `zz` is the factor of `h` in the new `z` -/
def addGen (u1 s1 u2 s2 zz : ℤ) : JPt :=
  let h := u2 - u1
  let r := s2 - s1
  let h_2 := (h ^ 2) % (C.p : ℤ)
  let h_3 := (h_2 * h) % (C.p : ℤ)
  let u1_h_2 := (u1 * h_2) % (C.p : ℤ)
  let x3 := (r ^ 2 - h_3 - 2 * u1_h_2) % (C.p : ℤ)
  let y3 := (r * (u1_h_2 - x3) - s1 * h_3) % (C.p : ℤ)
  (x3, y3, (h * zz) % (C.p : ℤ))

theorem toF_addGen (u1 s1 u2 s2 zz : ℤ) :
    toF C (addGen C u1 s1 u2 s2 zz) = addCore (u1 : ZMod C.p) (s1 : ZMod C.p) (u2 : ZMod C.p) (s2 : ZMod C.p) (zz : ZMod C.p) := by
  simp only [toF, addGen, addCore]
  refine vec3_congr ?_ ?_ ?_
  all_goals push_cast [cast_emod]; ring

theorem red_addGen (u1 s1 u2 s2 zz : ℤ) : Red C (addGen C u1 s1 u2 s2 zz) :=
  ⟨emod_range (p_pos C) _, emod_range (p_pos C) _, emod_range (p_pos C) _⟩

/-- what `add` and `add_mixed` do with a finite `P` once `u₁ s₁ u₂ s₂` are formed: equal `x` (opposite points, or a
    doubling), else the general formulas -/
def addTail (P : JPt) (u1 s1 u2 s2 zz : ℤ) : JPt :=
  if u1 = u2 then
    if s1 ≠ s2 then (0, 1, 0) else double C P
  else addGen C u1 s1 u2 s2 zz

omit [Fact C.p.Prime] in
theorem addMixed_eq_addTail {x1 y1 z1 : ℤ} (x2 y2 z2 : ℤ) (h1 : z1 ≠ 0) :
    addMixed C (x1, y1, z1) (x2, y2, z2) =
      addTail C (x1, y1, z1) x1 y1 (x2 * (z1 ^ 2 % (C.p : ℤ)) % (C.p : ℤ))
        (y2 * (z1 ^ 2 % (C.p : ℤ) * z1 % (C.p : ℤ)) % (C.p : ℤ)) z1 := by
  simp only [addMixed, if_neg h1, addTail, addGen]

omit [Fact C.p.Prime] in
theorem add_eq_addTail {x1 y1 z1 x2 y2 z2 : ℤ} (h1 : z1 ≠ 0) (h2 : z2 ≠ 0) (h1' : z1 ≠ 1) (h2' : z2 ≠ 1) :
    add C (x1, y1, z1) (x2, y2, z2) =
      addTail C (x1, y1, z1) (x1 * (z2 ^ 2 % (C.p : ℤ)) % (C.p : ℤ)) (y1 * (z2 ^ 2 % (C.p : ℤ) * z2 % (C.p : ℤ)) % (C.p : ℤ))
        (x2 * (z1 ^ 2 % (C.p : ℤ)) % (C.p : ℤ)) (y2 * (z1 ^ 2 % (C.p : ℤ) * z1 % (C.p : ℤ)) % (C.p : ℤ)) (z1 * z2) := by
  simp only [add, if_neg h1, if_neg h2, if_neg h1', if_neg h2', addTail, addGen, mul_assoc]

/-- **the common tail of `add` and `add_mixed` is the group sum** of two finite points, when `u₁ s₁ u₂ s₂` are the
    reduced `x₁z₂²`, `y₁z₂³`, `x₂z₁²`, `y₂z₁³` and `zz ≡ z₁z₂`; and its result is valid -/
theorem pt_addTail {x1 y1 z1 x2 y2 z2 u1 s1 u2 s2 zz : ℤ} (hP : Valid C (x1, y1, z1)) (hQ : Valid C (x2, y2, z2))
    (h1 : z1 ≠ 0) (h2 : z2 ≠ 0)
    (hu1 : Rep C u1 ((x1 : ZMod C.p) * (z2 : ZMod C.p) ^ 2)) (hs1 : Rep C s1 ((y1 : ZMod C.p) * (z2 : ZMod C.p) ^ 3))
    (hu2 : Rep C u2 ((x2 : ZMod C.p) * (z1 : ZMod C.p) ^ 2)) (hs2 : Rep C s2 ((y2 : ZMod C.p) * (z1 : ZMod C.p) ^ 3))
    (hzz : (zz : ZMod C.p) = (z1 : ZMod C.p) * (z2 : ZMod C.p)) :
    pt C (addTail C (x1, y1, z1) u1 s1 u2 s2 zz) = pt C (x1, y1, z1) + pt C (x2, y2, z2) ∧
      Valid C (addTail C (x1, y1, z1) u1 s1 u2 s2 zz) := by
  have nP := hP.nonsingular C h1
  have nQ := hQ.nonsingular C h2
  have zP := toF_z_ne C hP.red h1
  have zQ := toF_z_ne C hQ.red h2
  unfold addTail
  by_cases hx : u1 = u2
  · have hx' := (Rep.eq_iff C hu1 hu2).mp hx
    rw [if_pos hx]
    by_cases hy : s1 = s2
    · rw [if_neg (not_not.mpr hy)]
      refine ⟨?_, valid_double C hP⟩
      unfold pt
      rw [double_toF C x1 y1 z1 h1]
      exact toAffine_same nP nQ zP zQ hx' ((Rep.eq_iff C hs1 hs2).mp hy)
    · rw [if_pos hy]
      refine ⟨?_, valid_inf C (p_gt_one C)⟩
      exact (pt_inf C).trans (toAffine_opposite nP nQ zP zQ hx' (mt (Rep.eq_iff C hs1 hs2).mpr hy)).symm
  · rw [if_neg hx]
    have hx' := mt (Rep.eq_iff C hu1 hu2).mpr hx
    have hu : IsUnit (-((z1 : ZMod C.p) * (z2 : ZMod C.p))) := (neg_ne_zero.mpr (mul_ne_zero zP zQ)).isUnit
    have hT : toF C (addGen C u1 s1 u2 s2 zz) =
        (-((z1 : ZMod C.p) * (z2 : ZMod C.p))) • (W C).addXYZ (toF C (x1, y1, z1)) (toF C (x2, y2, z2)) := by
      rw [toF_addGen, hu1.2, hs1.2, hu2.2, hs2.2, hzz]
      exact (add_short nP.left nQ.left).symm
    refine ⟨?_, red_addGen C _ _ _ _ _, Or.inr ?_⟩
    · unfold pt; rw [hT]; exact toAffine_generic nP nQ hx' hu
    · rw [hT]; exact nonsingular_generic nP nQ hx' hu

theorem pt_addMixed {P Q : JPt} (hP : Valid C P) (hQ : Valid C Q) (hz : Q.2.2 = 1) :
    pt C (addMixed C P Q) = pt C P + pt C Q ∧ Valid C (addMixed C P Q) := by
  obtain ⟨x1, y1, z1⟩ := P
  obtain ⟨x2, y2, z2⟩ := Q
  simp only at hz
  subst hz
  by_cases h1 : z1 = 0
  · simp only [addMixed, if_pos h1]
    rw [pt_of_z_zero C (P := (x1, y1, z1)) h1, zero_add]
    exact ⟨rfl, hQ⟩
  · rw [addMixed_eq_addTail C x2 y2 1 h1]
    exact pt_addTail C hP hQ h1 one_ne_zero ⟨hP.red.1, by simp⟩ ⟨hP.red.2.1, by simp⟩
      (rep_emod C (by push_cast [cast_emod]; ring)) (rep_emod C (by push_cast [cast_emod]; ring)) (by simp)

/-- **`add(P, Q)` is the group sum** (every branch: infinity on either side, the `z = 1` fast paths through
    `add_mixed`, equal `x` with equal / opposite `y`, the general formulas), and its result is valid -/
theorem pt_add {P Q : JPt} (hP : Valid C P) (hQ : Valid C Q) :
    pt C (add C P Q) = pt C P + pt C Q ∧ Valid C (add C P Q) := by
  obtain ⟨x1, y1, z1⟩ := P
  obtain ⟨x2, y2, z2⟩ := Q
  by_cases h1 : z1 = 0
  · simp only [add, if_pos h1]
    rw [pt_of_z_zero C (P := (x1, y1, z1)) h1, zero_add]
    exact ⟨rfl, hQ⟩
  by_cases h2 : z2 = 0
  · simp only [add, if_neg h1, if_pos h2]
    rw [pt_of_z_zero C (P := (x2, y2, z2)) h2, add_zero]
    exact ⟨rfl, hP⟩
  by_cases h1' : z1 = 1
  · simp only [add, if_neg h1, if_neg h2, if_pos h1']
    obtain ⟨g1, g2⟩ := pt_addMixed C hQ hP h1'
    exact ⟨by rw [g1, add_comm], g2⟩
  by_cases h2' : z2 = 1
  · simp only [add, if_neg h1, if_neg h2, if_neg h1', if_pos h2']
    exact pt_addMixed C hP hQ h2'
  rw [add_eq_addTail C h1 h2 h1' h2']
  exact pt_addTail C hP hQ h1 h2 (rep_emod C (by push_cast [cast_emod]; ring)) (rep_emod C (by push_cast [cast_emod]; ring))
    (rep_emod C (by push_cast [cast_emod]; ring)) (rep_emod C (by push_cast [cast_emod]; ring)) (Int.cast_mul z1 z2)

end Embit.Model.PyCurve
