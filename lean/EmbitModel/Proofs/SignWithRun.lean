import EmbitModel.Model.SignWithView
import EmbitModel.Proofs.SignWithComplete
/-
  A call of `sign_with`, in memory or over a stream, is a sequence of cells: a key of the signer signs one input with
  `signInput`, the digests taken over the PSBT as it stands, `seen` the slots of that input filed so far. `Run` says
  this; trace discipline, justification and completeness are each one induction over `Run`, and the loops of the
  in-memory model are runs whose cells are listed key by key (Mathlib-free).
-/
namespace Embit.Model.SignWith
open Embit Embit.Model

variable {HD : Type}

/-- `Run O auth keys G p p' n ws cs`: from PSBT `p` (slots filed before: `G`) the cells `cs` (key, input), in this
    order, lead to `p'`, add `n` to the counter and perform the writes `ws` -/
inductive Run (O : Ops HD) (auth : Option Nat) (keys : List (Single HD)) :
    List (Nat × Slot) → Psbt → Psbt → Nat → List Write → List (Single HD × Nat) → Prop
  | nil (G : List (Nat × Slot)) (p : Psbt) : Run O auth keys G p p 0 [] []
  | cell {G : List (Nat × Slot)} {p p' : Psbt} {sg : Single HD} {i : Nat} {s s1 : InScope} {k1 k2 : Nat}
      {w1 : List (Slot × Bytes)} {w2 : List Write} {cs : List (Single HD × Nat)} (hsg : sg ∈ keys)
      (hs : p.inputs[i]? = some s)
      (h1 : signInput O sg auth (dgOf O p i) (slotsOf G i) s = some (s1, k1, w1))
      (rest : Run O auth keys (G ++ w1.map (fun w => (i, w.1))) (Psbt.setInput p i s1) p' k2 w2 cs) :
      Run O auth keys G p p' (k1 + k2) (w1.map (fun w => (i, w)) ++ w2) ((sg, i) :: cs)

section Runs
variable {O : Ops HD} {auth : Option Nat} {keys ks : List (Single HD)} {G : List (Nat × Slot)} {p p1 p' : Psbt}
  {n n1 n2 : Nat} {ws w1 w2 : List Write} {cs c1 c2 : List (Single HD × Nat)} {sg : Single HD} {idxs : List Nat}

theorem Run.append (r1 : Run O auth keys G p p1 n1 w1 c1)
    (r2 : Run O auth keys (G ++ w1.map Write.slot) p1 p' n2 w2 c2) :
    Run O auth keys G p p' (n1 + n2) (w1 ++ w2) (c1 ++ c2) := by
  induction r1 with
  | nil => simpa using r2
  | cell hsg hs h1 _ ih =>
    rw [List.map_append, slots_of_input, ← List.append_assoc] at r2
    simpa [Nat.add_assoc] using Run.cell hsg hs h1 (ih r2)

theorem Run.ptr (r : Run O auth keys G p p' n ws cs) : PTr G p p' n ws := by
  induction r with
  | nil => exact PTr.refl _ _
  | cell _ hs h1 _ ih =>
    exact PTr.trans (PTr.ofInput hs (signInput_tr _ _ _ _ _ _ _ _ _ h1)) (by rw [slots_of_input]; exact ih)

theorem Run.just (OL : OrderLaws O) (r : Run O auth keys G p p' n ws cs) :
    ∀ w ∈ ws, ∃ sg ∈ keys, JustifiedAt O sg auth p w := by
  induction r with
  | nil => exact fun w hw => nomatch hw
  | @cell G p p' sg i s s1 k1 k2 w1 w2 cs hsg hs h1 _ ih =>
    intro w hw
    rcases List.mem_append.mp hw with hw | hw
    · obtain ⟨w', hw', rfl⟩ := List.mem_map.mp hw
      obtain ⟨u, hu, _⟩ := signInput_some h1
      obtain ⟨f, hpol, hj⟩ := signInput_just O OL sg auth _ s u (dgOf_frame O hs) hu _ s1 k1 w1 h1 w' hw'
      exact ⟨sg, hsg, s, u, f, hs, hu, hpol, hj.digest (dgOf_self O hs)⟩
    · obtain ⟨sg', hsg', hj⟩ := ih w hw
      exact ⟨sg', hsg', hj.pcore (pcore_setInput p i s s1 hs (signInput_tr _ _ _ _ _ _ _ _ _ h1).core)⟩

theorem Run.complete (OL : OrderLaws O) (r : Run O auth keys G p p' n ws cs) :
    ∀ c ∈ cs, ∀ s u f, p.inputs[c.2]? = some s → s.utxo = some u →
      signPolicy auth s.sighashType (isTaprootSpk u.spk) = some f →
      ∃ s', p'.inputs[c.2]? = some s' ∧ InputDone O c.1 s u s' := by
  induction r with
  | nil => exact fun c hc => nomatch hc
  | @cell G p p' sg i sj sj' k1 k2 w1 w2 cs hsg hsj h1 rest ih =>
    intro c hc s u f hs hu hpol
    rcases List.mem_cons.mp hc with rfl | hc
    · obtain rfl : sj = s := Option.some.inj (hsj.symm.trans hs)
      rw [rest.ptr.app]
      exact inputDone_applyWrites (setInput_get p i sj sj' hsj)
        (signInput_complete O OL sg auth _ sj u hu f hpol _ sj' k1 w1 h1) w2
    · obtain ⟨t, ht, hct⟩ :=
        pcore_get (pcore_setInput p i sj sj' hsj (signInput_tr _ _ _ _ _ _ _ _ _ h1).core).symm c.2 s hs
      have hf := core_fields hct
      obtain ⟨s', hs', hd⟩ := ih c hc t u f ht (hf.1 ▸ hu) (hf.2.2.2.2.2.2.2 ▸ hpol)
      exact ⟨s', hs', hd.core hct.symm⟩

theorem signInputs_run (hsg : sg ∈ keys) (h : signInputs O sg auth idxs G p = some (p', n, ws)) :
    Run O auth keys G p p' n ws (idxs.map (sg, ·)) := by
  induction idxs generalizing G p n ws with
  | nil => cases h; exact .nil _ _
  | cons i r ih =>
    obtain ⟨s, s1, k1, w1, k2, w2, hs, h1, h2, rfl, rfl⟩ := signInputs_cons_some h
    exact .cell hsg hs h1 (ih h2)

theorem isPrivate_false {k : Single HD} (h : k.isPrivate = false) : k = .keyPub := by
  cases k <;> simp [Single.isPrivate] at h ⊢

theorem signSingle_run (hsg : sg ∈ keys) (h : signSingle O sg auth G p = some (p', n, ws)) :
    Run O auth keys G p p' n ws (if sg.isPrivate then (List.range p.inputs.length).map (sg, ·) else []) := by
  rcases signSingle_some h with ⟨rfl, rfl, rfl, rfl⟩ | ⟨hne, h⟩
  · exact .nil _ _
  · rw [if_pos (eq_true_of_ne_false (mt isPrivate_false hne))]
    exact signInputs_run hsg h

theorem signKeys_run (hks : ∀ k ∈ ks, k ∈ keys) (h : signKeys O auth ks G p = some (p', n, ws)) :
    Run O auth keys G p p' n ws
      (ks.flatMap fun sg => if sg.isPrivate then (List.range p.inputs.length).map (sg, ·) else []) := by
  induction ks generalizing G p n ws with
  | nil => cases h; exact .nil _ _
  | cons k r ih =>
    obtain ⟨p1, n1, w1, n2, w2, h1, h2, rfl, rfl⟩ := signKeys_cons_some h
    have r1 := signSingle_run (hks k List.mem_cons_self) h1
    have r2 := ih (fun k hk => hks k (List.mem_cons_of_mem _ hk)) h2
    rw [pcore_inputs_length r1.ptr.pcore] at r2
    exact r1.append r2

end Runs

theorem signWith_run (O : Ops HD) (signer : Signer HD) (auth : Option Nat) (p p' : Psbt) (n : Nat)
    (ws : List Write) (h : signWith O signer auth p = some (p', n, ws)) :
    Run O auth signer.keys [] p p' n ws
      (signer.keys.flatMap fun sg => if sg.isPrivate then (List.range p.inputs.length).map (sg, ·) else []) :=
  signKeys_run (fun _ hk => hk) (signWith_eq_signKeys O signer auth p ▸ h)

theorem signWith_tr (O : Ops HD) (signer : Signer HD) (auth : Option Nat) (p p' : Psbt) (n : Nat)
    (ws : List Write) (h : signWith O signer auth p = some (p', n, ws)) : PTr [] p p' n ws :=
  (signWith_run O signer auth p p' n ws h).ptr

theorem signWith_just (O : Ops HD) (OL : OrderLaws O) (signer : Signer HD) (auth : Option Nat) (p p' : Psbt)
    (n : Nat) (ws : List Write) (h : signWith O signer auth p = some (p', n, ws)) :
    ∀ w ∈ ws, ∃ sg ∈ signer.keys, JustifiedAt O sg auth p w :=
  (signWith_run O signer auth p p' n ws h).just OL

theorem signWith_complete (O : Ops HD) (OL : OrderLaws O) (signer : Signer HD) (auth : Option Nat) (p p' : Psbt)
    (n : Nat) (ws : List Write) (h : signWith O signer auth p = some (p', n, ws)) :
    ∀ sg ∈ signer.keys, sg ≠ .keyPub → ∀ (i : Nat) s u f, p.inputs[i]? = some s → s.utxo = some u →
      signPolicy auth s.sighashType (isTaprootSpk u.spk) = some f →
      ∃ s', p'.inputs[i]? = some s' ∧ InputDone O sg s u s' := by
  intro sg hsg hne i s u f hs hu hpol
  refine (signWith_run O signer auth p p' n ws h).complete OL (sg, i) (List.mem_flatMap.mpr ⟨sg, hsg, ?_⟩)
    s u f hs hu hpol
  rw [if_pos (eq_true_of_ne_false (mt isPrivate_false hne))]
  exact List.mem_map.mpr ⟨i, List.mem_range.mpr (List.getElem?_eq_some_iff.mp hs).1, rfl⟩

end Embit.Model.SignWith
