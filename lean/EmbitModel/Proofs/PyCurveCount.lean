import EmbitModel.Proofs.PyCurveOps
import Mathlib.SetTheory.Cardinal.Finite
import Mathlib.Data.Finset.Option
/-
  `CardEq C n` ("the curve group has exactly n elements", `Nat.card` of Mathlib's point type) is the same as the
  executable count `pointCount C = n` (run `on_curve` on all `p²` reduced pairs, add one for infinity): the
  hypothesis is a decidable-in-principle fact about the code, and for a toy modulus it is decided by evaluation.
-/
namespace Embit.Model.PyCurve
open WeierstrassCurve

variable (C : Curve) [Fact C.p.Prime]

def canonSet : Finset (Option (ℕ × ℕ)) :=
  Finset.insertNone ((Finset.range C.p ×ˢ Finset.range C.p).filter fun xy => onCurve C ((xy.1 : ℤ), (xy.2 : ℤ), 1))

theorem mem_canonSet (hs : Smooth C) (q : Option (ℕ × ℕ)) : q ∈ canonSet C ↔ Valid C (toJ q) := by
  cases q with
  | none =>
    simp only [canonSet, Finset.none_mem_insertNone, true_iff, toJ]
    exact valid_inf C (p_gt_one C)
  | some xy =>
    simp only [canonSet, Finset.some_mem_insertNone, Finset.mem_filter, Finset.mem_product, Finset.mem_range, toJ]
    exact (valid_nat_iff C hs xy.1 xy.2).symm

theorem sum_range_list (n : ℕ) (f : ℕ → ℕ) : ∑ x ∈ Finset.range n, f x = ((List.range n).map f).sum := by
  induction n with
  | zero => simp
  | succ k ih => rw [Finset.sum_range_succ, ih, List.range_succ]; simp

theorem card_filter_range_list (n : ℕ) (q : ℕ → Bool) :
    ((Finset.range n).filter fun y => q y = true).card = ((List.range n).filter q).length := by
  induction n with
  | zero => simp
  | succ k ih =>
    rw [Finset.range_add_one, Finset.filter_insert, List.range_succ, List.filter_append, List.length_append, ← ih]
    by_cases h : q k = true
    · rw [if_pos h, Finset.card_insert_of_notMem (by simp)]
      simp [h]
    · rw [if_neg h]
      simp [h]

omit [Fact C.p.Prime] in
theorem card_canonSet : (canonSet C).card = pointCount C := by
  unfold canonSet pointCount
  rw [Finset.card_insertNone, Finset.card_filter, Finset.sum_product, ← sum_range_list]
  congr 1
  apply Finset.sum_congr rfl
  intro x _
  rw [← card_filter_range_list, Finset.card_filter]
  rfl

theorem card_eq_pointCount (hs : Smooth C) : Nat.card (W C).toAffine.Point = pointCount C := by
  have e1 : (W C).toAffine.Point ≃ APt C :=
    (Equiv.ofBijective (ι C) ⟨ι_injective C, ι_surjective C hs⟩).symm
  have e2 : APt C ≃ {q // q ∈ canonSet C} := Equiv.subtypeEquivRight fun q => (mem_canonSet C hs q).symm
  rw [Nat.card_congr (e1.trans e2), Nat.card_eq_fintype_card, Fintype.card_coe, card_canonSet]

theorem cardEq_iff (hs : Smooth C) (n : ℕ) : CardEq C n ↔ pointCount C = n := by
  unfold CardEq; rw [card_eq_pointCount C hs]

/-- `CardEq` from ANY bound `#E < 2n` (e.g. Hasse's `#E ≤ p + 1 + 2√p` when `n` is close to `p`): the order `n` of
    `G` divides the number of points, which is positive -/
theorem cardEq_of_lt {n : ℕ} {g : APt C} (hp : Params C n g) (h : Nat.card (W C).toAffine.Point < 2 * n) :
    CardEq C n := by
  have hpos : Nat.card (W C).toAffine.Point ≠ 0 := by
    rw [card_eq_pointCount C hp.smooth]; unfold pointCount; omega
  exact Nat.eq_of_dvd_of_lt_two_mul hpos (n_dvd_card C hp) h

/-! ### the Jacobian pipelines of py_secp256k1.py against the record

  `Model/PySecp.lean` writes `E.add (E.mul u1 E.g) (E.mul u2 P)` etc. over the abstract record; the real code keeps
  Jacobian tuples between the steps and normalises once, at the end. With `E = pyEcOps` both give the same
  coordinates. -/

theorem affineXY_of_ι {J : JPt} (hv : Valid C J) (R : APt C) (h : pt C J = ι C R) : affineXY C J = some (eXY C R) := by
  rw [affineXY_congr C hv R.2 h, eXY, affineXY_eq C R.2]
  rfl

section pipelines
variable {n : ℕ} {g : APt C} (hp : Params C n g)
include hp

/-- `ECKey.get_pubkey` + `get_bytes`: `affine(mul([(G, d)]))` -/
theorem pipeline_create (d : ℕ) (hd : d < 2 ^ 256) :
    affineXY C (mul C [(toJ g.1, d)]) = some ((pyEcOps C n g).xy ((pyEcOps C n g).mul d g)) := by
  refine affineXY_of_ι C (valid_mul C _ (by simpa using g.2)) (eMul C n d g) ?_
  rw [ι_mul_g C hp, pt_mul_single C g.2 d hd]
  rfl

/-- `verify_ecdsa` / `verify_schnorr` / `ec_pubkey_add`: `affine(mul([(G, a), (P, b)]))` (Shamir's trick) is
    the `a·G + b·P` of the record, for any point `P` killed by `n` -/
theorem pipeline_two_scalars (P : APt C) (hP : n • ι C P = 0) (a b : ℕ) (ha : a < 2 ^ 256) (hb : b < 2 ^ 256) :
    affineXY C (mul C [(toJ g.1, a), (toJ P.1, b)]) =
      some ((pyEcOps C n g).xy ((pyEcOps C n g).add ((pyEcOps C n g).mul a g) ((pyEcOps C n g).mul b P))) := by
  have hv : Valid C (mul C [(toJ g.1, a), (toJ P.1, b)]) := valid_mul C _ (by
    intro pn h
    simp only [List.mem_cons, List.not_mem_nil, or_false] at h
    rcases h with rfl | rfl
    · exact g.2
    · exact P.2)
  refine affineXY_of_ι C hv (eAdd C (eMul C n a g) (eMul C n b P)) ?_
  rw [ι_add, ι_mul_g C hp, ι_mul C hp b P hP, pt_mul_pair C g.2 P.2 a b ha hb]
  rfl

/-- `ecdsa_recover`: `affine(add(mul([(R, u1)]), negate(mul([(G, u2)]))))` -/
theorem pipeline_recover (R : APt C) (hR : n • ι C R = 0) (u1 u2 : ℕ) (h1 : u1 < 2 ^ 256) (h2 : u2 < 2 ^ 256) :
    affineXY C (add C (mul C [(toJ R.1, u1)]) (negate C (mul C [(toJ g.1, u2)]))) =
      some ((pyEcOps C n g).xy ((pyEcOps C n g).add ((pyEcOps C n g).mul u1 R)
        ((pyEcOps C n g).neg ((pyEcOps C n g).mul u2 g)))) := by
  have hv1 : Valid C (mul C [(toJ R.1, u1)]) := valid_mul C _ (by simpa using R.2)
  have hv2 : Valid C (mul C [(toJ g.1, u2)]) := valid_mul C _ (by simpa using g.2)
  obtain ⟨ha, hva⟩ := pt_add C hv1 (valid_negate C hv2)
  refine affineXY_of_ι C hva (eAdd C (eMul C n u1 R) (eNeg C (eMul C n u2 g))) ?_
  rw [ι_add, ι_neg, ι_mul_g C hp, ι_mul C hp u1 R hR, ha, pt_negate C hv2,
    pt_mul_single C R.2 u1 h1, pt_mul_single C g.2 u2 h2]
  rfl

end pipelines

end Embit.Model.PyCurve
