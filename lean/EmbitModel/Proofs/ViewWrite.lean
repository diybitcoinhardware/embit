import EmbitModel.Model.ViewWrite
import EmbitModel.Proofs.ViewFrame
/-
  C05Y helpers: `View.writeToL` over a view that presents a parsed PSBT (`ViewOf`) writes the original global
  scope followed by the scopes of the PSBT merged and compressed in memory; the one-stream `View.writeTo` of
  Model/View.lean is the special case of `View.writeToL`.
-/
set_option linter.unusedSimpArgs false
set_option linter.unusedVariables false
namespace Embit
open Model Props.C05X

theorem updateInFrom_toList (ko : KeyOps) (sha : Bytes → Bytes) (s : InScope) (e : Option Bytes) :
    (match extraIn ko sha e with
      | some (x, e') => some ((match x with | some o => s.update o | none => s), e'.toList)
      | none => none) = updateInFrom ko sha s e.toList := by
  cases e with
  | none => simp [extraIn, updateInFrom]
  | some e =>
    simp only [extraIn, Option.toList_some, updateInFrom]
    cases readKVs e with
    | none => rfl
    | some r =>
      obtain ⟨kvs, rest⟩ := r
      simp only []
      cases InScope.addPairs ko sha 0 {} kvs with
      | none => rfl
      | some o => simp [updateInFrom]

theorem updateOutFrom_toList (ko : KeyOps) (s : OutScope) (e : Option Bytes) :
    (match extraOut ko e with
      | some (x, e') => some ((match x with | some o => s.update o | none => s), e'.toList)
      | none => none) = updateOutFrom ko s e.toList := by
  cases e with
  | none => simp [extraOut, updateOutFrom]
  | some e =>
    simp only [extraOut, Option.toList_some, updateOutFrom]
    cases readKVs e with
    | none => rfl
    | some r =>
      obtain ⟨kvs, rest⟩ := r
      simp only []
      cases OutScope.addPairs ko {} kvs with
      | none => rfl
      | some o => simp [updateOutFrom]

theorem writeTo_ins_eq (ko : KeyOps) (sha : Bytes → Bytes) (buf : Bytes) (v : View) (vc cm : Nat) :
    ∀ (n i : Nat) (e : Option Bytes),
      (View.writeTo.ins ko sha buf v vc cm n i e).map Prod.fst
        = View.writeToL.ins ko sha buf v vc cm n i e.toList := by
  intro n
  induction n with
  | zero => intro i e; simp [View.writeTo.ins, View.writeToL.ins]
  | succ n ih =>
    intro i e
    simp only [View.writeTo.ins, View.writeToL.ins]
    cases hin : View.input ko sha buf v i vc with
    | none => simp
    | some s =>
      simp only []
      rw [← updateInFrom_toList ko sha s e]
      cases hx : extraIn ko sha e with
      | none => simp
      | some r =>
        obtain ⟨x, e'⟩ := r
        simp only []
        rw [← ih (i+1) e']
        cases View.writeTo.ins ko sha buf v vc cm n (i+1) e' with
        | none => simp
        | some r2 =>
          obtain ⟨rest, e''⟩ := r2
          cases x <;> simp [InScope.compressed]

theorem writeTo_outs_eq (ko : KeyOps) (buf : Bytes) (v : View) (cm : Nat) :
    ∀ (n j : Nat) (e : Option Bytes),
      View.writeTo.outs ko buf v cm n j e = View.writeToL.outs ko buf v cm n j e.toList := by
  intro n
  induction n with
  | zero => intro j e; simp [View.writeTo.outs, View.writeToL.outs]
  | succ n ih =>
    intro j e
    simp only [View.writeTo.outs, View.writeToL.outs]
    cases hout : View.output ko buf v j with
    | none => simp
    | some s =>
      simp only []
      rw [← updateOutFrom_toList ko s e]
      cases hx : extraOut ko e with
      | none => simp
      | some r =>
        obtain ⟨x, e'⟩ := r
        simp only []
        rw [← ih (j+1) e']
        cases View.writeTo.outs ko buf v cm n (j+1) e' with
        | none => simp
        | some rest => cases x <;> simp [OutScope.compressed]

/-- `View.writeTo` (Model/View.lean, the function behind the `view.write` correspondence op) is `View.writeToL`
    with zero or one extra stream of each kind -/
theorem View.writeTo_eq_writeToL (ko : KeyOps) (sha : Bytes → Bytes) (buf : Bytes) (v : View) (vc cm : Nat)
    (ei eo : Option Bytes) :
    View.writeTo ko sha buf v vc cm ei eo = View.writeToL ko sha buf v vc cm ei.toList eo.toList := by
  unfold View.writeTo View.writeToL
  simp only []
  rw [← writeTo_ins_eq ko sha buf v vc cm v.numIn 0 ei, writeTo_outs_eq ko buf v cm v.numOut 0 eo]
  cases View.writeTo.ins ko sha buf v vc cm v.numIn 0 ei with
  | none => simp
  | some r =>
    obtain ⟨ib, e'⟩ := r
    simp only [Option.map_some]
    cases View.writeToL.outs ko buf v cm v.numOut 0 eo.toList <;> rfl

theorem writeToL_ins_spec (ko : KeyOps) (sha : Bytes → Bytes) (buf : Bytes) (v : View) (vc cm : Nat)
    (inputs : List InScope) (hin : ∀ i, View.input ko sha buf v i vc = inputs[i]?) :
    ∀ (n i : Nat) (es : List Bytes), i + n = inputs.length →
      View.writeToL.ins ko sha buf v vc cm n i es
        = (mergeIns ko sha cm (inputs.drop i) es).map fun l => l.flatMap fun s => writeKVs (s.pairs v.version) := by
  intro n
  induction n with
  | zero =>
    intro i es h
    have : inputs.drop i = [] := List.drop_eq_nil_of_le (by omega)
    simp [View.writeToL.ins, this, mergeIns]
  | succ n ih =>
    intro i es h
    have hi : i < inputs.length := by omega
    have hd : inputs.drop i = inputs[i] :: inputs.drop (i+1) := List.drop_eq_getElem_cons hi
    simp only [View.writeToL.ins, hin i, List.getElem?_eq_getElem hi, hd, mergeIns]
    cases updateInFrom ko sha inputs[i] es with
    | none => rfl
    | some r =>
      obtain ⟨s1, es'⟩ := r
      simp only []
      rw [ih (i+1) es' (by omega)]
      cases mergeIns ko sha cm (inputs.drop (i+1)) es' with
      | none => rfl
      | some l => simp

theorem writeToL_outs_spec (ko : KeyOps) (buf : Bytes) (v : View) (cm : Nat)
    (outputs : List OutScope) (hout : ∀ j, View.output ko buf v j = outputs[j]?) :
    ∀ (n j : Nat) (es : List Bytes), j + n = outputs.length →
      View.writeToL.outs ko buf v cm n j es
        = (mergeOuts ko cm (outputs.drop j) es).map fun l => l.flatMap fun s => writeKVs (s.pairs v.version) := by
  intro n
  induction n with
  | zero =>
    intro j es h
    have : outputs.drop j = [] := List.drop_eq_nil_of_le (by omega)
    simp [View.writeToL.outs, this, mergeOuts]
  | succ n ih =>
    intro j es h
    have hj : j < outputs.length := by omega
    have hd : outputs.drop j = outputs[j] :: outputs.drop (j+1) := List.drop_eq_getElem_cons hj
    simp only [View.writeToL.outs, hout j, List.getElem?_eq_getElem hj, hd, mergeOuts]
    cases updateOutFrom ko outputs[j] es with
    | none => rfl
    | some r =>
      obtain ⟨s1, es'⟩ := r
      simp only []
      rw [ih (j+1) es' (by omega)]
      cases mergeOuts ko cm (outputs.drop (j+1)) es' with
      | none => rfl
      | some l => simp

/-- a property of an input scope that survives `update` with any scope read from a stream survives the inner loop
    over the extra streams -/
theorem updateInFrom_inv (ko : KeyOps) (sha : Bytes → Bytes) (P : InScope → Prop)
    (hP : ∀ s kvs o, P s → (∀ kv ∈ kvs, KVWF kv) → InScope.addPairs ko sha 0 {} kvs = some o → P (s.update o)) :
    ∀ (es : List Bytes) (s s1 : InScope) (es' : List Bytes),
      P s → updateInFrom ko sha s es = some (s1, es') → P s1 := by
  intro es
  induction es with
  | nil => intro s s1 es' hc h; simp [updateInFrom] at h; rw [← h.1]; exact hc
  | cons e es ih =>
    intro s s1 es' hc h
    simp only [updateInFrom] at h
    split at h
    · simp at h
    rename_i kvs r hk
    split at h
    · simp at h
    rename_i o ho
    split at h
    · simp at h
    rename_i s' rs hrec
    simp at h
    rw [← h.1]
    exact ih _ _ _ (hP s kvs o hc (readKVs_sound hk).2 ho) hrec

theorem updateOutFrom_inv (ko : KeyOps) (P : OutScope → Prop)
    (hP : ∀ s kvs o, P s → (∀ kv ∈ kvs, KVWF kv) → OutScope.addPairs ko {} kvs = some o → P (s.update o)) :
    ∀ (es : List Bytes) (s s1 : OutScope) (es' : List Bytes),
      P s → updateOutFrom ko s es = some (s1, es') → P s1 := by
  intro es
  induction es with
  | nil => intro s s1 es' hc h; simp [updateOutFrom] at h; rw [← h.1]; exact hc
  | cons e es ih =>
    intro s s1 es' hc h
    simp only [updateOutFrom] at h
    split at h
    · simp at h
    rename_i kvs r hk
    split at h
    · simp at h
    rename_i o ho
    split at h
    · simp at h
    rename_i s' rs hrec
    simp at h
    rw [← h.1]
    exact ih _ _ _ (hP s kvs o hc (readKVs_sound hk).2 ho) hrec

/-- a property that also survives the compression choice survives the in-memory merge of a whole list of scopes,
    which keeps the number of scopes -/
theorem mergeIns_inv (ko : KeyOps) (sha : Bytes → Bytes) (cm : Nat) (P : InScope → Prop)
    (hP : ∀ s kvs o, P s → (∀ kv ∈ kvs, KVWF kv) → InScope.addPairs ko sha 0 {} kvs = some o → P (s.update o))
    (hC : ∀ s, P s → P (s.compressed cm)) :
    ∀ (l : List InScope) (es : List Bytes) (r : List InScope), (∀ s ∈ l, P s) →
      mergeIns ko sha cm l es = some r → r.length = l.length ∧ ∀ s ∈ r, P s := by
  intro l
  induction l with
  | nil => intro es r _ h; simp [mergeIns] at h; subst h; simp
  | cons s ss ih =>
    intro es r hc h
    simp only [mergeIns] at h
    split at h
    · simp at h
    rename_i s1 es' h1
    split at h
    · simp at h
    rename_i r' hr
    simp at h; subst h
    obtain ⟨l1, c1⟩ := ih es' r' (fun x hx => hc x (by simp [hx])) hr
    refine ⟨by simp [l1], ?_⟩
    intro x hx
    rcases List.mem_cons.mp hx with rfl | hx
    · exact hC s1 (updateInFrom_inv ko sha P hP es s s1 es' (hc s (by simp)) h1)
    · exact c1 x hx

theorem mergeOuts_inv (ko : KeyOps) (cm : Nat) (P : OutScope → Prop)
    (hP : ∀ s kvs o, P s → (∀ kv ∈ kvs, KVWF kv) → OutScope.addPairs ko {} kvs = some o → P (s.update o))
    (hC : ∀ s, P s → P (s.compressed cm)) :
    ∀ (l : List OutScope) (es : List Bytes) (r : List OutScope), (∀ s ∈ l, P s) →
      mergeOuts ko cm l es = some r → r.length = l.length ∧ ∀ s ∈ r, P s := by
  intro l
  induction l with
  | nil => intro es r _ h; simp [mergeOuts] at h; subst h; simp
  | cons s ss ih =>
    intro es r hc h
    simp only [mergeOuts] at h
    split at h
    · simp at h
    rename_i s1 es' h1
    split at h
    · simp at h
    rename_i r' hr
    simp at h; subst h
    obtain ⟨l1, c1⟩ := ih es' r' (fun x hx => hc x (by simp [hx])) hr
    refine ⟨by simp [l1], ?_⟩
    intro x hx
    rcases List.mem_cons.mp hx with rfl | hx
    · exact hC s1 (updateOutFrom_inv ko P hP es s s1 es' (hc s (by simp)) h1)
    · exact c1 x hx

theorem mergeIns_length (ko : KeyOps) (sha : Bytes → Bytes) (cm : Nat) (l : List InScope) (es : List Bytes)
    (r : List InScope) (h : mergeIns ko sha cm l es = some r) : r.length = l.length :=
  (mergeIns_inv ko sha cm (fun _ => True) (fun _ _ _ _ _ _ => trivial) (fun _ _ => trivial) l es r
    (fun _ _ => trivial) h).1

theorem mergeOuts_length (ko : KeyOps) (cm : Nat) (l : List OutScope) (es : List Bytes)
    (r : List OutScope) (h : mergeOuts ko cm l es = some r) : r.length = l.length :=
  (mergeOuts_inv ko cm (fun _ => True) (fun _ _ _ _ _ _ => trivial) (fun _ _ => trivial) l es r
    (fun _ _ => trivial) h).1

/-- the global scope the view copies verbatim -/
theorem ViewOf.globalBytes {ko : KeyOps} {sha : Bytes → Bytes} {c : Nat} {pre post b : Bytes} {p : Psbt} {v : View}
    (vo : ViewOf ko sha c pre post b p v) :
    readAt (pre ++ (b ++ post)) v.offset (v.firstScope - v.offset) = psbtMagic ++ writeKVs (globalKVs b) := by
  rw [vo.offset, vo.firstScope]
  have hn : pre.length + (5 + (writeKVs (globalKVs b)).length) - pre.length = 5 + (writeKVs (globalKVs b)).length := by
    omega
  rw [hn, readAt, List.drop_left]
  have hle : 5 + (writeKVs (globalKVs b)).length ≤ b.length := by
    have := congrArg List.length vo.global
    simp only [List.length_take, List.length_append] at this
    have h5 : psbtMagic.length = 5 := rfl
    omega
  rw [List.take_append_of_le_length hle]
  exact vo.global

/-- `PSBTView.write_to` over a view that presents the parsed PSBT `p`: the original global scope, then the scopes
    of `p` merged with the extra streams and compressed in memory — or a refusal exactly when the in-memory
    procedure refuses -/
theorem ViewOf.writeToL {ko : KeyOps} {sha : Bytes → Bytes} {c : Nat} {pre post b : Bytes} {p : Psbt} {v : View}
    (vo : ViewOf ko sha c pre post b p v) (cm : Nat) (ei eo : List Bytes) :
    View.writeToL ko sha (pre ++ (b ++ post)) v c cm ei eo
      = (Psbt.mergeExtra ko sha cm ei eo p).map fun p' => psbtMagic ++ writeKVs (globalKVs b) ++ p'.scopeBytes := by
  unfold View.writeToL
  simp only []
  rw [vo.globalBytes, vo.numIn, vo.numOut,
    writeToL_ins_spec ko sha _ v c cm p.inputs vo.input p.inputs.length 0 ei (by omega),
    writeToL_outs_spec ko _ v cm p.outputs vo.output p.outputs.length 0 eo (by omega)]
  simp only [List.drop_zero, Psbt.mergeExtra, vo.version]
  cases mergeIns ko sha cm p.inputs ei with
  | none => rfl
  | some li =>
    cases mergeOuts ko cm p.outputs eo with
    | none => rfl
    | some lo => simp [Psbt.scopeBytes, List.append_assoc]

end Embit
