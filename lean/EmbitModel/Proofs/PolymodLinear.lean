import EmbitModel.Proofs.Digits
import EmbitModel.Proofs.BasicBits
/-
  The checksum step of the bech32 family, generic in the width `w` of a symbol and the number `k` of register bits
  that are kept: the low `k` bits move up by one symbol, the new symbol is XOR-ed in, and the bits above `k` choose an
  XOR of generators through `sel`. bech32 has `w = 5, k = 25` (30-bit register, six checksum symbols), blech32
  `w = 5, k = 55`, the descriptor checksum `w = 5, k = 35`, RS1024 of SLIP-39 `w = 10, k = 20`.
  All on `Nat` with `^^^`; what is used of `sel` is that it is XOR-linear and stays inside the register.
-/
namespace Embit.Polymod
open Embit.Digits

def step (w k : Nat) (sel : Nat → Nat) (c v : Nat) : Nat := ((c &&& (2 ^ k - 1)) <<< w) ^^^ v ^^^ sel (c >>> k)

structure Sel (w k : Nat) (sel : Nat → Nat) : Prop where
  xor : ∀ s t, sel (s ^^^ t) = sel s ^^^ sel t
  lt : ∀ t, sel t < 2 ^ (k + w)

variable {w k : Nat} {sel : Nat → Nat}

theorem Sel.zero (h : Sel w k sel) : sel 0 = 0 := by simpa using h.xor 0 0

theorem step_xor (h : Sel w k sel) (a b v x : Nat) :
    step w k sel (a ^^^ b) (v ^^^ x) = step w k sel a v ^^^ step w k sel b x := by
  simp only [step, Nat.shiftRight_xor_distrib, Nat.and_xor_distrib_right, Nat.shiftLeft_xor_distrib, h.xor]
  ac_rfl

theorem foldl_step_xor (h : Sel w k sel) (vs ws : List Nat) (hl : vs.length = ws.length) (a b : Nat) :
    (List.zipWith (· ^^^ ·) vs ws).foldl (step w k sel) (a ^^^ b)
      = vs.foldl (step w k sel) a ^^^ ws.foldl (step w k sel) b := by
  induction vs generalizing ws a b with
  | nil => cases ws with
    | nil => rfl
    | cons _ _ => simp at hl
  | cons v vs ih => cases ws with
    | nil => simp at hl
    | cons x ws =>
      simp only [List.zipWith_cons_cons, List.foldl_cons, step_xor h]
      exact ih ws (by simpa using hl) _ _

/-- choosing a generator by bit `i` of the selector is XOR-linear in the selector -/
theorem ite_bit_xor (a b i g : Nat) :
    (if ((a ^^^ b) >>> i) &&& 1 = 1 then g else 0)
      = (if (a >>> i) &&& 1 = 1 then g else 0) ^^^ (if (b >>> i) &&& 1 = 1 then g else 0) := by
  rw [Nat.shiftRight_xor_distrib, Nat.and_xor_distrib_right]
  have ha : (a >>> i) &&& 1 = 0 ∨ (a >>> i) &&& 1 = 1 := by rw [Nat.and_one_is_mod]; omega
  have hb : (b >>> i) &&& 1 = 0 ∨ (b >>> i) &&& 1 = 1 := by rw [Nat.and_one_is_mod]; omega
  rcases ha with ha | ha <;> rcases hb with hb | hb <;> simp [ha, hb]

theorem zipWith_xor_zeros (c : List Nat) : List.zipWith (· ^^^ ·) (List.replicate c.length 0) c = c := by
  induction c with
  | nil => rfl
  | cons x xs ih => simp [List.replicate_succ, ih]

theorem shl_xor (s x : Nat) (hx : x < 2 ^ w) : (s <<< w) ^^^ x = s * 2 ^ w + x :=
  shl_xor_eq_add s x w hx

/-- below the `k` kept bits nothing is fed back: the step appends the symbol -/
theorem step_low (h : Sel w k sel) (s x : Nat) (hs : s < 2 ^ k) : step w k sel s x = (s <<< w) ^^^ x := by
  rw [step, Nat.shiftRight_eq_div_pow, Nat.div_eq_of_lt hs, h.zero, Nat.xor_zero,
    Nat.and_two_pow_sub_one_eq_mod, Nat.mod_eq_of_lt hs]

theorem step_small (h : Sel w k sel) (s x : Nat) (hs : s < 2 ^ k) (hx : x < 2 ^ w) :
    step w k sel s x = s * 2 ^ w + x := by
  rw [step_low h s x hs, shl_xor s x hx]

theorem foldl_step_small (h : Sel w k sel) (c : List Nat) (hc : ∀ x ∈ c, x < 2 ^ w) (s : Nat)
    (hs : (s + 1) * (2 ^ w) ^ c.length ≤ 2 ^ (k + w)) :
    c.foldl (step w k sel) s = s * (2 ^ w) ^ c.length + ofBE (2 ^ w) c := by
  rw [← foldl_ofBE]
  induction c generalizing s with
  | nil => rfl
  | cons x xs ih =>
    have hx : x < 2 ^ w := hc x (by simp)
    have hp : 0 < (2 ^ w) ^ xs.length := Nat.pow_pos (Nat.two_pow_pos w)
    rw [List.length_cons, Nat.pow_succ] at hs
    have hsk : s < 2 ^ k := by
      have h1 : (s + 1) * 2 ^ w ≤ (s + 1) * ((2 ^ w) ^ xs.length * 2 ^ w) :=
        Nat.mul_le_mul_left _ (Nat.le_mul_of_pos_left _ hp)
      exact Nat.le_of_mul_le_mul_right (Nat.pow_add 2 k w ▸ Nat.le_trans h1 hs) (Nat.two_pow_pos w)
    simp only [List.foldl_cons]
    rw [step_small h s x hsk hx]
    apply ih (fun y hy => hc y (by simp [hy]))
    calc (s * 2 ^ w + x + 1) * (2 ^ w) ^ xs.length ≤ ((s + 1) * 2 ^ w) * (2 ^ w) ^ xs.length :=
          Nat.mul_le_mul_right _ (by rw [Nat.succ_mul]; omega)
      _ = (s + 1) * ((2 ^ w) ^ xs.length * 2 ^ w) := by rw [Nat.mul_assoc, Nat.mul_comm (2 ^ w)]
      _ ≤ 2 ^ (k + w) := hs

theorem step_lt (h : Sel w k sel) (c v : Nat) (hv : v < 2 ^ (k + w)) : step w k sel c v < 2 ^ (k + w) := by
  have h0 : (c &&& (2 ^ k - 1)) <<< w < 2 ^ (k + w) := by
    rw [Nat.shiftLeft_eq, Nat.pow_add, Nat.and_two_pow_sub_one_eq_mod]
    exact Nat.mul_lt_mul_of_pos_right (Nat.mod_lt _ (Nat.two_pow_pos k)) (Nat.two_pow_pos w)
  exact Nat.xor_lt_two_pow (Nat.xor_lt_two_pow h0 hv) (h.lt _)

/-- by linearity, symbols that fit the register act on the zero-padded word's checksum by XOR with their value -/
theorem foldl_step_symbols (h : Sel w k sel) (s : Nat) (c : List Nat) (hc : ∀ x ∈ c, x < 2 ^ w)
    (hl : (2 ^ w) ^ c.length ≤ 2 ^ (k + w)) :
    c.foldl (step w k sel) s = (List.replicate c.length 0).foldl (step w k sel) s ^^^ ofBE (2 ^ w) c := by
  have e := foldl_step_xor h (List.replicate c.length 0) c (by simp) s 0
  rwa [zipWith_xor_zeros, Nat.xor_zero, foldl_step_small h c hc 0 (by simpa using hl), Nat.zero_mul,
    Nat.zero_add] at e

/-- a created checksum verifies: `n` symbols fill the register, `P` is the state after `n` zero symbols, and the
    digits of `P ^^^ c` XOR `P ^^^ c` into `P` -/
theorem foldl_step_checksum (h : Sel w k sel) (s c n : Nat) (hn : 0 < n) (hl : (2 ^ w) ^ n = 2 ^ (k + w))
    (hc : c < 2 ^ (k + w)) :
    (fixedBE (2 ^ w) n ((List.replicate n 0).foldl (step w k sel) s ^^^ c)).foldl (step w k sel) s = c := by
  have hP : (List.replicate n 0).foldl (step w k sel) s ^^^ c < 2 ^ (k + w) := by
    obtain ⟨m, rfl⟩ : ∃ m, n = m + 1 := ⟨n - 1, by omega⟩
    rw [List.replicate_succ', List.foldl_append]
    exact Nat.xor_lt_two_pow (step_lt h _ 0 (Nat.two_pow_pos _)) hc
  rw [foldl_step_symbols h s _ (fixedBE_lt (Nat.two_pow_pos w) n _) (by rw [fixedBE_length, hl]; exact Nat.le_refl _),
    fixedBE_length, ofBE_fixedBE, hl, Nat.mod_eq_of_lt hP, ← Nat.xor_assoc, Nat.xor_self, Nat.zero_xor]

end Embit.Polymod
