import EmbitModel.Proofs.SecSpec
import EmbitModel.Spec.Bip341Tweak
/-
  The taproot tweak of public and private keys against BIP341, and their commutation.
-/
namespace Embit.Keys
open Embit Embit.Spec.Bip341

variable {E : EcOps}

theorem tag_eq : tapTweakTag = tapTweak := rfl

def evenY (E : EcOps) (Q : E.Pt) : E.Pt := if E.yOdd Q then E.neg Q else Q

theorem evenY_spec (L : EcLaws E) (Q : E.Pt) (hQ : E.isInf Q = false) :
    E.yOdd (evenY E Q) = false ∧ E.x (evenY E Q) = E.x Q ∧ E.isInf (evenY E Q) = false := by
  unfold evenY
  cases h : E.yOdd Q
  · simp [h, hQ]
  · simp [h, L.yOdd_neg Q hQ, L.x_neg Q hQ, L.neg_inf, hQ]

/-- `PublicKey.taproot_tweak(h)` is BIP341's `taproot_tweak_pubkey` (embit refuses `t = 0` in addition) -/
theorem tweakPub_eq (L : EcLaws E) (env : Env) (htag : ∀ t m, (env.tagged t m).length = 32)
    (k : PublicKey E) (hP : E.isInf k.point = false) (h : Bytes) :
    k.taprootTweak env h =
      if tweakOf env.tagged (E.x k.point) h = 0 then none
      else (outputPoint E env.tagged (E.x k.point) h).map (fun Q => ⟨evenY E Q, true⟩) := by
  have hx := (L.coord_lt k.point hP).1
  unfold PublicKey.taprootTweak
  simp only [PublicKey.xonly, PublicKey.sec, xslice_serialize, tag_eq]
  rw [if_neg (by simp [htag])]
  unfold outputPoint
  have ht : ofBe (env.tagged tapTweak (beN 32 (E.x k.point) ++ h)) = tweakOf env.tagged (E.x k.point) h := rfl
  rw [ht]
  generalize tweakOf env.tagged (E.x k.point) h = t
  have hparse : pubkeyParse E (0x02 :: beN 32 (E.x k.point)) = E.liftX (E.x k.point) := by
    simp [pubkeyParse, ofBe_beN32 _ hx]
  rw [hparse]
  by_cases h0 : t = 0
  · simp [h0, seckeyValid]
  · by_cases hn : t ≥ E.n
    · have : seckeyValid E t = false := by simp [seckeyValid]; omega
      simp [this, h0, hn]
    · have hvalid : seckeyValid E t = true := by rw [seckeyValid_iff]; omega
      rw [if_neg (by simp [hvalid]), if_neg h0, if_neg hn]
      cases hl : E.liftX (E.x k.point) with
      | none => rfl
      | some P0 =>
        simp only [pubkeyAdd, show t < E.n by omega, if_true]
        cases hQ : E.isInf (E.add P0 (E.mulG t))
        · simp only [Bool.false_eq_true, if_false, Option.map_some]
          rw [fromXonly_beN _ (L.coord_lt _ hQ).1, L.liftX_of _ hQ]
          rfl
        · simp

/-- `PrivateKey.taproot_tweak(h)` is BIP341's `taproot_tweak_seckey`, followed by the normalisation to the
    even-Y representative (embit refuses `t = 0` and a zero result) -/
theorem tweakPriv_eq (L : EcLaws E) (env : Env) (htag : ∀ t m, (env.tagged t m).length = 32)
    (k : PrivateKey) (hv : seckeyValid E k.secret = true) (h : Bytes) :
    k.taprootTweak E env h =
      if tweakOf env.tagged (E.x (E.mulG k.secret)) h = 0 then none
      else match tweakSeckey E env.tagged k.secret h with
        | none => none
        | some s =>
          if s = 0 then none
          else some ⟨if E.yOdd (E.mulG s) then E.n - s else s, true, Generated.privDefaultNet⟩ := by
  have hvv := (seckeyValid_iff E k.secret).mp hv
  unfold PrivateKey.taprootTweak tweakSeckey
  simp only [pubkeyCreate, hv, if_true, xslice_serialize, tag_eq]
  rw [if_neg (by simp [htag])]
  have ht : ofBe (env.tagged tapTweak (beN 32 (E.x (E.mulG k.secret)) ++ h)) = tweakOf env.tagged (E.x (E.mulG k.secret)) h := rfl
  rw [ht]
  generalize tweakOf env.tagged (E.x (E.mulG k.secret)) h = t
  have hneg : ((pubkeySerialize E (E.mulG k.secret) true).head? ≠ some 0x02) ↔ E.yOdd (E.mulG k.secret) = true := by
    cases hy : E.yOdd (E.mulG k.secret) <;> simp [pubkeySerialize, hy]
  have hsec : (if (pubkeySerialize E (E.mulG k.secret) true).head? ≠ some 0x02 then privkeyNegate E k.secret else k.secret)
      = (if E.yOdd (E.mulG k.secret) = true then E.n - k.secret else k.secret) := by
    have hm : (E.n - k.secret) % E.n = E.n - k.secret := Nat.mod_eq_of_lt (by omega)
    cases hy : E.yOdd (E.mulG k.secret)
    · rw [if_neg (by rw [hneg, hy]; simp)]; simp
    · rw [if_pos (by rw [hneg, hy])]; simp [privkeyNegate, hm]
  rw [hsec]
  generalize hd' : (if E.yOdd (E.mulG k.secret) = true then E.n - k.secret else k.secret) = d'
  have hd'v : seckeyValid E d' = true := by
    rw [seckeyValid_iff, ← hd']; split <;> omega
  by_cases h0 : t = 0
  · simp [h0, seckeyValid]
  · by_cases hn : t ≥ E.n
    · have : seckeyValid E t = false := by simp [seckeyValid]; omega
      simp [this, h0, hn]
    · have hvalid : seckeyValid E t = true := by rw [seckeyValid_iff]; omega
      rw [if_neg (by simp [hvalid]), if_neg h0, if_neg hn]
      simp only [privkeyAdd, hd'v, show t < E.n by omega, decide_true, Bool.and_self, if_true]
      by_cases hz : (d' + t) % E.n = 0
      · simp [hz]
      · have hs : seckeyValid E ((d' + t) % E.n) = true := by
          rw [seckeyValid_iff]; exact ⟨Nat.pos_of_ne_zero hz, Nat.mod_lt _ L.n_pos⟩
        have hsv := (seckeyValid_iff E _).mp hs
        rw [if_neg hz, if_neg hz]
        simp only [privInit_beN L _ hs true Generated.privDefaultNet, PrivateKey.sec, PrivateKey.getPublicKey, pubkeyCreate, hs, if_true,
          Option.map_some, PublicKey.sec]
        have hm : (E.n - (d' + t) % E.n) % E.n = E.n - (d' + t) % E.n := Nat.mod_eq_of_lt (by omega)
        have hs2 : seckeyValid E (E.n - (d' + t) % E.n) = true := by rw [seckeyValid_iff]; omega
        cases hy : E.yOdd (E.mulG ((d' + t) % E.n))
        · simp [pubkeySerialize, hy]
        · simp [pubkeySerialize, hy, privkeyNegate, hm, privInit_beN L _ hs2 true Generated.privDefaultNet]

theorem mulG_finite (L : EcLaws E) (d : Nat) (hv : seckeyValid E d = true) : E.isInf (E.mulG d) = false := by
  have hvv := (seckeyValid_iff E d).mp hv
  cases h : E.isInf (E.mulG d)
  · rfl
  · have := (L.mulG_inf d).mp h
    rw [Nat.mod_eq_of_lt hvv.2] at this
    omega

theorem evenY_mulG (L : EcLaws E) (d : Nat) (hd : d ≤ E.n) :
    evenY E (E.mulG d) = E.mulG (if E.yOdd (E.mulG d) = true then E.n - d else d) := by
  unfold evenY
  cases E.yOdd (E.mulG d)
  · simp
  · simp [L.neg_mulG d hd]

/-- tweaking a private key and taking its public key equals tweaking the public key — both Y parities, both
    compression flags, any `h` (incl. empty), including the cases in which both fail -/
theorem taproot_commutes_gen (L : EcLaws E) (env : Env) (htag : ∀ t m, (env.tagged t m).length = 32)
    (k : PrivateKey) (hv : seckeyValid E k.secret = true) (h : Bytes) :
    (k.taprootTweak E env h).bind (fun r => r.getPublicKey E)
      = (k.getPublicKey E).bind (fun P => P.taprootTweak env h) := by
  have hvv := (seckeyValid_iff E k.secret).mp hv
  have hP := mulG_finite L k.secret hv
  rw [tweakPriv_eq L env htag k hv h]
  simp only [PrivateKey.getPublicKey, pubkeyCreate, hv, if_true, Option.map_some, Option.bind_some]
  rw [tweakPub_eq L env htag ⟨E.mulG k.secret, k.compressed⟩ hP h]
  generalize ht : tweakOf env.tagged (E.x (E.mulG k.secret)) h = t
  by_cases h0 : t = 0
  · simp [h0]
  · rw [if_neg h0, if_neg h0]
    simp only [tweakSeckey, outputPoint, ht]
    by_cases hn : t ≥ E.n
    · simp [hn]
    · rw [if_neg hn, if_neg hn]
      rw [L.liftX_of _ hP]
      have he := evenY_mulG L k.secret (by omega)
      unfold evenY at he
      rw [he]
      generalize hd' : (if E.yOdd (E.mulG k.secret) = true then E.n - k.secret else k.secret) = d'
      dsimp only
      rw [L.mulG_add, ← L.mulG_mod (d' + t)]
      by_cases hz : (d' + t) % E.n = 0
      · have : E.isInf (E.mulG ((d' + t) % E.n)) = true := (L.mulG_inf _).mpr (by simp [hz])
        rw [if_pos this]
        simp [hz]
      · have hs : seckeyValid E ((d' + t) % E.n) = true := by
          rw [seckeyValid_iff]; exact ⟨Nat.pos_of_ne_zero hz, Nat.mod_lt _ L.n_pos⟩
        have hsv := (seckeyValid_iff E _).mp hs
        have hfin := mulG_finite L _ hs
        simp only [hz, if_false, hfin, Bool.false_eq_true, Option.map_some, Option.bind_some]
        have hs2 : seckeyValid E (E.n - (d' + t) % E.n) = true := by rw [seckeyValid_iff]; omega
        have he2 := evenY_mulG L ((d' + t) % E.n) (by omega)
        rw [he2]
        cases hy : E.yOdd (E.mulG ((d' + t) % E.n))
        · simp [hs]
        · simp [hs2]

end Embit.Keys
