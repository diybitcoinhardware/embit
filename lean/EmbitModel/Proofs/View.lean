import EmbitModel.Model.View
import EmbitModel.Proofs.PsbtTop
/-
  C05 helper lemmas: the streaming view's readers against the encodings they walk over. "`x` stands at offset
  `pos` of the stream" is `buf.drop pos = x ++ rest`; every reader has one lemma in that form, and `drop_add`
  moves the offset behind `x`, so no proof re-associates the whole buffer.
-/
set_option linter.unusedSimpArgs false
set_option linter.unusedVariables false
namespace Embit
open Model Spec.Wire

theorem drop_add {buf a r : Bytes} {pos : Nat} (h : buf.drop pos = a ++ r) : buf.drop (pos + a.length) = r := by
  rw [← List.drop_drop, h, List.drop_left]

theorem compactAt_enc {buf rest : Bytes} {pos v : Nat} (h : buf.drop pos = Compact.enc v ++ rest) (hv : v < 2^64) :
    compactAt buf pos = some (v, pos + (Compact.enc v).length) := by
  simp only [compactAt, h, Compact.read_enc v rest hv]

theorem stringAt_ser {buf rest s : Bytes} {pos : Nat} (h : buf.drop pos = serString s ++ rest)
    (hs : s.length < 2^64) : stringAt buf pos = some (s, pos + (serString s).length) := by
  rw [stringAt, h, readString_ser s rest hs]
  simp only [serString, List.length_append, Nat.add_assoc]

theorem serString_append (s r : Bytes) : serString s ++ r = Compact.enc s.length ++ (s ++ r) :=
  List.append_assoc _ _ _

theorem skipStringAt_ser {buf rest s : Bytes} {pos : Nat} (h : buf.drop pos = serString s ++ rest)
    (hs : s.length < 2^64) : skipStringAt buf pos = some ((serString s).length, pos + (serString s).length) := by
  rw [serString_append] at h
  simp only [skipStringAt, compactAt_enc h hs, serString, List.length_append, Nat.add_assoc]

theorem stringAt_sep {buf rest : Bytes} {pos : Nat} (h : buf.drop pos = [0] ++ rest) :
    stringAt buf pos = some ([], pos + 1) :=
  stringAt_ser (s := []) h (by decide)

/-- an unsigned well-formed input occupies exactly 41 bytes -/
theorem unsignedIn_len (i : TxIn) (hw : WFIn i) (hs : i.scriptSig = []) : (TxIn.ser i).length = LEN_VIN := by
  simp [TxIn.ser, scriptSer, hs, Compact.enc, hw.txid, LEN_VIN]

theorem flatMap_ser_len (vin : List TxIn) (h : ∀ i ∈ vin, (TxIn.ser i).length = LEN_VIN) :
    (vin.flatMap TxIn.ser).length = LEN_VIN * vin.length := by
  induction vin with
  | nil => simp
  | cons i is ih =>
    rw [List.flatMap_cons, List.length_append, h i (by simp), ih (fun j hj => h j (by simp [hj])),
      List.length_cons, Nat.mul_succ, Nat.add_comm]

theorem flatMap_ser_drop (vin : List TxIn) (h : ∀ i ∈ vin, (TxIn.ser i).length = LEN_VIN) (k : Nat) :
    (vin.flatMap TxIn.ser).drop (LEN_VIN * k) = (vin.drop k).flatMap TxIn.ser := by
  induction vin generalizing k with
  | nil => simp
  | cons i is ih =>
    cases k with
    | zero => simp
    | succ k =>
      rw [List.flatMap_cons, List.drop_succ_cons, ← ih (fun j hj => h j (by simp [hj])) k,
        Nat.mul_succ, Nat.add_comm, ← h i (by simp), ← List.drop_drop, List.drop_left]

theorem unsigned_ser (t : Tx) (hu : Unsigned t) :
    Tx.ser t = leN 4 t.version ++ (Compact.enc t.vin.length ++ (t.vin.flatMap TxIn.ser
      ++ (Compact.enc t.vout.length ++ (t.vout.flatMap TxOut.ser ++ leN 4 t.locktime)))) := by
  have hs : Tx.isSegwit t = false := by
    simp only [Tx.isSegwit, List.any_eq_false]
    intro i hi
    rw [TxIn.isSegwit_iff, (hu i hi).2]; simp
  simp [Tx.ser, hs, List.append_assoc]

theorem skipOutputs_spec {buf : Bytes} : ∀ (outs : List TxOut) (k pos : Nat) (rest : Bytes),
    (∀ o ∈ outs, WFOut o) → k ≤ outs.length → buf.drop pos = outs.flatMap TxOut.ser ++ rest →
    skipOutputs buf k pos = some (pos + ((outs.take k).flatMap TxOut.ser).length) := by
  intro outs
  induction outs with
  | nil => intro k pos rest _ hk _; rw [Nat.le_zero.mp hk]; rfl
  | cons o os ih =>
    intro k pos rest hw hk h
    cases k with
    | zero => rfl
    | succ k =>
      have h1 : buf.drop pos = leN 8 o.value
          ++ (Compact.enc o.spk.length ++ (o.spk ++ (os.flatMap TxOut.ser ++ rest))) := by
        rw [h]; simp [TxOut.ser, scriptSer]
      have h2 := drop_add h1
      have h3 := drop_add (drop_add h2)
      rw [leN_length] at h2 h3
      simp only [skipOutputs, skipOutputAt, compactAt_enc h2 (hw o (by simp)).script]
      rw [ih k _ rest (fun x hx => hw x (by simp [hx])) (by simpa using hk) h3]
      simp [TxOut.ser, scriptSer]; omega

theorem gtx_sections {buf post : Bytes} {off : Nat} (t : Tx) (hwf : WF t) (hu : Unsigned t)
    (h : buf.drop off = Tx.ser t ++ post) :
    buf.drop off = leN 4 t.version ++ (Compact.enc t.vin.length ++ (t.vin.flatMap TxIn.ser
      ++ (Compact.enc t.vout.length ++ (t.vout.flatMap TxOut.ser ++ (leN 4 t.locktime ++ post)))))
    ∧ buf.drop (off + 4) = Compact.enc t.vin.length ++ (t.vin.flatMap TxIn.ser
        ++ (Compact.enc t.vout.length ++ (t.vout.flatMap TxOut.ser ++ (leN 4 t.locktime ++ post))))
    ∧ buf.drop (off + 4 + (Compact.enc t.vin.length).length) = t.vin.flatMap TxIn.ser
        ++ (Compact.enc t.vout.length ++ (t.vout.flatMap TxOut.ser ++ (leN 4 t.locktime ++ post)))
    ∧ buf.drop (off + 4 + (Compact.enc t.vin.length).length + LEN_VIN * t.vin.length)
        = Compact.enc t.vout.length ++ (t.vout.flatMap TxOut.ser ++ (leN 4 t.locktime ++ post))
    ∧ buf.drop (off + 4 + (Compact.enc t.vin.length).length + LEN_VIN * t.vin.length
          + (Compact.enc t.vout.length).length) = t.vout.flatMap TxOut.ser ++ (leN 4 t.locktime ++ post) := by
  have s0 : buf.drop off = leN 4 t.version ++ (Compact.enc t.vin.length ++ (t.vin.flatMap TxIn.ser
      ++ (Compact.enc t.vout.length ++ (t.vout.flatMap TxOut.ser ++ (leN 4 t.locktime ++ post))))) := by
    rw [h, unsigned_ser t hu]; simp only [List.append_assoc]
  have s1 := drop_add s0
  have s2 := drop_add s1
  have s3 := drop_add s2
  have s4 := drop_add s3
  rw [leN_length] at s1 s2 s3 s4
  rw [flatMap_ser_len t.vin (fun i hi => unsignedIn_len i (hwf.ins i hi) (hu i hi).1)] at s3 s4
  exact ⟨s0, s1, s2, s3, s4⟩

theorem GTx.open_spec {buf post : Bytes} {off : Nat} (t : Tx) (hwf : WF t) (hu : Unsigned t)
    (h : buf.drop off = Tx.ser t ++ post) :
    GTx.open buf off
      = some { off := off, numVin := t.vin.length,
               vin0 := off + 4 + (Compact.enc t.vin.length).length,
               numVout := t.vout.length,
               vout0 := off + 4 + (Compact.enc t.vin.length).length + LEN_VIN * t.vin.length
                        + (Compact.enc t.vout.length).length } := by
  obtain ⟨_, s1, _, s3, _⟩ := gtx_sections t hwf hu h
  simp only [GTx.open, compactAt_enc s1 hwf.ninLt, compactAt_enc s3 hwf.noutLt]

theorem GTx.open_counts {buf post : Bytes} {off : Nat} (t : Tx) (hwf : WF t) (hu : Unsigned t)
    (h : buf.drop off = Tx.ser t ++ post) :
    ∃ g, GTx.open buf off = some g ∧ g.numVin = t.vin.length ∧ g.numVout = t.vout.length :=
  ⟨_, GTx.open_spec t hwf hu h, rfl, rfl⟩

theorem GTx.vin_spec {buf post : Bytes} {off : Nat} (t : Tx) (hwf : WF t) (hu : Unsigned t)
    (h : buf.drop off = Tx.ser t ++ post) (g : GTx) (hg : GTx.open buf off = some g) (i : Nat) :
    GTx.vin buf g i = t.vin[i]? := by
  rw [GTx.open_spec t hwf hu h, Option.some.injEq] at hg
  subst hg
  obtain ⟨_, _, s2, _, _⟩ := gtx_sections t hwf hu h
  have hlen : ∀ i ∈ t.vin, (TxIn.ser i).length = LEN_VIN := fun i hi =>
    unsignedIn_len i (hwf.ins i hi) (hu i hi).1
  by_cases hi : i ≥ t.vin.length
  · simp [GTx.vin, hi, List.getElem?_eq_none hi]
  · have hi' : i < t.vin.length := by omega
    -- input `i` stands 41·i bytes behind the first
    have hd : buf.drop (off + 4 + (Compact.enc t.vin.length).length + LEN_VIN * i)
        = TxIn.ser t.vin[i] ++ ((t.vin.drop (i + 1)).flatMap TxIn.ser
          ++ (Compact.enc t.vout.length ++ (t.vout.flatMap TxOut.ser ++ (leN 4 t.locktime ++ post)))) := by
      rw [← List.drop_drop, s2, List.drop_append_of_le_length
        (by rw [flatMap_ser_len t.vin hlen]; exact Nat.mul_le_mul_left _ (by omega)),
        flatMap_ser_drop t.vin hlen i, List.drop_eq_getElem_cons hi', List.flatMap_cons, List.append_assoc]
    have hw := (hu t.vin[i] (List.getElem_mem hi')).2
    simp only [GTx.vin, hi, if_false, hd, TxIn.read_ser t.vin[i] _ (hwf.ins _ (List.getElem_mem hi')),
      List.getElem?_eq_getElem hi', ← hw]

theorem GTx.vout_spec {buf post : Bytes} {off : Nat} (t : Tx) (hwf : WF t) (hu : Unsigned t)
    (h : buf.drop off = Tx.ser t ++ post) (g : GTx) (hg : GTx.open buf off = some g) (j : Nat) :
    GTx.vout buf g j = t.vout[j]? := by
  rw [GTx.open_spec t hwf hu h, Option.some.injEq] at hg
  subst hg
  obtain ⟨_, _, _, _, s4⟩ := gtx_sections t hwf hu h
  by_cases hj : j ≥ t.vout.length
  · simp [GTx.vout, hj, List.getElem?_eq_none hj]
  · have hj' : j < t.vout.length := by omega
    have hsplit : t.vout.flatMap TxOut.ser = (t.vout.take j).flatMap TxOut.ser
        ++ (TxOut.ser t.vout[j] ++ (t.vout.drop (j + 1)).flatMap TxOut.ser) := by
      rw [← List.flatMap_cons, ← List.drop_eq_getElem_cons hj', ← List.flatMap_append, List.take_append_drop]
    have hd := s4
    rw [hsplit, List.append_assoc, List.append_assoc] at hd
    simp only [GTx.vout, hj, if_false, skipOutputs_spec t.vout j _ _ hwf.outs (by omega) s4, drop_add hd,
      TxOut.read_ser t.vout[j] _ (hwf.outs _ (List.getElem_mem hj')), List.getElem?_eq_getElem hj']

theorem GTx.locktime_spec {buf post : Bytes} {off : Nat} (t : Tx) (hwf : WF t) (hu : Unsigned t)
    (h : buf.drop off = Tx.ser t ++ post) (g : GTx) (hg : GTx.open buf off = some g) :
    GTx.locktime buf g = some t.locktime ∧ GTx.version buf g = t.version := by
  rw [GTx.open_spec t hwf hu h, Option.some.injEq] at hg
  subst hg
  obtain ⟨s0, _, _, _, s4⟩ := gtx_sections t hwf hu h
  have take4 : ∀ (v : Nat) (r : Bytes), (leN 4 v ++ r).take 4 = leN 4 v := fun v r => by
    rw [List.take_append_of_le_length (by simp), List.take_of_length_le (by simp)]
  constructor
  · simp only [GTx.locktime, skipOutputs_spec t.vout t.vout.length _ _ hwf.outs (Nat.le_refl _) s4,
      List.take_length, readAt, drop_add s4, take4, ofLe_leN 4 _ (by have := hwf.locktime; omega)]
  · simp only [GTx.version, readAt, s0, take4, ofLe_leN 4 _ (by have := hwf.version; omega)]

theorem skipScopeAt_spec {buf : Bytes} : ∀ (kvs : List KV) (fuel pos : Nat) (rest : Bytes),
    (∀ kv ∈ kvs, KVWF kv) → buf.drop pos = writeKVs kvs ++ rest → kvs.length + 1 ≤ fuel →
    skipScopeAt buf fuel pos = some (pos + (writeKVs kvs).length) := by
  intro kvs
  induction kvs with
  | nil =>
    intro fuel pos rest _ h hf
    obtain ⟨f, rfl⟩ : ∃ f, fuel = f + 1 := ⟨fuel - 1, by omega⟩
    have s := skipStringAt_ser (s := []) h (by decide)
    simp only [skipScopeAt, s]; rfl
  | cons kv kvs ih =>
    intro fuel pos rest hw h hf
    obtain ⟨f, rfl⟩ : ∃ f, fuel = f + 1 := ⟨fuel - 1, by omega⟩
    obtain ⟨hne, hk, hv⟩ := hw kv (by simp)
    have h1 : buf.drop pos = serString kv.1 ++ (serString kv.2 ++ (writeKVs kvs ++ rest)) := by
      rw [h]; simp [writeKVs, List.append_assoc]
    have h2 := drop_add h1
    have h3 := drop_add h2
    have hklen : (serString kv.1).length ≠ 1 := by
      have := List.length_pos_iff.mpr hne
      have := Compact.enc_length_pos kv.1.length
      simp [serString]; omega
    simp only [skipScopeAt, skipStringAt_ser h1 hk, hklen, if_false, skipStringAt_ser h2 hv]
    rw [ih f _ rest (fun x hx => hw x (by simp [hx])) h3 (by simp at hf; omega)]
    simp [writeKVs]; omega

theorem valueAt_spec {buf : Bytes} (key : Bytes) (hkey : key ≠ []) : ∀ (kvs : List KV) (fuel pos : Nat) (rest : Bytes),
    (∀ kv ∈ kvs, KVWF kv) → buf.drop pos = writeKVs kvs ++ rest → kvs.length + 1 ≤ fuel →
    valueAt buf key fuel pos = some (lookup key kvs) := by
  intro kvs
  induction kvs with
  | nil =>
    intro fuel pos rest _ h hf
    obtain ⟨f, rfl⟩ : ∃ f, fuel = f + 1 := ⟨fuel - 1, by omega⟩
    simp [valueAt, stringAt_sep h, lookup]
  | cons kv kvs ih =>
    intro fuel pos rest hw h hf
    obtain ⟨f, rfl⟩ : ∃ f, fuel = f + 1 := ⟨fuel - 1, by omega⟩
    obtain ⟨hne, hk, hv⟩ := hw kv (by simp)
    obtain ⟨k, v⟩ := kv
    have h1 : buf.drop pos = serString k ++ (serString v ++ (writeKVs kvs ++ rest)) := by
      rw [h]; simp [writeKVs, List.append_assoc]
    have h2 := drop_add h1
    have h3 := drop_add h2
    have hke : k.isEmpty = false := by simpa using hne
    simp only [valueAt, stringAt_ser h1 hk, hke, Bool.false_eq_true, if_false]
    by_cases hkk : k = key
    · subst hkk
      simp [stringAt_ser h2 hv, lookup]
    · have hkk' : ¬ key = k := fun e => hkk e.symm
      simp only [hkk, if_false, skipStringAt_ser h2 hv]
      rw [ih f _ rest (fun x hx => hw x (by simp [hx])) h3 (by simp at hf; omega)]
      simp [lookup, hkk']

theorem getValue_spec {buf rest : Bytes} {pos : Nat} (key : Bytes) (hkey : key ≠ []) (kvs : List KV)
    (hw : ∀ kv ∈ kvs, KVWF kv) (h : buf.drop pos = writeKVs kvs ++ rest) :
    View.getValue buf key pos = some (lookup key kvs) := by
  apply valueAt_spec key hkey kvs _ pos rest hw h
  have h1 := congrArg List.length h
  have h2 := writeKVs_length kvs
  simp only [List.length_drop, List.length_append] at h1
  omega

end Embit
