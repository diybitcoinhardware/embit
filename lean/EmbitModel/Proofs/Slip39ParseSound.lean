import EmbitModel.Proofs.Slip39Text
import EmbitModel.Proofs.Slip39RsSpec
/-
  Converse of the text round trip: whatever `Share.parse` accepts (words below 1024) is a well-formed share
  whose `mnemonic()` is exactly the accepted word sequence — the parser accepts precisely the printed format.
  The checksum words are determined by the data words (`create_unique`).
-/
namespace Embit.Model.Slip39

theorem xor_xor_cancel (x y : Nat) : x ^^^ y ^^^ x = y := by
  apply Nat.eq_of_testBit_eq; intro i
  simp only [Nat.testBit_xor]
  cases x.testBit i <;> cases y.testBit i <;> rfl

theorem foldl_step_three (a b c : Nat) (ha : a < 1024) (hb : b < 1024) (hc : c < 1024) :
    [a, b, c].foldl rs1024Step 0 = pack (a, b, c) := by
  have h := fold_eq_spec [a, b, c] (by
    intro v hv; simp only [List.mem_cons, List.not_mem_nil, or_false] at hv
    rcases hv with h | h | h <;> omega) (0, 0, 0) ⟨by decide, by decide, by decide⟩
  have p0 : pack (0, 0, 0) = 0 := by decide
  rw [p0] at h
  rw [h.1]
  have z := genFold_eq_mul 0 (by decide)
  have m0 : Spec.Slip39.gf1024Mul 0 Spec.Slip39.rsG2 = 0 ∧ Spec.Slip39.gf1024Mul 0 Spec.Slip39.rsG1 = 0 ∧
      Spec.Slip39.gf1024Mul 0 Spec.Slip39.rsG0 = 0 := by decide +kernel
  simp only [List.foldl_cons, List.foldl_nil, Spec.Slip39.rsStep, m0.1, m0.2.1, m0.2.2, Nat.xor_zero]

theorem create_unique (cs data : List Nat) (a b c : Nat) (ha : a < 1024) (hb : b < 1024) (hc : c < 1024)
    (hv : rs1024Verify cs (data ++ [a, b, c]) = true) : rs1024Create cs data = [a, b, c] := by
  unfold rs1024Verify rs1024Polymod at hv
  simp only [beq_iff_eq, ← List.append_assoc, List.foldl_append] at hv
  unfold rs1024Create rs1024Polymod
  simp only [List.foldl_append]
  generalize List.foldl rs1024Step (List.foldl rs1024Step 1 cs) data = s at hv ⊢
  have lin := foldl_step_xor [0, 0, 0] [a, b, c] rfl s 0
  simp only [xorList, List.zipWith_cons_cons, List.zipWith_nil_right, Nat.zero_xor, Nat.xor_zero] at lin
  rw [hv, foldl_step_three a b c ha hb hc] at lin
  have hp : [0, 0, 0].foldl rs1024Step s ^^^ 1 = pack (a, b, c) := by
    rw [lin, ← Nat.xor_assoc, Nat.xor_self, Nat.zero_xor]
  rw [hp, pack_eq _ ⟨ha, hb, hc⟩]
  simp only [and1023, Nat.shiftRight_eq_div_pow]
  have e1 : (a * 1048576 + b * 1024 + c) / 2 ^ 20 % 1024 = a := by omega
  have e2 : (a * 1048576 + b * 1024 + c) / 2 ^ 10 % 1024 = b := by omega
  have e3 : (a * 1048576 + b * 1024 + c) % 1024 = c := by omega
  rw [e1, e2, e3]

theorem exists_words {α : Type} (l : List α) (h : 7 ≤ l.length) :
    ∃ i0 i1 i2 i3 vw a b c, l = i0 :: i1 :: i2 :: i3 :: (vw ++ [a, b, c]) := by
  match l, h with
  | i0 :: i1 :: i2 :: i3 :: rest, h =>
    simp only [List.length_cons] at h
    have hd : (rest.drop (rest.length - 3)).length = 3 := by rw [List.length_drop]; omega
    match hc : rest.drop (rest.length - 3), hd with
    | [a, b, c], _ => exact ⟨i0, i1, i2, i3, rest.take (rest.length - 3), a, b, c, by rw [← hc, List.take_append_drop]⟩

theorem parse_inv (idx : List Nat) (s : Share) (h : Share.parse idx = some s) :
    ∃ i0 i1 i2 i3 vw a b c, idx = i0 :: i1 :: i2 :: i3 :: (vw ++ [a, b, c]) ∧ rs1024Verify csShamir idx = true ∧
      valueOfWords vw >>> (vw.length * 10 / 16 * 16) = 0 ∧ 128 ≤ vw.length * 10 / 16 * 16 ∧
      vw.length * 10 - vw.length * 10 / 16 * 16 ≤ 8 ∧
      s = headerOf i0 i1 i2 i3 (vw.length * 10 / 16 * 16) (valueOfWords vw) ∧ s.initOk = true := by
  have hshape : rs1024Verify csShamir idx = true ∧ 7 ≤ idx.length := by
    unfold Share.parse at h
    split at h
    · simp at h
    rename_i hv
    split at h
    · split at h
      · simp at h
      · exact ⟨by simpa using hv, by omega⟩
    · simp at h
  obtain ⟨i0, i1, i2, i3, vw, a, b, c, rfl⟩ := exists_words idx hshape.2
  rw [parse_cons i0 i1 i2 i3 vw [a, b, c] rfl hshape.1] at h
  split at h
  · rename_i hc
    unfold Share.new? at h
    split at h
    · rename_i hi
      simp only [Option.some.injEq] at h
      exact ⟨i0, i1, i2, i3, vw, a, b, c, rfl, hshape.1, hc.1, hc.2.1, hc.2.2, h.symm, h ▸ hi⟩
    · simp at h
  · simp at h

/-- **everything the parser accepts is the printed form of a well-formed share** -/
theorem parse_sound (idx : List Nat) (hw : ∀ w ∈ idx, w < 1024) (s : Share) (h : Share.parse idx = some s) :
    s.WF ∧ s.mnemonic = idx := by
  obtain ⟨i0, i1, i2, i3, vw, a, b, c, rfl, hv, hsh, h128, hpad, rfl, hinit⟩ := parse_inv idx s h
  have h0 : i0 < 1024 := hw i0 (by simp)
  have h1 : i1 < 1024 := hw i1 (by simp)
  have h3 : i3 < 1024 := hw i3 (by simp)
  have hvw : ∀ w ∈ vw, w < 1024 := fun w hm => hw w (by simp [hm])
  generalize hL : vw.length * 10 / 16 * 16 = L at hsh h128 hpad hinit ⊢
  generalize hV : valueOfWords vw = V at hsh hinit ⊢
  have hwf : (headerOf i0 i1 i2 i3 L V).WF := by
    refine ⟨hinit, ?_, ?_, ?_, h128⟩
    · show (i0 <<< 5) ||| (i1 >>> 5) < 2 ^ 15
      rw [or_eq_add _ _ 5 (by rw [Nat.shiftRight_eq_div_pow]; omega), Nat.shiftRight_eq_div_pow]; omega
    · show i1 &&& 31 < 32
      rw [Nat.and_two_pow_sub_one_eq_mod i1 5]; omega
    · show L % 16 = 0
      omega
  have hm : (10 - L % 10) % 10 + L = 10 * vw.length := by omega
  have hwords : wordsOfBits V vw.length = vw := by
    have := wordsOfBits_valueOfWords vw hvw 0
    rwa [Nat.zero_mul, Nat.zero_add, hV] at this
  refine ⟨hwf, ?_⟩
  rw [mnemonic_words _ hwf vw.length hm, headerWords_headerOf _ _ _ _ _ _ h1 h3]
  show ([i0, i1, i2, i3] ++ wordsOfBits V vw.length) ++ rs1024Create csShamir ([i0, i1, i2, i3] ++ wordsOfBits V vw.length) = _
  have hv' : rs1024Verify csShamir (([i0, i1, i2, i3] ++ vw) ++ [a, b, c]) = true := hv
  rw [hwords, create_unique csShamir _ a b c (hw a (by simp)) (hw b (by simp)) (hw c (by simp)) hv']
  rfl

end Embit.Model.Slip39
