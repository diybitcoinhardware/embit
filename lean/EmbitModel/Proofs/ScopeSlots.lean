import EmbitModel.Proofs.PsbtAddPair
/-
  What `write_to` emits for a scope is the concatenation of SEGMENTS, one per field (an optional field: 0 or 1 pair; a
  dict-valued field: its entries; `unknown`: the last one), and a key is ROUTED to one segment. An accepted step of
  `read_value` appends the pair read to the segment its key is routed to, where that key was not present (`Pushed`).
  "Nothing is lost" and "no key twice" are proved once over this view (`SlotView`); a scope type supplies its
  segments, its routing and one lemma `Step.pushed`.
-/
namespace Embit
open Model

theorem lookup_none_iff {β : Type} (k : Bytes) (l : List (Bytes × β)) :
    lookup k l = none ↔ ∀ p ∈ l, p.1 ≠ k := by
  induction l with
  | nil => simp [lookup]
  | cons x xs ih =>
    obtain ⟨k', v⟩ := x
    by_cases hk : k = k'
    · subst hk; simp [lookup]
    · have : ¬ k' = k := fun e => hk e.symm
      simp [lookup, hk, ih, this]

/-- segment `i` of `L` gets a last pair, under a key the segment did not hold -/
def Pushed (i : Nat) (kv : KV) (L L' : List (List KV)) : Prop :=
  ∃ seg, L[i]? = some seg ∧ kv.1 ∉ seg.map Prod.fst ∧ L' = L.set i (seg ++ [kv])

/-- segment `i` of `L` holds key `k` -/
def Holds (L : List (List KV)) (i : Nat) (k : Bytes) : Prop := ∃ seg, L[i]? = some seg ∧ k ∈ seg.map Prod.fst

theorem Pushed.inserted {i : Nat} {kv : KV} {L L' : List (List KV)} (h : Pushed i kv L L') :
    Inserted kv L.flatten L'.flatten := by
  obtain ⟨seg, hi, -, rfl⟩ := h
  induction L generalizing i with
  | nil => cases hi
  | cons a L ih =>
    cases i with
    | zero => cases hi; exact (Inserted.snoc kv _).append_right _
    | succ i => exact Inserted.append_left a (ih hi)

theorem Pushed.not_holds {i : Nat} {kv : KV} {L L' : List (List KV)} (h : Pushed i kv L L') : ¬ Holds L i kv.1 := by
  obtain ⟨seg, hi, hf, -⟩ := h
  rintro ⟨seg', hi', hm⟩
  cases hi.symm.trans hi'; exact hf hm

/-- segments only grow, and the segment pushed to holds the new key -/
theorem Pushed.mono {i : Nat} {kv : KV} {L L' : List (List KV)} (h : Pushed i kv L L') {j : Nat} {k : Bytes}
    (hk : Holds L j k ∨ (j = i ∧ k = kv.1)) : Holds L' j k := by
  obtain ⟨seg, hi, -, rfl⟩ := h
  have hlt : i < L.length := (List.getElem?_eq_some_iff.mp hi).1
  by_cases e : i = j
  · subst e
    refine ⟨seg ++ [kv], by simp [hlt], ?_⟩
    rcases hk with ⟨seg', hi', hm⟩ | ⟨-, rfl⟩
    · cases hi.symm.trans hi'; simp only [List.map_append, List.mem_append]; exact .inl hm
    · simp
  · obtain ⟨seg', hi', hm⟩ := hk.resolve_right fun h => e h.1.symm
    exact ⟨seg', by rw [List.getElem?_set_ne e]; exact hi', hm⟩

/-- a list of segments inside a longer one (the bitcoin scope inside the Liquid scope) -/
theorem Pushed.append {i : Nat} {kv : KV} {L L' : List (List KV)} (h : Pushed i kv L L') (A B : List (List KV)) :
    Pushed (A.length + i) kv (A ++ L ++ B) (A ++ L' ++ B) := by
  obtain ⟨seg, hi, hf, rfl⟩ := h
  have hlt : i < L.length := (List.getElem?_eq_some_iff.mp hi).1
  refine ⟨seg, ?_, hf, ?_⟩
  · rw [List.append_assoc, List.getElem?_append_right (Nat.le_add_right _ _), Nat.add_sub_cancel_left,
      List.getElem?_append_left hlt, hi]
  · simp only [List.append_assoc]
    rw [List.set_append_right _ _ (Nat.le_add_right _ _), Nat.add_sub_cancel_left, List.set_append_left _ _ hlt]

theorem Pushed.append_right {i : Nat} {kv : KV} {L L' : List (List KV)} (h : Pushed i kv L L') (B : List (List KV)) :
    Pushed i kv (L ++ B) (L' ++ B) := by simpa using h.append [] B

theorem Pushed.append_left {i : Nat} {kv : KV} {L L' : List (List KV)} (A : List (List KV)) (h : Pushed i kv L L') :
    Pushed (A.length + i) kv (A ++ L) (A ++ L') := by simpa using h.append A []

theorem Pushed.cons {i : Nat} {kv : KV} {L L' : List (List KV)} (a : List KV) (h : Pushed i kv L L') :
    Pushed (i + 1) kv (a :: L) (a :: L') := by
  obtain ⟨seg, hi, hf, rfl⟩ := h
  exact ⟨seg, hi, hf, rfl⟩

/-! The shapes of a segment: an optional field (raw or encoded), a dict-valued field, `unknown`, and a table of optional
    fields. `hi` and `hL` are closed by `rfl` when `L`, `L'` are list literals over a scope and its update. -/

theorem Pushed.opt {k v : Bytes} {o : Option Bytes} {i : Nat} {L L' : List (List KV)} (ho : o = none)
    (hi : L[i]? = some (optKV k o)) (hL : L' = L.set i (optKV k (some v))) : Pushed i (k, v) L L' :=
  ⟨[], by subst ho; exact hi, List.not_mem_nil, hL⟩

theorem Pushed.optMap {α : Type} {f : α → Bytes} {k v : Bytes} {o : Option α} {x : α} {i : Nat} {L L' : List (List KV)}
    (ho : o = none) (hx : f x = v) (hi : L[i]? = some (optKV k (o.map f)))
    (hL : L' = L.set i (optKV k ((some x).map f))) : Pushed i (k, v) L L' :=
  ⟨[], by subst ho; exact hi, List.not_mem_nil, hx ▸ hL⟩

theorem Pushed.dict {β : Type} {tag : UInt8} {enc : β → Bytes} {l : List (Bytes × β)} {p v : Bytes} {x : β} {i : Nat}
    {L L' : List (List KV)} (hn : lookup p l = none) (hx : enc x = v)
    (hi : L[i]? = some (l.map fun e => (tag :: e.1, enc e.2)))
    (hL : L' = L.set i ((l ++ [(p, x)]).map fun e => (tag :: e.1, enc e.2))) : Pushed i (tag :: p, v) L L' := by
  refine ⟨_, hi, ?_, by rw [hL, List.map_append, ← hx]; rfl⟩
  simp only [List.map_map, List.mem_map, Function.comp_apply, not_exists, not_and]
  exact fun e he h => (lookup_none_iff p l).mp hn e he (List.cons.inj h).2

theorem Pushed.snoc {l : List KV} {k v : Bytes} {i : Nat} {L L' : List (List KV)} (hn : lookup k l = none)
    (hi : L[i]? = some l) (hL : L' = L.set i (l ++ [(k, v)])) : Pushed i (k, v) L L' := by
  refine ⟨_, hi, ?_, hL⟩
  simp only [List.mem_map, not_exists, not_and]
  exact fun e he h => (lookup_none_iff k l).mp hn e he h

/-- a table of optional fields written in the order `order`: an entry that was empty gets a value -/
theorem Pushed.table {φ : Type} [DecidableEq φ] {key : φ → Bytes} {g g' : φ → Option Bytes} {f : φ} {v : Bytes}
    (hg : g f = none) (hg' : g' f = some v) (hne : ∀ x, x ≠ f → g' x = g x) :
    ∀ {order : List φ}, order.Nodup → f ∈ order →
      Pushed (order.idxOf f) (key f, v) (order.map fun x => optKV (key x) (g x)) (order.map fun x => optKV (key x) (g' x)) := by
  intro order
  induction order with
  | nil => intro _ h; cases h
  | cons a l ih =>
    intro hn hm
    obtain ⟨hal, hn⟩ := List.nodup_cons.mp hn
    by_cases ha : a = f
    · subst ha
      have hsame : (l.map fun x => optKV (key x) (g' x)) = l.map fun x => optKV (key x) (g x) :=
        List.map_congr_left fun x hx => by rw [hne x fun e => hal (e ▸ hx)]
      rw [List.idxOf_cons_self, List.map_cons, List.map_cons, hsame, hg, hg']
      exact ⟨[], rfl, List.not_mem_nil, rfl⟩
    · rw [List.idxOf_cons, show (a == f) = false from beq_false_of_ne ha, cond_false, List.map_cons, List.map_cons, hne a ha]
      exact (ih hn ((List.mem_cons.mp hm).resolve_left (Ne.symm ha))).cons _

theorem flatten_optKV_table {φ : Type} (key : φ → Bytes) (g : φ → Option Bytes) (l : List φ) :
    (l.map fun x => optKV (key x) (g x)).flatten = l.filterMap fun x => (g x).map fun v => (key x, v) := by
  induction l with
  | nil => rfl
  | cons a l ih =>
    rw [List.map_cons, List.flatten_cons, ih, List.filterMap_cons]
    cases g a <;> rfl

/-- a reader `f` whose state is written as segments: every accepted pair (key in the spelling `canon` it is written
    under) is appended to the segment its key is routed to. `Ok` is what the scope has to satisfy for that (for a
    version-0 scope: it carries the transaction fields, so the keys that are not written are refused). -/
structure SlotView (σ : Type) (f : σ → KV → Option σ) where
  segs : σ → List (List KV)
  route : Bytes → Nat
  canon : Bytes → Bytes
  Ok : σ → Prop
  ok_step : ∀ {s kv s'}, Ok s → f s kv = some s' → Ok s'
  pushed : ∀ {s kv s'}, kv.1 ≠ [] → Ok s → f s kv = some s' →
    Pushed (route (canon kv.1)) (canon kv.1, kv.2) (segs s) (segs s')

variable {σ : Type} {f : σ → KV → Option σ}

/-- what is written after a run is what was read, put into what the start state writes -/
theorem SlotView.perm (V : SlotView σ f) {kvs : List KV} {s s' : σ} (hne : ∀ kv ∈ kvs, kv.1 ≠ []) (hok : V.Ok s)
    (h : kvs.foldlM f s = some s') :
    (V.segs s').flatten.Perm (kvs.map (fun kv => (V.canon kv.1, kv.2)) ++ (V.segs s).flatten) := by
  refine foldlM_some_induction (motive := fun s kvs s' => (∀ kv ∈ kvs, kv.1 ≠ []) → V.Ok s →
    (V.segs s').flatten.Perm (kvs.map (fun kv => (V.canon kv.1, kv.2)) ++ (V.segs s).flatten))
    (fun _ _ _ => .refl _) (fun {s kv s1 kvs s'} h1 _ ih hne hok => ?_) h hne hok
  have hp := (V.pushed (hne _ List.mem_cons_self) hok h1).inserted.perm
  exact (ih (fun x hx => hne x (List.mem_cons_of_mem _ hx)) (V.ok_step hok h1)).trans
    ((hp.append_left _).trans List.perm_middle)

/-- no key (in its written spelling) is accepted twice: once accepted it is held by its segment, segments only grow,
    and a key its segment holds is refused -/
theorem SlotView.nodup (V : SlotView σ f) {kvs : List KV} {s s' : σ} (hne : ∀ kv ∈ kvs, kv.1 ≠ []) (hok : V.Ok s)
    (h : kvs.foldlM f s = some s') : (kvs.map fun kv => V.canon kv.1).Nodup := by
  refine (foldlM_some_induction (motive := fun s kvs _ => (∀ kv ∈ kvs, kv.1 ≠ []) → V.Ok s →
    (kvs.map fun kv => V.canon kv.1).Nodup
      ∧ ∀ kv ∈ kvs, ¬ Holds (V.segs s) (V.route (V.canon kv.1)) (V.canon kv.1))
    (fun _ _ _ => ⟨.nil, fun _ hkv => nomatch hkv⟩) (fun {s kv s1 kvs s'} h1 _ ih hne hok => ?_) h hne hok).1
  have hp := V.pushed (hne _ List.mem_cons_self) hok h1
  obtain ⟨b1, b2⟩ := ih (fun x hx => hne x (List.mem_cons_of_mem _ hx)) (V.ok_step hok h1)
  refine ⟨List.nodup_cons.mpr ⟨fun hm => ?_, b1⟩, List.forall_mem_cons.mpr ⟨hp.not_holds, fun x hx hh => ?_⟩⟩
  · obtain ⟨x, hx, e⟩ := List.mem_map.mp hm
    exact b2 x hx (hp.mono (.inr ⟨congrArg V.route e, e⟩))
  · exact b2 x hx (hp.mono (.inl hh))

/-- from a start state that writes nothing: what is written is what was read, and no key is written twice -/
theorem SlotView.written (V : SlotView σ f) {kvs : List KV} {s s' : σ} (hne : ∀ kv ∈ kvs, kv.1 ≠ []) (hok : V.Ok s)
    (h0 : (V.segs s).flatten = []) (h : kvs.foldlM f s = some s') :
    (kvs.map fun kv => (V.canon kv.1, kv.2)).Perm (V.segs s').flatten ∧ ((V.segs s').flatten.map Prod.fst).Nodup := by
  have hp := V.perm hne hok h
  rw [h0, List.append_nil] at hp
  refine ⟨hp.symm, (hp.map Prod.fst).nodup_iff.mpr ?_⟩
  simpa [List.map_map, Function.comp_def] using V.nodup hne hok h

end Embit
