import EmbitModel.Model.HeapAlias
/-
  C19 — keyed memos under in-place edits of the caller's argument objects: the memo invariant and its preservation.
-/
namespace Embit.HeapAlias

/-- every memo entry holds the value of `f` on the contents its key compares as NOW; reference keys exist only when
    some method aliases, and point to existing argument objects -/
def MemoOk (env : Env) (st : State) : Prop :=
  ∀ i m key v, st.memo i m = some (key, v) →
    v = env.f m (st.recv i) (keyContent st key) ∧ (∀ r, key = .ref r → env.keysCopy = false ∧ r < st.nargs)

theorem memoOk_init (env : Env) : MemoOk env init := by
  intro i m key v h; simp [init] at h

theorem keyKind_aliases {env : Env} {m : Nat} (h : keyKind env m = .aliases) : env.keysCopy = false := by
  unfold keyKind at h
  cases hm : env.methods[m]? with
  | none => rw [hm] at h; simp at h
  | some k =>
    rw [hm] at h
    simp only [Option.getD_some] at h
    subst h
    have hmem := List.mem_of_getElem? hm
    cases hk : env.keysCopy with
    | false => rfl
    | true =>
      simp only [Env.keysCopy, List.all_eq_true] at hk
      have := hk _ hmem
      simp at this

theorem mkKey_ok (env : Env) (st : State) (m k : Nat) (hk : k < st.nargs) :
    keyContent st (mkKey env st m k) = st.args k ∧
      (∀ r, mkKey env st m k = .ref r → env.keysCopy = false ∧ r < st.nargs) := by
  unfold mkKey
  cases hkind : keyKind env m with
  | copies => exact ⟨rfl, fun r h => by cases h⟩
  | aliases =>
    refine ⟨rfl, fun r h => ?_⟩
    cases h
    exact ⟨keyKind_aliases hkind, hk⟩

theorem step_memoOk (env : Env) (st : State) (op : Op) (hop : env.keysCopy = true ∨ op.isEdit = false)
    (I : MemoOk env st) : MemoOk env (step env st op) := by
  cases op with
  | newArg c =>
    intro i m key v h
    obtain ⟨h1, h2⟩ := I i m key v h
    refine ⟨?_, fun r hr => ⟨(h2 r hr).1, Nat.lt_succ_of_lt (h2 r hr).2⟩⟩
    rw [h1]
    cases key with
    | content c' => rfl
    | ref r =>
      have hr := (h2 r rfl).2
      have : r ≠ st.nargs := Nat.ne_of_lt hr
      simp [step, keyContent, this]
  | editArg k c =>
    rcases hop with hop | hop
    · by_cases hk : k < st.nargs
      · intro i m key v h
        have h' : st.memo i m = some (key, v) := by simpa [step, hk] using h
        obtain ⟨h1, h2⟩ := I i m key v h'
        cases key with
        | content c' => exact ⟨by simpa [step, hk, keyContent] using h1, fun r hr => by cases hr⟩
        | ref r => have := (h2 r rfl).1; rw [hop] at this; cases this
      · simpa [step, hk] using I
    · simp [Op.isEdit] at hop
  | newObj c =>
    intro i m key v h
    by_cases hi : i = st.nobjs
    · simp [step, hi] at h
    · have h' : st.memo i m = some (key, v) := by simpa [step, hi] using h
      obtain ⟨h1, h2⟩ := I i m key v h'
      refine ⟨?_, h2⟩
      rw [h1]
      cases key <;> simp [step, hi, keyContent]
  | mutate j w =>
    by_cases hj : j < st.nobjs
    · intro i m key v h
      by_cases hi : i = j
      · simp [step, hj, hi] at h
      · have h' : st.memo i m = some (key, v) := by simpa [step, hj, hi] using h
        obtain ⟨h1, h2⟩ := I i m key v h'
        refine ⟨?_, by simpa [step, hj] using h2⟩
        rw [h1]
        cases key <;> simp [step, hj, hi, keyContent]
    · simpa [step, hj] using I
  | query j n k =>
    by_cases hjk : j < st.nobjs ∧ k < st.nargs
    · have store : MemoOk env (setMemo st j n (mkKey env st n k, env.f n (st.recv j) (st.args k))) := by
        intro i m key v h
        simp only [setMemo] at h
        by_cases him : i = j ∧ m = n
        · obtain ⟨rfl, rfl⟩ := him
          simp only [and_self, if_true, Option.some.injEq, Prod.mk.injEq] at h
          obtain ⟨rfl, rfl⟩ := h
          obtain ⟨e1, e2⟩ := mkKey_ok env st m k hjk.2
          refine ⟨?_, e2⟩
          have : keyContent (setMemo st i m (mkKey env st m k, env.f m (st.recv i) (st.args k))) (mkKey env st m k)
              = keyContent st (mkKey env st m k) := by cases mkKey env st m k <;> rfl
          rw [this, e1]; rfl
        · simp only [him, if_false] at h
          obtain ⟨h1, h2⟩ := I i m key v h
          refine ⟨?_, h2⟩
          rw [h1]; cases key <;> rfl
      -- the query stores an entry unless the slot holds one whose key compares equal
      simp only [step, hjk, and_self, if_true]
      split
      · split
        · exact I
        · exact store
      · exact store
    · simpa only [step, hjk, if_false] using I

theorem run_memoOk (env : Env) (h : List Op) :
    ∀ st, (env.keysCopy = true ∨ (h.all fun o => !o.isEdit) = true) → MemoOk env st → MemoOk env (run env st h) := by
  induction h with
  | nil => intro st _ I; exact I
  | cons op ops ih =>
    intro st hs I
    simp only [List.all_cons, Bool.and_eq_true, Bool.not_eq_true'] at hs
    exact ih _ (hs.imp_right And.right) (step_memoOk env st op (hs.imp_right And.left) I)

theorem answer_of_memoOk (env : Env) (st : State) (I : MemoOk env st) (i m k : Nat) :
    answer env st i m k = env.f m (st.recv i) (st.args k) := by
  unfold answer
  cases hmemo : st.memo i m with
  | none => rfl
  | some e =>
    obtain ⟨key, v⟩ := e
    simp only
    split
    · rename_i hit
      rw [(I i m key v hmemo).1, hit]
    · rfl

end Embit.HeapAlias
