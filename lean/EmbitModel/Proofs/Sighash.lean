import EmbitModel.Model.Sighash
import EmbitModel.Spec.Consensus
import EmbitModel.Proofs.Tx
/-
  Helper lemmas for C01.
-/
namespace Embit
open Model Spec.Wire Spec.Consensus

theorem optConcat_map_some {α : Type} (l : List α) (g : α → Bytes) :
    optConcat (l.map fun x => some (g x)) = some (l.flatMap g) := by
  induction l with
  | nil => rfl
  | cons x xs ih => simp [optConcat, ih]

theorem validFlag_cases {f : Nat} (h : validFlag f = true) :
    f = 0 ∨ f = 1 ∨ f = 2 ∨ f = 3 ∨ f = 0x80 ∨ f = 0x81 ∨ f = 0x82 ∨ f = 0x83 := by
  simpa [validFlag] using h

theorem sighashCheck_valid {f : Nat} (h : validFlag f = true) :
    sighashCheck f = some (base f, anyoneCanPay f) := by
  rcases validFlag_cases h with rfl | rfl | rfl | rfl | rfl | rfl | rfl | rfl <;> rfl

theorem serWith_valid (inp : TxIn) (s : Bytes) {f : Nat} (h : validFlag f = true) :
    TxIn.serWith inp (some s) f
      = some (encIn { inp with scriptSig := s,
                               sequence := if anyoneCanPay f || isSingle f || isNone f then 0 else inp.sequence }) := by
  simp only [TxIn.serWith, sighashCheck_valid h, encIn, outpoint, varStr, scriptSer, List.append_assoc]
  rfl

theorem zipIdx_flatMap_eq_mapIdx {α β : Type} (l : List α) (g : α → Nat → β) (e : β → Bytes) :
    (l.zipIdx.map fun (x, i) => e (g x i)).flatten = (l.mapIdx fun i x => g x i).flatMap e := by
  rw [List.mapIdx_eq_zipIdx_map, List.flatMap_def, List.map_map]
  rfl

theorem flatten_replicate_flatMap {α : Type} (n : Nat) (x : α) (e : α → Bytes) :
    (List.replicate n (e x)).flatten = (List.replicate n x).flatMap e := by
  induction n with
  | zero => rfl
  | succ n ih => simp [List.replicate_succ, ih]

theorem serWith_all (inp : TxIn) (s : Bytes) :
    TxIn.serWith inp (some s) SIGHASH_ALL = some (encIn { inp with scriptSig := s }) :=
  serWith_valid inp s (f := SIGHASH_ALL) rfl

theorem TxOut.ser_fun : TxOut.ser = encOut := funext TxOut.ser_eq

theorem ins_nonacp (t : Tx) (idx : Nat) (sc : Bytes) {f : Nat} (h : validFlag f = true)
    (hacp : anyoneCanPay f = false) :
    optConcat (t.vin.zipIdx.map fun p =>
        if idx = p.2 then TxIn.serWith p.1 (some sc) SIGHASH_ALL else TxIn.serWith p.1 (some []) f)
    = some ((t.vin.mapIdx fun i inp =>
        if i = idx then { inp with scriptSig := sc }
        else { inp with scriptSig := [], sequence := if isNone f || isSingle f then 0 else inp.sequence }).flatMap encIn) := by
  have : (fun (p : TxIn × Nat) =>
        if idx = p.2 then TxIn.serWith p.1 (some sc) SIGHASH_ALL else TxIn.serWith p.1 (some []) f)
      = fun p => some (encIn (if p.2 = idx then { p.1 with scriptSig := sc }
        else { p.1 with scriptSig := [], sequence := if isNone f || isSingle f then 0 else p.1.sequence })) := by
    funext p
    by_cases hp : idx = p.2
    · simp [hp, serWith_all]
    · have hp' : ¬ p.2 = idx := fun e => hp e.symm
      simp [hp, hp', serWith_valid _ _ h, hacp, Bool.or_comm]
  rw [this, optConcat_map_some, List.mapIdx_eq_zipIdx_map, List.flatMap_map]

/-- DEFAULT (0) is signed as ALL; this does not change whether the base type is NONE or SINGLE -/
theorem defaultAsAll_beq (n k : Nat) (hk : 2 ≤ k) :
    ((if (n == 0) = true then SIGHASH_ALL else n) == k) = (n == k) := by
  by_cases h : n = 0
  · subst h
    rw [if_pos (by rfl), SIGHASH_ALL, beq_false_of_ne (by omega), beq_false_of_ne (by omega)]
  · simp [h]

theorem hashPrevoutsPre_eq (t : Tx) : hashPrevoutsPre t = t.vin.flatMap outpoint := rfl
theorem hashSequencePre_eq (t : Tx) : hashSequencePre t = t.vin.flatMap fun i => leN 4 i.sequence := rfl
theorem hashOutputsPre_eq (t : Tx) : hashOutputsPre t = t.vout.flatMap encOut := rfl
theorem hashAmountsPre_eq (values : List Nat) : hashAmountsPre values = values.flatMap (leN 8) := rfl
theorem hashSpksPre_eq (spks : List Bytes) : hashSpksPre spks = spks.flatMap varStr := rfl

theorem getElem?_some_lt {α : Type} {l : List α} {i : Nat} {x : α} (h : l[i]? = some x) : ¬ i ≥ l.length :=
  Nat.not_le.mpr (List.getElem?_eq_some_iff.mp h).1

/-! taproot: the refusals of `fixes/fix-taproot-hashtype.diff` -/

/-- below 256, a hash type that BIP341 does not define is either refused by `SIGHASH.check` or is 0x80 -/
theorem check_of_invalidTaprootFlag (f : Nat) (h : f < 256) (hv : validTaprootFlag f = false) :
    sighashCheck f = none ∨ sighashCheck f = some (0, true) := by
  have key : (List.range 256).all (fun f => validTaprootFlag f ||
      decide (sighashCheck f = none ∨ sighashCheck f = some (0, true))) = true := by decide +kernel
  simpa [hv] using List.all_eq_true.mp key f (List.mem_range.mpr h)

theorem validTaprootFlag_facts {f : Nat} (h : validTaprootFlag f = true) :
    validFlag f = true ∧ f < 256 ∧ (anyoneCanPay f && base f == 0) = false ∧
    ((if f = 0 then 1 else f % 4) = 3 ↔ isSingle f = true) ∧
    ((if f = 0 then 1 else f % 4) = 2 ↔ isNone f = true) := by
  have : f = 0 ∨ f = 1 ∨ f = 2 ∨ f = 3 ∨ f = 0x81 ∨ f = 0x82 ∨ f = 0x83 := by simpa [validTaprootFlag] using h
  rcases this with rfl | rfl | rfl | rfl | rfl | rfl | rfl <;> decide

/-- `sighash_taproot` refuses every hash type outside BIP341's seven (any natural number, 0x80 included) -/
theorem sighashTaproot_invalid_flag (sha : Bytes → Bytes) (t : Tx) (idx : Nat) (spks : List Bytes)
    (values : List Nat) (f e : Nat) (a s : Option Bytes) (lv : Nat) (cs : Option Nat)
    (hv : validTaprootFlag f = false) :
    sighashTaproot sha t idx spks values f e a s lv cs = none := by
  unfold sighashTaproot
  by_cases h1 : idx ≥ t.vin.length
  · exact if_pos h1
  rw [if_neg h1]
  by_cases h2 : values.length ≠ t.vin.length
  · exact if_pos h2
  rw [if_neg h2]
  by_cases h3 : spks.length ≠ t.vin.length
  · exact if_pos h3
  rw [if_neg h3]
  rcases Nat.lt_or_ge f 256 with h | h
  · rcases check_of_invalidTaprootFlag f h hv with hc | hc <;> rw [hc] <;> rfl
  · cases sighashCheck f with
    | none => rfl
    | some p =>
      by_cases h4 : (p.2 && p.1 == 0) = true
      · exact if_pos h4
      · exact (if_neg h4).trans (if_pos h)

/-- `sighash_taproot` refuses a list of spent scripts whose length is not the number of inputs -/
theorem sighashTaproot_spks_length (sha : Bytes → Bytes) (t : Tx) (idx : Nat) (spks : List Bytes)
    (values : List Nat) (f e : Nat) (a s : Option Bytes) (lv : Nat) (cs : Option Nat)
    (hs : spks.length ≠ t.vin.length) :
    sighashTaproot sha t idx spks values f e a s lv cs = none := by
  unfold sighashTaproot
  by_cases h1 : idx ≥ t.vin.length
  · exact if_pos h1
  by_cases h2 : values.length ≠ t.vin.length
  · exact (if_neg h1).trans (if_pos h2)
  · exact (if_neg h1).trans ((if_neg h2).trans (if_pos hs))

end Embit
