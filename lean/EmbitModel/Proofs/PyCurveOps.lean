import EmbitModel.Proofs.PyCurvePoints
import EmbitModel.Proofs.EcLaws
import EmbitModel.Model.PyCurveOps
import Mathlib.GroupTheory.SpecificGroups.Cyclic
/-
  `pyEcOps C n g`: the abstract curve record `EcOps` (over which `Model/PySecp.lean`, the libsecp contract and
  all of C07 / C08 are written) INSTANTIATED with key.py's own arithmetic, and `pyEcLaws`: the law structure
  `EcLaws` for it, from explicit arithmetic facts about the parameters.

  Points are the canonical affine values the binding layer exchanges (what `ECPubKey.get_bytes` serialises):
  `none` or reduced coordinates on the curve. Every operation embeds its operands as `(x, y, 1)` / `(0, 1, 0)`,
  runs the modelled key.py function (`add`, `negate`, `mul`, `on_curve`, `ECPubKey.set`'s compressed branch,
  `modinv`) and normalises the result with `affine` — the pipeline of `py_secp256k1.py`. Because `affine` is a
  function of the group element only (`affineXY_eq`), normalising between steps does not change any result.
-/
namespace Embit.Model.PyCurve
open WeierstrassCurve WeierstrassCurve.Jacobian

variable (C : Curve) [Fact C.p.Prime]

/-! `toJ` (the tuple `ECPubKey` stores for an affine value) and `eInvN` (`modinv(·, n)` on naturals) are defined in
    Model/PyCurveOps.lean (Mathlib-free: the driver's record `lawfulOps` uses the same two functions). -/

/-- canonical points: infinity, or the reduced coordinates of a point of the curve -/
abbrev APt : Type := { q : Option (ℕ × ℕ) // Valid C (toJ q) }

theorem affineXY_spec {J : JPt} (hv : Valid C J) :
    Valid C (toJ ((affineXY C J).getD none)) ∧ pt C (toJ ((affineXY C J).getD none)) = pt C J := by
  obtain ⟨x, y, z⟩ := J
  by_cases hz : z = 0
  · subst hz
    simp only [affineXY, affine_inf, Option.getD_some, toJ]
    exact ⟨valid_inf C (p_gt_one C), (pt_inf C).trans (pt_of_z_zero C (P := (x, y, 0)) rfl).symm⟩
  · obtain ⟨x', y', ha, hv', _, _, hpt⟩ := affine_finite C hv hz
    simp only [affineXY, ha, Option.getD_some, toJ]
    rw [Int.toNat_of_nonneg hv'.red.1.1, Int.toNat_of_nonneg hv'.red.2.1.1]
    exact ⟨hv', hpt⟩

theorem valid_affineXY {J : JPt} (hv : Valid C J) : Valid C (toJ ((affineXY C J).getD none)) := (affineXY_spec C hv).1

open Classical in
/-- `affine` of a tuple as a canonical point (infinity for a tuple that is not valid — never the case below) -/
noncomputable def ofJ (J : JPt) : APt C :=
  if hv : Valid C J then ⟨(affineXY C J).getD none, valid_affineXY C hv⟩ else ⟨none, valid_inf C (p_gt_one C)⟩

/-- the group element of a canonical point -/
noncomputable def ι (P : APt C) : (W C).toAffine.Point := pt C (toJ P.1)

theorem ofJ_val {J : JPt} (hv : Valid C J) : (ofJ C J).1 = (affineXY C J).getD none := by
  unfold ofJ
  rw [dif_pos hv]

theorem ι_ofJ {J : JPt} (hv : Valid C J) : ι C (ofJ C J) = pt C J := by
  unfold ι
  rw [ofJ_val C hv]
  exact (affineXY_spec C hv).2

theorem pt_affine_some (x y : ℕ) (hv : Valid C ((x : ℤ), (y : ℤ), 1)) :
    ∃ h, pt C ((x : ℤ), (y : ℤ), 1) = Affine.Point.some (((x : ℤ)) : ZMod C.p) (((y : ℤ)) : ZMod C.p) h := by
  have hF : toF C ((x : ℤ), (y : ℤ), 1) = ![(((x : ℤ)) : ZMod C.p), (((y : ℤ)) : ZMod C.p), 1] := by simp [toF]
  have hns := hv.nonsingular C one_ne_zero
  rw [hF] at hns
  exact ⟨(nonsingular_some _ _).mp hns, by unfold pt; rw [hF]; exact Point.toAffine_some hns⟩

theorem ptXY_ι (P : APt C) : ptXY C (ι C P) = P.1 := by
  have : NeZero C.p := ⟨(p_pos C).ne'⟩
  obtain ⟨_ | ⟨x, y⟩, hq⟩ := P
  · show ptXY C (pt C inf) = none
    rw [pt_inf]; rfl
  · have hq' : Valid C ((x : ℤ), (y : ℤ), 1) := hq
    obtain ⟨k, e⟩ := pt_affine_some C x y hq'
    show ptXY C (pt C ((x : ℤ), (y : ℤ), 1)) = some (x, y)
    rw [e, ptXY, val_cast_of_red hq'.red.1.1 hq'.red.1.2, val_cast_of_red hq'.red.2.1.1 hq'.red.2.1.2]
    rfl

theorem ι_injective : Function.Injective (ι C) := fun P Q h =>
  Subtype.ext (by rw [← ptXY_ι C P, h, ptXY_ι])

theorem ι_surjective (hs : Smooth C) : Function.Surjective (ι C) := by
  have : NeZero C.p := ⟨(p_pos C).ne'⟩
  intro Q
  cases Q with
  | zero => exact ⟨⟨none, valid_inf C (p_gt_one C)⟩, pt_inf C⟩
  | some x y h =>
    have hx : ((x.val : ℤ) : ZMod C.p) = x := by simp
    have hy : ((y.val : ℤ) : ZMod C.p) = y := by simp
    have hv : Valid C ((x.val : ℤ), (y.val : ℤ), 1) := by
      apply valid_affine_of_eqn C hs ⟨by positivity, by exact_mod_cast x.val_lt⟩ ⟨by positivity, by exact_mod_cast y.val_lt⟩
      rw [hx, hy]
      exact point_eqn C h
    refine ⟨⟨some (x.val, y.val), hv⟩, ?_⟩
    obtain ⟨k, e⟩ := pt_affine_some C x.val y.val hv
    unfold ι
    simp only [toJ]
    rw [e]
    simp only [Affine.Point.some.injEq]
    exact ⟨hx, hy⟩

noncomputable def eAdd (P Q : APt C) : APt C := ofJ C (add C (toJ P.1) (toJ Q.1))
noncomputable def eNeg (P : APt C) : APt C := ofJ C (negate C (toJ P.1))
noncomputable def eMul (n k : ℕ) (P : APt C) : APt C :=
  ofJ C (mul C [(toJ P.1, if k < 2 ^ 256 then k else k % n)])
def eXY (P : APt C) : Option (ℕ × ℕ) := (affineXY C (toJ P.1)).getD none
noncomputable def eOfXY (x y : ℕ) : Option (APt C) := (setUncompressed C x y).map (ofJ C)
noncomputable def eLiftX (x : ℕ) : Option (APt C) :=
  match setCompressed C false x with
  | some (some J) => some (ofJ C J)
  | _ => none

/-- key.py's arithmetic as an `EcOps` (`n` the claimed order, `g` the generator as a canonical point).
    `mul`: key.py's loop reads 256 bits of the scalar; every caller passes a value below `2^256` (a 32-byte
    integer or a residue modulo `n`), for which this is `mul([(P, k)])` exactly; larger `k` (never passed) are
    reduced modulo `n` first so that the record is total. `invN` is `modinv(·, n)` (a value in `[0, n)` by
    `modinv_range`; `None` — never reached for `0 < a < n` — reads as 0). `liftX` is the compressed branch of `ECPubKey.set` before the parity flip; `ofXY` its
    uncompressed branch; `xy` is `affine` as `get_bytes` applies it. -/
noncomputable def pyEcOps (n : ℕ) (g : APt C) : EcOps where
  Pt := APt C
  add := eAdd C
  neg := eNeg C
  mul := eMul C n
  g := g
  n := n
  p := C.p
  xy := eXY C
  ofXY := eOfXY C
  liftX := eLiftX C
  invN := eInvN n

structure Params (n : ℕ) (g : APt C) : Prop where
  /-- `p ≡ 3 (mod 4)` (what `modsqrt` needs) -/
  p34 : C.p % 4 = 3
  disc : (4 * C.a ^ 3 + 27 * C.b ^ 2) % (C.p : ℤ) ≠ 0
  /-- `b` is not a square modulo `p` (no point with `x = 0`): `jacobi_symbol(b, p) = -1` -/
  b_nonsquare : jacobiSymbol C.b C.p = some (-1)
  n_prime : n.Prime
  n_odd : n ≠ 2
  n_le : n ≤ 2 ^ 256
  g_finite : g.1 ≠ none
  /-- `n • G = 0`, as key.py computes it -/
  nG : (mul C [(toJ g.1, n)]).2.2 = 0

/-- the hypothesis that is NOT decidable by running the code on the parameters: the curve has exactly `n`
    points (including the point at infinity) -/
def CardEq (n : ℕ) : Prop := Nat.card (W C).toAffine.Point = n

section laws
variable {n : ℕ} {g : APt C} (hp : Params C n g)
include hp

omit [Fact C.p.Prime] in
theorem Params.smooth : Smooth C := ⟨by have := hp.p34; omega, hp.disc⟩

omit [Fact C.p.Prime] in
theorem Params.p_odd : C.p % 2 = 1 := by have := hp.p34; omega

omit hp in
theorem ι_add (P Q : APt C) : ι C (eAdd C P Q) = ι C P + ι C Q := by
  show ι C (ofJ C (add C (toJ P.1) (toJ Q.1))) = _
  obtain ⟨h1, h2⟩ := pt_add C P.2 Q.2
  rw [ι_ofJ C h2, h1]; rfl

omit hp in
theorem ι_neg (P : APt C) : ι C (eNeg C P) = - ι C P := by
  show ι C (ofJ C (negate C (toJ P.1))) = _
  rw [ι_ofJ C (valid_negate C P.2), pt_negate C P.2]; rfl

theorem ι_g_ne : ι C g ≠ 0 := by
  obtain ⟨q, hq⟩ := g
  have := hp.g_finite
  simp only at this
  cases q with
  | none => exact absurd rfl this
  | some xy => obtain ⟨x, y⟩ := xy; exact pt_ne_zero C hq one_ne_zero

theorem nsmul_g : n • ι C g = 0 := by
  have h := pt_mul_single C g.2 n (lt_of_le_of_ne hp.n_le (by
    intro h; have := hp.n_prime; rw [h] at this
    exact absurd (this.eq_one_or_self_of_dvd 2 (dvd_pow_self 2 (by norm_num))) (by norm_num)))
  show n • pt C (toJ g.1) = 0
  rw [← h]
  exact pt_of_z_zero C hp.nG

theorem addOrderOf_g : addOrderOf (ι C g) = n := by
  have : Fact n.Prime := ⟨hp.n_prime⟩
  exact addOrderOf_eq_prime (nsmul_g C hp) (ι_g_ne C hp)

theorem n_dvd_card : n ∣ Nat.card (W C).toAffine.Point := by
  rw [← addOrderOf_g C hp]; exact addOrderOf_dvd_natCard _

theorem ι_mul (k : ℕ) (P : APt C) (hP : n • ι C P = 0) : ι C (eMul C n k P) = k • ι C P := by
  show ι C (ofJ C (mul C [(toJ P.1, if k < 2 ^ 256 then k else k % n)])) = _
  have hval : Valid C (mul C [(toJ P.1, if k < 2 ^ 256 then k else k % n)]) :=
    valid_mul C _ (by simpa using P.2)
  rw [ι_ofJ C hval]
  have hn0 : 0 < n := hp.n_prime.pos
  by_cases hk : k < 2 ^ 256
  · rw [if_pos hk, pt_mul_single C P.2 k hk]; rfl
  · rw [if_neg hk, pt_mul_single C P.2 (k % n) (lt_of_lt_of_le (Nat.mod_lt _ hn0) hp.n_le)]
    show (k % n) • ι C P = k • ι C P
    conv_rhs => rw [← Nat.div_add_mod k n, add_nsmul, mul_nsmul, hP, nsmul_zero, zero_add]

theorem ι_mul_g (k : ℕ) : ι C (eMul C n k g) = k • ι C g := ι_mul C hp k g (nsmul_g C hp)

theorem nsmul_mul_g (k : ℕ) : n • ι C (eMul C n k g) = 0 := by
  rw [ι_mul_g C hp, ← mul_nsmul', mul_comm, mul_nsmul', nsmul_g C hp, nsmul_zero]

omit [Fact C.p.Prime] in
theorem invN_spec (a : ℕ) (h0 : 0 < a) (h1 : a < n) : (a * eInvN n a) % n = 1 := by
  show (a * ((modinv (a : ℤ) (n : ℤ)).getD 0).toNat) % n = 1
  have hg : Int.gcd (a : ℤ) n = 1 := by
    rw [Int.gcd_natCast_natCast, Nat.gcd_comm]
    exact (Nat.Prime.coprime_iff_not_dvd hp.n_prime).mpr (fun h => absurd (Nat.le_of_dvd h0 h) (by omega))
  obtain ⟨t, ht, hta⟩ := modinv_some n (a : ℤ) (by positivity) hg
  obtain ⟨ht0, _⟩ := modinv_range n (a : ℤ) (by positivity) (by exact_mod_cast h1) t ht
  rw [ht]
  simp only [Option.getD_some]
  have : ((a * t.toNat : ℕ) : ZMod n) = ((1 : ℕ) : ZMod n) := by
    push_cast
    rw [← Int.cast_natCast (R := ZMod n) t.toNat, Int.toNat_of_nonneg ht0]
    have : ((a : ℤ) : ZMod n) = (a : ZMod n) := by push_cast; rfl
    rw [← this, mul_comm]; exact hta
  have h2 := (ZMod.natCast_eq_natCast_iff' _ _ _).mp this
  rw [h2]
  exact Nat.mod_eq_of_lt hp.n_prime.one_lt

end laws

theorem ofJ_toJ (P : APt C) : ofJ C (toJ P.1) = P := by
  apply ι_injective C
  rw [ι_ofJ C P.2]
  rfl

theorem ofJ_toJ' (q : Option (ℕ × ℕ)) (hv : Valid C (toJ q)) : ofJ C (toJ q) = ⟨q, hv⟩ := ofJ_toJ C ⟨q, hv⟩

theorem ofJ_some (x y : ℕ) (hv : Valid C ((x : ℤ), (y : ℤ), 1)) : ofJ C ((x : ℤ), (y : ℤ), 1) = ⟨some (x, y), hv⟩ :=
  ofJ_toJ C ⟨some (x, y), hv⟩

theorem xy_val (P : APt C) : eXY C P = P.1 := by
  show (affineXY C (toJ P.1)).getD none = P.1
  rw [← ofJ_val C P.2, ofJ_toJ]

theorem val_none_iff (P : APt C) : P.1 = none ↔ ι C P = 0 := by
  obtain ⟨q, hq⟩ := P
  cases q with
  | none => simp only [true_iff]; exact pt_inf C
  | some xy =>
    obtain ⟨x, y⟩ := xy
    simp only [reduceCtorEq, false_iff]
    exact pt_ne_zero C hq one_ne_zero

section laws2
variable {n : ℕ} {g : APt C} (hp : Params C n g) (hc : CardEq C n)
include hp

/-- no point has `x = 0`: `b` is not a square -/
theorem x_ne_zero {y : ℕ} (hv : Valid C ((0 : ℤ), (y : ℤ), 1)) : False := by
  have he := hv.affine_eqn C
  have hj := jacobiSymbol_eq C.b C.p (p_pos C) hp.p_odd
  rw [hp.b_nonsquare] at hj
  have hns := ZMod.nonsquare_iff_jacobiSym_eq_neg_one.mp (Option.some.inj hj).symm
  apply hns
  refine ⟨((y : ℤ) : ZMod C.p), ?_⟩
  simp only [Int.cast_zero, ne_eq, OfNat.ofNat_ne_zero, not_false_eq_true, zero_pow, mul_zero, add_zero, zero_add] at he
  rw [← he]; ring

omit hp in
include hc in
theorem nsmul_all (Q : (W C).toAffine.Point) : n • Q = 0 := by
  have h := addOrderOf_dvd_natCard Q
  rw [hc] at h
  obtain ⟨k, hk⟩ := h
  rw [hk, mul_nsmul, addOrderOf_nsmul_eq_zero, nsmul_zero]

include hc in
/-- no point has `y = 0`: the group has odd prime order, so no element of order two -/
theorem y_ne_zero {x : ℕ} (hv : Valid C ((x : ℤ), (0 : ℤ), 1)) : False := by
  have hneg : negate C ((x : ℤ), (0 : ℤ), 1) = ((x : ℤ), (0 : ℤ), 1) := by
    simp [negate]
  have h1 := pt_negate C hv
  rw [hneg] at h1
  have h2 : 2 • pt C ((x : ℤ), (0 : ℤ), 1) = 0 := by
    rw [two_nsmul]; nth_rewrite 1 [h1]; exact neg_add_cancel _
  have hn := nsmul_all C hc (pt C ((x : ℤ), (0 : ℤ), 1))
  have hd2 := addOrderOf_dvd_of_nsmul_eq_zero h2
  have hdn := addOrderOf_dvd_of_nsmul_eq_zero hn
  have hcop : Nat.Coprime 2 n := by
    rw [Nat.coprime_primes Nat.prime_two hp.n_prime]
    exact fun h => hp.n_odd h.symm
  have h1' : addOrderOf (pt C ((x : ℤ), (0 : ℤ), 1)) = 1 :=
    Nat.eq_one_of_dvd_coprimes hcop hd2 hdn
  rw [AddMonoid.addOrderOf_eq_one_iff] at h1'
  exact pt_ne_zero C hv one_ne_zero h1'

include hc in
theorem coords_range {P : APt C} {x y : ℕ} (h : P.1 = some (x, y)) : 0 < x ∧ x < C.p ∧ 0 < y ∧ y < C.p := by
  obtain ⟨q, hq⟩ := P
  simp only at h
  subst h
  simp only [toJ] at hq
  refine ⟨?_, (hq.nat_lt C).1, ?_, (hq.nat_lt C).2⟩
  · rcases Nat.eq_zero_or_pos x with h0 | h0
    · subst h0; exact (x_ne_zero C hp hq).elim
    · exact h0
  · rcases Nat.eq_zero_or_pos y with h0 | h0
    · subst h0; exact (y_ne_zero C hp hc hq).elim
    · exact h0

theorem law_mul_add (a b : ℕ) : eAdd C (eMul C n a g) (eMul C n b g) = eMul C n (a + b) g := by
  apply ι_injective C
  rw [ι_add, ι_mul_g C hp, ι_mul_g C hp, ι_mul_g C hp, add_nsmul]

theorem law_mul_mul (a b : ℕ) : eMul C n a (eMul C n b g) = eMul C n (a * b) g := by
  apply ι_injective C
  rw [ι_mul C hp a _ (nsmul_mul_g C hp b), ι_mul_g C hp, ι_mul_g C hp, mul_nsmul']

theorem law_mul_mod (a : ℕ) : eMul C n (a % n) g = eMul C n a g := by
  apply ι_injective C
  rw [ι_mul_g C hp, ι_mul_g C hp]
  conv_rhs => rw [← Nat.div_add_mod a n, add_nsmul, mul_nsmul, nsmul_g C hp, nsmul_zero, zero_add]

theorem law_neg_mul (a : ℕ) (ha : a ≤ n) : eNeg C (eMul C n a g) = eMul C n (n - a) g := by
  apply ι_injective C
  rw [ι_neg, ι_mul_g C hp, ι_mul_g C hp]
  have : (n - a) • ι C g + a • ι C g = 0 := by
    rw [← add_nsmul, Nat.sub_add_cancel ha, nsmul_g C hp]
  exact (eq_neg_of_add_eq_zero_left this).symm

include hc in
theorem law_xy_neg (P : APt C) (x y : ℕ) (h : eXY C P = some (x, y)) : eXY C (eNeg C P) = some (x, C.p - y) := by
  rw [xy_val] at h
  obtain ⟨hx0, hxp, hy0, hyp⟩ := coords_range C hp hc h
  rw [xy_val]
  show (ofJ C (negate C (toJ P.1))).1 = some (x, C.p - y)
  rw [h]
  have hneg : negate C (toJ (some (x, y))) = toJ (some (x, C.p - y)) := by
    simp only [negate, toJ, Prod.mk.injEq, true_and, and_true]
    rw [Int.emod_eq_of_lt (by omega) (by omega)]
    omega
  rw [hneg]
  have hv : Valid C (toJ (some (x, C.p - y))) := by
    rw [← hneg]
    have := valid_negate C P.2
    rwa [h] at this
  rw [ofJ_toJ' C _ hv]

theorem law_ofXY_xy (P : APt C) (x y : ℕ) (h : eXY C P = some (x, y)) : eOfXY C x y = some P := by
  rw [xy_val] at h
  show (setUncompressed C x y).map (ofJ C) = some P
  have hv : Valid C ((x : ℤ), (y : ℤ), 1) := by have := P.2; rwa [h] at this
  rw [(setUncompressed_iff C hp.smooth x y _).mpr ⟨rfl, (hv.nat_lt C).1, (hv.nat_lt C).2, hv⟩]
  simp only [Option.map_some, Option.some.injEq]
  rw [ofJ_some C x y hv]
  exact Subtype.ext h.symm

theorem law_xy_ofXY (P : APt C) (x y : ℕ) (h : eOfXY C x y = some P) : eXY C P = some (x, y) := by
  rw [xy_val]
  have h' : (setUncompressed C x y).map (ofJ C) = some P := h
  cases hs : setUncompressed C x y with
  | none => rw [hs] at h'; cases h'
  | some J =>
    rw [hs] at h'
    simp only [Option.map_some, Option.some.injEq] at h'
    obtain ⟨rfl, _, _, hv⟩ := (setUncompressed_iff C hp.smooth x y J).mp hs
    rw [← h']
    rw [ofJ_some C x y hv]

theorem law_mul_inj (a b : ℕ) (ha : a < n) (hb : b < n) (h : eMul C n a g = eMul C n b g) : a = b := by
  have h' := congrArg (ι C) h
  rw [ι_mul_g C hp, ι_mul_g C hp, nsmul_eq_nsmul_iff_modEq, addOrderOf_g C hp] at h'
  exact Nat.ModEq.eq_of_lt_of_lt h' ha hb

include hc in
theorem law_generated (P : APt C) : ∃ a, a < n ∧ P = eMul C n a g := by
  have : Fact n.Prime := ⟨hp.n_prime⟩
  have htop := zmultiples_eq_top_of_prime_card (G := (W C).toAffine.Point) hc (ι_g_ne C hp)
  have hmem : ι C P ∈ AddSubgroup.zmultiples (ι C g) := by rw [htop]; trivial
  obtain ⟨k, hk⟩ := AddSubgroup.mem_zmultiples_iff.mp hmem
  have hn0 : (0 : ℤ) < n := by exact_mod_cast hp.n_prime.pos
  have h0 := Int.emod_nonneg k hn0.ne'
  refine ⟨(k % (n : ℤ)).toNat, ?_, ?_⟩
  · have := Int.emod_lt_of_pos k hn0
    omega
  · apply ι_injective C
    rw [ι_mul_g C hp, ← hk, ← natCast_zsmul, Int.toNat_of_nonneg h0]
    have hdm := Int.ediv_mul_add_emod k n
    conv_lhs => rw [← hdm, add_zsmul, mul_zsmul, natCast_zsmul, nsmul_g C hp, zsmul_zero, zero_add]

theorem law_liftX_sound (x : ℕ) (P : APt C) (h : eLiftX C x = some P) :
    ∃ y, eXY C P = some (x, y) ∧ y % 2 = 0 := by
  have h' : (match setCompressed C false x with
    | some (some J) => some (ofJ C J)
    | _ => none) = some P := h
  obtain ⟨h1, h2⟩ := setCompressed_spec C hp.smooth hp.p34 false x
  by_cases hcnd : x < C.p ∧ IsSquare (((x : ℤ) : ZMod C.p) ^ 3 + (C.a : ZMod C.p) * ((x : ℤ) : ZMod C.p) + (C.b : ZMod C.p))
  · obtain ⟨y, _, hy, hv, hset⟩ := h1 hcnd
    rw [hset] at h'
    simp only [Bool.false_eq_true, if_false, Option.some.injEq] at h'
    obtain ⟨y, rfl⟩ := Int.eq_ofNat_of_zero_le hv.red.2.1.1
    refine ⟨y, ?_, by omega⟩
    rw [xy_val, ← h', ofJ_some C x y hv]
  · rw [h2 hcnd] at h'
    cases h'

theorem law_liftX_even (P : APt C) (x y : ℕ) (h : eXY C P = some (x, y)) (hy : y % 2 = 0) : eLiftX C x = some P := by
  rw [xy_val] at h
  show (match setCompressed C false x with
    | some (some J) => some (ofJ C J)
    | _ => none) = some P
  have hv : Valid C ((x : ℤ), (y : ℤ), 1) := by have := P.2; rwa [h] at this
  have hl := liftX_complete C hp.p34 (x : ℤ) (y : ℤ) hv (by omega)
  have hsq : IsSquare (((x : ℤ) : ZMod C.p) ^ 3 + (C.a : ZMod C.p) * ((x : ℤ) : ZMod C.p) + (C.b : ZMod C.p)) := by
    rw [← hv.affine_eqn C]; exact ⟨((y : ℤ) : ZMod C.p), by ring⟩
  obtain ⟨y', hl', _, _, hset⟩ := (setCompressed_spec C hp.smooth hp.p34 false x).1 ⟨(hv.nat_lt C).1, hsq⟩
  rw [hl] at hl'
  simp only [Option.some.injEq, Prod.mk.injEq, true_and, and_true] at hl'
  subst hl'
  rw [hset]
  simp only [Bool.false_eq_true, if_false, Option.some.injEq]
  rw [ofJ_some C x y hv]
  exact Subtype.ext h.symm

include hc in
theorem law_xy_range (P : APt C) (x y : ℕ) (h : eXY C P = some (x, y)) : 0 < x ∧ x < C.p ∧ 0 < y ∧ y < C.p := by
  rw [xy_val] at h
  exact coords_range C hp hc h

omit hp in
theorem law_neg_neg (P : APt C) : eNeg C (eNeg C P) = P := by
  apply ι_injective C
  rw [ι_neg, ι_neg, neg_neg]

omit hp in
theorem law_xy_neg_none (P : APt C) (h : eXY C P = none) : eXY C (eNeg C P) = none := by
  rw [xy_val] at h ⊢
  rw [val_none_iff] at h ⊢
  rw [ι_neg, h, neg_zero]

include hc in
/-- **key.py's arithmetic satisfies the law structure `EcLaws`** that the C07 / C08 theorems assume — from the
    decidable facts `Params` and the one remaining hypothesis `CardEq` -/
theorem pyEcLaws : EcLaws (pyEcOps C n g) where
  n_gt_one := hp.n_prime.one_lt
  mul_add := law_mul_add C hp
  mul_mul := law_mul_mul C hp
  mul_mod := law_mul_mod C hp
  neg_mul := law_neg_mul C hp
  inv_mul := fun a h0 h1 => invN_spec C hp a h0 h1
  xy_range := law_xy_range C hp hc
  p_odd := hp.p_odd
  xy_neg := law_xy_neg C hp hc
  ofXY_xy := law_ofXY_xy C hp
  neg_neg := law_neg_neg C
  xy_neg_none := law_xy_neg_none C
  mul_inj := law_mul_inj C hp
  xy_ofXY := fun P x y _ _ h => law_xy_ofXY C hp P x y h
  generated := law_generated C hp hc
  liftX_sound := law_liftX_sound C hp
  liftX_even := law_liftX_even C hp

end laws2

end Embit.Model.PyCurve
