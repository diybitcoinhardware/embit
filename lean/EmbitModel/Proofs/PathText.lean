import EmbitModel.Model.Bip32
/-
  `parse_path(path_to_str(p)) = p` for every list of integers, and derive = fold.
-/
namespace Embit.Keys
open Embit

/-- everything the proofs need to know about the ten digit characters -/
def DigitFacts (c : UInt8) (m : Nat) : Prop :=
  isDigit c = true ∧ c.toNat - 0x30 = m ∧ isSpace c = false ∧ c ≠ 0x2f ∧ c ≠ 0x2d ∧ c ≠ 0x2b ∧ c ≠ 0x68 ∧ c ≠ 0x48
    ∧ c ≠ 0x27

instance (c : UInt8) (m : Nat) : Decidable (DigitFacts c m) := by unfold DigitFacts; infer_instance

theorem digit_facts_fin : ∀ m : Fin 10, DigitFacts (UInt8.ofNat (0x30 + m.val)) m.val := by decide

theorem digit_facts (m : Nat) (h : m < 10) : DigitFacts (UInt8.ofNat (0x30 + m)) m := digit_facts_fin ⟨m, h⟩

/-- a "clean" character: what may appear in the decimal rendering of an index -/
def Clean (c : UInt8) : Prop := isSpace c = false ∧ c ≠ 0x2f

theorem decDigits_unfold (n : Nat) :
    decDigits n = if n < 10 then [UInt8.ofNat (0x30 + n)] else decDigits (n / 10) ++ [UInt8.ofNat (0x30 + n % 10)] := by
  rw [decDigits]; split <;> rfl

theorem decDigits_all (n : Nat) : ∀ c ∈ decDigits n, ∃ m, m < 10 ∧ c = UInt8.ofNat (0x30 + m) := by
  induction n using Nat.strongRecOn with
  | ind n ih =>
    rw [decDigits_unfold]
    split
    · intro c hc; rw [List.mem_singleton] at hc; exact ⟨n, by omega, hc⟩
    · intro c hc
      rw [List.mem_append] at hc
      rcases hc with hc | hc
      · exact ih (n / 10) (by omega) c hc
      · rw [List.mem_singleton] at hc; exact ⟨n % 10, by omega, hc⟩

theorem decDigits_ne_nil (n : Nat) : decDigits n ≠ [] := by
  rw [decDigits_unfold]; split <;> simp

theorem digitsVal_decDigits (n : Nat) : ∀ (r : Text) (acc : Nat) (prev : Bool),
    digitsVal (decDigits n ++ r) acc prev = digitsVal r (acc * 10 ^ (decDigits n).length + n) true := by
  induction n using Nat.strongRecOn with
  | ind n ih =>
    intro r acc prev
    rw [decDigits_unfold]
    split
    · rename_i h
      obtain ⟨hd, hv, _⟩ := digit_facts n h
      simp only [List.cons_append, List.nil_append, digitsVal, hd, if_true, hv, List.length_singleton, Nat.pow_one]
    · rename_i h
      rw [List.append_assoc, ih (n / 10) (by omega)]
      obtain ⟨hd, hv, _⟩ := digit_facts (n % 10) (by omega)
      simp only [List.cons_append, List.nil_append, digitsVal, hd, if_true, hv, List.length_append,
        List.length_singleton, Nat.pow_succ]
      congr 1
      have := Nat.div_add_mod n 10
      rw [Nat.add_mul, Nat.mul_assoc]
      omega

theorem digitsVal_dec (n : Nat) : digitsVal (decDigits n) 0 false = some n := by
  have := digitsVal_decDigits n [] 0 false
  simp only [List.append_nil, Nat.zero_mul, Nat.zero_add] at this
  rw [this]; rfl

/-- nothing is stripped from a string whose first and last characters are not white space -/
theorem stripSpace_id (t : Text) (c l : UInt8) (r i : Text) (h1 : t = c :: r) (h2 : t = i ++ [l])
    (hc : isSpace c = false) (hl : isSpace l = false) : stripSpace t = t := by
  unfold stripSpace
  rw [h1, List.dropWhile_cons_of_neg (by simp [hc]), ← h1, h2]
  simp [hl]

theorem decDigits_shape (n : Nat) :
    ∃ c r i l, decDigits n = c :: r ∧ decDigits n = i ++ [l] ∧
      (∃ m, m < 10 ∧ c = UInt8.ofNat (0x30 + m)) ∧ (∃ m, m < 10 ∧ l = UInt8.ofNat (0x30 + m)) := by
  have hne := decDigits_ne_nil n
  have hall := decDigits_all n
  cases hd : decDigits n with
  | nil => exact absurd hd hne
  | cons c r =>
    have hl := List.dropLast_concat_getLast (l := decDigits n) hne
    refine ⟨c, r, (decDigits n).dropLast, (decDigits n).getLast hne, rfl, ?_, ?_, ?_⟩
    · rw [← hd]; exact hl.symm
    · exact hall c (by rw [hd]; simp)
    · exact hall _ (List.getLast_mem hne)

theorem pyInt_nat (n : Nat) : pyInt (decDigits n) = some (n : Int) := by
  obtain ⟨c, r, i, l, h1, h2, ⟨m, hm, hc⟩, ⟨m', hm', hl⟩⟩ := decDigits_shape n
  have fc := digit_facts m hm
  have fl := digit_facts m' hm'
  rw [← hc] at fc; rw [← hl] at fl
  unfold pyInt
  rw [stripSpace_id _ c l r i h1 h2 fc.2.2.1 fl.2.2.1, h1]
  simp only
  rw [if_neg fc.2.2.2.2.1, if_neg fc.2.2.2.2.2.1, ← h1, digitsVal_dec]
  rfl

theorem pyInt_showInt (z : Int) : pyInt (showInt z) = some z := by
  unfold showInt
  split
  · rename_i hz
    obtain ⟨c, r, i, l, h1, h2, ⟨m, hm, hc⟩, ⟨m', hm', hl⟩⟩ := decDigits_shape z.natAbs
    have fl := digit_facts m' hm'
    rw [← hl] at fl
    unfold pyInt
    rw [stripSpace_id (0x2d :: decDigits z.natAbs) 0x2d l (decDigits z.natAbs) (0x2d :: i) rfl (by rw [h2]; rfl)
          (by decide) fl.2.2.1]
    simp only [if_true, digitsVal_dec]
    have : -(z.natAbs : Int) = z := by omega
    simp [this]
  · rename_i hz
    rw [pyInt_nat]
    have : (z.toNat : Int) = z := by omega
    rw [this]

/-- one path element as text (without the leading slash) -/
def seg (el : Int) : Text :=
  if el ≥ (hardenedIndex : Int) then showInt (el - hardenedIndex) ++ [0x68] else showInt el

theorem showInt_shape (z : Int) :
    ∃ i l, showInt z = i ++ [l] ∧ (∃ m, m < 10 ∧ l = UInt8.ofNat (0x30 + m)) ∧ (∀ c ∈ showInt z, c ≠ 0x2f) := by
  have hdig : ∀ n, ∀ c ∈ decDigits n, c ≠ 0x2f := fun n c hc => by
    obtain ⟨m, hm, he⟩ := decDigits_all n c hc
    rw [he]; exact (digit_facts m hm).2.2.2.1
  unfold showInt
  split
  · obtain ⟨c, r, i, l, h1, h2, _, hl⟩ := decDigits_shape z.natAbs
    refine ⟨0x2d :: i, l, by rw [h2]; rfl, hl, ?_⟩
    intro c hc
    rcases List.mem_cons.mp hc with hc | hc
    · rw [hc]; decide
    · exact hdig _ c hc
  · obtain ⟨c, r, i, l, h1, h2, _, hl⟩ := decDigits_shape z.toNat
    exact ⟨i, l, h2, hl, hdig _⟩

theorem parseDerItem_seg (el : Int) : parseDerItem (seg el) = some el := by
  by_cases h : el ≥ (hardenedIndex : Int)
  · simp only [seg, h, if_true, parseDerItem, List.getLast?_append, List.getLast?_singleton, Option.some_or,
      List.dropLast_concat, true_or, pyInt_showInt, Option.map_some]
    have : el - ↑hardenedIndex + ↑hardenedIndex = el := by omega
    rw [this]
  · obtain ⟨i, l, h1, ⟨m, hm, hl⟩, _⟩ := showInt_shape el
    have fl := digit_facts m hm
    rw [← hl] at fl
    simp only [seg, h, if_false, parseDerItem]
    rw [h1, List.getLast?_append, List.getLast?_singleton]
    simp only [Option.some_or]
    rw [if_neg (by simp [fl.2.2.2.2.2.2.1, fl.2.2.2.2.2.2.2.1, fl.2.2.2.2.2.2.2.2]), ← h1, pyInt_showInt]

theorem seg_no_slash (el : Int) : ∀ c ∈ seg el, c ≠ 0x2f := by
  unfold seg
  obtain ⟨_, _, _, _, h⟩ := showInt_shape (el - hardenedIndex)
  obtain ⟨_, _, _, _, h'⟩ := showInt_shape el
  split
  · intro c hc
    rw [List.mem_append] at hc
    rcases hc with hc | hc
    · exact h c hc
    · simp at hc; rw [hc]; decide
  · exact h'

theorem seg_last (el : Int) : ∃ i l, seg el = i ++ [l] ∧ l ≠ 0x2f := by
  unfold seg
  split
  · exact ⟨_, 0x68, rfl, by decide⟩
  · obtain ⟨i, l, h1, ⟨m, hm, hl⟩, _⟩ := showInt_shape el
    exact ⟨i, l, h1, by rw [hl]; exact (digit_facts m hm).2.2.2.1⟩

theorem splitOn_ne_nil (sep : UInt8) (t : Text) : splitOn sep t ≠ [] := by
  induction t with
  | nil => simp [splitOn]
  | cons c r ih =>
    unfold splitOn
    split
    · simp
    · split <;> simp

theorem splitOn_clean (w : Text) (hw : ∀ c ∈ w, c ≠ 0x2f) : splitOn 0x2f w = [w] := by
  induction w with
  | nil => rfl
  | cons c r ih =>
    have hc : c ≠ 0x2f := hw c (by simp)
    have := ih (fun c h => hw c (by simp [h]))
    simp [splitOn, hc, this]

theorem splitOn_append (w rest : Text) (hw : ∀ c ∈ w, c ≠ 0x2f) :
    splitOn 0x2f (w ++ 0x2f :: rest) = w :: splitOn 0x2f rest := by
  induction w with
  | nil => simp [splitOn]
  | cons c r ih =>
    have hc : c ≠ 0x2f := hw c (by simp)
    have := ih (fun c h => hw c (by simp [h]))
    simp [splitOn, hc, this]

def pathBody (p : List Int) : Text := p.flatMap (fun el => 0x2f :: seg el)

theorem pathToStr_eq (p : List Int) : pathToStr p none = [0x6d] ++ pathBody p := by
  have : (fun el : Int => if el ≥ (hardenedIndex : Int) then (0x2f:UInt8) :: (showInt (el - hardenedIndex) ++ [0x68])
      else 0x2f :: showInt el) = (fun el => 0x2f :: seg el) := by
    funext el; unfold seg; split <;> rfl
  unfold pathToStr pathBody
  rw [this]

theorem splitOn_body (p : List Int) : ∀ (w : Text), (∀ c ∈ w, c ≠ 0x2f) →
    splitOn 0x2f (w ++ pathBody p) = w :: p.map seg := by
  induction p with
  | nil => intro w hw; simp [pathBody, splitOn_clean w hw]
  | cons el p ih =>
    intro w hw
    have : pathBody (el :: p) = 0x2f :: (seg el ++ pathBody p) := by simp [pathBody]
    rw [this, splitOn_append w _ hw, ih (seg el) (seg_no_slash el)]
    rfl

theorem body_last (p : List Int) : ∀ (w : Text) (l : UInt8), l ≠ 0x2f →
    ∃ i l', (w ++ [l]) ++ pathBody p = i ++ [l'] ∧ l' ≠ 0x2f := by
  induction p with
  | nil => intro w l hl; exact ⟨w, l, by simp [pathBody], hl⟩
  | cons el p ih =>
    intro w l hl
    obtain ⟨i, l', h1, h2⟩ := seg_last el
    obtain ⟨i2, l2, h3, h4⟩ := ih (w ++ [l] ++ 0x2f :: i) l' h2
    refine ⟨i2, l2, ?_, h4⟩
    rw [← h3]
    simp [pathBody, h1]

theorem rstripSlash_id (t i : Text) (l : UInt8) (h : t = i ++ [l]) (hl : l ≠ 0x2f) : rstripSlash t = t := by
  unfold rstripSlash
  rw [h]
  simp [hl]

theorem allSome_seg (p : List Int) : allSome ((p.map seg).map parseDerItem) = some p := by
  induction p with
  | nil => rfl
  | cons el p ih =>
    simp only [List.map_cons, allSome, parseDerItem_seg]
    rw [ih]; rfl

theorem parsePath_pathToStr (p : List Int) : parsePath (pathToStr p none) = some p := by
  rw [pathToStr_eq]
  obtain ⟨i, l', h1, h2⟩ := body_last p [] 0x6d (by decide)
  simp only [List.nil_append] at h1
  unfold parsePath
  rw [rstripSlash_id _ i l' h1 h2, splitOn_body p [0x6d] (by decide)]
  simp only [if_true]
  cases p with
  | nil => rfl
  | cons el p =>
    rw [if_neg (by simp)]
    exact allSome_seg (el :: p)

/-- one step of `for idx in path: child = child.child(idx)` -/
def deriveStep {E : EcOps} (env : Env) (k : HDKey E) (i : Int) : Option (HDKey E) :=
  if i < 0 then none else k.child env i.toNat

theorem derive_eq_foldlM {E : EcOps} (env : Env) (p : List Int) : ∀ k : HDKey E,
    k.derive env p = p.foldlM (deriveStep env) k := by
  induction p with
  | nil => intro k; rfl
  | cons i r ih =>
    intro k
    simp only [HDKey.derive, List.foldlM_cons, deriveStep]
    split
    · rfl
    · cases hc : k.child env i.toNat with
      | none => rfl
      | some c => simp [ih c]

end Embit.Keys
