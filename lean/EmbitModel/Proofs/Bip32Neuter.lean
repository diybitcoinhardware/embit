import EmbitModel.Proofs.Bip32Child
/-
  Neutering (`to_public`) and its commutation with non-hardened child derivation.
-/
namespace Embit.Keys
open Embit Embit.Spec.Bip32

variable {E : EcOps}

theorem toPublic_some (env : Env) (k : HDKey E) (pk : PrivateKey) (hk : k.key = .priv pk)
    (hc : pk.compressed = true) (hv : seckeyValid E pk.secret = true)
    (hcc : k.chainCode.length = 32) (hfp : k.fingerprint.length = 4) (hd : k.depth < 256)
    (hcn : k.childNumber < 2 ^ 32) (pv : Bytes) (hpv : detectPubVersion k.version = some pv)
    (hB : VersionSays env pv tPub) :
    k.toPublic env = some { key := .pub ⟨E.mulG pk.secret, true⟩, chainCode := k.chainCode, version := pv,
                            depth := k.depth, fingerprint := k.fingerprint, childNumber := k.childNumber } := by
  unfold HDKey.toPublic
  simp only [hk, pubVersion, hpv, PrivateKey.getPublicKey, pubkeyCreate, hv, if_true, Option.map_some, hc]
  exact init_some env _ _ _ _ _ _ (by simp [KeyObj.Canon]) hcc hfp hd hcn (by simpa [kindText, KeyObj.isPrivate] using hB)

theorem toPublic_unknown_version (env : Env) (k : HDKey E) (h : detectPubVersion k.version = none) :
    k.toPublic env = none := by
  unfold HDKey.toPublic
  cases hk : k.key with
  | pub _ => rfl
  | priv pk => simp [pubVersion, h]

theorem neuter_commutes_aux (L : EcLaws E) (env : Env) (hlen : ∀ key msg, (env.hmac512 key msg).length = 64)
    (hh160 : ∀ msg, 4 ≤ (env.hash160 msg).length)
    (k : HDKey E) (pk : PrivateKey) (hk : k.key = .priv pk) (hc : pk.compressed = true)
    (hv : seckeyValid E pk.secret = true)
    (hcc : k.chainCode.length = 32) (hfp : k.fingerprint.length = 4) (hd : k.depth < 255)
    (hcn : k.childNumber < 2 ^ 32) (pv : Bytes) (hpv : detectPubVersion k.version = some pv)
    (hA : VersionSays env k.version tPrv) (hB : VersionSays env pv tPub) (i : Nat) (hi : i < 2 ^ 31) :
    (k.child env i).bind (fun c => c.toPublic env) = (k.toPublic env).bind (fun K => K.child env i) := by
  have hi32 : i < 2 ^ 32 := by omega
  rw [child_priv L env hlen k pk hk hc hv i hi32, toPublic_some env k pk hk hc hv hcc hfp (by omega) hcn pv hpv hB]
  simp only [Option.bind_some]
  rw [child_pub L env hlen _ ⟨E.mulG pk.secret, true⟩ rfl rfl i hi32]
  have hN := N_CKDpriv L env.hmac512 ⟨pk.secret, k.chainCode⟩ i hi
  simp only [N, point] at hN
  rw [← hN]
  cases hr : CKDpriv E env.hmac512 ⟨pk.secret, k.chainCode⟩ i with
  | none => rfl
  | some r =>
    have hrc := CKDpriv_cc_length env.hmac512 hlen _ i r hr
    have hrv := CKDpriv_valid L env.hmac512 _ i r hr
    have hfl := fingerprint_length (E := E) env.hash160 hh160 (point E pk.secret)
    simp only [Option.bind_some, Option.map_some]
    have h1 := init_some env (.priv ⟨r.k, true, Generated.privDefaultNet⟩ : KeyObj E) r.c k.version _ (k.depth + 1) i
      (by simp [KeyObj.Canon]) hrc hfl (by omega) hi32 (by simpa [kindText, KeyObj.isPrivate] using hA)
    have h2 := init_some env (.pub ⟨E.mulG r.k, true⟩ : KeyObj E) r.c pv _ (k.depth + 1) i
      (by simp [KeyObj.Canon]) hrc hfl (by omega) hi32 (by simpa [kindText, KeyObj.isPrivate] using hB)
    simp only [point] at h1 h2
    simp only [N, point]
    rw [h1, h2]
    exact toPublic_some env
      ⟨.priv ⟨r.k, true, Generated.privDefaultNet⟩, r.c, k.version, k.depth + 1, _, i⟩ _ rfl rfl hrv hrc hfl
      (by simp only; omega) hi32 pv hpv hB

theorem child_fields (env : Env) (k c : HDKey E) (i : Nat) (h : Bool) (hc : k.child env i h = some c) :
    c.version = k.version ∧ c.depth = k.depth + 1 ∧ c.childNumber = normIndex i h := by
  unfold HDKey.child at hc
  split at hc
  · cases hc
  · split at hc
    · cases hc
    · split at hc
      · cases hc
      · split at hc
        · cases hc
        · split at hc
          · cases hc
          · have := init_fields env _ _ _ _ _ _ _ hc
            subst this
            exact ⟨rfl, rfl, rfl⟩

theorem toPublic_fields (env : Env) (k K : HDKey E) (v : Option Bytes) (h : k.toPublic env v = some K) :
    K.depth = k.depth ∧ K.chainCode = k.chainCode ∧ K.fingerprint = k.fingerprint ∧ K.childNumber = k.childNumber := by
  unfold HDKey.toPublic at h
  split at h
  · cases h
  · split at h
    · cases h
    · split at h
      · cases h
      · have := init_fields env _ _ _ _ _ _ _ h
        subst this
        exact ⟨rfl, rfl, rfl, rfl⟩

/-- derive-then-neuter equals neuter-then-derive for every non-hardened index, including the cases in which both
    fail (I_L ≥ n, zero sum, depth 255, a version without public counterpart) -/
theorem neuter_commutes_gen (L : EcLaws E) (env : Env) (hlen : ∀ key msg, (env.hmac512 key msg).length = 64)
    (hh160 : ∀ msg, 4 ≤ (env.hash160 msg).length)
    (k : HDKey E) (pk : PrivateKey) (hk : k.key = .priv pk) (hc : pk.compressed = true)
    (hv : seckeyValid E pk.secret = true)
    (hcc : k.chainCode.length = 32) (hfp : k.fingerprint.length = 4) (hcn : k.childNumber < 2 ^ 32)
    (hA : VersionSays env k.version tPrv)
    (hB : ∀ pv, detectPubVersion k.version = some pv → VersionSays env pv tPub) (i : Nat) (hi : i < 2 ^ 31) :
    (k.child env i).bind (fun c => c.toPublic env) = (k.toPublic env).bind (fun K => K.child env i) := by
  by_cases hd : k.depth < 255
  · cases hpv : detectPubVersion k.version with
    | some pv => exact neuter_commutes_aux L env hlen hh160 k pk hk hc hv hcc hfp hd hcn pv hpv hA (hB pv hpv) i hi
    | none =>
      rw [toPublic_unknown_version env k hpv]
      cases hch : k.child env i with
      | none => rfl
      | some c =>
        have := (child_fields env k c i false hch).1
        simp only [Option.bind_some, Option.bind_none]
        exact toPublic_unknown_version env c (by rw [this]; exact hpv)
  · rw [child_depth_overflow env k (by omega)]
    cases hT : k.toPublic env with
    | none => rfl
    | some K =>
      have := (toPublic_fields env k K none hT).1
      simp only [Option.bind_some, Option.bind_none]
      exact (child_depth_overflow env K (by omega) i false).symm

end Embit.Keys
