import EmbitModel.Proofs.LiquidBalance
/-
  C18: the balance equation tied to the fields `PSET.blind` STORES.

  `Props/C18.balance` speaks about `mkEntries A a.vals assets a.abfs (setLast a.vbfs lastVbf)` with a free list
  `assets`. Here the same algebra (`balance_algebra` + `ZkpLaws.blindSum`) is carried through the data flow of the model
  `blind`: the three argument lists are identified, entry by entry, with the input scopes that are counted and with the
  selected outputs of the RESULT (`res.filter selected`), whose stored `valueCommitment` bytes are parsed with the
  library's `pedersenCommitmentParse` and read as points (`storedPoint`).

  Hypotheses that are needed and why (all explicit):
  * `ZkpLaws Z A` and `ZkpSerLaws Z A`: parsing a serialised commitment gives back a representation of the
    same point (implied by `parse (serialise c) = some c`);
  * `∀ b, sha b ≠ []`: `blind` hands `factor or b"\x00"*32` to the blind-sum but the factor itself to
    `generator_generate_blinded` / `pedersen_commit`; the two agree iff the (hash-derived) factor is not empty;
  * `outs.all sel32`: every output that is blinded has a 32-byte asset. Otherwise `blind` silently leaves it out of the
    blind-sum lists while still counting it in `len(blinding_outs)`: the list entry `setLast` replaces is then NOT the
    factor of the last blinded output (`setLastVbf`) and the last input is taken for an output. The real wrapper
    `generator_generate_blinded` raises on such an asset, so for the real library success of `blind` implies it
    (`Props/C18Y.balance_stored_of_len`); a witness for the necessity is `Props/C18Y.balance_needs_sel32`.
-/
namespace Embit
open Model

variable {R M : Type} [CommRing R] [AddCommGroup M] [Module R M]

/-- serialise-then-parse of a value commitment gives a representation of the same point -/
structure ZkpSerLaws (Z : Zkp) (A : ZkpAlg R M) : Prop where
  commitment : ∀ c s, Z.pedersenCommitmentSerialize c = some s →
    ∃ c', Z.pedersenCommitmentParse s = some c' ∧ A.point c' = A.point c

/-- the usual form of the law: `pedersen_commitment_parse(pedersen_commitment_serialize(c)) = c` -/
theorem ZkpSerLaws.of_parse_serialize (Z : Zkp) (A : ZkpAlg R M)
    (hps : ∀ c s, Z.pedersenCommitmentSerialize c = some s → Z.pedersenCommitmentParse s = some c) : ZkpSerLaws Z A :=
  ⟨fun c s h => ⟨c, hps c s h, rfl⟩⟩

/-- every output that `blind` blinds has a 32-byte asset (decidable) -/
def sel32 (o : BlindOut) : Bool := !o.selected || (o.asset.getD []).length == 32

/-- the asset `blind` reads for an input: `sc.asset or sc.utxo.asset` -/
def inAsset (i : BlindIn) : Bytes := (if truthyB i.asset then i.asset else i.utxoAsset).getD []

/-- an input scope as `blind` reads it — value, asset and factors STATED in the scope (or the explicit utxo), `none` =
    the scope is not counted (confidential without stated value, or asset not 32 bytes) -/
def inEntry (A : ZkpAlg R M) (i : BlindIn) : Option (Entry R) :=
  match sumEntryIn i with
  | some (some (v, a, b)) => some { v := v, asset := inAsset i, abf := A.scalar a, vbf := A.scalar b }
  | _ => none

def inEntries (A : ZkpAlg R M) (ins : List BlindIn) : List (Entry R) := ins.filterMap (inEntry A)

/-- an output scope as stated by its own fields (value, asset, abf, vbf) -/
def outEntry (A : ZkpAlg R M) (r : BlindOut) : Entry R :=
  { v := r.value.getD 0, asset := r.asset.getD [], abf := A.scalar (r.abf.getD []), vbf := A.scalar (r.vbf.getD []) }

/-- the point the STORED value commitment bytes of an output scope parse to (0 when absent / unparsable) -/
def storedPoint (Z : Zkp) (A : ZkpAlg R M) (r : BlindOut) : M :=
  match r.valueCommitment.bind Z.pedersenCommitmentParse with
  | some c => A.point c
  | none => 0

namespace BalLink

theorem optAll_some {α : Type} : ∀ (l : List (Option α)) (r : List α), optAll l = some r → l = r.map some
  | [], r, h => by simp [optAll] at h; subst h; rfl
  | none :: _, r, h => by simp [optAll] at h
  | some x :: t, r, h => by
    simp only [optAll] at h
    split at h
    · simp at h
    · rename_i xs hxs
      simp at h; subst h
      simp [optAll_some t xs hxs]

theorem filterMap_id_map_some {α : Type} (r : List α) : (r.map some).filterMap id = r := by
  induction r with
  | nil => rfl
  | cons a t ih => simp [ih]

abbrev Trip := Nat × Bytes × Bytes

def termT (A : ZkpAlg R M) (e : Trip) : R := (e.1 : R) * A.scalar e.2.1 + A.scalar e.2.2

theorem termsOf_trips (A : ZkpAlg R M) (es : List Trip) :
    termsOf A (es.map (·.1)) (es.map (·.2.1)) (es.map (·.2.2)) = es.map (termT A) := by
  induction es with
  | nil => simp [termsOf]
  | cons e t ih => simp only [List.map_cons, termsOf, ih, termT]

theorem setLast_concat (s : List Bytes) (y x : Bytes) : setLast (s ++ [y]) x = s ++ [x] := by
  simp [setLast]

theorem setLast_append_ne (s t : List Bytes) (x : Bytes) (h : t ≠ []) :
    setLast (s ++ t) x = s ++ setLast t x := by
  simp [setLast, List.dropLast_append_of_ne_nil h]

theorem setLast_length (t : List Bytes) (x : Bytes) (h : t ≠ []) : (setLast t x).length = t.length := by
  cases t with
  | nil => exact absurd rfl h
  | cons c u => simp [setLast]

/-- what `blind` relies on for an output it counts -/
structure GoodSel (o : BlindOut) : Prop where
  value : o.value.isSome = true
  asset32 : (o.asset.getD []).length = 32
  abf : ∃ x, o.abf = some x ∧ x ≠ []
  vbf : ∃ y, o.vbf = some y ∧ y ≠ []

theorem taggedHash_ne_nil (sha : Bytes → Bytes) (hsha : ∀ b, sha b ≠ []) (tag : String) (d : Bytes) :
    taggedHash sha tag d ≠ [] := by
  unfold taggedHash
  exact hsha _

theorem assignFactors_good (sha : Bytes → Bytes) (hsha : ∀ b, sha b ≠ []) (ts : Bytes) :
    ∀ (l : List BlindOut) (k : Nat), l.all sel32 = true →
      ∀ o1 ∈ assignFactors sha ts k l, o1.selected = true → GoodSel o1 := by
  intro l k h32 o1 hm hs
  obtain ⟨j, o, ho, rfl⟩ := mem_assignFactors sha ts l k o1 hm
  rw [withFactors_selected] at hs
  have h32o : (o.asset.getD []).length = 32 := by
    simpa [sel32, hs] using List.all_eq_true.mp h32 o ho
  have hv : o.value.isSome = true := by
    simp only [BlindOut.selected, Bool.and_eq_true] at hs
    exact hs.2
  simp only [withFactors, hs, if_true]
  exact ⟨hv, h32o, ⟨_, rfl, taggedHash_ne_nil sha hsha _ _⟩, ⟨_, rfl, taggedHash_ne_nil sha hsha _ _⟩⟩

/-- the triple `blind` appends to `vals / abfs / vbfs` for a counted output -/
def trip (o : BlindOut) : Trip := (o.value.getD 0, o.abf.getD [], o.vbf.getD [])

theorem orZeros_some_ne (x : Bytes) (h : x ≠ []) : orZeros (some x) = x := by
  cases x with
  | nil => exact absurd rfl h
  | cons a t => simp [orZeros, truthyB]

theorem sumEntryOut_good (o : BlindOut) (g : GoodSel o) : sumEntryOut o = some (some (trip o)) := by
  obtain ⟨hv, h32, ⟨x, hx, hxn⟩, ⟨y, hy, hyn⟩⟩ := g
  obtain ⟨v, hv'⟩ := Option.isSome_iff_exists.mp hv
  cases ha : o.asset with
  | none => simp [ha] at h32
  | some a =>
    have hl : a.length = 32 := by simpa [ha] using h32
    have hne : a ≠ [] := by intro h; subst h; simp at hl
    have ht : truthyB (some a) = true := by
      cases a with
      | nil => exact absurd rfl hne
      | cons c u => simp [truthyB]
    unfold sumEntryOut
    simp only [hv', ha, ht, if_true, Option.getD_some, hl, hx, hy, orZeros_some_ne x hxn, orZeros_some_ne y hyn, trip]

theorem map_sumEntryOut_good (S : List BlindOut) (h : ∀ o ∈ S, GoodSel o) :
    S.map sumEntryOut = (S.map (fun o => some (trip o))).map some := by
  induction S with
  | nil => rfl
  | cons o t ih =>
    simp only [List.map_cons, List.map_map]
    rw [sumEntryOut_good o (h o (by simp)), ih (fun o' ho' => h o' (by simp [ho']))]
    simp

theorem selected_with_vbf (o : BlindOut) (v : Bytes) : ({ o with vbf := some v } : BlindOut).selected = o.selected := rfl

theorem filter_eq_nil_of_any_false (r : List BlindOut) (h : r.any BlindOut.selected = false) :
    r.filter BlindOut.selected = [] := by
  rw [List.filter_eq_nil_iff]
  intro a ha
  rw [List.any_eq_false] at h
  exact h a ha

/-- a function of an output that does not look at its value blinding factor sees no difference -/
theorem filter_setLastVbf_map {β : Type} (f : BlindOut → β) (v : Bytes)
    (hf : ∀ o : BlindOut, f { o with vbf := some v } = f o) (l : List BlindOut) :
    ((setLastVbf v l).filter BlindOut.selected).map f = (l.filter BlindOut.selected).map f := by
  cases h : l.any BlindOut.selected with
  | false => rw [setLastVbf_of_none v l h]
  | true =>
    obtain ⟨pre, o, post, rfl, hs, _, hv⟩ := setLastVbf_split v l h
    simp only [hv, List.filter_append, List.filter_cons, selected_with_vbf, hs, if_true, List.map_append, List.map_cons, hf]

/-- on the selected outputs, replacing the factor of the last SELECTED output
    (`setLastVbf`) is replacing the LAST ENTRY (`setLast`) of the list of the selected outputs' factors -/
theorem filter_setLastVbf_vbf (v : Bytes) (l : List BlindOut) (h : l.any BlindOut.selected = true) :
    ((setLastVbf v l).filter BlindOut.selected).map (fun o => o.vbf.getD [])
      = setLast ((l.filter BlindOut.selected).map (fun o => o.vbf.getD [])) v := by
  obtain ⟨pre, o, post, rfl, hs, hp, hv⟩ := setLastVbf_split v l h
  simp only [hv, List.filter_append, List.filter_cons, selected_with_vbf, hs, if_true, filter_eq_nil_of_any_false post hp,
    List.map_append, List.map_cons, List.map_nil, Option.getD_some, setLast_concat]

theorem blindOne_selected (Z : Zkp) (sha : Bytes → Bytes) (ts : Bytes) (tags gens abfs : List Bytes) (i : Nat)
    (o r : BlindOut) (h : blindOne Z sha ts tags gens abfs i o = some r) : r.selected = o.selected := by
  obtain ⟨_, e2, _, e4, _, _⟩ := blindOne_frame Z sha ts tags gens abfs i o r h
  simp only [BlindOut.selected, e2, e4]

theorem blindOne_outEntry (A : ZkpAlg R M) (Z : Zkp) (sha : Bytes → Bytes) (ts : Bytes) (tags gens abfs : List Bytes)
    (i : Nat) (o r : BlindOut) (h : blindOne Z sha ts tags gens abfs i o = some r) : outEntry A r = outEntry A o := by
  obtain ⟨_, e2, e3, _, e5, e6⟩ := blindOne_frame Z sha ts tags gens abfs i o r h
  simp only [outEntry, e2, e3, e5, e6]

theorem blindEach_filter_outEntry (A : ZkpAlg R M) (Z : Zkp) (sha : Bytes → Bytes) (ts : Bytes)
    (tags gens abfs : List Bytes) :
    ∀ (l res : List BlindOut) (k : Nat), blindEach Z sha ts tags gens abfs k l = some res →
      (res.filter BlindOut.selected).map (outEntry A) = (l.filter BlindOut.selected).map (outEntry A) := by
  intro l
  induction l with
  | nil => intro res k h; simp [blindEach] at h; subst h; rfl
  | cons o t ih =>
    intro res k h
    simp only [blindEach] at h
    split at h
    · simp at h
    · rename_i o' ho'
      split at h
      · simp at h
      · rename_i t' ht'
        simp at h; subst h
        have hs := blindOne_selected Z sha ts tags gens abfs k o o' ho'
        have he := blindOne_outEntry A Z sha ts tags gens abfs k o o' ho'
        have := ih t' (k+1) ht'
        by_cases hso : o.selected = true
        · simp only [List.filter_cons, hs, hso, if_true, List.map_cons, he, this]
        · have hf' : o.selected = false := by simpa using hso
          simp only [List.filter_cons, hs, hf', Bool.false_eq_true, if_false, this]

theorem sumArgs_unfold (ins : List BlindIn) (outs1 : List BlindOut) (a : SumArgs) (h : sumArgs ins outs1 = some a) :
    ∃ ei eo, optAll (ins.map sumEntryIn) = some ei
      ∧ optAll ((outs1.filter BlindOut.selected).map sumEntryOut) = some eo
      ∧ (outs1.filter BlindOut.selected).length ≤ ((ei ++ eo).filterMap id).length
      ∧ a = { vals := ((ei ++ eo).filterMap id).map (·.1), abfs := ((ei ++ eo).filterMap id).map (·.2.1),
              vbfs := ((ei ++ eo).filterMap id).map (·.2.2),
              nIn := ((ei ++ eo).filterMap id).length - (outs1.filter BlindOut.selected).length } := by
  unfold sumArgs at h
  simp only [] at h
  split at h
  · rename_i ei eo h1 h2
    split at h
    · simp at h
    · rename_i hlt
      refine ⟨ei, eo, h1, h2, by omega, ?_⟩
      exact (Option.some.inj h).symm
  · simp at h

/-- the triples `blind` appends to `vals / abfs / vbfs` for the inputs it counts -/
def inTrips (ins : List BlindIn) : List Trip := ins.filterMap (fun i => (sumEntryIn i).join)

theorem inTrips_of_map (ins : List BlindIn) (ei : List (Option Trip)) (h : ins.map sumEntryIn = ei.map some) :
    ei.filterMap id = inTrips ins := by
  show _ = ins.filterMap (Option.join ∘ sumEntryIn)
  rw [← List.filterMap_map, h, List.filterMap_map]
  rfl

theorem inEntries_terms (A : ZkpAlg R M) (ins : List BlindIn) :
    (inEntries A ins).map Entry.term = (inTrips ins).map (termT A) := by
  induction ins with
  | nil => rfl
  | cons i r ih =>
    unfold inEntries inTrips at ih ⊢
    rcases hi : sumEntryIn i with _ | _ | ⟨v, a, b⟩ <;> simp [inEntry, hi, ih, Entry.term, termT]

theorem inEntries_length (A : ZkpAlg R M) (ins : List BlindIn) : (inEntries A ins).length = (inTrips ins).length := by
  have := congrArg List.length (inEntries_terms A ins)
  simpa using this

/-- the data flow of the blind-sum call under the two side conditions: the argument lists are the counted inputs
    followed by exactly the selected outputs, and the list with its last entry replaced is the list of the selected
    outputs AFTER `setLastVbf` -/
theorem sumArgs_lists (sha : Bytes → Bytes) (hsha : ∀ b, sha b ≠ []) (ts : Bytes) (ins : List BlindIn)
    (outs : List BlindOut) (h32 : outs.all sel32 = true) (a : SumArgs) (lv : Bytes)
    (ha : sumArgs ins (assignFactors sha ts 0 outs) = some a)
    (hany : (assignFactors sha ts 0 outs).any BlindOut.selected = true) :
    a.nIn = (inTrips ins).length
    ∧ (let T := inTrips ins ++ ((setLastVbf lv (assignFactors sha ts 0 outs)).filter BlindOut.selected).map trip
       a.vals = T.map (·.1) ∧ a.abfs = T.map (·.2.1) ∧ setLast a.vbfs lv = T.map (·.2.2))
    ∧ a.vbfs.length = a.nIn + ((assignFactors sha ts 0 outs).filter BlindOut.selected).length
    ∧ (setLast a.vbfs lv).take a.nIn = a.vbfs.take a.nIn
    ∧ (setLast a.vbfs lv).drop a.nIn
        = ((setLastVbf lv (assignFactors sha ts 0 outs)).filter BlindOut.selected).map (fun o => o.vbf.getD []) := by
  generalize hO : assignFactors sha ts 0 outs = outs1 at *
  obtain ⟨ei, eo, h1, h2, hle, rfl⟩ := sumArgs_unfold ins outs1 a ha
  have hgood : ∀ o ∈ outs1.filter BlindOut.selected, GoodSel o := by
    intro o ho
    obtain ⟨hm, hs⟩ := List.mem_filter.mp ho
    rw [← hO] at hm
    exact assignFactors_good sha hsha ts outs 0 h32 o hm hs
  have hei := inTrips_of_map ins ei (optAll_some _ _ h1)
  have heo : eo = (outs1.filter BlindOut.selected).map (fun o => some (trip o)) := by
    have := optAll_some _ _ h2
    rw [map_sumEntryOut_good _ hgood] at this
    have h' := congrArg (List.filterMap id) this
    rw [filterMap_id_map_some, filterMap_id_map_some] at h'
    exact h'.symm
  set S := outs1.filter BlindOut.selected with hS
  have hes : (ei ++ eo).filterMap id = inTrips ins ++ S.map trip := by
    rw [List.filterMap_append, heo, hei]
    congr 1
    induction S with
    | nil => rfl
    | cons o t ih => simp [ih]
  have hSne : S ≠ [] := by
    obtain ⟨x, hx, hxs⟩ := List.any_eq_true.mp hany
    intro hnil
    have : x ∈ S := List.mem_filter.mpr ⟨hx, hxs⟩
    rw [hnil] at this
    simp at this
  have hnIn : ((ei ++ eo).filterMap id).length - S.length = (inTrips ins).length := by
    rw [hes]; simp
  -- the three lists after `setLastVbf`
  set S2 := (setLastVbf lv outs1).filter BlindOut.selected with hS2
  have e1 : S2.map (fun o => o.value.getD 0) = S.map (fun o => o.value.getD 0) :=
    filter_setLastVbf_map _ lv (fun _ => rfl) outs1
  have e2 : S2.map (fun o => o.abf.getD []) = S.map (fun o => o.abf.getD []) :=
    filter_setLastVbf_map _ lv (fun _ => rfl) outs1
  have e3 : S2.map (fun o => o.vbf.getD []) = setLast (S.map (fun o => o.vbf.getD [])) lv :=
    filter_setLastVbf_vbf lv outs1 hany
  have hmne : S.map (fun o => o.vbf.getD []) ≠ [] := by
    intro hn; exact hSne (List.map_eq_nil_iff.mp hn)
  have hvb : setLast (((ei ++ eo).filterMap id).map (·.2.2)) lv
      = (inTrips ins).map (·.2.2) ++ S2.map (fun o => o.vbf.getD []) := by
    rw [hes, List.map_append, List.map_map]
    have : ((fun x : Trip => x.2.2) ∘ trip) = (fun o : BlindOut => o.vbf.getD []) := rfl
    rw [this, setLast_append_ne _ _ _ hmne, e3]
  refine ⟨hnIn, ⟨?_, ?_, ?_⟩, ?_, ?_, ?_⟩
  · simp only []
    rw [hes, List.map_append, List.map_append, List.map_map, List.map_map]
    congr 1
    exact e1.symm
  · simp only []
    rw [hes, List.map_append, List.map_append, List.map_map, List.map_map]
    congr 1
    exact e2.symm
  · simp only []
    rw [hvb, List.map_append, List.map_map]
    rfl
  · simp only []
    rw [hnIn, hes]
    simp
  · simp only []
    rw [hnIn, hvb, hes, List.map_append]
    rw [List.take_append_of_le_length (by simp), List.take_append_of_le_length (by simp)]
  · simp only []
    rw [hnIn, hvb]
    rw [List.drop_append_of_le_length (by simp)]
    simp

/-- … read in the algebra: the terms of the blind-sum call are those of the counted inputs followed by those of the
    selected outputs after `setLastVbf` -/
theorem sumArgs_terms (A : ZkpAlg R M) (sha : Bytes → Bytes) (hsha : ∀ b, sha b ≠ []) (ts : Bytes) (ins : List BlindIn)
    (outs : List BlindOut) (h32 : outs.all sel32 = true) (a : SumArgs) (lv : Bytes)
    (ha : sumArgs ins (assignFactors sha ts 0 outs) = some a)
    (hany : (assignFactors sha ts 0 outs).any BlindOut.selected = true) :
    a.nIn = (inEntries A ins).length
    ∧ termsOf A a.vals a.abfs (setLast a.vbfs lv)
        = (inEntries A ins).map Entry.term
          ++ (((setLastVbf lv (assignFactors sha ts 0 outs)).filter BlindOut.selected).map (outEntry A)).map Entry.term := by
  obtain ⟨hnIn, ⟨hv, hab, hvb⟩, _⟩ := sumArgs_lists sha hsha ts ins outs h32 a lv ha hany
  refine ⟨hnIn.trans (inEntries_length A ins).symm, ?_⟩
  rw [hv, hab, hvb, termsOf_trips, List.map_append, inEntries_terms A ins, List.map_map, List.map_map]
  rfl

end BalLink

/-- the value commitment `blind` stores in a blinded output: parsed with the library's parser it is the commitment of
    the output's own (value, asset, abf, vbf) (no side condition on hashes or assets is needed here) -/
theorem stored_commitment_of_blind {Z : Zkp} {A : ZkpAlg R M} (L : ZkpLaws Z A) (S : ZkpSerLaws Z A)
    (sha : Bytes → Bytes) (seed : Bytes) (ins : List BlindIn) (outs res : List BlindOut)
    (h : blind Z sha seed ins outs = some res) (r : BlindOut) (hr : r ∈ res) (hs : r.selected = true) :
    ∃ s c, r.valueCommitment = some s ∧ Z.pedersenCommitmentParse s = some c
      ∧ A.point c = Entry.commit A (outEntry A r) := by
  obtain ⟨i, o, lv, _, ⟨_, e2, e3, _, e5, e6⟩,
      ⟨asset, value, abf, vbf, gen, vc, _, s, hA, hV, hab, hvb, hG, _, _, hC, hS, hR⟩, _, _⟩ :=
    blind_selected_of_mem h hr hs
  obtain ⟨c', hp, hpt⟩ := S.commitment vc s hS
  refine ⟨s, c', hR, hp, ?_⟩
  rw [hpt, commit_decodes L asset abf vbf gen vc value hG hC]
  simp only [outEntry, e2, e3, e5, e6, hA, hV, hab, hvb, Option.getD_some]

/-- the asset commitments `blind` stores: parsed with the library's generator parser they are `H(asset) + abf·G` for the
    output's own asset and stored factor (no side condition on the assets is needed here) -/
theorem stored_generator_of_blind {Z : Zkp} {A : ZkpAlg R M} (L : ZkpLaws Z A)
    (hgs : ∀ g s, Z.generatorSerialize g = some s → ∃ g', Z.generatorParse s = some g' ∧ A.point g' = A.point g)
    (sha : Bytes → Bytes) (seed : Bytes) (ins : List BlindIn) (outs res : List BlindOut)
    (h : blind Z sha seed ins outs = some res) (r : BlindOut) (hr : r ∈ res) (hs : r.selected = true) :
    ∃ s g, r.assetCommitment = some s ∧ Z.generatorParse s = some g
      ∧ A.point g = A.H (r.asset.getD []) + A.scalar (r.abf.getD []) • A.G := by
  obtain ⟨i, o, lv, _, ⟨_, _, e3, _, e5, _⟩, ⟨asset, _, abf, _, gen, _, sa, _, hA, _, hab, _, hG, hSa, hRa, _⟩, _, _⟩ :=
    blind_selected_of_mem h hr hs
  obtain ⟨g', hp, hpt⟩ := hgs gen sa hSa
  refine ⟨sa, g', hRa, hp, ?_⟩
  rw [hpt, L.generator asset abf gen hG, e3, e5, hA, hab]
  rfl

open BalLink in
/-- from a successful `blind`, for the commitments it STORES: Σ commit(counted inputs, as stated in their scopes)
    − Σ point(parse(stored commitment)) over the blinded outputs of the result equals the difference of the plain
    amounts. -/
theorem balance_stored_of_blind {Z : Zkp} {A : ZkpAlg R M} (L : ZkpLaws Z A) (S : ZkpSerLaws Z A)
    (sha : Bytes → Bytes) (hsha : ∀ b, sha b ≠ []) (seed : Bytes) (ins : List BlindIn) (outs res : List BlindOut)
    (h : blind Z sha seed ins outs = some res) (h32 : outs.all sel32 = true) :
    ((inEntries A ins).map (Entry.commit A)).sum - ((res.filter BlindOut.selected).map (storedPoint Z A)).sum
      = ((inEntries A ins).map (Entry.plain A)).sum
        - ((res.filter BlindOut.selected).map (fun r => Entry.plain A (outEntry A r))).sum := by
  obtain ⟨hany, a, lv, tags, gens, ha, hlv, _, he⟩ := blind_unfold Z sha seed ins outs res h
  obtain ⟨hnIn, hterms⟩ := sumArgs_terms A sha hsha _ ins outs h32 a lv ha hany
  have hfe := blindEach_filter_outEntry A Z sha _ tags gens a.abfs _ res 0 he
  have hsum := L.blindSum a.vals a.abfs a.vbfs a.nIn lv hlv
  rw [hterms, hnIn, List.take_left' (by simp), List.drop_left' (by simp), ← hfe] at hsum
  have hbal := balance_algebra A (inEntries A ins) ((res.filter BlindOut.selected).map (outEntry A)) hsum
  have hc : ((res.filter BlindOut.selected).map (outEntry A)).map (Entry.commit A)
      = (res.filter BlindOut.selected).map (storedPoint Z A) := by
    rw [List.map_map]
    apply List.map_congr_left
    intro r hr
    obtain ⟨hm, hs⟩ := List.mem_filter.mp hr
    obtain ⟨s, c, h1, h2, h3⟩ := stored_commitment_of_blind L S sha seed ins outs res h r hm hs
    simp only [Function.comp, storedPoint, h1, Option.bind_some, h2, h3]
  rw [hc, List.map_map] at hbal
  exact hbal

/-! ### the input side

  `PSET.blind` takes the value, asset and both factors of an input from the fields STATED in the input scope (or from an
  explicit utxo); it never compares them with the utxo's commitments (nor does `PSET.verify`). So the commitments of
  the inputs enter `balance_stored_of_blind` as `Entry.commit` of the stated data. They can be replaced by the points
  of the utxo's own value field exactly when the stated data open it — the explicit hypothesis `InputsOpen`, which is
  what `LInputScope.unblind` establishes before it stores the fields (`Props/C18Y.input_opens_of_unblind`) and what
  holds for explicit utxos when the all-zero factor decodes to 0 (`input_opens_explicit`). -/

/-- the point an input's utxo carries in its value field: the parsed commitment bytes, or `v·H(asset)` for an explicit
    value (0 when absent / unparsable) -/
def utxoPoint (Z : Zkp) (A : ZkpAlg R M) (i : BlindIn) : M :=
  match i.utxoValue with
  | some (.conf b) => (match Z.pedersenCommitmentParse b with | some c => A.point c | none => 0)
  | some (.explicit v) => (v : R) • A.H (i.utxoAsset.getD [])
  | none => 0

/-- the inputs `blind` counts -/
def countedIns (A : ZkpAlg R M) (ins : List BlindIn) : List BlindIn := ins.filter (fun i => (inEntry A i).isSome)

/-- the stated (value, asset, abf, vbf) of every counted input open the value field of its utxo -/
def InputsOpen (Z : Zkp) (A : ZkpAlg R M) (ins : List BlindIn) : Prop :=
  ∀ i ∈ ins, ∀ e, inEntry A i = some e → utxoPoint Z A i = Entry.commit A e

theorem inEntries_commit_of_open (Z : Zkp) (A : ZkpAlg R M) : ∀ (ins : List BlindIn), InputsOpen Z A ins →
    (inEntries A ins).map (Entry.commit A) = (countedIns A ins).map (utxoPoint Z A)
  | [], _ => rfl
  | i :: r, h => by
    have ih := inEntries_commit_of_open Z A r (fun x hx e he => h x (by simp [hx]) e he)
    unfold inEntries countedIns at ih ⊢
    cases he : inEntry A i with
    | none => simp only [List.filterMap_cons, he, List.filter_cons, Option.isSome_none, Bool.false_eq_true, if_false, ih]
    | some e =>
      simp only [List.filterMap_cons, he, List.filter_cons, Option.isSome_some, if_true, List.map_cons, ih,
        h i (by simp) e he]

/-- an input spending an EXPLICIT utxo, nothing stated in the scope but (possibly) the same value: opens trivially,
    provided the all-zero factor `b"\x00"*32` decodes to the scalar 0 -/
theorem input_opens_explicit (Z : Zkp) (A : ZkpAlg R M) (hz : A.scalar zeros32 = 0) (i : BlindIn) (v : Nat)
    (hu : i.utxoValue = some (.explicit v)) (hv : i.value = none ∨ i.value = some v) (ha : truthyB i.asset = false)
    (hab : truthyB i.abf = false) (hvb : truthyB i.vbf = false) (e : Entry R) (he : inEntry A i = some e) :
    utxoPoint Z A i = Entry.commit A e := by
  cases hua : i.utxoAsset with
  | none =>
    have hs : sumEntryIn i = none := by
      unfold sumEntryIn
      rcases hv with hv | hv <;> simp only [hv, hu, ha, Bool.false_eq_true, if_false, hua]
    simp [inEntry, hs] at he
  | some a =>
    have hs : sumEntryIn i = (if a.length = 32 then some (some (v, zeros32, zeros32)) else some none) := by
      unfold sumEntryIn
      rcases hv with hv | hv <;> simp only [hv, hu, ha, Bool.false_eq_true, if_false, hua, orZeros, hab, hvb]
    unfold inEntry at he
    rw [hs] at he
    by_cases hl : a.length = 32
    · simp only [hl, if_true, Option.some.injEq] at he
      subst he
      simp only [utxoPoint, hu, hua, Option.getD_some, Entry.commit, inAsset, ha, Bool.false_eq_true, if_false,
        hz, zero_smul, add_zero]
    · simp [hl] at he

end Embit
