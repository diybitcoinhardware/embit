import EmbitModel.Proofs.PyCurveCount
import Mathlib.GroupTheory.Perm.Cycle.Type
import Mathlib.FieldTheory.Finite.Basic
/-
  Elementary counting on `E : y² = x³ + a x + b` over `𝔽_p` (no Hasse bound). #E(𝔽_p) ≤ 2p + 1: above every `x` there
  are at most two points (`y₁² = y₂²` gives `y₁ = ± y₂` in a field). A point of order two is a finite point with `y = 0`
  (odd characteristic), hence #E is odd as soon as `x³ + a x + b` has no root (Cauchy's theorem). With `n ∣ #E`
  (Lagrange, `G` of prime order `n`) and `#E ≤ 2p + 1 < 3n` this gives `#E = n`. For `p ≡ 1 (mod 3)`: `x³ = c`, `c ≠ 0`
  forces `c^((p−1)/3) = x^(p−1) = 1` (Fermat), so a value of the executable `powMod c ((p−1)/3) p` other than 1 shows
  that `c` is not a cube.
-/
namespace Embit.Model.PyCurve
open WeierstrassCurve

variable (C : Curve) [Fact C.p.Prime]

open Classical in
/-- a chosen root of `y² = x³ + a x + b` above `x` (0 when there is none) -/
noncomputable def rootAbove (x : ZMod C.p) : ZMod C.p :=
  if h : ∃ y : ZMod C.p, y ^ 2 = x ^ 3 + (C.a : ZMod C.p) * x + (C.b : ZMod C.p) then h.choose else 0

theorem rootAbove_sq {x y : ZMod C.p} (h : y ^ 2 = x ^ 3 + (C.a : ZMod C.p) * x + (C.b : ZMod C.p)) :
    rootAbove C x ^ 2 = y ^ 2 := by
  have hex : ∃ y : ZMod C.p, y ^ 2 = x ^ 3 + (C.a : ZMod C.p) * x + (C.b : ZMod C.p) := ⟨y, h⟩
  unfold rootAbove
  rw [dif_pos hex, hex.choose_spec, h]

open Classical in
/-- a point is coded by its `x` and by whether its `y` is the chosen root above `x` -/
noncomputable def code : (W C).toAffine.Point → Option (ZMod C.p × Bool)
  | .zero => none
  | .some x y _ => some (x, decide (y = rootAbove C x))

theorem code_injective : Function.Injective (code C) := by
  intro P Q h
  cases P with
  | zero =>
    cases Q with
    | zero => rfl
    | some x y hq => simp [code] at h
  | some x₁ y₁ h₁ =>
    cases Q with
    | zero => simp [code] at h
    | some x₂ y₂ h₂ =>
      simp only [code, Option.some.injEq, Prod.mk.injEq] at h
      obtain ⟨hx, hb⟩ := h
      subst hx
      have e₁ := rootAbove_sq C (point_eqn C h₁)
      have e₂ := rootAbove_sq C (point_eqn C h₂)
      have hy : y₁ = y₂ := by
        by_cases c₁ : y₁ = rootAbove C x₁
        · have c₂ : y₂ = rootAbove C x₁ := of_decide_eq_true (hb ▸ decide_eq_true c₁)
          rw [c₁, c₂]
        · have c₂ : ¬ y₂ = rootAbove C x₁ := of_decide_eq_false (hb ▸ decide_eq_false c₁)
          -- both are the other root: `y = −r`
          have f₁ : (y₁ - rootAbove C x₁) * (y₁ + rootAbove C x₁) = 0 := by linear_combination -e₁
          have f₂ : (y₂ - rootAbove C x₁) * (y₂ + rootAbove C x₁) = 0 := by linear_combination -e₂
          have g₁ : y₁ + rootAbove C x₁ = 0 :=
            (mul_eq_zero.mp f₁).resolve_left (fun h => c₁ (sub_eq_zero.mp h))
          have g₂ : y₂ + rootAbove C x₁ = 0 :=
            (mul_eq_zero.mp f₂).resolve_left (fun h => c₂ (sub_eq_zero.mp h))
          linear_combination g₁ - g₂
      subst hy
      rfl

instance point_finite : Finite (W C).toAffine.Point := Finite.of_injective (code C) (code_injective C)

theorem card_le : Nat.card (W C).toAffine.Point ≤ 2 * C.p + 1 := by
  have h := Nat.card_le_card_of_injective (code C) (code_injective C)
  have hc : Nat.card (Option (ZMod C.p × Bool)) = 2 * C.p + 1 := by
    rw [Nat.card_eq_fintype_card, Fintype.card_option, Fintype.card_prod, ZMod.card, Fintype.card_bool]
    ring
  rwa [hc] at h

theorem two_torsion_y (hs : Smooth C) (P : (W C).toAffine.Point) (h0 : P ≠ 0) (h2 : 2 • P = 0) :
    ∃ x : ZMod C.p, x ^ 3 + (C.a : ZMod C.p) * x + (C.b : ZMod C.p) = 0 := by
  have hneg : P = -P := by
    rw [two_nsmul] at h2
    exact eq_neg_of_add_eq_zero_left h2
  cases P with
  | zero => exact absurd rfl h0
  | some x y h =>
    rw [Affine.Point.neg_some] at hneg
    simp only [Affine.Point.some.injEq, true_and] at hneg
    have hy : y = -y := by
      have : (W C).toAffine.negY x y = -y := by
        simp [Affine.negY, W, Wab]
      rw [this] at hneg; exact hneg
    have h2y : (2 : ZMod C.p) * y = 0 := by linear_combination hy
    have hy0 : y = 0 := (mul_eq_zero.mp h2y).resolve_left (two_ne_zero' C hs)
    refine ⟨x, ?_⟩
    have := point_eqn C h
    rw [hy0] at this
    linear_combination -this

theorem card_odd (hs : Smooth C) (hroot : ∀ x : ZMod C.p, x ^ 3 + (C.a : ZMod C.p) * x + (C.b : ZMod C.p) ≠ 0) :
    ¬ 2 ∣ Nat.card (W C).toAffine.Point := by
  intro hd
  have : Fact (Nat.Prime 2) := ⟨Nat.prime_two⟩
  obtain ⟨P, hP⟩ := exists_prime_addOrderOf_dvd_card' (G := (W C).toAffine.Point) 2 hd
  have h2 : 2 • P = 0 := by rw [← hP]; exact addOrderOf_nsmul_eq_zero P
  have h0 : P ≠ 0 := by
    intro h
    rw [h, addOrderOf_zero] at hP
    exact absurd hP (by norm_num)
  obtain ⟨x, hx⟩ := two_torsion_y C hs P h0 h2
  exact hroot x hx

theorem cardEq_of_odd {n : ℕ} {g : APt C} (hp : Params C n g) (h3 : 2 * C.p + 1 < 3 * n)
    (hodd : ¬ 2 ∣ Nat.card (W C).toAffine.Point) : CardEq C n := by
  unfold CardEq
  have hle := card_le C
  obtain ⟨k, hk⟩ := n_dvd_card C hp
  rw [hk] at hle hodd ⊢
  have hn := hp.n_prime.pos
  have hk3 : k < 3 := by
    by_contra hge
    have : 3 * n ≤ n * k := by rw [Nat.mul_comm]; exact Nat.mul_le_mul_left n (by omega)
    omega
  have hk0 : k ≠ 0 := by
    rintro rfl
    exact hodd (by simp)
  have hk2 : k ≠ 2 := by
    rintro rfl
    exact hodd ⟨n, by ring⟩
  have : k = 1 := by omega
  rw [this, Nat.mul_one]

theorem not_cube (p : ℕ) [Fact p.Prime] (c : ℤ) (h3 : 3 ∣ p - 1) (hc : (c : ZMod p) ≠ 0)
    (hpow : powMod c ((p - 1) / 3) (p : ℤ) ≠ 1) (x : ZMod p) : x ^ 3 ≠ (c : ZMod p) := by
  intro hx
  apply hpow
  have hp : p.Prime := Fact.out
  have hx0 : x ≠ 0 := by
    rintro rfl
    apply hc
    rw [← hx]; simp
  have h1 : (c : ZMod p) ^ ((p - 1) / 3) = 1 := by
    rw [← hx, ← pow_mul, Nat.mul_div_cancel' h3]
    exact ZMod.pow_card_sub_one_eq_one hx0
  rw [← powMod_cast] at h1
  obtain ⟨r0, r1⟩ := powMod_range p hp.pos c ((p - 1) / 3)
  exact eq_of_cast_eq r0 r1 zero_le_one (by exact_mod_cast hp.one_lt) (by simpa using h1)

end Embit.Model.PyCurve
