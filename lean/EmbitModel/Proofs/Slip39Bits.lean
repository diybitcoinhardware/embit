import EmbitModel.Proofs.Slip39ParseSound
import EmbitModel.Proofs.Bip39Bits
/-
  Bit lists of the SLIP-0039 layout spec (`bitsBE`, `natOfBitsBE`, `words10`) versus numbers. `natOfBitsBE` and
  `bitsBE` are BIP39's `natOfBits` and `bitsOfNat` (`natOfBitsBE_eq`, `bitsBE_eq`), and both are `Digits`: a bit list
  is the positional notation of its number, slices of it are quotients/remainders by powers of two, chopping into
  ten-bit words is `wordsOfBits`, bytes are `beN`.
-/
namespace Embit.Model.Slip39
open Embit Embit.Spec.Slip39 Embit.Digits

theorem natOfBits_nil : natOfBitsBE [] = 0 := rfl

theorem natOfBits_append (a b : List Bool) :
    natOfBitsBE (a ++ b) = natOfBitsBE a * 2 ^ b.length + natOfBitsBE b := by
  rw [natOfBitsBE_eq]; exact Spec.Bip39.natOfBits_append a b

theorem natOfBits_lt (bs : List Bool) : natOfBitsBE bs < 2 ^ bs.length := by
  rw [natOfBitsBE_eq]; exact Spec.Bip39.natOfBits_lt bs

theorem natOfBits_bitsBE (w v : Nat) : natOfBitsBE (bitsBE w v) = v % 2 ^ w := by
  rw [bitsBE_eq, natOfBitsBE_eq, ← Spec.Bip39.bitsOfNat_mod,
    Spec.Bip39.natOfBits_bitsOfNat _ _ (Nat.mod_lt _ (Nat.two_pow_pos w))]

theorem natOfBits_replicate_false (n : Nat) : natOfBitsBE (List.replicate n false) = 0 := by
  rw [natOfBitsBE_eq, ← Spec.Bip39.bitsOfNat_zero, Spec.Bip39.natOfBits_bitsOfNat n 0 (Nat.two_pow_pos n)]

theorem natOfBits_eq_zero (bs : List Bool) : natOfBitsBE bs = 0 ↔ bs.any id = false := by
  induction bs with
  | nil => simp [natOfBitsBE]
  | cons b bs ih =>
    have hc := natOfBits_append [b] bs
    rw [List.singleton_append] at hc
    rw [hc, List.any_cons]
    have : 0 < 2 ^ bs.length := Nat.pow_pos (by decide)
    cases b
    · rw [show natOfBitsBE [false] = 0 from rfl, Nat.zero_mul, Nat.zero_add, ih]; rfl
    · rw [show natOfBitsBE [true] = 1 from rfl]
      exact ⟨fun h => by omega, fun h => by cases h⟩

theorem natOfBits_slice (bs : List Bool) (off w : Nat) (h : off + w ≤ bs.length) :
    natOfBitsBE ((bs.drop off).take w) = natOfBitsBE bs / 2 ^ (bs.length - off - w) % 2 ^ w := by
  have := ofBE_slice (by decide : 0 < 2) _ (ofBit_lt bs) off w (by rwa [List.length_map])
  rwa [List.length_map, ← List.map_drop, ← List.map_take, ← Spec.Bip39.natOfBits_eq, ← Spec.Bip39.natOfBits_eq,
    ← natOfBitsBE_eq] at this

theorem natOfBits_drop (bs : List Bool) (off : Nat) (h : off ≤ bs.length) :
    natOfBitsBE (bs.drop off) = natOfBitsBE bs % 2 ^ (bs.length - off) := by
  have := natOfBits_slice bs off (bs.length - off) (by omega)
  rw [List.take_of_length_le (by simp [List.length_drop])] at this
  rw [this, show bs.length - off - (bs.length - off) = 0 by omega]; simp

theorem bitsBE_length (w v : Nat) : (bitsBE w v).length = w := by simp [bitsBE]

theorem natOfBits_flatMap10 (ws : List Nat) (h : ∀ w ∈ ws, w < 1024) :
    natOfBitsBE (ws.flatMap (bitsBE 10)) = valueOfWords ws := by
  rw [funext (bitsBE_eq 10), Spec.Bip39.flatMap_bitsOfNat 10 ws h, natOfBitsBE_eq,
    Spec.Bip39.natOfBits_bitsOfNat _ _ (by rw [Nat.pow_mul]; exact ofBE_lt (by decide) ws h),
    valueOfWords_eq ws h]
  rfl

/-- chopping the expansion of ten-bit digits gives the digits back -/
theorem words10_flatMap (ds : List Nat) (h : ∀ d ∈ ds, d < 1024) :
    words10 ds.length (ds.flatMap (Spec.Bip39.bitsOfNat 10)) = ds := by
  induction ds with
  | nil => rfl
  | cons d ds ih =>
    rw [List.length_cons, words10, List.flatMap_cons, List.take_left' (Spec.Bip39.bitsOfNat_length _ _),
      List.drop_left' (Spec.Bip39.bitsOfNat_length _ _), ih (fun x hx => h x (by simp [hx])), natOfBitsBE_eq,
      Spec.Bip39.natOfBits_bitsOfNat 10 d (h d (by simp))]

theorem words10_eq (n : Nat) (bs : List Bool) (h : bs.length = 10 * n) :
    words10 n bs = wordsOfBits (natOfBitsBE bs) n := by
  have hd := fixedBE_lt (B := 2 ^ 10) (by decide) n (Spec.Bip39.natOfBits bs)
  have := words10_flatMap _ hd
  rw [fixedBE_length, ← Spec.Bip39.bits_eq_flatMap 10 n bs h] at this
  rw [this, wordsOfBits_eq, natOfBitsBE_eq]
  rfl

/-- the value bytes of a share, bit by bit -/
theorem valueBits_eq (b : Bytes) : (b.flatMap fun x => bitsBE 8 x.toNat) = Spec.Bip39.bytesToBits b :=
  flatMap_congr_mem _ _ _ fun x _ => bitsBE_eq 8 x.toNat

end Embit.Model.Slip39
