import EmbitModel.Proofs.MiniscriptLen
import EmbitModel.Model.MiniscriptX
/-
  C13 — helper definitions and lemmas.

  (a) `sortedmulti*`: the order of the pushes is the order of the keys (`pushOrderOk`, the condition of `compile_eqW`)
      for every mixture of valid SEC encodings (33 bytes starting 02/03, 65 bytes starting 04) and for x-only keys.
  (b) `Ms.parserArgs ctx`: the shape of the arguments the descriptor parser can produce in a context (SEC keys in
      P2WSH, 32-byte x-only keys in tapscript, 20-byte key hashes, 32/20-byte digests). From it and `verify`, both
      `argsOkW` and `lensOk` follow, so the compile / length theorems need no side condition on accepted expressions.
  (c) `mentions f e`: fragment `f` of the multi family occurs anywhere in `e`.
-/
namespace Embit.Miniscript
open Embit.Model.Miniscript Embit.Spec.Miniscript

/-! ### (b) the arguments a descriptor parser produces -/

theorem keyShape_lt (ctx : Ctx) (a : Bytes) (h : keyShape ctx a = true) : a.length < 76 := by
  cases ctx <;> simp [keyShape, secKey] at h <;> omega

theorem bytesLe_secKey (a b : Bytes) (ha : secKey a = true) (hb : secKey b = true) :
    bytesLe (pushCompact a) (pushCompact b) = bytesLe a b := by
  have la : a.length < 253 := by simp [secKey] at ha; omega
  have lb : b.length < 253 := by simp [secKey] at hb; omega
  rw [pushCompact_eq_cons a la, pushCompact_eq_cons b lb]
  simp only [secKey, Bool.or_eq_true, Bool.and_eq_true, beq_iff_eq] at ha hb
  rcases ha with ⟨ha1, ha2⟩ | ⟨ha1, ha2⟩ <;> rcases hb with ⟨hb1, hb2⟩ | ⟨hb1, hb2⟩
  · rw [ha1, hb1, bytesLe_cons_same]
  · -- compressed before uncompressed in both orders
    cases a with
    | nil => simp at ha1
    | cons x xs =>
      cases b with
      | nil => simp at hb1
      | cons y ys =>
        simp only [List.head?_cons, Option.some.injEq] at ha2 hb2
        subst hb2
        rw [ha1, hb1]
        rcases ha2 with rfl | rfl <;> simp [bytesLe] <;> decide
  · cases a with
    | nil => simp at ha1
    | cons x xs =>
      cases b with
      | nil => simp at hb1
      | cons y ys =>
        simp only [List.head?_cons, Option.some.injEq] at ha2 hb2
        subst ha2
        rw [ha1, hb1]
        rcases hb2 with rfl | rfl <;> simp [bytesLe] <;> decide
  · rw [ha1, hb1, bytesLe_cons_same]

theorem pushOrderOk_of_keyShape (ctx : Ctx) (keys : List Bytes) (h : keys.all (keyShape ctx) = true) :
    pushOrderOk keys = true := by
  simp only [List.all_eq_true] at h
  simp only [pushOrderOk, List.all_eq_true, beq_iff_eq]
  intro a ha b hb
  cases ctx with
  | wsh => exact bytesLe_secKey a b (h a ha) (h b hb)
  | tap =>
    have la : a.length = 32 := by simpa [keyShape] using h a ha
    have lb : b.length = 32 := by simpa [keyShape] using h b hb
    rw [pushCompact_eq_cons a (by omega), pushCompact_eq_cons b (by omega), la, lb, bytesLe_cons_same]

theorem argsOkW_of_parserArgs (ctx : Ctx) : ∀ e : Ms, e.parserArgs ctx = true → e.argsOkW = true := by
  intro e
  induction e using Ms.ind₂ (Q := fun xs => Ms.parserArgsL ctx xs = true → Ms.argsOkWL xs = true) with
  | key f a =>
    intro h
    cases f <;> simp only [Ms.parserArgs, beq_iff_eq] at h <;> simp only [Ms.argsOkW, decide_eq_true_eq]
    · exact keyShape_lt ctx a h
    · omega
    · exact keyShape_lt ctx a h
    · omega
  | time f n => intro _; rfl
  | hash f h =>
    intro hp
    cases f <;> simp only [Ms.parserArgs, beq_iff_eq] at hp <;> simp only [Ms.argsOkW, decide_eq_true_eq] <;> omega
  | andor x y z ihx ihy ihz =>
    intro h
    simp only [Ms.parserArgs, Bool.and_eq_true] at h
    simp [Ms.argsOkW, ihx h.1.1, ihy h.1.2, ihz h.2]
  | bin f x y ihx ihy =>
    intro h
    simp only [Ms.parserArgs, Bool.and_eq_true] at h
    simp [Ms.argsOkW, ihx h.1, ihy h.2]
  | thresh k xs ih =>
    intro h
    simp only [Ms.parserArgs, Bool.and_eq_true] at h
    simp only [Ms.argsOkW, Bool.and_eq_true]
    exact ⟨h.1, ih h.2⟩
  | multi f k keys =>
    intro h
    simp only [Ms.parserArgs] at h
    have hlt : keys.all (fun a => decide (a.length < 76)) = true := by
      simp only [List.all_eq_true, decide_eq_true_eq] at h ⊢
      exact fun a ha => keyShape_lt ctx a (h a ha)
    have ho := pushOrderOk_of_keyShape ctx keys h
    cases f <;> simp [Ms.argsOkW, hlt, ho]
  | wrap w x ih =>
    intro h
    simp only [Ms.parserArgs] at h
    simpa [Ms.argsOkW] using ih h
  | nil => rfl
  | cons x xs ihx ihxs =>
    rename_i h
    simp only [Ms.parserArgsL, Ms.argsOkWL, Bool.and_eq_true] at h ⊢
    exact ⟨ihx h.1, ihxs h.2⟩

theorem lensOk_of_parserArgs (ctx : Ctx) :
    ∀ e : Ms, e.parserArgs ctx = true → verify ctx e = true → e.lensOk = true := by
  intro e
  induction e using Ms.ind₂
    (Q := fun xs => Ms.parserArgsL ctx xs = true → verifyL ctx xs = true → Ms.lensOkL xs = true) with
  | key f a =>
    intro h _
    cases f <;> simp only [Ms.parserArgs, beq_iff_eq] at h <;> simp only [Ms.lensOk, decide_eq_true_eq, beq_iff_eq]
    · have := keyShape_lt ctx a h; omega
    · exact h
    · have := keyShape_lt ctx a h; omega
    · exact h
  | time f n => intro _ _; rfl
  | hash f h =>
    intro hp _
    cases f <;> simpa [Ms.parserArgs, Ms.lensOk] using hp
  | andor x y z ihx ihy ihz =>
    intro h hv
    simp only [Ms.parserArgs, verify, Bool.and_eq_true] at h hv
    simp [Ms.lensOk, ihx h.1.1 hv.1.1.1, ihy h.1.2 hv.1.1.2, ihz h.2 hv.1.2]
  | bin f x y ihx ihy =>
    intro h hv
    simp only [Ms.parserArgs, verify, Bool.and_eq_true] at h hv
    simp [Ms.lensOk, ihx h.1 hv.1.1, ihy h.2 hv.1.2]
  | thresh k xs ih =>
    intro h hv
    simp only [Ms.parserArgs, verify, Bool.and_eq_true] at h hv
    have hne : xs.isEmpty = false := by
      cases xs with
      | nil => simp [threshVerify, tpL] at hv
      | cons a as => rfl
    simp only [Ms.lensOk, hne, Bool.not_false, Bool.true_and]
    exact ih h.2 hv.1
  | multi f k keys =>
    intro h hv
    simp only [Ms.parserArgs] at h
    have hlt : keys.all (fun a => decide (a.length < 253)) = true := by
      simp only [List.all_eq_true, decide_eq_true_eq] at h ⊢
      exact fun a ha => by have := keyShape_lt ctx a (h a ha); omega
    have hne : keys.isEmpty = false := by
      cases keys with
      | nil => cases f <;> simp [verify, multiVerify] at hv
      | cons a as => rfl
    cases f <;> simp [Ms.lensOk, hlt, hne]
  | wrap w x ih =>
    intro h hv
    simp only [Ms.parserArgs, verify, Bool.and_eq_true] at h hv
    simpa [Ms.lensOk] using ih h hv.1
  | nil => rfl
  | cons x xs ihx ihxs =>
    rename_i h hv
    simp only [Ms.parserArgsL, verifyL, Ms.lensOkL, Bool.and_eq_true] at h hv ⊢
    exact ⟨ihx h.1 hv.1, ihxs h.2 hv.2⟩

/-! ### (c) occurrences of the multi family -/

theorem constructible_mentions (ctx : Ctx) : ∀ e : Ms,
    constructible ctx e = true → ∀ f, mentions f e = true → Gen.Ms.multiTaproot f = (ctx == .tap) := by
  intro e
  induction e using Ms.ind₂ (Q := fun xs =>
    constructibleL ctx xs = true → ∀ f, mentionsL f xs = true → Gen.Ms.multiTaproot f = (ctx == .tap)) with
  | key f a => intro _ g h; simp [mentions] at h
  | time f n => intro _ g h; simp [mentions] at h
  | hash f a => intro _ g h; simp [mentions] at h
  | andor x y z ihx ihy ihz =>
    intro hc g h
    simp only [constructible, Bool.and_eq_true] at hc
    simp only [mentions, Bool.or_eq_true] at h
    rcases h with (h | h) | h
    · exact ihx hc.1.1 g h
    · exact ihy hc.1.2 g h
    · exact ihz hc.2 g h
  | bin f x y ihx ihy =>
    intro hc g h
    simp only [constructible, Bool.and_eq_true] at hc
    simp only [mentions, Bool.or_eq_true] at h
    rcases h with h | h
    · exact ihx hc.1 g h
    · exact ihy hc.2 g h
  | thresh k xs ih =>
    intro hc g h
    simp only [constructible] at hc
    simp only [mentions] at h
    exact ih hc g h
  | multi f k keys =>
    intro hc g h
    simp only [constructible, beq_iff_eq] at hc
    simp only [mentions, beq_iff_eq] at h
    subst h
    exact hc
  | wrap w x ih =>
    intro hc g h
    simp only [constructible] at hc
    simp only [mentions] at h
    exact ih hc g h
  | nil => rename_i g h; simp [mentionsL] at h
  | cons x xs ihx ihxs =>
    rename_i hc g h
    simp only [constructibleL, Bool.and_eq_true] at hc
    simp only [mentionsL, Bool.or_eq_true] at h
    rcases h with h | h
    · exact ihx hc.1 g h
    · exact ihxs hc.2 g h

end Embit.Miniscript
