import EmbitModel.Proofs.View
import EmbitModel.Proofs.ViewCompose
import EmbitModel.Proofs.ViewSighash
/-
  C05 / C05Y / C01X: the streaming view over a stream that embeds an accepted PSBT. The global scan of
  `PSBTView.view` over a framed global scope, scope offsets and per-scope reads, and the two refinement theorems
  `presents_v0` / `presents_v2` (every reader mode) from which Props/C05X.lean and Proofs/ViewFrame.lean read
  off their statements.
-/
set_option linter.unusedSimpArgs false
set_option linter.unusedVariables false
namespace Embit
open Model Spec.Wire

/-- the pairs of a scope without the separator -/
def kvBytes (g : List KV) : Bytes := g.flatMap (fun kv => serString kv.1 ++ serString kv.2)

theorem writeKVs_eq (g : List KV) : writeKVs g = kvBytes g ++ [0] := rfl

theorem kvBytes_cons (kv : KV) (g : List KV) : kvBytes (kv :: g) = serString kv.1 ++ (serString kv.2 ++ kvBytes g) := by
  simp [kvBytes, List.flatMap_cons, List.append_assoc]

theorem kvBytes_append (g1 g2 : List KV) : kvBytes (g1 ++ g2) = kvBytes g1 ++ kvBytes g2 := by
  simp [kvBytes, List.flatMap_append]

/-- the scan walks over pairs that are not the transaction: of the keys fb / 04 / 05 it remembers the last value -/
theorem viewScan_skip {buf : Bytes} : ∀ (g : List KV) (st : GScan) (fuel : Nat) (rest : Bytes),
    buf.drop st.cur = kvBytes g ++ rest → (∀ kv ∈ g, KVWF kv) → (∀ kv ∈ g, kv.1 ≠ [0x00]) →
    (∀ kv ∈ g, kv.1 = [0x04] ∨ kv.1 = [0x05] → (parseAll Compact.read kv.2).isSome) →
    viewScan buf (g.length + fuel) st = viewScan buf fuel
      { st with cur := st.cur + (kvBytes g).length,
                version := lastFold [0xfb] (fun v => some (ofLe v)) st.version g,
                numIn := lastFold [0x04] (parseAll Compact.read) st.numIn g,
                numOut := lastFold [0x05] (parseAll Compact.read) st.numOut g } := by
  intro g
  induction g with
  | nil =>
    intro st fuel _ _ _ _ _
    simp [kvBytes, lastFold_nil]
  | cons kv g ih =>
    intro st fuel rest h hw h0 hp
    obtain ⟨k, v⟩ := kv
    obtain ⟨hne, hk, hv⟩ := hw (k, v) (by simp)
    have hk0 : k ≠ [0x00] := h0 (k, v) (by simp)
    have h1 : buf.drop st.cur = serString k ++ (serString v ++ (kvBytes g ++ rest)) := by
      rw [h, kvBytes_cons]; simp only [List.append_assoc]
    have h2 := drop_add h1
    have s1 := stringAt_ser h1 hk
    have s2 := stringAt_ser h2 hv
    have s3 := skipStringAt_ser h2 hv
    have hke : k.isEmpty = false := by simpa using hne
    have hlen : st.cur + (serString k).length + (serString v).length + (kvBytes g).length
        = st.cur + (kvBytes ((k, v) :: g)).length := by
      rw [kvBytes_cons]; simp only [List.length_append]; omega
    have hrec := fun st' (hc' : st'.cur = st.cur + (serString k).length + (serString v).length) =>
      ih st' fuel rest (hc' ▸ drop_add h2)
        (fun x hx => hw x (by simp [hx])) (fun x hx => h0 x (by simp [hx])) (fun x hx => hp x (by simp [hx]))
    rw [show ((k, v) :: g).length + fuel = (g.length + fuel) + 1 by simp; omega]
    rw [viewScan, s1]
    simp only [hke, Bool.false_eq_true, if_false]
    -- the key is fb, 04, 05 or none of them (00 is excluded); equations between key literals are decided
    by_cases hfb : k = [0xfb]
    · subst hfb
      simp only [Bool.true_or, if_true, s2, decide_true]
      rw [hrec _ rfl]
      simp +decide only [lastFold_cons, if_true, if_false, hlen]
    · by_cases h4 : k = [0x04]
      · subst h4
        obtain ⟨n, hn⟩ := Option.isSome_iff_exists.mp (hp ([0x04], v) (by simp) (Or.inl rfl))
        simp +decide only [if_true, if_false, s2, hn]
        rw [hrec _ rfl]
        simp +decide only [lastFold_cons, if_true, if_false, hlen, hn]
      · by_cases h5 : k = [0x05]
        · subst h5
          obtain ⟨n, hn⟩ := Option.isSome_iff_exists.mp (hp ([0x05], v) (by simp) (Or.inr rfl))
          simp +decide only [if_true, if_false, s2, hn]
          rw [hrec _ rfl]
          simp +decide only [lastFold_cons, if_true, if_false, hlen, hn]
        · simp only [hfb, h4, h5, decide_false, Bool.or_self, Bool.false_eq_true, if_false, hk0, s3]
          rw [hrec _ rfl]
          simp only [lastFold_cons, hfb, h4, h5, if_false, hlen]

/-- the scan at key 00: counts and offsets are taken from the transaction view opened behind the length prefix -/
theorem viewScan_tx {buf rest tx : Bytes} (st : GScan) (fuel : Nat) (gx : GTx)
    (h : buf.drop st.cur = serString [0x00] ++ (serString tx ++ rest)) (hl : tx.length < 2^64)
    (hopen : GTx.open buf (st.cur + (serString [0x00]).length + (Compact.enc tx.length).length) = some gx)
    (hv : st.version ≠ some 2) (hi : st.numIn = none) (ho : st.numOut = none) :
    viewScan buf (fuel + 1) st = viewScan buf fuel
      { st with cur := st.cur + (serString [0x00]).length + (serString tx).length,
                numIn := some gx.numVin, numOut := some gx.numVout,
                txOffset := some (st.cur + (serString [0x00]).length + (Compact.enc tx.length).length),
                gtx := some gx } := by
  have h2 := drop_add h
  rw [serString_append tx] at h2
  have hcur : st.cur + (serString [0x00]).length + (Compact.enc tx.length).length + tx.length
      = st.cur + (serString [0x00]).length + (serString tx).length := by
    simp only [serString, List.length_append]; omega
  rw [viewScan, stringAt_ser h (by decide)]
  simp +decide only [Bool.false_eq_true, if_false, if_true, hv, hi, ho, Option.isSome_none, Bool.or_self,
    compactAt_enc h2 hl, hopen, hcur]

/-- the rest of a global scope behind the transaction (or all of it, PSBTv2): pairs, then the separator, where
    the scan stops -/
theorem viewScan_tail {buf rest : Bytes} (g : List KV) (st : GScan)
    (h : buf.drop st.cur = writeKVs g ++ rest) (hw : ∀ kv ∈ g, KVWF kv) (h0 : ∀ kv ∈ g, kv.1 ≠ [0x00])
    (hp : ∀ kv ∈ g, kv.1 = [0x04] ∨ kv.1 = [0x05] → (parseAll Compact.read kv.2).isSome)
    (fuel : Nat) (hf : g.length + 1 ≤ fuel) :
    viewScan buf fuel st
      = some { st with cur := st.cur + (writeKVs g).length,
                       version := lastFold [0xfb] (fun v => some (ofLe v)) st.version g,
                       numIn := lastFold [0x04] (parseAll Compact.read) st.numIn g,
                       numOut := lastFold [0x05] (parseAll Compact.read) st.numOut g } := by
  obtain ⟨k, rfl⟩ : ∃ k, fuel = g.length + (k + 1) := ⟨fuel - (g.length + 1), by omega⟩
  rw [writeKVs_eq, List.append_assoc] at h
  rw [viewScan_skip g st (k + 1) _ h hw h0 hp, viewScan, stringAt_sep (drop_add h)]
  simp only [List.isEmpty_nil, if_true, writeKVs_eq, List.length_append, List.length_cons, List.length_nil,
    Nat.add_assoc]

/-- the global scan over a version-0 global scope: pairs, the unsigned transaction, pairs, separator -/
theorem viewScan_v0 {buf rest : Bytes} {pos : Nat} (g1 g2 : List KV) (t : Tx) (hwf : WF t) (hu : Unsigned t)
    (h : buf.drop pos = writeKVs (g1 ++ ([0x00], Tx.ser t) :: g2) ++ rest)
    (hw : ∀ kv ∈ g1 ++ ([0x00], Tx.ser t) :: g2, KVWF kv)
    (h1 : ∀ kv ∈ g1, kv.1 ≠ [0x00] ∧ kv.1 ≠ [0x04] ∧ kv.1 ≠ [0x05])
    (h2 : ∀ kv ∈ g2, kv.1 ≠ [0x00] ∧ kv.1 ≠ [0x04] ∧ kv.1 ≠ [0x05])
    (hv : lastFold [0xfb] (fun v => some (ofLe v)) none g1 ≠ some 2)
    (fuel : Nat) (hf : g1.length + g2.length + 2 ≤ fuel) :
    ∃ (off : Nat) (Q : Bytes) (gx : GTx), buf.drop off = Tx.ser t ++ Q ∧ GTx.open buf off = some gx
      ∧ viewScan buf fuel { cur := pos }
        = some { cur := pos + (writeKVs (g1 ++ ([0x00], Tx.ser t) :: g2)).length,
                 version := lastFold [0xfb] (fun v => some (ofLe v)) none (g1 ++ ([0x00], Tx.ser t) :: g2),
                 numIn := some t.vin.length, numOut := some t.vout.length,
                 txOffset := some off, gtx := some gx } := by
  obtain ⟨k, rfl⟩ : ∃ k, fuel = g1.length + ((g2.length + 1 + k) + 1) := ⟨fuel - (g1.length + g2.length + 2), by omega⟩
  have hl : (Tx.ser t).length < 2^64 := (hw ([0x00], Tx.ser t) (by simp)).2.2
  have hb1 : buf.drop pos
      = kvBytes g1 ++ (serString [0x00] ++ (serString (Tx.ser t) ++ (writeKVs g2 ++ rest))) := by
    rw [h, writeKVs_eq, kvBytes_append, kvBytes_cons, writeKVs_eq]; simp only [List.append_assoc]
  have no45 : ∀ g : List KV, (∀ kv ∈ g, kv.1 ≠ [0x00] ∧ kv.1 ≠ [0x04] ∧ kv.1 ≠ [0x05]) →
      ∀ kv ∈ g, kv.1 = [0x04] ∨ kv.1 = [0x05] → (parseAll Compact.read kv.2).isSome := fun g hg x hx hh =>
    (hh.elim (hg x hx).2.1 (hg x hx).2.2).elim
  have hb2 := drop_add hb1
  have hb3 := drop_add (drop_add hb2)
  have hT := drop_add hb2
  rw [serString_append (Tx.ser t)] at hT
  have hT := drop_add hT
  obtain ⟨gx, hopen, hn1, hn2⟩ := GTx.open_counts t hwf hu hT
  refine ⟨_, _, gx, hT, hopen, ?_⟩
  rw [viewScan_skip g1 { cur := pos } _ _ hb1 (fun x hx => hw x (by simp [hx])) (fun x hx => (h1 x hx).1) (no45 g1 h1)]
  simp only [lastFold_absent [0x04] _ _ g1 (fun x hx => (h1 x hx).2.1),
    lastFold_absent [0x05] _ _ g1 (fun x hx => (h1 x hx).2.2)]
  rw [viewScan_tx { cur := pos + (kvBytes g1).length, version := lastFold [0xfb] (fun v => some (ofLe v)) none g1 }
    _ _ hb2 hl hopen hv rfl rfl]
  simp only [hn1, hn2]
  rw [viewScan_tail (rest := rest) g2 _ ?_ (fun x hx => hw x (by simp [hx])) (fun x hx => (h2 x hx).1) (no45 g2 h2) _ ?_]
  · simp +decide only [lastFold_append, lastFold_cons, if_false,
      lastFold_absent [0x04] _ _ g2 (fun x hx => (h2 x hx).2.1), lastFold_absent [0x05] _ _ g2 (fun x hx => (h2 x hx).2.2),
      writeKVs_eq, kvBytes_append, kvBytes_cons, List.length_append, Nat.add_assoc]
  · exact hb3
  · omega

theorem scopes_split : ∀ (scopes : List (List KV)) (n : Nat) (kvs : List KV), scopes[n]? = some kvs →
    scopes.flatMap writeKVs
      = (scopes.take n).flatMap writeKVs ++ (writeKVs kvs ++ (scopes.drop (n + 1)).flatMap writeKVs) := by
  intro scopes
  induction scopes with
  | nil => intro n kvs h; simp at h
  | cons s ss ih =>
    intro n kvs h
    cases n with
    | zero => simp at h; subst h; simp
    | succ n =>
      simp at h
      simp [List.flatMap_cons, ih n kvs h, List.append_assoc]

theorem scopeGo_spec {buf : Bytes} : ∀ (n : Nat) (scopes : List (List KV)) (pos : Nat) (rest : Bytes),
    (∀ kvs ∈ scopes, ∀ kv ∈ kvs, KVWF kv) → buf.drop pos = scopes.flatMap writeKVs ++ rest → n ≤ scopes.length →
    View.scopeOffset.go buf n pos = some (pos + ((scopes.take n).flatMap writeKVs).length) := by
  intro n
  induction n with
  | zero => intro scopes pos rest _ _ _; simp [View.scopeOffset.go]
  | succ n ih =>
    intro scopes pos rest hw h hn
    cases scopes with
    | nil => simp at hn
    | cons kvs ss =>
      rw [List.flatMap_cons, List.append_assoc] at h
      have hfuel : kvs.length + 1 ≤ buf.length + 1 := by
        have h1 := congrArg List.length h
        have h2 := writeKVs_length kvs
        simp only [List.length_drop, List.length_append] at h1
        omega
      simp only [View.scopeOffset.go, skipScopeAt_spec kvs _ pos _ (hw kvs (by simp)) h hfuel]
      rw [ih ss _ rest (fun x hx => hw x (by simp [hx])) (drop_add h) (by simpa using hn)]
      simp [List.flatMap_cons]; omega

section scopes
variable {buf post : Bytes} {scopes : List (List KV)} {v : View}
  (hw : ∀ kvs ∈ scopes, ∀ kv ∈ kvs, KVWF kv) (hf : buf.drop v.firstScope = scopes.flatMap writeKVs ++ post)
  (hcnt : v.numIn + v.numOut = scopes.length)
include hw hf hcnt

theorem scope_read (n : Nat) (kvs : List KV) (hk : scopes[n]? = some kvs) :
    ∃ (pos : Nat) (rest : Bytes), View.scopeOffset buf v n = some pos ∧ buf.drop pos = writeKVs kvs ++ rest
      ∧ readKVs (buf.drop pos) = some (kvs, rest) ∧ (∀ kv ∈ kvs, KVWF kv) := by
  have hn : n < scopes.length := (List.getElem?_eq_some_iff.mp hk).1
  have hwk : ∀ kv ∈ kvs, KVWF kv := hw kvs (List.mem_of_getElem? hk)
  have hd : buf.drop (v.firstScope + ((scopes.take n).flatMap writeKVs).length)
      = writeKVs kvs ++ ((scopes.drop (n + 1)).flatMap writeKVs ++ post) := by
    rw [scopes_split scopes n kvs hk, List.append_assoc, List.append_assoc] at hf
    exact drop_add hf
  refine ⟨_, _, ?_, hd, by rw [hd]; exact readKVs_write kvs _ hwk, hwk⟩
  have : ¬ n > v.numIn + v.numOut := by omega
  simp only [View.scopeOffset, this, if_false]
  exact scopeGo_spec n scopes v.firstScope post hw hf (by omega)

theorem View.input_v0 (ko : KeyOps) (sha : Bytes → Bytes) (c : Nat) (i : Nat) (kvs : List KV) (gx : GTx) (vi : TxIn)
    (hi : i < v.numIn) (hk : scopes[i]? = some kvs) (htx : v.tx = some gx) (hvi : GTx.vin buf gx i = some vi) :
    View.input ko sha buf v i c
      = InScope.addPairs ko sha c { txid := some vi.txid, vout := some vi.vout, sequence := some vi.sequence } kvs := by
  obtain ⟨pos, rest, h1, _, h2, _⟩ := scope_read hw hf hcnt i kvs hk
  have : ¬ i ≥ v.numIn := by omega
  simp only [View.input, this, if_false, htx, hvi, Option.map_some, h1, h2]

theorem View.input_v2 (ko : KeyOps) (sha : Bytes → Bytes) (c : Nat) (i : Nat) (kvs : List KV)
    (hi : i < v.numIn) (hk : scopes[i]? = some kvs) (htx : v.tx = none) :
    View.input ko sha buf v i c = InScope.addPairs ko sha c {} kvs := by
  obtain ⟨pos, rest, h1, _, h2, _⟩ := scope_read hw hf hcnt i kvs hk
  have : ¬ i ≥ v.numIn := by omega
  simp only [View.input, this, if_false, htx, h1, h2]

theorem View.output_v0 (ko : KeyOps) (j : Nat) (kvs : List KV) (gx : GTx) (vo : TxOut)
    (hj : j < v.numOut) (hk : scopes[v.numIn + j]? = some kvs) (htx : v.tx = some gx)
    (hvo : GTx.vout buf gx j = some vo) :
    View.output ko buf v j = OutScope.addPairs ko { value := some vo.value, spk := some vo.spk } kvs := by
  obtain ⟨pos, rest, h1, _, h2, _⟩ := scope_read hw hf hcnt (v.numIn + j) kvs hk
  have : ¬ j ≥ v.numOut := by omega
  simp only [View.output, this, if_false, htx, hvo, Option.map_some, h1, h2]

theorem View.output_v2 (ko : KeyOps) (j : Nat) (kvs : List KV)
    (hj : j < v.numOut) (hk : scopes[v.numIn + j]? = some kvs) (htx : v.tx = none) :
    View.output ko buf v j = OutScope.addPairs ko {} kvs := by
  obtain ⟨pos, rest, h1, _, h2, _⟩ := scope_read hw hf hcnt (v.numIn + j) kvs hk
  have : ¬ j ≥ v.numOut := by omega
  simp only [View.output, this, if_false, htx, h1, h2]

theorem View.vin_v2 (ko : KeyOps) (sha : Bytes → Bytes) (c : Nat) (i : Nat) (kvs : List KV) (s : InScope)
    (hi : i < v.numIn) (hk : scopes[i]? = some kvs) (htx : v.tx = none)
    (hs : InScope.addPairs ko sha c {} kvs = some s) :
    View.vin buf v i = s.vin := by
  obtain ⟨pos, rest, h1, hd, _, hwk⟩ := scope_read hw hf hcnt i kvs hk
  obtain ⟨f1, f2, f3, f4⟩ := InScope.addPairs_v2_fields ko sha c kvs s hs
  have hval := fun key hkey => getValue_spec key hkey kvs hwk hd
  have : ¬ i ≥ v.numIn := by omega
  simp only [View.vin, this, if_false, htx, h1, hval [0x0e] (by decide), hval [0x0f] (by decide), hval [0x10] (by decide)]
  simp only [InScope.vin, f1, f2, f3]
  cases h14 : lookup [0x0e] kvs with
  | none => simp
  | some a =>
    cases h15 : lookup [0x0f] kvs with
    | none => simp
    | some b =>
      cases h16 : lookup [0x10] kvs with
      | none => simp; decide
      | some q =>
        -- a stored sequence has four bytes, so the view's "empty means default" does not apply
        have hqe : q.isEmpty = false := by
          cases q with
          | nil => have := f4 _ h16; simp at this
          | cons _ _ => rfl
        simp [hqe]

theorem View.vout_v2 (ko : KeyOps) (j : Nat) (kvs : List KV) (s : OutScope)
    (hj : j < v.numOut) (hk : scopes[v.numIn + j]? = some kvs) (htx : v.tx = none)
    (hs : OutScope.addPairs ko {} kvs = some s) :
    View.vout buf v j = s.vout := by
  obtain ⟨pos, rest, h1, hd, _, hwk⟩ := scope_read hw hf hcnt (v.numIn + j) kvs hk
  obtain ⟨f1, f2⟩ := OutScope.addPairs_v2_fields ko kvs s hs
  have hval := fun key hkey => getValue_spec key hkey kvs hwk hd
  have : ¬ j ≥ v.numOut := by omega
  simp only [View.vout, this, if_false, htx, h1, hval [0x03] (by decide), hval [0x04] (by decide)]
  simp only [OutScope.vout, f1, f2]
  cases lookup [0x03] kvs <;> cases lookup [0x04] kvs <;> rfl

end scopes

/-- the view `v` over `pre ++ (b ++ post)` presents the PSBT `p` that `PSBT.parse(b, compress=c)` returns; `g` are
    the pairs of `b`'s global scope -/
structure Presents (ko : KeyOps) (sha : Bytes → Bytes) (c : Nat) (pre post b : Bytes) (g : List KV) (p : Psbt)
    (v : View) : Prop where
  opened : View.open (pre ++ (b ++ post)) pre.length = some v
  offset : v.offset = pre.length
  firstScope : v.firstScope = pre.length + (5 + (writeKVs g).length)
  frame : ∃ rest, b = psbtMagic ++ (writeKVs g ++ rest)
  numIn : v.numIn = p.inputs.length
  numOut : v.numOut = p.outputs.length
  version : v.version = p.version
  input : ∀ i, View.input ko sha (pre ++ (b ++ post)) v i c = p.inputs[i]?
  output : ∀ j, View.output ko (pre ++ (b ++ post)) v j = p.outputs[j]?

theorem embedded_layout (pre post : Bytes) (g : List KV) (scopes : List (List KV)) :
    readAt (pre ++ (psbtMagic ++ (writeKVs g ++ scopes.flatMap writeKVs) ++ post)) pre.length 5 = psbtMagic
    ∧ (pre ++ (psbtMagic ++ (writeKVs g ++ scopes.flatMap writeKVs) ++ post)).drop (pre.length + 5)
        = writeKVs g ++ (scopes.flatMap writeKVs ++ post)
    ∧ (pre ++ (psbtMagic ++ (writeKVs g ++ scopes.flatMap writeKVs) ++ post)).drop (pre.length + 5 + (writeKVs g).length)
        = scopes.flatMap writeKVs ++ post
    ∧ g.length + 1 ≤ (pre ++ (psbtMagic ++ (writeKVs g ++ scopes.flatMap writeKVs) ++ post)).length := by
  have h0 : (pre ++ (psbtMagic ++ (writeKVs g ++ scopes.flatMap writeKVs) ++ post)).drop pre.length
      = psbtMagic ++ (writeKVs g ++ (scopes.flatMap writeKVs ++ post)) := by
    simp only [List.drop_left, List.append_assoc]
  have h1 := drop_add h0
  have hl := writeKVs_length g
  refine ⟨by rw [readAt, h0]; rfl, h1, drop_add h1, ?_⟩
  simp only [List.length_append]; omega

theorem global_eq {b rest rest' : Bytes} {g g' : List KV} (hr : readKVs (b.drop 5) = some (g, rest))
    (eb : b = psbtMagic ++ (writeKVs g' ++ rest')) (wg : ∀ kv ∈ g', KVWF kv) : g' = g := by
  have : b.drop 5 = writeKVs g' ++ rest' := by rw [eb]; rfl
  rw [this, readKVs_write g' rest' wg, Option.some.injEq, Prod.mk.injEq] at hr
  exact hr.1

/-- version 0, every reader mode: the view over an accepted PSBT (global scope with the unsigned transaction and
    without the PSBTv2 count keys) presents the parsed PSBT and describes its transaction -/
theorem presents_v0 (ko : KeyOps) (sha : Bytes → Bytes) (c : Nat) (pre post b : Bytes) (p : Psbt)
    (h : Psbt.parse ko sha c b = some p) (g : List KV) (rest : Bytes) (hr : readKVs (b.drop 5) = some (g, rest))
    (htx : ∃ x, ([0x00], x) ∈ g) (hcnt : ∀ kv ∈ g, kv.1 ≠ [0x04] ∧ kv.1 ≠ [0x05]) :
    ∃ (t : Tx) (v : View), p.tx = some t ∧ Presents ko sha c pre post b g p v
      ∧ ViewObs (pre ++ (b ++ post)) v t := by
  obtain ⟨g', kin, kout, tx, unk, gs, eb, wg, ws, hgf, hpu, hver, etv, elt, _, _, lki, lko, lni, lno, fi, fo, ftx⟩ :=
    parse_frame ko sha c b p h
  obtain rfl := global_eq hr eb wg
  obtain ⟨x0, hx0⟩ := htx
  obtain ⟨t, rfl⟩ : ∃ t, tx = some t := by
    rcases (globalFold_spec g' _ _ _ _ _ _ hgf).2.2.2.2 _ hx0 with ⟨_, t, ht, _⟩ | ⟨e, _⟩ | ⟨_, e, _⟩
    · exact ⟨t, ht⟩
    · simp at e
    · simp at e
  have hv2 : p.version ≠ some 2 := by
    rcases hver with ⟨_, e⟩ | ⟨e, _⟩
    · simp at e
    · exact e
  obtain ⟨ptx, lnt, lot⟩ := ftx t rfl
  obtain ⟨g1, w, g2, eg, n1, n2, hparse, hu⟩ := globalFold_split g' _ _ _ _ _ hgf
  have hwf : WF t := (Props.C03.parse_sound w t hparse).1
  have hser : Tx.ser t = w := Props.C03.reencode w t hparse
  subst hser
  have hc1 : ∀ kv ∈ g1, kv.1 ≠ [0x00] ∧ kv.1 ≠ [0x04] ∧ kv.1 ≠ [0x05] := fun kv hkv =>
    ⟨n1 kv hkv, hcnt kv (by simp [eg, hkv])⟩
  have hc2 : ∀ kv ∈ g2, kv.1 ≠ [0x00] ∧ kv.1 ≠ [0x04] ∧ kv.1 ≠ [0x05] := fun kv hkv =>
    ⟨n2 kv hkv, hcnt kv (by simp [eg, hkv])⟩
  obtain ⟨gv1, gv2⟩ := globalFold_ver g' _ _ _ _ _ _ hgf
  have hverfold : lastFold [0xfb] (fun v => some (ofLe v)) none g' = p.version :=
    lastFold_char _ _ _ g' none (fun kv hkv hk => (gv1 kv hkv hk).symm) (fun hh => (gv2 hh).symm)
  have hv1 : lastFold [0xfb] (fun v => some (ofLe v)) none g1 ≠ some 2 := by
    rcases lastFold_mem [0xfb] (fun v => some (ofLe v)) g1 none with e | ⟨kv, hkv, hk, e⟩
    · rw [e]; simp
    · rw [e, ← gv1 kv (by simp [eg, hkv]) hk]; exact hv2
  obtain ⟨hmagic, hd1, hd2, hlen⟩ := embedded_layout pre post g' (kin ++ kout)
  rw [← eb] at hmagic hd1 hd2 hlen
  generalize hbuf : pre ++ (b ++ post) = buf at hmagic hd1 hd2 hlen
  obtain ⟨off, Q, gx, hT, hopen, hscan⟩ := viewScan_v0 g1 g2 t hwf hu
    (by rw [← eg]; exact hd1) (by rw [← eg]; exact wg) hc1 hc2 hv1 (buf.length + 1)
    (by rw [eg] at hlen; simp at hlen; omega)
  rw [← eg, hverfold] at hscan
  obtain ⟨hlock, hvers⟩ := GTx.locktime_spec t hwf hu hT gx hopen
  have hvin := GTx.vin_spec t hwf hu hT gx hopen
  have hvout := GTx.vout_spec t hwf hu hT gx hopen
  have hview : View.open buf pre.length
      = some { offset := pre.length, firstScope := pre.length + 5 + (writeKVs g').length,
               numIn := t.vin.length, numOut := t.vout.length, version := p.version,
               tx := some gx, txVersion := some t.version, locktime := some t.locktime } := by
    simp [View.open, hmagic, hscan, hlock, hvers]
  subst hbuf
  refine ⟨t, _, ptx, ⟨hview, rfl, Nat.add_assoc _ _ _, ⟨_, eb⟩, lnt.symm, lot.symm, rfl, ?_, ?_⟩,
    ⟨rfl, rfl, ?_, ?_, ?_, ?_⟩⟩
  · intro i
    by_cases hi : i ≥ t.vin.length
    · have : p.inputs[i]? = none := List.getElem?_eq_none (by omega)
      simp [View.input, hi, this]
    · have hi' : i < t.vin.length := by omega
      obtain ⟨kvs, s, a1, a2, a3⟩ := fi i (by omega)
      have hk : (kin ++ kout)[i]? = some kvs := by
        rw [List.getElem?_append_left (by omega)]; exact a1
      have hvi : GTx.vin (pre ++ (b ++ post)) gx i = some t.vin[i] := by rw [hvin i, List.getElem?_eq_getElem hi']
      rw [View.input_v0 ws hd2 (by simp; omega) ko sha c i kvs gx t.vin[i] hi' hk rfl hvi, a2, ← a3]
      simp [seedIn, List.getElem?_eq_getElem hi']
  · intro j
    by_cases hj : j ≥ t.vout.length
    · have : p.outputs[j]? = none := List.getElem?_eq_none (by omega)
      simp [View.output, hj, this]
    · have hj' : j < t.vout.length := by omega
      obtain ⟨kvs, s, a1, a2, a3⟩ := fo j (by omega)
      have hk : (kin ++ kout)[t.vin.length + j]? = some kvs := by
        rw [List.getElem?_append_right (by omega)]
        rw [show t.vin.length + j - kin.length = j by omega]; exact a1
      have hvo : GTx.vout (pre ++ (b ++ post)) gx j = some t.vout[j] := by rw [hvout j, List.getElem?_eq_getElem hj']
      rw [View.output_v0 ws hd2 (by simp; omega) ko j kvs gx t.vout[j] hj' hk rfl hvo, a2, ← a3]
      simp [seedOut, List.getElem?_eq_getElem hj']
  · intro i
    by_cases hi : i ≥ t.vin.length
    · simp [View.vin, hi, List.getElem?_eq_none hi]
    · simp [View.vin, hi, hvin i]
  · intro j
    by_cases hj : j ≥ t.vout.length
    · simp [View.vout, hj, List.getElem?_eq_none hj]
    · simp [View.vout, hj, hvout j]
  · simp [View.getLocktime]
  · simp [View.getTxVersion]

/-- version 2, every reader mode: the view over an accepted PSBTv2 whose global scope carries both counts presents
    the parsed PSBT; `vin(i)` / `vout(j)` are what the scopes themselves describe, locktime and tx version the stored
    global fields with the defaults of `PSBT.tx` -/
theorem presents_v2 (ko : KeyOps) (sha : Bytes → Bytes) (c : Nat) (pre post b : Bytes) (p : Psbt)
    (h : Psbt.parse ko sha c b = some p) (hv : p.version = some 2)
    (g : List KV) (rest : Bytes) (hr : readKVs (b.drop 5) = some (g, rest))
    (h4 : ∃ x, ([0x04], x) ∈ g) (h5 : ∃ x, ([0x05], x) ∈ g) :
    ∃ (v : View), Presents ko sha c pre post b g p v
      ∧ (∀ i, View.vin (pre ++ (b ++ post)) v i = (p.inputs[i]?).bind InScope.vin)
      ∧ (∀ j, View.vout (pre ++ (b ++ post)) v j = (p.outputs[j]?).bind OutScope.vout)
      ∧ View.getLocktime (pre ++ (b ++ post)) v = some (p.locktime.getD 0)
      ∧ View.getTxVersion (pre ++ (b ++ post)) v = some (p.txVersion.getD 2) := by
  obtain ⟨g', kin, kout, tx, unk, gs, eb, wg, ws, hgf, hpu, hver, etv, elt, _, _, lki, lko, lni, lno, fi, fo, ftx⟩ :=
    parse_frame ko sha c b p h
  obtain rfl := global_eq hr eb wg
  have htx : tx = none := by
    rcases hver with ⟨_, e⟩ | ⟨e, _⟩
    · exact e
    · exact absurd hv e
  subst htx
  have hunk : unk = g'.filter notTxVer := by
    have := globalFold_unk g' _ _ _ _ _ _ hgf; simpa using this
  have hnd := globalFold_nodup g' none none [] _ _ _ hgf (by simp)
  have h00 : ∀ kv ∈ g', kv.1 ≠ [0x00] := by
    intro kv hkv
    rcases (globalFold_spec g' _ _ _ _ _ _ hgf).2.2.2.2 kv hkv with ⟨_, t, ht, _⟩ | ⟨e, _⟩ | ⟨_, e, _⟩
    · simp at ht
    · rw [e]; decide
    · exact e
  have hv' : (p.version == some 2) = true := by rw [hv]; rfl
  rw [hv'] at hpu
  obtain ⟨q1, q2, q3, q4, q5⟩ := parseUnknowns_fold ko unk _ gs hpu
  simp only [gstate0, Option.map_none] at q1 q2 q3 q4
  have keep : ∀ key : Bytes, key ≠ [0x00] → key ≠ [0xfb] → ∀ kv : KV, kv.1 = key → notTxVer kv = true :=
    fun key k0 kfb kv e => by simp [notTxVer, e, k0, kfb]
  have k2 := keep [0x02] (by decide) (by decide)
  have k3 := keep [0x03] (by decide) (by decide)
  have k4 := keep [0x04] (by decide) (by decide)
  have k5 := keep [0x05] (by decide) (by decide)
  rw [hunk, lastFold_filter _ _ _ k4] at q3
  rw [hunk, lastFold_filter _ _ _ k5] at q4
  have hparse : ∀ kv ∈ g', kv.1 = [0x04] ∨ kv.1 = [0x05] → (parseAll Compact.read kv.2).isSome := by
    intro kv hkv hk
    apply q5 kv _ hk
    rw [hunk]; exact List.mem_filter.mpr ⟨hkv, hk.elim (k4 kv) (k5 kv)⟩
  obtain ⟨x4, hx4⟩ := h4
  obtain ⟨x5, hx5⟩ := h5
  obtain ⟨nin, hnin⟩ : ∃ n, gs.nin = some n := by
    obtain ⟨kv, hkv, hk, e⟩ := lastFold_occ [0x04] (parseAll Compact.read) g' none ⟨_, hx4, rfl⟩
    rw [q3, e]; exact Option.isSome_iff_exists.mp (hparse kv hkv (Or.inl hk))
  obtain ⟨nout, hnout⟩ : ∃ n, gs.nout = some n := by
    obtain ⟨kv, hkv, hk, e⟩ := lastFold_occ [0x05] (parseAll Compact.read) g' none ⟨_, hx5, rfl⟩
    rw [q4, e]; exact Option.isSome_iff_exists.mp (hparse kv hkv (Or.inr hk))
  rw [hnin] at lni q3; rw [hnout] at lno q4
  simp only [Option.getD_some] at lni lno
  obtain ⟨gv1, gv2⟩ := globalFold_ver g' _ _ _ _ _ _ hgf
  have hverfold : lastFold [0xfb] (fun v => some (ofLe v)) none g' = p.version :=
    lastFold_char _ _ _ g' none (fun kv hkv hk => (gv1 kv hkv hk).symm) (fun hh => (gv2 hh).symm)
  obtain ⟨hmagic, hd1, hd2, hlen⟩ := embedded_layout pre post g' (kin ++ kout)
  rw [← eb] at hmagic hd1 hd2 hlen
  generalize hbuf : pre ++ (b ++ post) = buf at hmagic hd1 hd2 hlen
  have hscan := viewScan_tail g' { cur := pre.length + 5 } hd1 wg h00 hparse (buf.length + 1) (by omega)
  rw [hverfold, hv, ← q3, ← q4] at hscan
  have hview : View.open buf pre.length
      = some { offset := pre.length, firstScope := pre.length + 5 + (writeKVs g').length,
               numIn := nin, numOut := nout, version := some 2,
               tx := none, txVersion := none, locktime := none } := by
    simp [View.open, hmagic, hscan]
  have hval := fun key hkey => getValue_spec (buf := buf) (pos := pre.length + 5) key hkey g' wg hd1
  have hlt : p.locktime = (lookup [0x03] g').map ofLe := by
    rw [elt, q2]; exact v2_field_lookup g' unk hunk hnd [0x03] k3 ofLe
  have htv : p.txVersion = (lookup [0x02] g').map ofLe := by
    rw [etv, q1]; exact v2_field_lookup g' unk hunk hnd [0x02] k2 ofLe
  have hin : ∀ i, i < nin → ∃ kvs s, (kin ++ kout)[i]? = some kvs ∧ p.inputs[i]? = some s
      ∧ InScope.addPairs ko sha c {} kvs = some s := fun i hi => by
    obtain ⟨kvs, s, a1, a2, a3⟩ := fi i (by omega)
    exact ⟨kvs, s, by rw [List.getElem?_append_left (by omega)]; exact a1, a2, by simpa [seedIn] using a3⟩
  have hout : ∀ j, j < nout → ∃ kvs s, (kin ++ kout)[nin + j]? = some kvs ∧ p.outputs[j]? = some s
      ∧ OutScope.addPairs ko {} kvs = some s := fun j hj => by
    obtain ⟨kvs, s, a1, a2, a3⟩ := fo j (by omega)
    refine ⟨kvs, s, ?_, a2, by simpa [seedOut] using a3⟩
    rw [List.getElem?_append_right (by omega), show nin + j - kin.length = j by omega]; exact a1
  have hcnt : nin + nout = (kin ++ kout).length := by simp; omega
  subst hbuf
  refine ⟨_, ⟨hview, rfl, Nat.add_assoc _ _ _, ⟨_, eb⟩, lni.symm, lno.symm, hv.symm, ?_, ?_⟩, ?_, ?_, ?_, ?_⟩
  · intro i
    by_cases hi : i ≥ nin
    · have : p.inputs[i]? = none := List.getElem?_eq_none (by omega)
      simp [View.input, hi, this]
    · obtain ⟨kvs, s, hk, a2, a3⟩ := hin i (by omega)
      rw [View.input_v2 ws hd2 hcnt ko sha c i kvs (Nat.lt_of_not_ge hi) hk rfl, a2, a3]
  · intro j
    by_cases hj : j ≥ nout
    · have : p.outputs[j]? = none := List.getElem?_eq_none (by omega)
      simp [View.output, hj, this]
    · obtain ⟨kvs, s, hk, a2, a3⟩ := hout j (by omega)
      rw [View.output_v2 ws hd2 hcnt ko j kvs (Nat.lt_of_not_ge hj) hk rfl, a2, a3]
  · intro i
    by_cases hi : i ≥ nin
    · have : p.inputs[i]? = none := List.getElem?_eq_none (by omega)
      simp [View.vin, hi, this]
    · obtain ⟨kvs, s, hk, a2, a3⟩ := hin i (by omega)
      rw [View.vin_v2 ws hd2 hcnt ko sha c i kvs s (Nat.lt_of_not_ge hi) hk rfl a3, a2]
      rfl
  · intro j
    by_cases hj : j ≥ nout
    · have : p.outputs[j]? = none := List.getElem?_eq_none (by omega)
      simp [View.vout, hj, this]
    · obtain ⟨kvs, s, hk, a2, a3⟩ := hout j (by omega)
      rw [View.vout_v2 ws hd2 hcnt ko j kvs s (Nat.lt_of_not_ge hj) hk rfl a3, a2]
      rfl
  · simp only [View.getLocktime, hval [0x03] (by decide), hlt]
    cases lookup [0x03] g' <;> rfl
  · simp only [View.getTxVersion, hval [0x02] (by decide), htv]
    cases lookup [0x02] g' <;> rfl

end Embit
