import EmbitModel.Model.Base58
import EmbitModel.Spec.Base58Check
import EmbitModel.Proofs.Digits
import EmbitModel.Proofs.BasicBytes
/-
  Base58: the model's encoder equals the specified encoding; decode is its exact inverse (both directions).
-/
namespace Embit.Model.Base58
open Embit Digits

/-- `B58_DIGITS` spelt out: the facts about the alphabet below are evaluated on this list -/
theorem alphabet_eq : Spec.Base58.alphabet = digits := by decide +kernel

theorem digitVal_digitChar : ∀ r, r < 58 → digitVal (digitChar r) = some r := by
  unfold digitVal digitChar; rw [← alphabet_eq]; decide +kernel

theorem digitChar_eq_one : ∀ r, r < 58 → (digitChar r = '1' ↔ r = 0) := by
  unfold digitChar; rw [← alphabet_eq]; decide +kernel

theorem digits_length : digits.length = 58 := by rw [← alphabet_eq]; rfl

theorem digitVal_some {c : Char} {i : Nat} (h : digitVal c = some i) : i < 58 ∧ digitChar i = c := by
  unfold digitVal at h
  split at h
  · rename_i j hj
    simp at h; subst h
    rw [List.idxOf?_eq_some_iff] at hj
    obtain ⟨hlt, he, _⟩ := hj
    refine ⟨by rw [digits_length] at hlt; exact hlt, ?_⟩
    simp [digitChar, List.getD_eq_getElem?_getD, hlt, he]
  · simp at h

theorem loopChars_eq (n : Nat) : loopChars n = (toLE 58 n).map digitChar := by
  induction n using Nat.strongRecOn with
  | _ n ih =>
    by_cases hn : n = 0
    · subst hn; rw [loopChars, toLE_zero]; simp
    · rw [loopChars, toLE_pos (by decide) hn]
      simp only [hn, dite_false, List.map_cons]
      rw [ih _ (by omega)]

theorem minBytesLE_eq (n : Nat) : minBytesLE n = (toLE 256 n).map UInt8.ofNat := by
  induction n using Nat.strongRecOn with
  | _ n ih =>
    by_cases hn : n = 0
    · subst hn; rw [minBytesLE, toLE_zero]; simp
    · rw [minBytesLE, toLE_pos (by decide) hn]
      simp only [hn, dite_false, List.map_cons]
      rw [ih _ (by omega)]

theorem ofLe_eq (l : Bytes) : ofLe l = ofLE 256 (l.map UInt8.toNat) := by
  induction l with
  | nil => rfl
  | cons x xs ih => simp [ofLe, ofLE, ih]

theorem ofBe_eq (b : Bytes) : ofBe b = ofBE 256 (b.map UInt8.toNat) := by
  rw [ofBe, ofLe_eq, ← ofBE_reverse, List.map_reverse, List.reverse_reverse]

theorem ofBe_zeros_append (z : Nat) (r : Bytes) : ofBe (List.replicate z 0 ++ r) = ofBe r := by
  rw [ofBe_eq, ofBe_eq, List.map_append, List.map_replicate]
  exact ofBE_zeros_append 256 z _

theorem map_toNat_ofNat (ds : List Nat) (h : ∀ d ∈ ds, d < 256) : (ds.map UInt8.ofNat).map UInt8.toNat = ds := by
  rw [List.map_map]
  conv => rhs; rw [← List.map_id ds]
  apply List.map_congr_left
  intro d hd
  have := h d hd
  simp [UInt8.toNat_ofNat']; omega

theorem minBytes_ofBe (r : Bytes) (h : ∀ x ∈ r.head?, x ≠ 0) : (minBytesLE (ofBe r)).reverse = r := by
  have hhead : ∀ x ∈ (r.map UInt8.toNat).head?, x ≠ 0 := by
    cases r with
    | nil => simp
    | cons x xs =>
      simp only [List.head?_cons, Option.mem_def, Option.some.injEq, forall_eq'] at h
      simpa using fun h0 => h (UInt8.toNat_inj.mp h0)
  rw [minBytesLE_eq, ← List.map_reverse, ofBe_eq,
    toLE_ofBE (by decide) (by simpa using fun (x : UInt8) _ => x.toNat_lt) hhead, map_ofNat_toNat]

theorem minBytesLE_zero : minBytesLE 0 = [] := by rw [minBytesLE_eq, toLE_zero]; rfl

theorem ofBe_minBytes (n : Nat) : ofBe (minBytesLE n).reverse = n := by
  rw [ofBe_eq, minBytesLE_eq, ← List.map_reverse,
    map_toNat_ofNat _ (by simpa using (toLE_canon (B := 256) (by decide) n).1), ofBE_toLE (by decide)]

theorem minBytes_head (n : Nat) : ∀ x ∈ (minBytesLE n).reverse.head?, x ≠ 0 := by
  intro x hx h0
  rw [minBytesLE_eq, ← List.map_reverse, List.head?_map] at hx
  obtain ⟨d, hd, rfl⟩ := Option.map_eq_some_iff.mp hx
  have hlt := (toLE_canon (B := 256) (by decide) n).1 d (by simpa using List.mem_of_mem_head? hd)
  have : d % 256 = 0 := by simpa [UInt8.toNat_ofNat'] using congrArg UInt8.toNat h0
  exact toLE_reverse_head (by decide) n d hd (by omega)

theorem leadingZeros_replicate (z : Nat) (r : Bytes) (h : ∀ x ∈ r.head?, x ≠ 0) :
    leadingZeros (List.replicate z 0 ++ r) = z := by
  induction z with
  | zero =>
    cases r with
    | nil => rfl
    | cons x xs => simp at h; simp [leadingZeros, h]
  | succ z ih => simp [List.replicate_succ, leadingZeros, ih]

theorem leadingOnes_replicate (z : Nat) (r : List Char) (h : ∀ x ∈ r.head?, x ≠ '1') :
    leadingOnes (List.replicate z '1' ++ r) = z := by
  induction z with
  | zero =>
    cases r with
    | nil => rfl
    | cons x xs => simp at h; simp [leadingOnes, h]
  | succ z ih => simp [List.replicate_succ, leadingOnes, ih]

theorem bytes_decomp (b : Bytes) :
    ∃ r, b = List.replicate (leadingZeros b) 0 ++ r ∧ ∀ x ∈ r.head?, x ≠ 0 := by
  induction b with
  | nil => exact ⟨[], rfl, by simp⟩
  | cons x xs ih =>
    by_cases hx : x = 0
    · obtain ⟨r, hr, hh⟩ := ih
      refine ⟨r, ?_, hh⟩
      subst hx
      simp only [leadingZeros, if_true, List.replicate_succ, List.cons_append]
      rw [← hr]
    · exact ⟨x :: xs, by simp [leadingZeros, hx], by simpa using hx⟩

theorem digits_decomp (ds : List Nat) :
    ∃ z t, ds = List.replicate z 0 ++ t ∧ ∀ x ∈ t.head?, x ≠ 0 := by
  induction ds with
  | nil => exact ⟨0, [], rfl, by simp⟩
  | cons x xs ih =>
    by_cases hx : x = 0
    · obtain ⟨z, t, ht, hh⟩ := ih
      exact ⟨z + 1, t, by simp [hx, ht, List.replicate_succ], hh⟩
    · exact ⟨0, x :: xs, rfl, by simpa using hx⟩

theorem accumulate_cons (n : Nat) (c : Char) (cs : List Char) :
    accumulate n (c :: cs) = match digitVal c with
      | none => none
      | some d => accumulate (n * 58 + d) cs := rfl

theorem accumulate_map (a : Nat) (ds : List Nat) (h : ∀ d ∈ ds, d < 58) :
    accumulate a (ds.map digitChar) = some (ds.foldl (fun a d => a * 58 + d) a) := by
  induction ds generalizing a with
  | nil => rfl
  | cons d rest ih =>
    have hd := digitVal_digitChar d (h d List.mem_cons_self)
    rw [List.map_cons, accumulate_cons, hd]
    exact ih _ (fun x hx => h x (List.mem_cons_of_mem _ hx))

theorem accumulate_some {a n : Nat} {s : List Char} (h : accumulate a s = some n) :
    ∃ ds : List Nat, (∀ d ∈ ds, d < 58) ∧ s = ds.map digitChar ∧ n = ds.foldl (fun a d => a * 58 + d) a := by
  induction s generalizing a with
  | nil => exact ⟨[], by simp, rfl, (Option.some.inj h).symm⟩
  | cons c cs ih =>
    rw [accumulate_cons] at h
    split at h
    · simp at h
    · rename_i d hd
      obtain ⟨ds, h1, h2, h3⟩ := ih h
      obtain ⟨hlt, hc⟩ := digitVal_some hd
      refine ⟨d :: ds, ?_, ?_, ?_⟩
      · intro x hx; simp at hx; rcases hx with rfl | hx
        · exact hlt
        · exact h1 x hx
      · simp [hc, h2]
      · simpa using h3

theorem decode_isSome (s : List Char) : (decode s).isSome = (accumulate 0 s).isSome := by
  cases s with
  | nil => rfl
  | cons c cs =>
    unfold decode
    cases accumulate 0 (c :: cs) <;> rfl

theorem decode_some_shape {s : List Char} (h : (decode s).isSome) :
    ∃ (z : Nat) (t : List Nat),
      (∀ d ∈ t, d < 58) ∧ (∀ x ∈ t.head?, x ≠ 0) ∧ s = List.replicate z '1' ++ t.map digitChar := by
  rw [decode_isSome] at h
  obtain ⟨n, hn⟩ := Option.isSome_iff_exists.mp h
  obtain ⟨ds, hlt, hsd, _⟩ := accumulate_some hn
  obtain ⟨z, t, hd, hh⟩ := digits_decomp ds
  refine ⟨z, t, fun d hd' => hlt d (by rw [hd]; exact List.mem_append_right _ hd'), hh, ?_⟩
  rw [hsd, hd, List.map_append, List.map_replicate, (digitChar_eq_one 0 (by decide)).mpr rfl]

theorem decode_normal (z : Nat) (t : List Nat) (hlt : ∀ d ∈ t, d < 58) (h : ∀ x ∈ t.head?, x ≠ 0) :
    decode (List.replicate z '1' ++ t.map digitChar) =
      some (List.replicate z 0 ++ (minBytesLE (ofBE 58 t)).reverse) := by
  have hacc : accumulate 0 (List.replicate z '1' ++ t.map digitChar) = some (ofBE 58 t) := by
    have hall : ∀ d ∈ List.replicate z 0 ++ t, d < 58 := by
      intro d hd; simp at hd; rcases hd with ⟨_, rfl⟩ | hd
      · decide
      · exact hlt d hd
    rw [← (digitChar_eq_one 0 (by decide)).mpr rfl, ← List.map_replicate, ← List.map_append,
      accumulate_map 0 _ hall]
    exact congrArg some (ofBE_zeros_append 58 z t)
  unfold decode
  by_cases ht : t = []
  · -- value 0: `hexBytes` gives one zero byte, the padding loop skips the last `1`
    subst ht
    cases z with
    | zero => simp [ofBE, minBytesLE_zero]
    | succ z =>
      simp only [List.map_nil, List.append_nil] at hacc ⊢
      have hne : (List.replicate (z + 1) '1').isEmpty = false := by simp [List.replicate_succ]
      have hdl : (List.replicate (z + 1) '1').dropLast = List.replicate z '1' := by
        rw [List.dropLast_replicate]; simp
      have hpad := leadingOnes_replicate z [] (by simp)
      rw [List.append_nil] at hpad
      rw [hne]
      simp only [Bool.false_eq_true, if_false, hacc, hdl, hpad]
      simp [hexBytes, ofBE, minBytesLE_zero, List.replicate_succ']
  · have hne : (List.replicate z '1' ++ t.map digitChar).isEmpty = false := by
      cases t with
      | nil => exact absurd rfl ht
      | cons x xs => simp
    have hn0 : ofBE 58 t ≠ 0 := fun h0 => ht (by
      have := toLE_ofBE (B := 58) (by decide) hlt h
      rw [h0, toLE_zero] at this
      exact this.symm)
    have hhead : ∀ c ∈ (t.map digitChar).dropLast.head?, c ≠ '1' := by
      cases t with
      | nil => simp
      | cons x xs =>
        cases xs with
        | nil => simp
        | cons y ys =>
          simp only [List.head?_cons, Option.mem_def, Option.some.injEq, forall_eq'] at h
          simpa using fun hc => h ((digitChar_eq_one x (hlt x (by simp))).mp hc)
    have hdl : (List.replicate z '1' ++ t.map digitChar).dropLast
        = List.replicate z '1' ++ (t.map digitChar).dropLast :=
      List.dropLast_append_of_ne_nil (by simpa using ht)
    rw [hne]
    simp only [Bool.false_eq_true, if_false, hacc, hdl, leadingOnes_replicate z _ hhead, hexBytes, hn0]

theorem encode_normal (z : Nat) (r : Bytes) (h : ∀ x ∈ r.head?, x ≠ 0) :
    encode (List.replicate z 0 ++ r) = List.replicate z '1' ++ ((toLE 58 (ofBe r)).reverse).map digitChar := by
  unfold encode
  simp only [leadingZeros_replicate z r h, ofBe_zeros_append, loopChars_eq, List.map_reverse]

theorem decode_encode (b : Bytes) : decode (encode b) = some b := by
  obtain ⟨r, hb, hh⟩ := bytes_decomp b
  generalize leadingZeros b = z at hb
  subst hb
  have hc := toLE_canon (B := 58) (by decide) (ofBe r)
  rw [encode_normal z r hh, decode_normal z _ (by simpa using hc.1) (toLE_reverse_head (by decide) _),
    ofBE_toLE (by decide), minBytes_ofBe r hh]

theorem encode_decode (s : List Char) (b : Bytes) (h : decode s = some b) : encode b = s := by
  obtain ⟨z, t, hlt, hh, rfl⟩ := decode_some_shape (by rw [h]; rfl)
  rw [decode_normal z t hlt hh] at h
  rw [← Option.some.inj h, encode_normal z _ (minBytes_head _), ofBe_minBytes, toLE_ofBE (by decide) hlt hh]

theorem decode_iff (s : List Char) (b : Bytes) : decode s = some b ↔ s = encode b :=
  ⟨fun h => (encode_decode s b h).symm, fun h => h ▸ decode_encode b⟩

theorem digitVal_isSome_iff (c : Char) : (digitVal c).isSome ↔ c ∈ digits := by
  unfold digitVal
  cases h : digits.idxOf? c with
  | none => simpa using List.idxOf?_eq_none_iff.mp h
  | some i =>
    obtain ⟨hi, he, _⟩ := List.idxOf?_eq_some_iff.mp h
    simpa using he ▸ List.getElem_mem hi

theorem decode_isSome_iff (s : List Char) : (decode s).isSome ↔ ∀ c ∈ s, c ∈ digits := by
  rw [decode_isSome]
  generalize 0 = a
  induction s generalizing a with
  | nil => exact ⟨fun _ c hc => (List.not_mem_nil hc).elim, fun _ => rfl⟩
  | cons c cs ih =>
    rw [accumulate_cons, List.forall_mem_cons, ← digitVal_isSome_iff]
    cases digitVal c with
    | none => simp
    | some d => simpa using ih _

theorem value_eq (b : Bytes) : Spec.Base58.value b = ofBe b := by
  rw [ofBe_eq]
  unfold Spec.Base58.value ofBE
  rw [List.foldl_map]
  congr 1
  funext a x
  rw [Nat.mul_comm]

theorem spec_digits_eq (n : Nat) : Spec.Base58.digitsBE n = (toLE 58 n).reverse := by
  induction n using Nat.strongRecOn with
  | _ n ih =>
    by_cases hn : n = 0
    · subst hn; rw [Spec.Base58.digitsBE, toLE_zero]; simp
    · rw [Spec.Base58.digitsBE, toLE_pos (by decide) hn]
      simp only [hn, dite_false, List.reverse_cons]
      rw [ih _ (by omega)]

theorem zeroPrefix_eq (b : Bytes) : Spec.Base58.zeroPrefix b = leadingZeros b := by
  induction b with
  | nil => rfl
  | cons x xs ih =>
    unfold Spec.Base58.zeroPrefix at *
    by_cases hx : x = 0
    · simp [hx, leadingZeros, ih]
    · simp [hx, leadingZeros]

theorem encode_eq_spec (b : Bytes) : encode b = Spec.Base58.encode b := by
  unfold encode Spec.Base58.encode
  simp only [zeroPrefix_eq, value_eq, spec_digits_eq, loopChars_eq, ← List.map_reverse]
  congr 1
  apply List.map_congr_left
  intro d hd
  have := (toLE_canon (B := 58) (by decide) (ofBe b)).1 d (by simpa using hd)
  simp only [digitChar, alphabet_eq, List.getD_eq_getElem?_getD]
  have hl : d < digits.length := by rw [digits_length]; exact this
  simp [hl]

theorem decodeCheck_sound (dsha : Bytes → Bytes) (s : List Char) (p : Bytes)
    (h : decodeCheck dsha s = some p) : s = encodeCheck dsha p := by
  unfold decodeCheck at h
  cases hd : decode s with
  | none => simp [hd] at h
  | some b =>
    simp only [hd] at h
    split at h
    · simp at h
    · rename_i hc
      simp at hc
      simp at h
      have hb : b = p ++ (dsha p).take 4 := by
        subst h
        rw [← hc, List.take_append_drop]
      rw [(decode_iff s b).mp hd, hb]; rfl

theorem decodeCheck_encodeCheck (dsha : Bytes → Bytes) (h4 : ∀ x, 4 ≤ (dsha x).length) (p : Bytes) :
    decodeCheck dsha (encodeCheck dsha p) = some p := by
  unfold decodeCheck encodeCheck
  rw [decode_encode]
  have hl : ((dsha p).take 4).length = 4 := by
    have := h4 p
    simp [List.length_take]; omega
  have h1 : (p ++ (dsha p).take 4).length - 4 = p.length := by simp [hl]
  simp only [h1, List.take_left', List.drop_left']
  simp

theorem decodeCheck_iff (dsha : Bytes → Bytes) (h4 : ∀ x, 4 ≤ (dsha x).length) (s : List Char) (p : Bytes) :
    decodeCheck dsha s = some p ↔ s = encodeCheck dsha p :=
  ⟨decodeCheck_sound dsha s p, fun h => h ▸ decodeCheck_encodeCheck dsha h4 p⟩

theorem encodeCheck_eq_spec (sha : Bytes → Bytes) (p : Bytes) :
    encodeCheck (fun x => sha (sha x)) p = Spec.Base58.encodeCheck sha p := by
  unfold encodeCheck Spec.Base58.encodeCheck Spec.Base58.checksum
  exact encode_eq_spec _

end Embit.Model.Base58
