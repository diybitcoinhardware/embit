import EmbitModel.Proofs.PsbtWF
import EmbitModel.Proofs.ViewCompose
/-
  C04 (deepening): serialise-then-parse of one scope. `InScope.addPairs` over the pairs `write_to` emits (from the
  seed `read_from` starts with) gives back the scope; same for `OutScope`. One lemma per field of `write_to`,
  then the chain.
-/
set_option linter.unusedSimpArgs false
set_option linter.unusedVariables false
namespace Embit
open Model Spec.Wire

theorem nodup_snoc_split {β : Type} (a : List (Bytes × β)) (p : Bytes) (v : β) (l : List (Bytes × β))
    (h : ((a ++ (p, v) :: l).map Prod.fst).Nodup) :
    lookup p a = none ∧ (((a ++ [(p, v)]) ++ l).map Prod.fst).Nodup := by
  refine ⟨(lookup_none_iff _ _).mpr ?_, by simpa [List.append_assoc] using h⟩
  intro x hx e
  simp only [List.map_append, List.map_cons, List.nodup_append] at h
  exact h.2.2 x.1 (List.mem_map.mpr ⟨x, hx, rfl⟩) p (by simp) e

/-- A map field (`get` / `set`) of a scope, and a reader `step` that accepts an entry `e` with `P e` under a key the
    field does not hold yet by appending it: entries with pairwise different fresh keys are accepted one after the
    other. -/
theorem foldlM_entries {σ β : Type} {step : σ → KV → Option σ} {P : Bytes × β → Prop} {f : Bytes × β → KV}
    {get : σ → List (Bytes × β)} {set : σ → List (Bytes × β) → σ}
    (get_set : ∀ s l, get (set s l) = l) (set_set : ∀ s l l', set (set s l) l' = set s l') (set_get : ∀ s, set s (get s) = s)
    (hstep : ∀ s e, P e → lookup e.1 (get s) = none → step s (f e) = some (set s (get s ++ [e]))) :
    ∀ (l : List (Bytes × β)) (s : σ), (∀ e ∈ l, P e) → ((get s ++ l).map Prod.fst).Nodup →
      (l.map f).foldlM step s = some (set s (get s ++ l)) := by
  intro l
  induction l with
  | nil => intro s _ _; rw [List.append_nil, set_get]; rfl
  | cons e l ih =>
    intro s hv hn
    obtain ⟨hp, hn'⟩ := nodup_snoc_split _ e.1 e.2 _ hn
    rw [List.map_cons, List.foldlM_cons, hstep s e (hv e List.mem_cons_self) hp]
    have := ih (set s (get s ++ [e])) (fun x hx => hv x (List.mem_cons_of_mem _ hx)) (by rw [get_set]; exact hn')
    rw [get_set, set_set, List.append_assoc] at this
    exact this

section In
variable (ko : KeyOps) (sha : Bytes → Bytes)

-- `ht`: a scope that already holds `_txhash` refuses key 00 (`fixes/fix-compress-dup-utxo.diff`); both callers
-- start from a scope whose `txhash` is the default `none`
theorem in_step_nwu (s : InScope) (o : Option Tx) (hs : s.nonWitnessUtxo = none) (ht : s.txhash = none)
    (ho : OptP (fun t => WF t ∧ Fits (Tx.ser t)) o) :
    InScope.addPairs ko sha 0 s (optKV [0x00] (o.map Tx.ser)) = some { s with nonWitnessUtxo := o } := by
  cases o with
  | none => cases s; simp at hs; subst hs; rfl
  | some t =>
    have := Props.C03.parse_ser t ho.1
    simp [optKV, InScope.addPairs, InScope.addPair, hs, ht, this]

theorem in_step_wu (s : InScope) (o : Option TxOut) (hs : s.witnessUtxo = none)
    (ho : OptP (fun o => WFOut o ∧ Fits (TxOut.ser o)) o) :
    InScope.addPairs ko sha 0 s (optKV [0x01] (o.map TxOut.ser)) = some { s with witnessUtxo := o } := by
  cases o with
  | none => cases s; simp at hs; subst hs; rfl
  | some t =>
    have := TxOut.read_ser t [] ho.1
    simp only [List.append_nil] at this
    simp [optKV, InScope.addPairs, InScope.addPair, hs, parseAll, this]

theorem in_step_psigs : ∀ (l : List (Bytes × Bytes)) (s : InScope),
    (∀ e ∈ l, ko.validSec e.1 = true) → ((s.partialSigs ++ l).map Prod.fst).Nodup →
    InScope.addPairs ko sha 0 s (l.map (fun e => (0x02 :: e.1, e.2)))
      = some { s with partialSigs := s.partialSigs ++ l } := by
  intro l s hv hn
  rw [InScope.addPairs_eq_foldlM]
  exact foldlM_entries (step := fun s kv => InScope.addPair ko sha 0 s kv.1 kv.2) (f := fun e => (0x02 :: e.1, e.2))
    (get := (·.partialSigs)) (set := fun s l => { s with partialSigs := l }) (fun _ _ => rfl) (fun _ _ _ => rfl)
    (fun _ => rfl) (fun s e he hn => (InScope.Step.partialSig rfl he hn).addPair) l s hv hn

theorem in_step_sighash (s : InScope) (o : Option Nat) (hs : s.sighashType = none) (ho : OptP (· < 2^32) o) :
    InScope.addPairs ko sha 0 s (optKV [0x03] (o.map (leN 4))) = some { s with sighashType := o } := by
  cases o with
  | none => cases s; simp at hs; subst hs; rfl
  | some n =>
    have := ofLe_leN 4 n (by simp at ho; omega)
    simp [optKV, InScope.addPairs, InScope.addPair, hs, leN_length, this]

theorem in_step_redeem (s : InScope) (o : Option Bytes) (hs : s.redeemScript = none) :
    InScope.addPairs ko sha 0 s (optKV [0x04] o) = some { s with redeemScript := o } := by
  cases o with
  | none => cases s; simp at hs; subst hs; rfl
  | some n => simp [optKV, InScope.addPairs, InScope.addPair, hs]

theorem in_step_wscript (s : InScope) (o : Option Bytes) (hs : s.witnessScript = none) :
    InScope.addPairs ko sha 0 s (optKV [0x05] o) = some { s with witnessScript := o } := by
  cases o with
  | none => cases s; simp at hs; subst hs; rfl
  | some n => simp [optKV, InScope.addPairs, InScope.addPair, hs]

theorem in_step_bip32 : ∀ (l : List (Bytes × Deriv)) (s : InScope),
    (∀ e ∈ l, ko.validSec e.1 = true ∧ DerivWF e.2) → ((s.bip32 ++ l).map Prod.fst).Nodup →
    InScope.addPairs ko sha 0 s (l.map (fun e => (0x06 :: e.1, Deriv.ser e.2)))
      = some { s with bip32 := s.bip32 ++ l } := by
  intro l s hv hn
  rw [InScope.addPairs_eq_foldlM]
  exact foldlM_entries (step := fun s kv => InScope.addPair ko sha 0 s kv.1 kv.2) (f := fun e => (0x06 :: e.1, Deriv.ser e.2))
    (get := (·.bip32)) (set := fun s l => { s with bip32 := l }) (fun _ _ => rfl) (fun _ _ _ => rfl)
    (fun _ => rfl) (fun s e he hn => (InScope.Step.bip32 he.1 hn (Deriv.parse_ser e.2 he.2)).addPair) l s hv hn

theorem in_step_fsig (s : InScope) (o : Option Bytes) (hs : s.finalScriptSig = none) :
    InScope.addPairs ko sha 0 s (optKV [0x07] o) = some { s with finalScriptSig := o } := by
  cases o with
  | none => cases s; simp at hs; subst hs; rfl
  | some n => simp [optKV, InScope.addPairs, InScope.addPair, hs]

theorem in_step_fwit (s : InScope) (o : Option (List Bytes)) (hs : s.finalWitness = none)
    (ho : OptP (fun w => w.length < 2^64 ∧ (∀ d ∈ w, Fits d) ∧ Fits (witnessSer w)) o) :
    InScope.addPairs ko sha 0 s (optKV [0x08] (o.map witnessSer)) = some { s with finalWitness := o } := by
  cases o with
  | none => cases s; simp at hs; subst hs; rfl
  | some w =>
    have := witnessRead_ser w [] ho.1 ho.2.1
    simp only [List.append_nil] at this
    simp [optKV, InScope.addPairs, InScope.addPair, hs, parseAll, this]

theorem in_step_txid (s : InScope) (o : Option Bytes) (hs : s.txid = none) (ho : OptP (fun t => t.length = 32) o) :
    InScope.addPairs ko sha 0 s (optKV [0x0e] (o.map List.reverse)) = some { s with txid := o } := by
  cases o with
  | none => cases s; simp at hs; subst hs; rfl
  | some t =>
    have : t.length = 32 := ho
    simp [optKV, InScope.addPairs, InScope.addPair, hs, this]

theorem in_step_vout (s : InScope) (o : Option Nat) (hs : s.vout = none) (ho : OptP (· < 2^32) o) :
    InScope.addPairs ko sha 0 s (optKV [0x0f] (o.map (leN 4))) = some { s with vout := o } := by
  cases o with
  | none => cases s; simp at hs; subst hs; rfl
  | some n =>
    have := ofLe_leN 4 n (by simp at ho; omega)
    simp [optKV, InScope.addPairs, InScope.addPair, hs, leN_length, this]

theorem in_step_sequence (s : InScope) (o : Option Nat) (hs : s.sequence = none) (ho : OptP (· < 2^32) o) :
    InScope.addPairs ko sha 0 s (optKV [0x10] (o.map (leN 4))) = some { s with sequence := o } := by
  cases o with
  | none => cases s; simp at hs; subst hs; rfl
  | some n =>
    have := ofLe_leN 4 n (by simp at ho; omega)
    simp [optKV, InScope.addPairs, InScope.addPair, hs, leN_length, this]

theorem in_step_tapSigs : ∀ (l : List (Bytes × Bytes)) (s : InScope),
    (∀ e ∈ l, e.1.length = 64 ∧ ko.validX (e.1.take 32) = true) → ((s.tapSigs ++ l).map Prod.fst).Nodup →
    InScope.addPairs ko sha 0 s (l.map (fun e => (0x14 :: e.1, e.2)))
      = some { s with tapSigs := s.tapSigs ++ l } := by
  intro l s hv hn
  rw [InScope.addPairs_eq_foldlM]
  exact foldlM_entries (step := fun s kv => InScope.addPair ko sha 0 s kv.1 kv.2) (f := fun e => (0x14 :: e.1, e.2))
    (get := (·.tapSigs)) (set := fun s l => { s with tapSigs := l }) (fun _ _ => rfl) (fun _ _ _ => rfl)
    (fun _ => rfl) (fun s e he hn => (InScope.Step.tapSig he.1 he.2 hn).addPair) l s hv hn

theorem in_step_tapScripts : ∀ (l : List (Bytes × Bytes)) (s : InScope),
    ((s.tapScripts ++ l).map Prod.fst).Nodup →
    InScope.addPairs ko sha 0 s (l.map (fun e => (0x15 :: e.1, e.2)))
      = some { s with tapScripts := s.tapScripts ++ l } := by
  intro l s hn
  rw [InScope.addPairs_eq_foldlM]
  exact foldlM_entries (step := fun s kv => InScope.addPair ko sha 0 s kv.1 kv.2) (f := fun e => (0x15 :: e.1, e.2))
    (get := (·.tapScripts)) (set := fun s l => { s with tapScripts := l }) (fun _ _ => rfl) (fun _ _ _ => rfl)
    (fun _ => rfl) (P := fun _ => True) (fun s e _ hn => (InScope.Step.tapScript hn).addPair) l s (fun _ _ => trivial) hn

theorem in_step_tapBip32 : ∀ (l : List (Bytes × (List Bytes × Deriv))) (s : InScope),
    (∀ e ∈ l, e.1.length = 32 ∧ ko.validX e.1 = true ∧ TapDerivWF e.2) → ((s.tapBip32 ++ l).map Prod.fst).Nodup →
    InScope.addPairs ko sha 0 s (l.map (fun e => (0x16 :: e.1, tapDerivSer e.2)))
      = some { s with tapBip32 := s.tapBip32 ++ l } := by
  intro l s hv hn
  rw [InScope.addPairs_eq_foldlM]
  exact foldlM_entries (step := fun s kv => InScope.addPair ko sha 0 s kv.1 kv.2) (f := fun e => (0x16 :: e.1, tapDerivSer e.2))
    (get := (·.tapBip32)) (set := fun s l => { s with tapBip32 := l }) (fun _ _ => rfl) (fun _ _ _ => rfl)
    (fun _ => rfl) (fun s e he hn => (InScope.Step.tapBip32 he.1 he.2.1 hn (tapDerivParse_ser e.2 he.2.2)).addPair) l s hv hn

theorem in_step_tapIK (s : InScope) (o : Option Bytes) (hs : s.tapInternalKey = none)
    (ho : OptP (fun v => v.length = 32 ∧ ko.validX v = true) o) :
    InScope.addPairs ko sha 0 s (optKV [0x17] o) = some { s with tapInternalKey := o } := by
  cases o with
  | none => cases s; simp at hs; subst hs; rfl
  | some v =>
    have h1 : v.length = 32 := ho.1
    have h2 : ko.validX v = true := ho.2
    simp [optKV, InScope.addPairs, InScope.addPair, hs, h1, h2]

theorem in_step_tapMR (s : InScope) (o : Option Bytes) (hs : s.tapMerkleRoot = none) :
    InScope.addPairs ko sha 0 s (optKV [0x18] o) = some { s with tapMerkleRoot := o } := by
  cases o with
  | none => cases s; simp at hs; subst hs; rfl
  | some n => simp [optKV, InScope.addPairs, InScope.addPair, hs]

theorem InScope.addPair_unknown (s : InScope) (k v : Bytes) (hk : unkKeyIn k = true)
    (hl : lookup k s.unknown = none) :
    InScope.addPair ko sha 0 s k v = some { s with unknown := s.unknown ++ [(k, v)] } := by
  cases k with
  | nil => simp [unkKeyIn] at hk
  | cons k0 kr =>
    simp only [unkKeyIn, Bool.and_eq_true, Bool.not_eq_true'] at hk
    exact (InScope.Step.unknown (typedIn_eq_false.mp hk.1) (txFieldKey_eq_false.mp hk.2) hl).addPair

theorem in_step_unknown : ∀ (l : List KV) (s : InScope),
    (∀ kv ∈ l, unkKeyIn kv.1 = true) → ((s.unknown ++ l).map Prod.fst).Nodup →
    InScope.addPairs ko sha 0 s l = some { s with unknown := s.unknown ++ l } := by
  intro l s hv hn
  rw [InScope.addPairs_eq_foldlM]
  have := foldlM_entries (step := fun s kv => InScope.addPair ko sha 0 s kv.1 kv.2) (f := id)
    (get := (·.unknown)) (set := fun s l => { s with unknown := l }) (fun _ _ => rfl) (fun _ _ _ => rfl)
    (fun _ => rfl) (fun s e he hn => InScope.addPair_unknown ko sha s e.1 e.2 he hn) l s hv hn
  rwa [List.map_id] at this

end In

/-- `write_to` of an input scope with the tuple patterns spelled as projections -/
theorem InScope.pairs_eq (s : InScope) (version : Option Nat) : s.pairs version =
  optKV [0x00] (s.nonWitnessUtxo.map Tx.ser)
  ++ optKV [0x01] (s.witnessUtxo.map TxOut.ser)
  ++ s.partialSigs.map (fun e => (0x02 :: e.1, e.2))
  ++ optKV [0x03] (s.sighashType.map (leN 4))
  ++ optKV [0x04] s.redeemScript
  ++ optKV [0x05] s.witnessScript
  ++ s.bip32.map (fun e => (0x06 :: e.1, Deriv.ser e.2))
  ++ optKV [0x07] s.finalScriptSig
  ++ optKV [0x08] (s.finalWitness.map witnessSer)
  ++ (if version = some 2 then
        optKV [0x0e] (s.txid.map List.reverse) ++ optKV [0x0f] (s.vout.map (leN 4))
        ++ optKV [0x10] (s.sequence.map (leN 4))
      else [])
  ++ s.tapSigs.map (fun e => (0x14 :: e.1, e.2))
  ++ s.tapScripts.map (fun e => (0x15 :: e.1, e.2))
  ++ s.tapBip32.map (fun e => (0x16 :: e.1, tapDerivSer e.2))
  ++ optKV [0x17] s.tapInternalKey
  ++ optKV [0x18] s.tapMerkleRoot
  ++ s.unknown := rfl

/-- the scope `read_from` starts with: empty for PSBTv2, carrying the transaction fields (from the global
    transaction) otherwise -/
def InScope.seedOf (version : Option Nat) (s : InScope) : InScope :=
  if version = some 2 then {} else { txid := s.txid, vout := s.vout, sequence := s.sequence }

def OutScope.seedOf (version : Option Nat) (s : OutScope) : OutScope :=
  if version = some 2 then {} else { value := s.value, spk := s.spk }

theorem InScope.rebuild (s : InScope) (h1 : s.utxoS = none) (h2 : s.txhash = none) (h3 : s.verified = false) :
    ({ txid := s.txid, vout := s.vout, sequence := s.sequence, nonWitnessUtxo := s.nonWitnessUtxo,
       witnessUtxo := s.witnessUtxo, partialSigs := s.partialSigs, sighashType := s.sighashType,
       redeemScript := s.redeemScript, witnessScript := s.witnessScript, bip32 := s.bip32, tapBip32 := s.tapBip32,
       tapInternalKey := s.tapInternalKey, tapMerkleRoot := s.tapMerkleRoot, tapSigs := s.tapSigs,
       tapScripts := s.tapScripts, finalScriptSig := s.finalScriptSig, finalWitness := s.finalWitness,
       unknown := s.unknown } : InScope) = s := by
  cases s; simp at h1 h2 h3; obtain rfl := h1; obtain rfl := h2; obtain rfl := h3; rfl

theorem InScope.bind_step {ko : KeyOps} {sha : Bytes → Bytes} {c : Nat} {s s' : InScope} {a b : List KV}
    {r : Option InScope} (h1 : InScope.addPairs ko sha c s a = some s') (h2 : InScope.addPairs ko sha c s' b = r) :
    InScope.addPairs ko sha c s (a ++ b) = r := by
  rw [InScope.addPairs_append, h1]; exact h2

theorem in_step_txgroup_v2 (ko : KeyOps) (sha : Bytes → Bytes) (version : Option Nat) (hv : version = some 2)
    (s : InScope) (t : Option Bytes) (vo sq : Option Nat)
    (hs1 : s.txid = none) (hs2 : s.vout = none) (hs3 : s.sequence = none)
    (h1 : OptP (fun t => t.length = 32) t) (h2 : OptP (· < 2^32) vo) (h3 : OptP (· < 2^32) sq) :
    InScope.addPairs ko sha 0 s
      (if version = some 2 then
        optKV [0x0e] (t.map List.reverse) ++ optKV [0x0f] (vo.map (leN 4)) ++ optKV [0x10] (sq.map (leN 4))
       else []) = some { s with txid := t, vout := vo, sequence := sq } := by
  rw [if_pos hv]
  exact InScope.bind_step (InScope.bind_step (in_step_txid ko sha s t hs1 h1) (in_step_vout ko sha _ vo hs2 h2))
    (in_step_sequence ko sha _ sq hs3 h3)

theorem in_step_txgroup_v0 (ko : KeyOps) (sha : Bytes → Bytes) (version : Option Nat) (hv : ¬ version = some 2)
    (s : InScope) (t : Option Bytes) (vo sq : Option Nat) :
    InScope.addPairs ko sha 0 s
      (if version = some 2 then
        optKV [0x0e] (t.map List.reverse) ++ optKV [0x0f] (vo.map (leN 4)) ++ optKV [0x10] (sq.map (leN 4))
       else []) = some s := by
  rw [if_neg hv]; rfl

theorem InScope.addPairs_pairs (ko : KeyOps) (sha : Bytes → Bytes) (version : Option Nat) (s : InScope)
    (h : InWF ko s) :
    InScope.addPairs ko sha 0 (InScope.seedOf version s) (s.pairs version) = some s := by
  rw [InScope.pairs_eq]
  by_cases hv : version = some 2
  · -- PSBTv2: the transaction fields are written into the scope
    rw [InScope.seedOf, if_pos hv]
    have c := InScope.bind_step (InScope.bind_step (InScope.bind_step (InScope.bind_step (InScope.bind_step
      (InScope.bind_step (InScope.bind_step (InScope.bind_step (InScope.bind_step (InScope.bind_step
      (InScope.bind_step (InScope.bind_step (InScope.bind_step (InScope.bind_step (InScope.bind_step
      (in_step_nwu ko sha {} s.nonWitnessUtxo rfl rfl h.nwu)
      (in_step_wu ko sha _ s.witnessUtxo rfl h.wu))
      (in_step_psigs ko sha s.partialSigs _ (fun e he => (h.psigs e he).1) h.psigsNodup))
      (in_step_sighash ko sha _ s.sighashType rfl h.sighash))
      (in_step_redeem ko sha _ s.redeemScript rfl))
      (in_step_wscript ko sha _ s.witnessScript rfl))
      (in_step_bip32 ko sha s.bip32 _ (fun e he => ⟨(h.bip32 e he).1, (h.bip32 e he).2.2⟩) h.bip32Nodup))
      (in_step_fsig ko sha _ s.finalScriptSig rfl))
      (in_step_fwit ko sha _ s.finalWitness rfl h.fwit))
      (in_step_txgroup_v2 ko sha version hv _ s.txid s.vout s.sequence rfl rfl rfl h.txid h.vout h.sequence))
      (in_step_tapSigs ko sha s.tapSigs _ (fun e he => ⟨(h.tapSigs e he).1, (h.tapSigs e he).2.1⟩) h.tapSigsNodup))
      (in_step_tapScripts ko sha s.tapScripts _ h.tapScriptsNodup))
      (in_step_tapBip32 ko sha s.tapBip32 _ h.tapBip32 h.tapBip32Nodup))
      (in_step_tapIK ko sha _ s.tapInternalKey rfl h.tapIK))
      (in_step_tapMR ko sha _ s.tapMerkleRoot rfl))
      (in_step_unknown ko sha s.unknown _ (fun e he => (h.unknown e he).2) h.unknownNodup)
    exact c.trans (congrArg some (InScope.rebuild s h.utxoS h.txhash h.verified))
  · -- PSBTv0: they are taken from the seed
    rw [InScope.seedOf, if_neg hv]
    have c := InScope.bind_step (InScope.bind_step (InScope.bind_step (InScope.bind_step (InScope.bind_step
      (InScope.bind_step (InScope.bind_step (InScope.bind_step (InScope.bind_step (InScope.bind_step
      (InScope.bind_step (InScope.bind_step (InScope.bind_step (InScope.bind_step (InScope.bind_step
      (in_step_nwu ko sha { txid := s.txid, vout := s.vout, sequence := s.sequence } s.nonWitnessUtxo rfl rfl h.nwu)
      (in_step_wu ko sha _ s.witnessUtxo rfl h.wu))
      (in_step_psigs ko sha s.partialSigs _ (fun e he => (h.psigs e he).1) h.psigsNodup))
      (in_step_sighash ko sha _ s.sighashType rfl h.sighash))
      (in_step_redeem ko sha _ s.redeemScript rfl))
      (in_step_wscript ko sha _ s.witnessScript rfl))
      (in_step_bip32 ko sha s.bip32 _ (fun e he => ⟨(h.bip32 e he).1, (h.bip32 e he).2.2⟩) h.bip32Nodup))
      (in_step_fsig ko sha _ s.finalScriptSig rfl))
      (in_step_fwit ko sha _ s.finalWitness rfl h.fwit))
      (in_step_txgroup_v0 ko sha version hv _ s.txid s.vout s.sequence))
      (in_step_tapSigs ko sha s.tapSigs _ (fun e he => ⟨(h.tapSigs e he).1, (h.tapSigs e he).2.1⟩) h.tapSigsNodup))
      (in_step_tapScripts ko sha s.tapScripts _ h.tapScriptsNodup))
      (in_step_tapBip32 ko sha s.tapBip32 _ h.tapBip32 h.tapBip32Nodup))
      (in_step_tapIK ko sha _ s.tapInternalKey rfl h.tapIK))
      (in_step_tapMR ko sha _ s.tapMerkleRoot rfl))
      (in_step_unknown ko sha s.unknown _ (fun e he => (h.unknown e he).2) h.unknownNodup)
    exact c.trans (congrArg some (InScope.rebuild s h.utxoS h.txhash h.verified))

section Out
variable (ko : KeyOps)

theorem out_step_redeem (s : OutScope) (o : Option Bytes) (hs : s.redeemScript = none) :
    OutScope.addPairs ko s (optKV [0x00] o) = some { s with redeemScript := o } := by
  cases o with
  | none => cases s; simp at hs; subst hs; rfl
  | some n => simp [optKV, OutScope.addPairs, OutScope.addPair, hs]

theorem out_step_wscript (s : OutScope) (o : Option Bytes) (hs : s.witnessScript = none) :
    OutScope.addPairs ko s (optKV [0x01] o) = some { s with witnessScript := o } := by
  cases o with
  | none => cases s; simp at hs; subst hs; rfl
  | some n => simp [optKV, OutScope.addPairs, OutScope.addPair, hs]

theorem out_step_bip32 : ∀ (l : List (Bytes × Deriv)) (s : OutScope),
    (∀ e ∈ l, ko.validSec e.1 = true ∧ DerivWF e.2) → ((s.bip32 ++ l).map Prod.fst).Nodup →
    OutScope.addPairs ko s (l.map (fun e => (0x02 :: e.1, Deriv.ser e.2)))
      = some { s with bip32 := s.bip32 ++ l } := by
  intro l s hv hn
  rw [OutScope.addPairs_eq_foldlM]
  exact foldlM_entries (step := fun s kv => OutScope.addPair ko s kv.1 kv.2) (f := fun e => (0x02 :: e.1, Deriv.ser e.2))
    (get := (·.bip32)) (set := fun s l => { s with bip32 := l }) (fun _ _ => rfl) (fun _ _ _ => rfl)
    (fun _ => rfl) (fun s e he hn => (OutScope.Step.bip32 he.1 hn (Deriv.parse_ser e.2 he.2)).addPair) l s hv hn

theorem out_step_value (s : OutScope) (o : Option Nat) (hs : s.value = none) (ho : OptP (· < 2^64) o) :
    OutScope.addPairs ko s (optKV [0x03] (o.map (leN 8))) = some { s with value := o } := by
  cases o with
  | none => cases s; simp at hs; subst hs; rfl
  | some n =>
    have := ofLe_leN 8 n (by simp at ho; omega)
    simp [optKV, OutScope.addPairs, OutScope.addPair, hs, this]

theorem out_step_spk (s : OutScope) (o : Option Bytes) (hs : s.spk = none) :
    OutScope.addPairs ko s (optKV [0x04] o) = some { s with spk := o } := by
  cases o with
  | none => cases s; simp at hs; subst hs; rfl
  | some n => simp [optKV, OutScope.addPairs, OutScope.addPair, hs]

theorem out_step_tapIK (s : OutScope) (o : Option Bytes) (hs : s.tapInternalKey = none)
    (ho : OptP (fun v => v.length = 32 ∧ ko.validX v = true) o) :
    OutScope.addPairs ko s (optKV [0x05] o) = some { s with tapInternalKey := o } := by
  cases o with
  | none => cases s; simp at hs; subst hs; rfl
  | some v =>
    have h1 : v.length = 32 := ho.1
    have h2 : ko.validX v = true := ho.2
    simp [optKV, OutScope.addPairs, OutScope.addPair, hs, h1, h2]

theorem out_step_tapBip32 : ∀ (l : List (Bytes × (List Bytes × Deriv))) (s : OutScope),
    (∀ e ∈ l, e.1.length = 32 ∧ ko.validX e.1 = true ∧ TapDerivWF e.2) → ((s.tapBip32 ++ l).map Prod.fst).Nodup →
    OutScope.addPairs ko s (l.map (fun e => (0x07 :: e.1, tapDerivSer e.2)))
      = some { s with tapBip32 := s.tapBip32 ++ l } := by
  intro l s hv hn
  rw [OutScope.addPairs_eq_foldlM]
  exact foldlM_entries (step := fun s kv => OutScope.addPair ko s kv.1 kv.2) (f := fun e => (0x07 :: e.1, tapDerivSer e.2))
    (get := (·.tapBip32)) (set := fun s l => { s with tapBip32 := l }) (fun _ _ => rfl) (fun _ _ _ => rfl)
    (fun _ => rfl) (fun s e he hn => (OutScope.Step.tapBip32 he.1 he.2.1 hn (tapDerivParse_ser e.2 he.2.2)).addPair) l s hv hn

theorem OutScope.addPair_unknown (s : OutScope) (k v : Bytes) (hk : unkKeyOut k = true)
    (hl : lookup k s.unknown = none) :
    OutScope.addPair ko s k v = some { s with unknown := s.unknown ++ [(k, v)] } := by
  cases k with
  | nil => simp [unkKeyOut] at hk
  | cons k0 kr =>
    simp only [unkKeyOut, Bool.and_eq_true, Bool.not_eq_true'] at hk
    exact (OutScope.Step.unknown (typedOut_eq_false.mp hk.1) (txFieldKeyOut_eq_false.mp hk.2) hl).addPair

theorem out_step_unknown : ∀ (l : List KV) (s : OutScope),
    (∀ kv ∈ l, unkKeyOut kv.1 = true) → ((s.unknown ++ l).map Prod.fst).Nodup →
    OutScope.addPairs ko s l = some { s with unknown := s.unknown ++ l } := by
  intro l s hv hn
  rw [OutScope.addPairs_eq_foldlM]
  have := foldlM_entries (step := fun s kv => OutScope.addPair ko s kv.1 kv.2) (f := id)
    (get := (·.unknown)) (set := fun s l => { s with unknown := l }) (fun _ _ => rfl) (fun _ _ _ => rfl)
    (fun _ => rfl) (fun s e he hn => OutScope.addPair_unknown ko s e.1 e.2 he hn) l s hv hn
  rwa [List.map_id] at this

end Out

theorem OutScope.pairs_eq (s : OutScope) (version : Option Nat) : s.pairs version =
  optKV [0x00] s.redeemScript
  ++ optKV [0x01] s.witnessScript
  ++ s.bip32.map (fun e => (0x02 :: e.1, Deriv.ser e.2))
  ++ (if version = some 2 then optKV [0x03] (s.value.map (leN 8)) ++ optKV [0x04] s.spk else [])
  ++ optKV [0x05] s.tapInternalKey
  ++ s.tapBip32.map (fun e => (0x07 :: e.1, tapDerivSer e.2))
  ++ s.unknown := rfl

theorem OutScope.bind_step {ko : KeyOps} {s s' : OutScope} {a b : List KV}
    {r : Option OutScope} (h1 : OutScope.addPairs ko s a = some s') (h2 : OutScope.addPairs ko s' b = r) :
    OutScope.addPairs ko s (a ++ b) = r := by
  rw [OutScope.addPairs_append, h1]; exact h2

theorem out_step_txgroup_v2 (ko : KeyOps) (version : Option Nat) (hv : version = some 2)
    (s : OutScope) (va : Option Nat) (sp : Option Bytes) (hs1 : s.value = none) (hs2 : s.spk = none)
    (h1 : OptP (· < 2^64) va) :
    OutScope.addPairs ko s (if version = some 2 then optKV [0x03] (va.map (leN 8)) ++ optKV [0x04] sp else [])
      = some { s with value := va, spk := sp } := by
  rw [if_pos hv]
  exact OutScope.bind_step (out_step_value ko s va hs1 h1) (out_step_spk ko _ sp hs2)

theorem out_step_txgroup_v0 (ko : KeyOps) (version : Option Nat) (hv : ¬ version = some 2)
    (s : OutScope) (va : Option Nat) (sp : Option Bytes) :
    OutScope.addPairs ko s (if version = some 2 then optKV [0x03] (va.map (leN 8)) ++ optKV [0x04] sp else [])
      = some s := by
  rw [if_neg hv]; rfl

theorem OutScope.addPairs_pairs (ko : KeyOps) (version : Option Nat) (s : OutScope) (h : OutWF ko s) :
    OutScope.addPairs ko (OutScope.seedOf version s) (s.pairs version) = some s := by
  rw [OutScope.pairs_eq]
  by_cases hv : version = some 2
  · rw [OutScope.seedOf, if_pos hv]
    exact OutScope.bind_step (OutScope.bind_step (OutScope.bind_step (OutScope.bind_step (OutScope.bind_step
      (OutScope.bind_step
      (out_step_redeem ko {} s.redeemScript rfl)
      (out_step_wscript ko _ s.witnessScript rfl))
      (out_step_bip32 ko s.bip32 _ (fun e he => ⟨(h.bip32 e he).1, (h.bip32 e he).2.2⟩) h.bip32Nodup))
      (out_step_txgroup_v2 ko version hv _ s.value s.spk rfl rfl h.value))
      (out_step_tapIK ko _ s.tapInternalKey rfl h.tapIK))
      (out_step_tapBip32 ko s.tapBip32 _ h.tapBip32 h.tapBip32Nodup))
      (out_step_unknown ko s.unknown _ (fun e he => (h.unknown e he).2) h.unknownNodup)
  · rw [OutScope.seedOf, if_neg hv]
    exact OutScope.bind_step (OutScope.bind_step (OutScope.bind_step (OutScope.bind_step (OutScope.bind_step
      (OutScope.bind_step
      (out_step_redeem ko { value := s.value, spk := s.spk } s.redeemScript rfl)
      (out_step_wscript ko _ s.witnessScript rfl))
      (out_step_bip32 ko s.bip32 _ (fun e he => ⟨(h.bip32 e he).1, (h.bip32 e he).2.2⟩) h.bip32Nodup))
      (out_step_txgroup_v0 ko version hv _ s.value s.spk))
      (out_step_tapIK ko _ s.tapInternalKey rfl h.tapIK))
      (out_step_tapBip32 ko s.tapBip32 _ h.tapBip32 h.tapBip32Nodup))
      (out_step_unknown ko s.unknown _ (fun e he => (h.unknown e he).2) h.unknownNodup)

theorem optKV_wf (k : Bytes) (o : Option Bytes) (hk : k ≠ [] ∧ Fits k) (ho : OptP Fits o) :
    ∀ kv ∈ optKV k o, KVWF kv := by
  cases o with
  | none => simp [optKV]
  | some v => intro kv hkv; simp [optKV] at hkv; subst hkv; exact ⟨hk.1, hk.2, ho⟩

theorem OptP_map {α β : Type} {P : β → Prop} {Q : α → Prop} {f : α → β} {o : Option α} (h : OptP Q o)
    (hf : ∀ x, Q x → P (f x)) : OptP P (o.map f) := by
  cases o with
  | none => trivial
  | some x => exact hf x h

theorem OptP_imp {α : Type} {P Q : α → Prop} {o : Option α} (h : OptP Q o) (hf : ∀ x, Q x → P x) : OptP P o := by
  cases o with
  | none => trivial
  | some x => exact hf x h

theorem InScope.pairs_wf (ko : KeyOps) (version : Option Nat) (s : InScope) (h : InWF ko s) :
    ∀ kv ∈ s.pairs version, KVWF kv := by
  have b1 : ∀ k0 : UInt8, ([k0] : Bytes) ≠ [] ∧ Fits [k0] := fun k0 => ⟨by simp, by simp [Fits]⟩
  intro kv hkv
  rw [InScope.pairs_eq] at hkv
  simp only [List.mem_append] at hkv
  rcases hkv with (((((((((((((((hkv | hkv) | hkv) | hkv) | hkv) | hkv) | hkv) | hkv) | hkv) | hkv) | hkv) | hkv)
    | hkv) | hkv) | hkv) | hkv)
  · exact optKV_wf _ _ (b1 _) (OptP_map h.nwu (fun t ht => ht.2)) kv hkv
  · exact optKV_wf _ _ (b1 _) (OptP_map h.wu (fun t ht => ht.2)) kv hkv
  · obtain ⟨e, he, rfl⟩ := List.mem_map.mp hkv
    exact ⟨by simp, (h.psigs e he).2.1, (h.psigs e he).2.2⟩
  · exact optKV_wf _ _ (b1 _) (OptP_map h.sighash (fun t ht => by simp [Fits])) kv hkv
  · exact optKV_wf _ _ (b1 _) h.redeem kv hkv
  · exact optKV_wf _ _ (b1 _) h.wscript kv hkv
  · obtain ⟨e, he, rfl⟩ := List.mem_map.mp hkv
    exact ⟨by simp, (h.bip32 e he).2.1, (h.bip32 e he).2.2.2.2⟩
  · exact optKV_wf _ _ (b1 _) h.fsig kv hkv
  · exact optKV_wf _ _ (b1 _) (OptP_map h.fwit (fun t ht => ht.2.2)) kv hkv
  · split at hkv
    · simp only [List.mem_append] at hkv
      rcases hkv with (hkv | hkv) | hkv
      · exact optKV_wf _ _ (b1 _) (OptP_map h.txid (fun t ht => by simp [Fits, ht])) kv hkv
      · exact optKV_wf _ _ (b1 _) (OptP_map h.vout (fun t ht => by simp [Fits])) kv hkv
      · exact optKV_wf _ _ (b1 _) (OptP_map h.sequence (fun t ht => by simp [Fits])) kv hkv
    · simp at hkv
  · obtain ⟨e, he, rfl⟩ := List.mem_map.mp hkv
    exact ⟨by simp, by simp [Fits, (h.tapSigs e he).1], (h.tapSigs e he).2.2⟩
  · obtain ⟨e, he, rfl⟩ := List.mem_map.mp hkv
    exact ⟨by simp, (h.tapScripts e he).1, (h.tapScripts e he).2⟩
  · obtain ⟨e, he, rfl⟩ := List.mem_map.mp hkv
    exact ⟨by simp, by simp [Fits, (h.tapBip32 e he).1], (h.tapBip32 e he).2.2.2.2.2⟩
  · exact optKV_wf _ _ (b1 _) (OptP_imp h.tapIK (fun t ht => by simp [Fits, ht.1])) kv hkv
  · exact optKV_wf _ _ (b1 _) h.tapMR kv hkv
  · exact (h.unknown kv hkv).1

theorem OutScope.pairs_wf (ko : KeyOps) (version : Option Nat) (s : OutScope) (h : OutWF ko s) :
    ∀ kv ∈ s.pairs version, KVWF kv := by
  have b1 : ∀ k0 : UInt8, ([k0] : Bytes) ≠ [] ∧ Fits [k0] := fun k0 => ⟨by simp, by simp [Fits]⟩
  intro kv hkv
  rw [OutScope.pairs_eq] at hkv
  simp only [List.mem_append] at hkv
  rcases hkv with ((((((hkv | hkv) | hkv) | hkv) | hkv) | hkv) | hkv)
  · exact optKV_wf _ _ (b1 _) h.redeem kv hkv
  · exact optKV_wf _ _ (b1 _) h.wscript kv hkv
  · obtain ⟨e, he, rfl⟩ := List.mem_map.mp hkv
    exact ⟨by simp, (h.bip32 e he).2.1, (h.bip32 e he).2.2.2.2⟩
  · split at hkv
    · simp only [List.mem_append] at hkv
      rcases hkv with hkv | hkv
      · exact optKV_wf _ _ (b1 _) (OptP_map h.value (fun t ht => by simp [Fits])) kv hkv
      · exact optKV_wf _ _ (b1 _) h.spk kv hkv
    · simp at hkv
  · exact optKV_wf _ _ (b1 _) (OptP_imp h.tapIK (fun t ht => by simp [Fits, ht.1])) kv hkv
  · obtain ⟨e, he, rfl⟩ := List.mem_map.mp hkv
    exact ⟨by simp, by simp [Fits, (h.tapBip32 e he).1], (h.tapBip32 e he).2.2.2.2.2⟩
  · exact (h.unknown kv hkv).1

end Embit
