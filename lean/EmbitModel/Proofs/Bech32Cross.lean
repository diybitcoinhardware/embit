import EmbitModel.Proofs.CrossTable
import EmbitModel.Proofs.Bech32DetectStr
import EmbitModel.Proofs.Bech32Spec
/-
  The cross-variant neighbours of a bech32 data part of 59 symbols (witness version, 32-byte program, checksum):
  if two such data parts under the same human-readable part verify for *different* checksum constants (BECH32 vs
  BECH32M), their version symbols differ by XOR 1 and they differ in at most four symbols, then their difference
  is one fixed pattern (`crossPattern`). From the rank computations of `Proofs/CrossTable.lean`.
-/
namespace Embit.Model.Bech32.Cross
open Embit Gf2 Detect

theorem synG_append (a b : List Nat) (A B : List (List Nat)) (h : a.length = A.length) :
    synG 5 (a ++ b) (A ++ B) = synG 5 a A ^^^ synG 5 b B := by
  induction a generalizing A with
  | nil =>
    cases A with
    | nil => simp [synG]
    | cons _ _ => simp at h
  | cons x xs ih =>
    cases A with
    | nil => simp at h
    | cons g G =>
      simp only [List.cons_append, synG, ih G (by simpa using h), Nat.xor_assoc]

theorem split_at {α : Type} (l : List α) (n : Nat) (h : n < l.length) :
    ∃ A x B, l = A ++ x :: B ∧ A.length = n ∧ B.length = l.length - n - 1 := by
  refine ⟨l.take n, l[n], l.drop (n + 1), ?_, ?_, ?_⟩
  · conv => lhs; rw [← List.take_append_drop n l]
    rw [List.drop_eq_getElem_cons h]
  · simp; omega
  · simp; omega

theorem zeros_of_weight (l : List Nat) (h : weight l = 0) : l = List.replicate l.length 0 := by
  have := weight_zero l h
  exact List.eq_replicate_iff.mpr ⟨rfl, this⟩

theorem comb_bits5_zero (g : List Nat) : comb (bits5 0) g = 0 :=
  comb_all_false _ _ (bitsN_zero 5)

theorem weight_le_one (x : Nat) : (if x = 0 then 0 else 1) ≤ 1 := by split <;> omega

theorem triple_unique (a b c : Nat) (ha : a < 32) (hb : b < 32) (hc : c < 32)
    (h : comb (bits5 a) eX ^^^ (comb (bits5 b) eY ^^^ comb (bits5 c) eZ) = 0) :
    (a = 0 ∧ b = 0 ∧ c = 0) ∨ (a = valX ∧ b = valY ∧ c = valZ) := by
  have := tripleCheck_eq
  unfold tripleCheck at this
  simp only [List.all_eq_true, List.mem_range] at this
  have := this a ha b hb c hc
  rw [h] at this
  simpa [and_assoc] using this

/-- two of the three exceptional symbols plus the 55 ordinary ones: weight ≤ 3 and zero syndrome modulo `Tp`
    force the zero word -/
theorem two_of_three (gx gy : List Nat) (hgood : Good 5 3 (gx :: gy :: others)) (x y : Nat) (rest : List Nat)
    (hx : x < 32) (hy : y < 32) (hrest : ∀ v ∈ rest, v < 32) (hlen : rest.length = 55)
    (hw : weight (x :: y :: rest) ≤ 3)
    (hs : comb (bits5 x) gx ^^^ (comb (bits5 y) gy ^^^ synG 5 rest others) = 0) :
    x = 0 ∧ y = 0 ∧ ∀ v ∈ rest, v = 0 := by
  have := hgood (x :: y :: rest) (by simp [hlen, others_length])
    (by intro v hv; simp at hv; rcases hv with rfl | rfl | hv; exact hx; exact hy; exact hrest v hv) hw
    (by simpa [synG, ← bits5_eq] using hs)
  exact ⟨this x (by simp), this y (by simp), fun v hv => this v (by simp [hv])⟩

theorem Tp_ne_zero : Tp ≠ 0 := by decide

theorem synR_snoc_one (r : List Nat) : synR (r ++ [1]) = polymodFrom 1 (List.replicate r.length 0) ^^^ synR r := by
  rw [synR_eq, synR_eq]
  have e : (r ++ [1]).reverse = 1 :: r.reverse := by simp
  rw [e]
  have : polymodFrom 0 (1 :: r.reverse) = polymodFrom 1 r.reverse := by
    simp [polymodFrom, step_zero_left]
  rw [this, polymodFrom_split 1 r.reverse]
  simp

theorem cross_core (r : List Nat) (hl : r.length = N) (hlt : ∀ x ∈ r, x < 32) (hw : weight r ≤ 3)
    (hs : synR (r ++ [1]) = crossT) : r = patLit := by
  -- homogenise
  have h1 : synR r = Tp := by
    rw [synR_snoc_one, hl] at hs
    have := xor_cancel_left hs
    rw [this, Nat.xor_comm]; exact Tp_eq
  have h2 : synG 5 r tableLit = Tp := by
    rw [← table_eq, synG_table N r (Nat.le_of_eq hl) hlt]; exact h1
  have h3 : synG 5 r QLit = 0 := by
    rw [← reduce_eq, synG_mapLin _ (elim_xor Tp 2) (elim_zero Tp 2), h2]; exact elim_self Tp 2 (by decide)
  obtain ⟨lA, lB, lC, lD⟩ := piece_lengths
  -- split the word around the three exceptional offsets
  obtain ⟨A, a, R1, e1, hA, hR1⟩ := split_at r 16 (by rw [hl]; decide)
  rw [hl] at hR1
  obtain ⟨B, b, R2, e2, hB, hR2⟩ := split_at R1 19 (by rw [hR1]; decide)
  rw [hR1] at hR2
  obtain ⟨C, c, D, e3, hC, hD⟩ := split_at R2 8 (by rw [hR2]; decide)
  rw [hR2] at hD
  subst e3; subst e2; subst e1
  have hN : N = 58 := rfl
  simp only [hN] at hD
  have ha : a < 32 := hlt a (by simp)
  have hb : b < 32 := hlt b (by simp)
  have hc : c < 32 := hlt c (by simp)
  have hAlt : ∀ v ∈ A, v < 32 := fun v hv => hlt v (by simp [hv])
  have hBlt : ∀ v ∈ B, v < 32 := fun v hv => hlt v (by simp [hv])
  have hClt : ∀ v ∈ C, v < 32 := fun v hv => hlt v (by simp [hv])
  have hDlt : ∀ v ∈ D, v < 32 := fun v hv => hlt v (by simp [hv])
  -- the syndrome in pieces
  have hsyn : synG 5 A QA ^^^ (comb (bits5 a) eX ^^^ (synG 5 B QB ^^^ (comb (bits5 b) eY ^^^
      (synG 5 C QC ^^^ (comb (bits5 c) eZ ^^^ synG 5 D QD))))) = 0 := by
    have := h3
    unfold QLit at this
    rw [synG_append A _ QA _ (by rw [hA, lA])] at this
    simp only [synG] at this
    rw [synG_append B _ QB _ (by rw [hB, lB])] at this
    simp only [synG] at this
    rw [synG_append C _ QC _ (by rw [hC, lC])] at this
    simp only [synG] at this
    exact this
  have hrest : synG 5 (A ++ (B ++ (C ++ D))) others
      = synG 5 A QA ^^^ (synG 5 B QB ^^^ (synG 5 C QC ^^^ synG 5 D QD)) := by
    unfold others
    rw [synG_append A _ QA _ (by rw [hA, lA]), synG_append B _ QB _ (by rw [hB, lB]),
      synG_append C _ QC _ (by rw [hC, lC])]
  have hrlen : (A ++ (B ++ (C ++ D))).length = 55 := by simp [hA, hB, hC, hD]
  have hrlt : ∀ v ∈ A ++ (B ++ (C ++ D)), v < 32 := by
    intro v hv
    simp only [List.mem_append] at hv
    rcases hv with hv | hv | hv | hv
    · exact hAlt v hv
    · exact hBlt v hv
    · exact hClt v hv
    · exact hDlt v hv
  have hwt : weight A + ((if a = 0 then 0 else 1) + (weight B + ((if b = 0 then 0 else 1)
      + (weight C + ((if c = 0 then 0 else 1) + weight D))))) ≤ 3 := by
    simpa [weight_append, weight] using hw
  have hwrest : weight (A ++ (B ++ (C ++ D))) = weight A + (weight B + (weight C + weight D)) := by
    simp [weight_append]
  -- if the whole word were zero its syndrome would be zero
  have hzero : (∀ v ∈ A ++ (B ++ (C ++ D)), v = 0) → a = 0 → b = 0 → c = 0 → False := by
    intro hz ha0 hb0 hc0
    have hall : ∀ v ∈ A ++ a :: (B ++ b :: (C ++ c :: D)), v = 0 := by
      intro v hv
      simp only [List.mem_append, List.mem_cons] at hv
      rcases hv with hv | rfl | hv | rfl | hv | rfl | hv
      · exact hz v (by simp [hv])
      · exact ha0
      · exact hz v (by simp [hv])
      · exact hb0
      · exact hz v (by simp [hv])
      · exact hc0
      · exact hz v (by simp [hv])
    rw [synG_all_zero 5 _ _ hall] at h2
    exact Tp_ne_zero h2.symm
  generalize hsA : synG 5 A QA = sA at hsyn hrest
  generalize hsB : synG 5 B QB = sB at hsyn hrest
  generalize hsC : synG 5 C QC = sC at hsyn hrest
  generalize hsD : synG 5 D QD = sD at hsyn hrest
  generalize hca : comb (bits5 a) eX = ca at hsyn
  generalize hcb : comb (bits5 b) eY = cb at hsyn
  generalize hcc : comb (bits5 c) eZ = cc at hsyn
  have wa := weight_le_one a
  have wb := weight_le_one b
  have wc := weight_le_one c
  by_cases hc0 : c = 0
  · exfalso
    have hcc0 : cc = 0 := by rw [← hcc, hc0]; exact comb_bits5_zero _
    have hs' : ca ^^^ (cb ^^^ synG 5 (A ++ (B ++ (C ++ D))) others) = 0 := by
      rw [hrest, ← hsyn, hcc0, Nat.zero_xor]; ac_rfl
    obtain ⟨xa, xb, xr⟩ := two_of_three eX eY good_lxy a b _ ha hb hrlt hrlen
      (by simp only [weight, hwrest]; simp only [hc0, if_true] at hwt; omega) (by rw [hca, hcb]; exact hs')
    exact hzero xr xa xb hc0
  by_cases hb0 : b = 0
  · exfalso
    have hcb0 : cb = 0 := by rw [← hcb, hb0]; exact comb_bits5_zero _
    have hs' : ca ^^^ (cc ^^^ synG 5 (A ++ (B ++ (C ++ D))) others) = 0 := by
      rw [hrest, ← hsyn, hcb0, Nat.zero_xor]; ac_rfl
    obtain ⟨xa, xc, xr⟩ := two_of_three eX eZ good_lxz a c _ ha hc hrlt hrlen
      (by simp only [weight, hwrest]; simp only [hb0, if_true] at hwt; omega) (by rw [hca, hcc]; exact hs')
    exact hzero xr xa hb0 xc
  by_cases ha0 : a = 0
  · exfalso
    have hca0 : ca = 0 := by rw [← hca, ha0]; exact comb_bits5_zero _
    have hs' : cb ^^^ (cc ^^^ synG 5 (A ++ (B ++ (C ++ D))) others) = 0 := by
      rw [hrest, ← hsyn, hca0, Nat.zero_xor]; ac_rfl
    obtain ⟨xb, xc, xr⟩ := two_of_three eY eZ good_lyz b c _ hb hc hrlt hrlen
      (by simp only [weight, hwrest]; simp only [ha0, if_true] at hwt; omega) (by rw [hcb, hcc]; exact hs')
    exact hzero xr ha0 xb xc
  -- all three exceptional symbols are non-zero: nothing else is
  simp only [ha0, hb0, hc0, if_false] at hwt
  have zA := zeros_of_weight A (by omega)
  have zB := zeros_of_weight B (by omega)
  have zC := zeros_of_weight C (by omega)
  have zD := zeros_of_weight D (by omega)
  rw [hA] at zA; rw [hB] at zB; rw [hC] at zC; rw [hD] at zD
  have z0 : ∀ (k : Nat) (G : List (List Nat)), synG 5 (List.replicate k 0) G = 0 :=
    fun k G => synG_all_zero 5 _ _ (by intro v hv; exact (List.mem_replicate.mp hv).2)
  have hsA0 : sA = 0 := by rw [← hsA, zA]; exact z0 _ _
  have hsB0 : sB = 0 := by rw [← hsB, zB]; exact z0 _ _
  have hsC0 : sC = 0 := by rw [← hsC, zC]; exact z0 _ _
  have hsD0 : sD = 0 := by rw [← hsD, zD]; exact z0 _ _
  rw [hsA0, hsB0, hsC0, hsD0] at hsyn
  simp only [Nat.zero_xor, Nat.xor_zero] at hsyn
  rw [← hca, ← hcb, ← hcc] at hsyn
  rcases triple_unique a b c ha hb hc hsyn with ⟨h0, _, _⟩ | ⟨hva, hvb, hvc⟩
  · exact absurd h0 ha0
  · rw [patLit_eq, zA, zB, zC, zD, hva, hvb, hvc]

/-- the neighbour pattern in natural order (index 0 = witness version symbol, then the 52 program symbols, then
    the 6 checksum symbols): the version symbol and the symbols at offsets 45, 36, 16 from the end -/
def crossPattern : List Nat := 1 :: patLit.reverse

theorem crossPattern_eq : crossPattern =
    [1, 0, 0, 0, 0, 0, 0, 0, 0, 0, 0, 0, 0, 22, 0, 0, 0, 0, 0, 0, 0, 0, 31, 0, 0, 0, 0, 0, 0, 0, 0, 0, 0, 0, 0, 0, 0, 0, 0,
     0, 0, 0, 25, 0, 0, 0, 0, 0, 0, 0, 0, 0, 0, 0, 0, 0, 0, 0, 0] := by decide

theorem crossPattern_length : crossPattern.length = 59 := by decide

theorem crossPattern_lt : ∀ x ∈ crossPattern, x < 32 := by decide

theorem crossPattern_syndrome : polymodFrom 0 crossPattern = crossT := by decide +kernel

theorem cross_words (s : Nat) (p u u' : List Nat) (hl : u.length = 59) (hl' : u'.length = 59)
    (hu : ∀ x ∈ u, x < 32) (hu' : ∀ x ∈ u', x < 32) (hham : hamming u u' ≤ 4)
    (hhead : (xorW u u').head? = some 1)
    (hx : polymodFrom s (p ++ u) ^^^ polymodFrom s (p ++ u') = crossT) : xorW u u' = crossPattern := by
  have hlen : u.length = u'.length := by rw [hl, hl']
  have hxx : polymodFrom 0 (xorW u u') = crossT := by
    have := polymodFrom_xor s s (p ++ u) (p ++ u') (by simp [hlen])
    rw [Nat.xor_self, hx, xorW_append p u p u' rfl, xorW_self, polymodFrom_append, polymodFrom_zeros] at this
    exact this
  have helen := xorW_length u u' hlen
  have he32 := xorW_lt u u' hu hu'
  unfold hamming at hham
  generalize xorW u u' = e at *
  cases e with
  | nil => simp at hhead
  | cons x e1 =>
    simp only [List.head?_cons, Option.some.injEq] at hhead
    subst hhead
    have hr := cross_core e1.reverse (by simp at helen ⊢; rw [hl] at helen; simp [N]; omega)
      (by intro v hv; exact he32 v (by simp at hv; simp [hv]))
      (by rw [weight_reverse]; simp [weight] at hham; omega)
      (by rw [synR_eq]; simpa using hxx)
    have : e1 = patLit.reverse := by rw [← hr]; simp
    rw [this]; rfl

theorem xorW_xorW (a b : List Nat) (h : a.length = b.length) : xorW a (xorW a b) = b := by
  induction a generalizing b with
  | nil => cases b with
    | nil => rfl
    | cons _ _ => simp at h
  | cons x xs ih =>
    cases b with
    | nil => simp at h
    | cons y ys =>
      simp only [xorW, ih ys (by simpa using h), ← Nat.xor_assoc, Nat.xor_self, Nat.zero_xor]

end Embit.Model.Bech32.Cross
