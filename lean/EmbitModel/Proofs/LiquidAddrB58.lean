import EmbitModel.Model.LiquidAddrB58
import EmbitModel.Proofs.Base58
import EmbitModel.Proofs.Base58Prefix
/-
  C18: base58 Liquid addresses (`bp2sh` confidential, `p2sh` unconfidential) round trip through
  `address` / `addr_decode`. Two ingredients: Base58Check decode∘encode (C11, Proofs/Base58.lean) and the DISPATCH of
  `addr_decode` — the text of such an address must not look like a bech32 / blech32 address (`addr.split("1")[0].lower()`
  in the prefix tables) nor be `"Fee"`. The version bytes fix the two leading base-58 characters up to a small
  range (the number lies in `[V·256^m, (V+1)·256^m)`), and every pair in that range is checked by evaluation.
-/
namespace Embit.Model.LAddr
open Embit Digits Model.Base58

theorem toLE_split (k : Nat) : ∀ n, n / 58 ^ k ≠ 0 →
    ∃ low : List Nat, low.length = k ∧ toLE 58 n = low ++ toLE 58 (n / 58 ^ k) := by
  induction k with
  | zero => intro n _; exact ⟨[], rfl, by simp⟩
  | succ k ih =>
    intro n h
    have hn : n ≠ 0 := by
      intro h0; subst h0; simp at h
    have hdiv : n / 58 / 58 ^ k = n / 58 ^ (k + 1) := by
      rw [Nat.div_div_eq_div_mul, Nat.pow_succ, Nat.mul_comm]
    obtain ⟨low, hl, hd⟩ := ih (n / 58) (by rw [hdiv]; exact h)
    refine ⟨n % 58 :: low, by simp [hl], ?_⟩
    rw [toLE_pos (by decide) hn, hd, hdiv]
    rfl

theorem toLE_two (T : Nat) (h1 : 58 ≤ T) (h2 : T < 58 ^ 2) : toLE 58 T = [T % 58, T / 58] := by
  have a1 : T ≠ 0 := by omega
  have a2 : T / 58 ≠ 0 := by omega
  have a3 : T / 58 / 58 = 0 := by omega
  rw [toLE_pos (by decide) a1, toLE_pos (by decide) a2, a3, toLE_zero]
  have : T / 58 % 58 = T / 58 := by omega
  rw [this]

/-- a byte string starting with a non-zero byte whose value has the two leading base-58 digits `T` -/
theorem encode_two (b : Bytes) (hh : ∀ x ∈ b.head?, x ≠ 0) (k T : Nat) (hT : ofBe b / 58 ^ k = T) (h1 : 58 ≤ T)
    (h2 : T < 58 ^ 2) : ∃ rest, encode b = digitChar (T / 58) :: digitChar (T % 58) :: rest := by
  have hne : ofBe b / 58 ^ k ≠ 0 := by rw [hT]; omega
  obtain ⟨low, _, hd⟩ := toLE_split k (ofBe b) hne
  have := encode_normal 0 b hh
  simp only [List.replicate_zero, List.nil_append] at this
  rw [this, hd, hT, toLE_two T h1 h2]
  exact ⟨low.reverse.map digitChar, by simp⟩

/-- all numbers `V·256^m + R`, `R < 256^m`, have their leading digits `N / 58^k` in `[lo, hi]` -/
theorem lead_range (V m k R : Nat) (hR : R < 256 ^ m) :
    V * 256 ^ m / 58 ^ k ≤ (V * 256 ^ m + R) / 58 ^ k
    ∧ (V * 256 ^ m + R) / 58 ^ k ≤ ((V + 1) * 256 ^ m - 1) / 58 ^ k := by
  constructor
  · apply Nat.div_le_div_right; omega
  · apply Nat.div_le_div_right
    have : (V + 1) * 256 ^ m = V * 256 ^ m + 256 ^ m := by rw [Nat.add_mul, Nat.one_mul]
    omega

def allHrps : List (List Char) := blech32Hrps ++ bech32Hrps

/-- no text starting with `c1 c2` is `"Fee"` or has a bech32 / blech32 prefix before its first `'1'` -/
def safeStart (c1 c2 : Char) : Bool :=
  !(c1 == 'F' && c2 == 'e') &&
  (if c1 == '1' then true
   else if c2 == '1' then !(allHrps.contains [lowerChar c1])
   else allHrps.all (fun h => h.take 2 != [lowerChar c1, lowerChar c2]))

theorem allHrps_len : ∀ h ∈ allHrps, 2 ≤ h.length := by decide

theorem safeStart_spec (c1 c2 : Char) (rest : List Char) (h : safeStart c1 c2 = true) :
    c1 :: c2 :: rest ≠ ['F', 'e', 'e'] ∧ blech32Hrps.contains (hrpPart (c1 :: c2 :: rest)) = false
    ∧ bech32Hrps.contains (hrpPart (c1 :: c2 :: rest)) = false := by
  unfold safeStart at h
  simp only [Bool.and_eq_true, Bool.not_eq_true'] at h
  obtain ⟨hfee, hrest⟩ := h
  have hnot : ¬ allHrps.contains (hrpPart (c1 :: c2 :: rest)) = true := by
    intro hc
    have hmem : hrpPart (c1 :: c2 :: rest) ∈ allHrps := by simpa using hc
    by_cases e1 : c1 = '1'
    · subst e1
      have : hrpPart ('1' :: c2 :: rest) = [] := by simp [hrpPart]
      rw [this] at hmem
      exact absurd hmem (by decide)
    · have e1' : (c1 == '1') = false := by simpa using e1
      simp only [e1', Bool.false_eq_true, if_false] at hrest
      by_cases e2 : c2 = '1'
      · subst e2
        have : hrpPart (c1 :: '1' :: rest) = [lowerChar c1] := by simp [hrpPart, e1]
        rw [this] at hmem
        simp at hrest
        exact hrest hmem
      · have e2' : (c2 == '1') = false := by simpa using e2
        simp only [e2', Bool.false_eq_true, if_false] at hrest
        have : ∃ t, hrpPart (c1 :: c2 :: rest) = lowerChar c1 :: lowerChar c2 :: t := by
          simp [hrpPart, e1, e2]
        obtain ⟨t, ht⟩ := this
        rw [ht] at hmem
        rw [List.all_eq_true] at hrest
        have := hrest _ hmem
        simp at this
  have hno : blech32Hrps.contains (hrpPart (c1 :: c2 :: rest)) = false
      ∧ bech32Hrps.contains (hrpPart (c1 :: c2 :: rest)) = false := by
    rw [← Bool.or_eq_false_iff, ← List.contains_append]
    simpa [allHrps] using hnot
  refine ⟨?_, hno⟩
  intro e
  simp at e
  obtain ⟨a, b, _⟩ := e
  subst a; subst b
  simp at hfee

/-- the decidable test for a version prefix `V` (big-endian value of the prefix bytes) followed by `m` more bytes:
    the two leading base-58 digits of every such number spell a safe start -/
def prefixSafe (V m k : Nat) : Bool :=
  let lo := V * 256 ^ m / 58 ^ k
  let hi := ((V + 1) * 256 ^ m - 1) / 58 ^ k
  decide (58 ≤ lo) && decide (hi < 58 ^ 2) &&
  (List.range (hi + 1 - lo)).all (fun i => safeStart (digitChar ((lo + i) / 58)) (digitChar ((lo + i) % 58)))

/-- every Base58Check text of `pre ‖ body` (any body of `m - 4` bytes, any checksum function) goes to the base58
    branch of `addr_decode` -/
theorem route_base58_of_prefixSafe (dsha : Bytes → Bytes) (hd : ∀ b, 4 ≤ (dsha b).length) (pre body : Bytes)
    (c : UInt8) (r : Bytes) (hp : pre = c :: r) (hc : c ≠ 0) (m k : Nat) (hm : body.length + 4 = m)
    (hs : prefixSafe (ofBe pre) m k = true) :
    let addr := encodeCheck dsha (pre ++ body)
    addr ≠ ['F', 'e', 'e'] ∧ blech32Hrps.contains (hrpPart addr) = false
    ∧ bech32Hrps.contains (hrpPart addr) = false := by
  intro addr
  unfold prefixSafe at hs
  simp only [Bool.and_eq_true, decide_eq_true_eq, List.all_eq_true, List.mem_range] at hs
  obtain ⟨⟨hlo, hhi⟩, hall⟩ := hs
  let tail := body ++ (dsha (pre ++ body)).take 4
  have hlen : tail.length = m := by
    have := hd (pre ++ body); simp [tail, List.length_take]; omega
  have hN : ofBe (pre ++ body ++ (dsha (pre ++ body)).take 4) = ofBe pre * 256 ^ m + ofBe tail := by
    rw [List.append_assoc, ofBe_append, hlen]
  have hR : ofBe tail < 256 ^ m := by
    have := ofBe_lt tail; rwa [hlen] at this
  obtain ⟨r1, r2⟩ := lead_range (ofBe pre) m k (ofBe tail) hR
  generalize hT : (ofBe pre * 256 ^ m + ofBe tail) / 58 ^ k = T at r1 r2
  have hsafe : safeStart (digitChar (T / 58)) (digitChar (T % 58)) = true := by
    have := hall (T - ofBe pre * 256 ^ m / 58 ^ k) (by omega)
    rwa [show ofBe pre * 256 ^ m / 58 ^ k + (T - ofBe pre * 256 ^ m / 58 ^ k) = T by omega] at this
  obtain ⟨rest, he⟩ := encode_two (pre ++ body ++ (dsha (pre ++ body)).take 4)
    (by rw [hp]; simpa using hc) k T (by rw [hN]; exact hT) (by omega) (by omega)
  have : addr = digitChar (T / 58) :: digitChar (T % 58) :: rest := he
  rw [this]
  exact safeStart_spec _ _ rest hsafe

/-- the number of base-58 digits below the two leading ones: confidential `bp2sh ‖ 33 ‖ 20 ‖ 4` has 80 digits,
    unconfidential `p2sh ‖ 20 ‖ 4` has 34 (35 for the version byte `0xc4`) -/
def leadKConf : Nat := 78
def leadKPlain (pre : Bytes) : Nat := if pre = [0xc4] then 33 else 32

def tableSafe : Bool :=
  nets.all fun n =>
    (match n.bp2sh with
     | some pre => pre.length == 2 && (match pre with | c :: _ => c != 0 | [] => false)
                   && prefixSafe (ofBe pre) 57 leadKConf
     | none => true)
    && n.p2sh.length == 1 && (match n.p2sh with | c :: _ => c != 0 | [] => false)
    && prefixSafe (ofBe n.p2sh) 24 (leadKPlain n.p2sh)
    && bp2shPrefixes.all (fun q => q.take 1 != n.p2sh)

set_option maxRecDepth 100000 in
theorem table_safe : tableSafe = true := by decide +kernel

theorem p2sh_last (h : Bytes) : ([0xa9, 0x14] ++ h ++ [0x87] : Bytes).getLast? = some 0x87 := by
  show (([0xa9, 0x14] ++ h) ++ [0x87] : Bytes).getLast? = some 0x87
  exact List.getLast?_concat ..

/-- confidential P2SH address → (script, blinding key), every network of the table that has a `bp2sh` prefix -/
theorem addrDecode_addressP2sh_conf (validSec : Bytes → Bool) (dsha : Bytes → Bytes) (hd : ∀ b, 4 ≤ (dsha b).length)
    (net : Net) (hn : net ∈ nets) (pre : Bytes) (hpre : net.bp2sh = some pre) (hash pub : Bytes)
    (hh : hash.length = 20) (hpl : pub.length = 33) (hv : validSec pub = true) :
    ∃ addr, addressP2sh dsha net ([0xa9, 0x14] ++ hash ++ [0x87]) (some pub) = some addr
      ∧ addrDecode validSec dsha addr = .base58 (some ([0xa9, 0x14] ++ hash ++ [0x87], some pub)) := by
  have ht := table_safe
  unfold tableSafe at ht
  rw [List.all_eq_true] at ht
  have hnet := ht net hn
  simp only [hpre, Bool.and_eq_true, beq_iff_eq] at hnet
  obtain ⟨⟨⟨⟨⟨⟨hl2, hc⟩, hsafe⟩, _⟩, _⟩, _⟩, _⟩ := hnet
  have hspk : isP2sh ([0xa9, 0x14] ++ hash ++ [0x87]) = true := by
    simp only [isP2sh, p2sh_last]; simp [hh]
  have hdata : (([0xa9, 0x14] ++ hash ++ [0x87] : Bytes).drop 2).dropLast = hash := by simp
  refine ⟨encodeCheck dsha (pre ++ pub ++ hash), ?_, ?_⟩
  · simp only [addressP2sh, hspk, hpre, hdata]
    simp
  · cases hp : pre with
    | nil => rw [hp] at hc; simp at hc
    | cons c r =>
      rw [hp] at hc hsafe hl2
      simp only [bne_iff_ne, ne_eq] at hc
      obtain ⟨r1, r2, r3⟩ := route_base58_of_prefixSafe dsha hd (c :: r) (pub ++ hash) c r rfl hc 57 leadKConf
        (by simp [hh, hpl]) hsafe
      have hmem : bp2shPrefixes.contains (c :: r) = true := by
        simp only [bp2shPrefixes, List.contains_eq_mem, List.mem_filterMap, decide_eq_true_eq]
        exact ⟨net, hn, by rw [hpre, hp]⟩
      have e1 : (c :: r) ++ pub ++ hash = (c :: r) ++ (pub ++ hash) := by simp
      unfold addrDecode
      rw [e1, if_neg r1, r2, r3, decodeCheck_encodeCheck dsha hd]
      have t2 : ((c :: r) ++ (pub ++ hash)).take 2 = c :: r := List.take_left' hl2
      have d2 : ((c :: r) ++ (pub ++ hash)).drop 2 = pub ++ hash := List.drop_left' hl2
      have t33 : (pub ++ hash).take 33 = pub := List.take_left' hpl
      have d35 : ((c :: r) ++ (pub ++ hash)).drop 35 = hash := by
        rw [show 35 = 2 + 33 from rfl, ← List.drop_drop, d2, List.drop_left' hpl]
      simp only [Bool.false_eq_true, if_false, t2, hmem, if_true, d2, t33, hv, d35]

/-- unconfidential P2SH address → (script, no key), every network of the table -/
theorem addrDecode_addressP2sh_plain (validSec : Bytes → Bool) (dsha : Bytes → Bytes) (hd : ∀ b, 4 ≤ (dsha b).length)
    (net : Net) (hn : net ∈ nets) (hash : Bytes) (hh : hash.length = 20) :
    ∃ addr, addressP2sh dsha net ([0xa9, 0x14] ++ hash ++ [0x87]) none = some addr
      ∧ addrDecode validSec dsha addr = .base58 (some ([0xa9, 0x14] ++ hash ++ [0x87], none)) := by
  have ht := table_safe
  unfold tableSafe at ht
  rw [List.all_eq_true] at ht
  have hnet := ht net hn
  simp only [Bool.and_eq_true, beq_iff_eq] at hnet
  obtain ⟨⟨⟨⟨_, hl1⟩, hc⟩, hsafe⟩, hdis⟩ := hnet
  have hspk : isP2sh ([0xa9, 0x14] ++ hash ++ [0x87]) = true := by
    simp only [isP2sh, p2sh_last]; simp [hh]
  have hdata : (([0xa9, 0x14] ++ hash ++ [0x87] : Bytes).drop 2).dropLast = hash := by simp
  refine ⟨encodeCheck dsha (net.p2sh ++ hash), ?_, ?_⟩
  · simp only [addressP2sh, hspk, hdata]
    simp
  · cases hp : net.p2sh with
    | nil => rw [hp] at hc; simp at hc
    | cons c r =>
      rw [hp] at hc hsafe hl1
      simp only [bne_iff_ne, ne_eq] at hc
      obtain ⟨r1, r2, r3⟩ := route_base58_of_prefixSafe dsha hd (c :: r) hash c r rfl hc 24 (leadKPlain (c :: r))
        (by simp [hh]) hsafe
      have hmem : p2shPrefixes.contains (c :: r) = true := by
        simp only [p2shPrefixes, List.contains_eq_mem, List.mem_map, decide_eq_true_eq]
        exact ⟨net, hn, hp⟩
      -- the decoder looks at `data[:2]` first: no `bp2sh` prefix of the table starts with a `p2sh` version byte
      have hnb : bp2shPrefixes.contains (((c :: r) ++ hash).take 2) = false := by
        cases hb : bp2shPrefixes.contains (((c :: r) ++ hash).take 2) with
        | false => rfl
        | true =>
          exfalso
          have hm : ((c :: r) ++ hash).take 2 ∈ bp2shPrefixes := by simpa using hb
          rw [List.all_eq_true] at hdis
          have := hdis _ hm
          rw [hp, List.take_take] at this
          simp only [Nat.min_def] at this
          simp at this
          have hr : r = [] := by simpa using hl1
          exact this hr
      unfold addrDecode
      rw [if_neg r1, r2, r3, decodeCheck_encodeCheck dsha hd]
      have t1 : ((c :: r) ++ hash).take 1 = c :: r := List.take_left' hl1
      have d1 : ((c :: r) ++ hash).drop 1 = hash := List.drop_left' hl1
      simp only [Bool.false_eq_true, if_false, hnb, t1, hmem, if_true, d1]

/-- what the base58 branch accepts is the Base58Check text of the payload it splits (any checksum function) -/
theorem addrDecode_base58_sound (validSec : Bytes → Bool) (dsha : Bytes → Bytes) (addr : List Char) (sc : Bytes)
    (k : Option Bytes) (h : addrDecode validSec dsha addr = .base58 (some (sc, k))) :
    ∃ data, addr = encodeCheck dsha data
      ∧ ((bp2shPrefixes.contains (data.take 2) = true ∧ k = some ((data.drop 2).take 33)
            ∧ validSec ((data.drop 2).take 33) = true ∧ sc = [0xa9, 0x14] ++ data.drop 35 ++ [0x87])
         ∨ (bp2shPrefixes.contains (data.take 2) = false ∧ p2shPrefixes.contains (data.take 1) = true ∧ k = none
            ∧ sc = [0xa9, 0x14] ++ data.drop 1 ++ [0x87])) := by
  unfold addrDecode at h
  split at h
  · simp at h
  · split at h
    · simp at h
    · split at h
      · simp at h
      · split at h
        · simp at h
        · rename_i data hdc
          refine ⟨data, decodeCheck_sound dsha addr data hdc, ?_⟩
          split at h
          · rename_i hb
            simp only [] at h
            split at h
            · rename_i hv
              simp only [Route.base58.injEq, Option.some.injEq, Prod.mk.injEq] at h
              exact Or.inl ⟨hb, h.2.symm, hv, h.1.symm⟩
            · simp at h
          · rename_i hb
            split at h
            · rename_i hp
              simp only [Route.base58.injEq, Option.some.injEq, Prod.mk.injEq] at h
              exact Or.inr ⟨by simpa using hb, hp, h.2.symm, h.1.symm⟩
            · simp at h

end Embit.Model.LAddr
