import EmbitModel.Model.Der
import EmbitModel.Spec.Der
import EmbitModel.Proofs.BasicBytes
import Mathlib.Tactic.Linarith
import Mathlib.Tactic.Ring
/-
  Number / list lemmas for DER INTEGER contents: big-endian value of a cons, `bit_length`, and the fact that
  `v.to_bytes((v.bit_length()+8)//8, "big")` is THE X.690 content of `v` (existence and uniqueness).
-/
namespace Embit
open Embit.Model.Der Embit.Spec.Der

theorem ofBe_nil : ofBe [] = 0 := rfl

theorem bitLength_lt (v : Nat) : v < 2 ^ bitLength v := by
  unfold bitLength
  split
  · subst_vars; simp
  · exact Nat.lt_log2_self

theorem bitLength_le (v : Nat) (h : v ≠ 0) : 2 ^ (bitLength v - 1) ≤ v := by
  unfold bitLength
  simp only [h, if_false, Nat.add_sub_cancel]
  exact Nat.log2_self_le h

theorem bitLength_le_iff (v k : Nat) : bitLength v ≤ k ↔ v < 2 ^ k := by
  constructor
  · intro h
    exact lt_of_lt_of_le (bitLength_lt v) (Nat.pow_le_pow_right (by norm_num) h)
  · intro h
    by_contra hc
    push Not at hc
    have hv : v ≠ 0 := by
      intro h0; subst h0; simp [bitLength] at hc
    have h1 := bitLength_le v hv
    have h2 : 2 ^ k ≤ 2 ^ (bitLength v - 1) := Nat.pow_le_pow_right (by norm_num) (by omega)
    omega

theorem derInt_length (v : Nat) : (derInt v).length = (bitLength v + 8) / 8 := by simp [derInt]

theorem derInt_length_pos (v : Nat) : 1 ≤ (derInt v).length := by
  rw [derInt_length]; omega

theorem derInt_length_le_iff (v k : Nat) (hk : 1 ≤ k) : (derInt v).length ≤ k ↔ v < 2 ^ (8 * k - 1) := by
  rw [derInt_length, ← bitLength_le_iff]
  omega

theorem derInt_value (v : Nat) : ofBe (derInt v) = v := by
  unfold derInt
  apply ofBe_beN
  rw [pow256]
  exact lt_of_lt_of_le (bitLength_lt v) (Nat.pow_le_pow_right (by norm_num) (by omega))

theorem pow2_128 (k : Nat) : 128 * 256 ^ k = 2 ^ (8 * k + 7) := by
  rw [pow256, Nat.pow_add]; norm_num; ring

theorem digit_lt {a t k m : Nat} (ht : t < 256 ^ k) (ha : a < m) : a * 256 ^ k + t < m * 256 ^ k := by
  have : (a + 1) * 256 ^ k ≤ m * 256 ^ k := Nat.mul_le_mul_right _ ha
  rw [Nat.succ_mul] at this
  omega

theorem derInt_isDer (v : Nat) : IsDerInt (derInt v) v := by
  have hlen := derInt_length v
  have hval := derInt_value v
  have hpos := derInt_length_pos v
  refine ⟨hval, ?_, ?_, ?_⟩
  · intro h; rw [h] at hpos; simp at hpos
  · intro a ha
    match hx : derInt v with
    | [] => rw [hx] at hpos; simp at hpos
    | a' :: rest =>
      rw [hx] at ha hval hlen
      simp at ha; subst ha
      rw [ofBe_cons] at hval
      have hr0 := ofBe_lt rest
      simp only [List.length_cons] at hlen
      have h1 : v < 2 ^ (8 * (rest.length + 1) - 1) := by
        rw [← bitLength_le_iff]; omega
      have h2 : 2 ^ (8 * (rest.length + 1) - 1) = 128 * 256 ^ rest.length := by
        rw [pow2_128]; congr 1
      rw [h2] at h1
      by_contra hc
      push Not at hc
      have : 128 * 256 ^ rest.length ≤ a'.toNat * 256 ^ rest.length := Nat.mul_le_mul_right _ hc
      omega
  · intro a b ha hb ha0
    match hx : derInt v with
    | [] => rw [hx] at ha; simp at ha
    | [_] => rw [hx] at hb; simp at hb
    | a' :: b' :: rest =>
      rw [hx] at ha hb hval hlen
      simp at ha hb; subst ha; subst hb; subst ha0
      rw [ofBe_cons, ofBe_cons] at hval
      simp only [List.length_cons] at hlen hval
      simp at hval
      by_contra hc
      push Not at hc
      -- then v < 128 * 256^rest.length = 2^(8*rest.length + 7), so bit_length ≤ 8*rest.length+7 and the length is too big
      have hr := ofBe_lt rest
      have h1 : v < 128 * 256 ^ rest.length := hval ▸ digit_lt hr hc
      rw [pow2_128, ← bitLength_le_iff] at h1
      omega

theorem len_of_head_pos (a : UInt8) (rest : Bytes) (ha1 : 1 ≤ a.toNat) (ha : a.toNat < 128) :
    (bitLength (ofBe (a :: rest)) + 8) / 8 = rest.length + 1 := by
  rw [ofBe_cons]
  have hr := ofBe_lt rest
  generalize ofBe rest = t at *
  have lo : 2 ^ (8 * rest.length) ≤ a.toNat * 256 ^ rest.length + t := by
    rw [← pow256]
    have : 1 * 256 ^ rest.length ≤ a.toNat * 256 ^ rest.length := Nat.mul_le_mul_right _ ha1
    omega
  have hi : a.toNat * 256 ^ rest.length + t < 2 ^ (8 * rest.length + 7) := by
    rw [← pow2_128]; exact digit_lt hr ha
  have h1 := (bitLength_le_iff _ _).mpr hi
  have h2 : ¬ bitLength (a.toNat * 256 ^ rest.length + t) ≤ 8 * rest.length := by
    rw [bitLength_le_iff]; omega
  omega

theorem len_of_head_zero (b : UInt8) (rest : Bytes) (hb : 128 ≤ b.toNat) :
    (bitLength (ofBe (0 :: b :: rest)) + 8) / 8 = rest.length + 2 := by
  rw [ofBe_cons, ofBe_cons]
  have hr := ofBe_lt rest
  have hb2 := b.toNat_lt
  generalize ofBe rest = t at *
  simp only [UInt8.toNat_zero, Nat.zero_mul, Nat.zero_add]
  have lo : 2 ^ (8 * rest.length + 7) ≤ b.toNat * 256 ^ rest.length + t := by
    rw [← pow2_128]
    have : 128 * 256 ^ rest.length ≤ b.toNat * 256 ^ rest.length := Nat.mul_le_mul_right _ hb
    omega
  have hi : b.toNat * 256 ^ rest.length + t < 2 ^ (8 * (rest.length + 1)) := by
    rw [← pow256, Nat.pow_succ, Nat.mul_comm (256 ^ rest.length)]; exact digit_lt hr hb2
  have h1 := (bitLength_le_iff _ _).mpr hi
  have h2 : ¬ bitLength (b.toNat * 256 ^ rest.length + t) ≤ 8 * rest.length + 7 := by
    rw [bitLength_le_iff]; omega
  omega

theorem isDer_unique (x : Bytes) (v : Nat) (h : IsDerInt x v) : x = derInt v := by
  obtain ⟨hval, hne, hpos, hmin⟩ := h
  subst hval
  have key : (bitLength (ofBe x) + 8) / 8 = x.length := by
    cases x with
    | nil => exact absurd rfl hne
    | cons a rest =>
      have ha := hpos a (by simp)
      by_cases ha0 : a = 0
      · subst ha0
        cases rest with
        | nil => simp [ofBe, ofLe, bitLength]
        | cons b rest2 =>
          have hb := hmin 0 b (by simp) (by simp) rfl
          rw [len_of_head_zero b rest2 hb]; simp
      · have ha1 : 1 ≤ a.toNat := by
          rcases Nat.eq_zero_or_pos a.toNat with h | h
          · exfalso; apply ha0; exact UInt8.toNat_inj.mp (by simpa using h)
          · exact h
        rw [len_of_head_pos a rest ha1 ha]; simp
  unfold derInt
  rw [key, beN_ofBe]

end Embit
