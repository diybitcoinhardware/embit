import EmbitModel.Model.Bip32
/-
  A seven-element toy "curve" satisfying `EcLaws`, so that the hypotheses of the C09 / C10 theorems are visibly
  satisfiable (non-vacuity examples): the cyclic group Z/7 with generator 1; the finite points are 1..6,
  `P` and `-P = 7 - P` share the abscissa `min(P, 7-P)`, the ordinate of `P` is `P` itself (so its parity flips
  under negation, 7 being odd).
-/
namespace Embit.Keys

@[reducible] def toy : EcOps where
  Pt := Fin 7
  n := 7
  add := fun a b => a + b
  neg := fun a => -a
  mulG := fun k => Fin.ofNat 7 k
  isInf := fun a => a == 0
  x := fun a => min a.val (7 - a.val)
  y := fun a => a.val
  liftX := fun v => if v = 1 then some 6 else if v = 2 then some 2 else if v = 3 then some 4 else none
  ofXY := fun a b => if h : 1 ≤ b ∧ b ≤ 6 ∧ a = min b (7 - b) then some ⟨b, by omega⟩ else none

theorem toy_laws : EcLaws toy where
  n_pos := by decide
  n_le := by decide
  add_comm := by intro P Q; revert P Q; decide
  mulG_add := by
    intro a b
    show Fin.ofNat 7 a + Fin.ofNat 7 b = Fin.ofNat 7 (a + b)
    apply Fin.ext
    simp only [Fin.add_def, Fin.ofNat]
    omega
  mulG_mod := by
    intro a
    show Fin.ofNat 7 (a % 7) = Fin.ofNat 7 a
    apply Fin.ext
    simp only [Fin.ofNat]
    omega
  mulG_inf := by
    intro a
    show ((Fin.ofNat 7 a) == 0) = true ↔ a % 7 = 0
    simp only [beq_iff_eq, Fin.ext_iff, Fin.ofNat]
    rfl
  neg_mulG := by
    intro a ha
    show -(Fin.ofNat 7 a) = Fin.ofNat 7 (7 - a)
    apply Fin.ext
    simp only [Fin.neg_def, Fin.ofNat]
    have : a ≤ 7 := ha
    omega
  neg_neg := by intro P; revert P; decide
  neg_inf := by intro P; revert P; decide
  coord_lt := by
    intro P _
    have := P.isLt
    show min P.val (7 - P.val) < 2 ^ 256 ∧ P.val < 2 ^ 256
    have : (7:Nat) < 2 ^ 256 := by decide
    omega
  x_neg := by intro P; revert P; decide
  yOdd_neg := by intro P; revert P; decide
  liftX_of := by intro P; revert P; decide
  liftX_sound := by
    intro v P h
    simp only [toy] at h
    split at h
    · subst v; cases h; decide
    split at h
    · subst v; cases h; decide
    split at h
    · subst v; cases h; decide
    · cases h
  ofXY_of := by intro P; revert P; decide
  ofXY_sound := by
    intro a b P h
    simp only [toy] at h
    split at h
    · rename_i hc
      have := Option.some.inj h
      subst this
      obtain ⟨h1, h2, h3⟩ := hc
      refine ⟨?_, h3.symm, rfl⟩
      show ((⟨b, _⟩ : Fin 7) == 0) = false
      simp [Fin.ext_iff]; omega
    · cases h

end Embit.Keys
