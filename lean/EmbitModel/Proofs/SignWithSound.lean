import EmbitModel.Proofs.SignWithValid
import EmbitModel.Proofs.SignWithCount
/-
  Consequences of the trace discipline `PTr p p' n ws` alone — shared by the in-memory model (`signWith`) and the
  stream model (`viewSignWith`): frame, slot contents, count (Mathlib-free).
-/
namespace Embit.Model.SignWith
open Embit Embit.Model

variable {HD : Type}

theorem PTr.frame {G : List (Nat × Slot)} {p p' : Psbt} {n : Nat} {ws : List Write} (t : PTr G p p' n ws) :
    p'.version = p.version ∧ p'.txVersion = p.txVersion ∧ p'.locktime = p.locktime ∧ p'.xpubs = p.xpubs ∧
    p'.unknown = p.unknown ∧ p'.outputs = p.outputs ∧ p'.inputs.length = p.inputs.length ∧
    ∀ (i : Nat) s s', p.inputs[i]? = some s → p'.inputs[i]? = some s' → core s' = core s := by
  have hc := t.pcore
  refine ⟨show (SignWith.pcore p').version = (SignWith.pcore p).version from congrArg _ hc,
    show (SignWith.pcore p').txVersion = (SignWith.pcore p).txVersion from congrArg _ hc,
    show (SignWith.pcore p').locktime = (SignWith.pcore p).locktime from congrArg _ hc,
    show (SignWith.pcore p').xpubs = (SignWith.pcore p).xpubs from congrArg _ hc,
    show (SignWith.pcore p').unknown = (SignWith.pcore p).unknown from congrArg _ hc,
    show (SignWith.pcore p').outputs = (SignWith.pcore p).outputs from congrArg _ hc, pcore_inputs_length hc, ?_⟩
  intro i s s' hs hs'
  obtain ⟨t', ht', hct⟩ := pcore_get hc.symm i s hs
  rw [hs'] at ht'; cases ht'
  exact hct.symm

theorem PTr.frameSigs {G : List (Nat × Slot)} {p p' : Psbt} {n : Nat} {ws : List Write} (t : PTr G p p' n ws) (i : Nat) (s s' : InScope)
    (hs : p.inputs[i]? = some s) (hs' : p'.inputs[i]? = some s') :
    (∃ extra, s'.partialSigs.map Prod.fst = s.partialSigs.map Prod.fst ++ extra) ∧
    (∃ extra, s'.tapSigs.map Prod.fst = s.tapSigs.map Prod.fst ++ extra) ∧
    (∀ sl, (∀ v, (i, sl, v) ∉ ws) → slotValue s' sl = slotValue s sl) ∧
    (∀ sl v, (i, sl, v) ∈ ws → ∃ v', (i, sl, v') ∈ ws ∧ slotValue s' sl = some v') ∧
    (s'.finalWitness = s.finalWitness ∨ ∃ v, (i, Slot.tapKeySig, v) ∈ ws ∧ s'.finalWitness = some [v]) := by
  have hget := t.scope i s s' hs hs'
  subst hget
  obtain ⟨⟨e1, h1⟩, ⟨e2, h2⟩⟩ := sigKeys_applySlots s (writesOf ws i)
  refine ⟨⟨e1, h1.symm⟩, ⟨e2, h2.symm⟩, ?_, ?_, ?_⟩
  · intro sl hno
    apply slotValue_applySlots_untouched
    intro w hw heq
    exact hno w.2 (by rw [← heq]; exact (mem_writesOf ws i w).mp hw)
  · intro sl v hm
    obtain ⟨v', h1, h2⟩ := slotValue_applySlots_written s (writesOf ws i) sl v ((mem_writesOf ws i _).mpr hm)
    exact ⟨v', (mem_writesOf ws i _).mp h1, h2⟩
  · rcases finalWitness_applySlots s (writesOf ws i) with h1 | ⟨v, hv, h1⟩
    · exact Or.inl h1
    · exact Or.inr ⟨v, (mem_writesOf ws i _).mp hv, h1⟩

theorem PTr.countAdded {p p' : Psbt} {n : Nat} {ws : List Write} (t : PTr [] p p' n ws)
    (hfresh : ∀ w ∈ ws, ∀ s, p.inputs[w.1]? = some s → slotValue s w.2.1 ≠ some w.2.2) :
    ∃ L : List (Nat × Slot), L.Nodup ∧ L.length = n ∧
      ∀ (i : Nat) s s', p.inputs[i]? = some s → p'.inputs[i]? = some s' →
        ∀ sl, (i, sl) ∈ L ↔ slotValue s' sl ≠ slotValue s sl := by
  obtain ⟨L, hnd, hlen, hmem⟩ := t.distinct
  refine ⟨L, hnd, hlen, ?_⟩
  intro i s s' hs hs' sl
  rw [hmem]
  exact changed_slots p p' n ws t hfresh i s s' hs hs' sl

end Embit.Model.SignWith
