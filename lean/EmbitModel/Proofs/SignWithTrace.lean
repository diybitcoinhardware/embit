import EmbitModel.Proofs.SignWithDefs
/-
  The trace discipline of `SignWith.signInput` and of what it calls: the scope returned is the input with the returned
  writes applied, and the counter counts every slot of the trace once, slots signed earlier in the call (`seen`)
  excluded; `PTr` says the same of a PSBT (Mathlib-free).
-/
namespace Embit.Model.SignWith
open Embit Embit.Model

variable {HD : Type}

/-- the link between a step of the model and its trace, `seen` = the slots of the scope signed before the step -/
structure Tr (seen : List Slot) (s s' : InScope) (k : Nat) (ws : List (Slot × Bytes)) : Prop where
  app : s' = applySlots s ws
  cnt : k = newCount seen (ws.map Prod.fst)

theorem Tr.refl (seen : List Slot) (s : InScope) : Tr seen s s 0 [] := ⟨rfl, rfl⟩

theorem Tr.trans {seen : List Slot} {s s1 s2 : InScope} {k1 k2 : Nat} {w1 w2 : List (Slot × Bytes)}
    (h1 : Tr seen s s1 k1 w1) (h2 : Tr (seen ++ w1.map Prod.fst) s1 s2 k2 w2) : Tr seen s s2 (k1 + k2) (w1 ++ w2) := by
  refine ⟨?_, ?_⟩
  · rw [applySlots_append, ← h1.app]; exact h2.app
  · rw [List.map_append, newCount_append, ← h1.cnt, ← h2.cnt]

theorem Tr.core {seen : List Slot} {s s' : InScope} {k : Nat} {ws : List (Slot × Bytes)} (h : Tr seen s s' k ws) :
    core s' = core s := by
  rw [h.app, core_applySlots]

theorem Tr.cons {seen : List Slot} {s s2 : InScope} {k : Nat} {ws : List (Slot × Bytes)} (w : Slot × Bytes)
    (h : Tr (seen ++ [w.1]) (applySlot s w) s2 k ws) : Tr seen s s2 (countSlot seen w.1 + k) (w :: ws) := by
  refine ⟨?_, ?_⟩
  · rw [h.app]; rfl
  · simp only [List.map_cons, newCount, ← h.cnt]

theorem Tr.single (seen : List Slot) (s : InScope) (w : Slot × Bytes) :
    Tr seen s (applySlot s w) (countSlot seen w.1) [w] := by
  have := Tr.cons (seen := seen) (s := s) w (Tr.refl _ _)
  simpa using this

section ScopeTr
variable {O : Ops HD} {dg : Digest} {sk : Bytes} {c : Bool} {f : Nat} {xo : Bytes} {seen : List Slot}
  {s s' : InScope} {k : Nat} {ws : List (Slot × Bytes)} {l : List (Bytes × Bytes)} {hh sc rootpub : Bytes}

theorem signLeaves_tr (h : signLeaves O dg sk f xo seen l s = some (s', k, ws)) : Tr seen s s' k ws := by
  induction l generalizing seen s s' k ws with
  | nil => cases h; exact Tr.refl _ _
  | cons e r ih =>
    rcases signLeaves_cons_some h with ⟨_, h⟩ | ⟨lv, hh, sig, k2, ws2, _, _, _, _, hrec, rfl, rfl⟩
    · exact ih h
    · exact Tr.cons (_, _) (ih hrec)

theorem signTapKey_tr (h : signTapKey O dg sk c f seen s = some (s', k, ws)) : Tr seen s s' k ws := by
  obtain ⟨u, _, ⟨_, rfl, rfl, rfl⟩ | ⟨tsk, _, _, ⟨_, hh, sig, _, _, rfl, rfl, rfl⟩ | ⟨_, h⟩⟩⟩ := signTapKey_some h
  · exact Tr.refl _ _
  · exact Tr.single _ _ _
  · exact signLeaves_tr h

theorem signTapDerived_tr (h : signTapDerived O dg f seen l s = some (s', k, ws)) :
    Tr seen s s' k ws := by
  induction l generalizing seen s s' k ws with
  | nil => cases h; exact Tr.refl _ _
  | cons e r ih =>
    obtain ⟨s1, k1, w1, k2, w2, h1, h2, rfl, rfl⟩ := signTapDerived_cons_some h
    exact Tr.trans (signTapKey_tr h1) (ih h2)

theorem signEcdsaRoot_tr (h : signEcdsaRoot O sk c f hh sc seen s = some (s', k, ws)) : Tr seen s s' k ws := by
  rcases signEcdsaRoot_some h with ⟨_, rfl, rfl, rfl⟩ | ⟨_, sig, _, rfl, rfl, rfl⟩
  · exact Tr.refl _ _
  · exact Tr.single _ _ _

theorem signEcdsaDerived_tr (h : signEcdsaDerived O rootpub f hh seen l s = some (s', k, ws)) : Tr seen s s' k ws := by
  induction l generalizing seen s s' k ws with
  | nil => cases h; exact Tr.refl _ _
  | cons e r ih =>
    rcases signEcdsaDerived_cons_some h with ⟨_, _, h⟩ | ⟨sig, k2, ws2, _, hrec, rfl, rfl⟩
    · exact ih h
    · exact Tr.cons (_, _) (ih hrec)

theorem signInput_tr (O : Ops HD) (sg : Single HD) (auth : Option Nat) (dg : Digest) (seen : List Slot)
    (s s' : InScope) (k : Nat) (ws : List (Slot × Bytes)) (h : signInput O sg auth dg seen s = some (s', k, ws)) :
    Tr seen s s' k ws := by
  obtain ⟨u, _, ⟨_, rfl, rfl, rfl⟩ | ⟨f, kps0, s1, k1, w1, k2, w2, _, _, rfl, rfl, hrun⟩⟩ := signInput_some h
  · exact Tr.refl _ _
  · rcases hrun with ⟨_, h1, h2⟩ | ⟨_, hh, _, h1, h2⟩
    · exact Tr.trans (signTapKey_tr h1) (signTapDerived_tr h2)
    · exact Tr.trans (signEcdsaRoot_tr h1) (signEcdsaDerived_tr h2)

end ScopeTr

theorem slotsOf_append_same (G : List (Nat × Slot)) (i : Nat) (l : List Slot) :
    slotsOf (G ++ l.map (fun sl => (i, sl))) i = slotsOf G i ++ l := by
  induction l generalizing G with
  | nil => simp [slotsOf]
  | cons x r ih =>
    have : G ++ List.map (fun sl => (i, sl)) (x :: r) = (G ++ [(i, x)]) ++ r.map (fun sl => (i, sl)) := by simp
    rw [this, ih]
    simp [slotsOf, List.filterMap_append]

theorem slotsOf_append (G H : List (Nat × Slot)) (i : Nat) : slotsOf (G ++ H) i = slotsOf G i ++ slotsOf H i := by
  simp [slotsOf, List.filterMap_append]

theorem slotsOf_input_same (i : Nat) (ws : List (Slot × Bytes)) :
    slotsOf (ws.map (fun w => (i, w.1))) i = ws.map Prod.fst := by
  induction ws with
  | nil => rfl
  | cons w r ih => simp only [slotsOf, List.map_cons, List.filterMap_cons, if_true] at ih ⊢; rw [ih]

theorem mem_slotsOf (G : List (Nat × Slot)) (i : Nat) (sl : Slot) : sl ∈ slotsOf G i ↔ (i, sl) ∈ G :=
  mem_filterMap_index G i sl

theorem newCount_input (G : List (Nat × Slot)) (i : Nat) (l : List Slot) :
    newCount G (l.map (fun sl => (i, sl))) = newCount (slotsOf G i) l := by
  induction l generalizing G with
  | nil => rfl
  | cons x r ih =>
    simp only [List.map_cons, newCount, ih]
    have h1 : slotsOf (G ++ [(i, x)]) i = slotsOf G i ++ [x] := by
      have := slotsOf_append_same G i [x]
      simpa using this
    rw [h1]
    congr 1
    by_cases hm : (i, x) ∈ G
    · have : x ∈ slotsOf G i := (mem_slotsOf G i x).mpr hm
      simp [countSlot, hm, this]
    · have : x ∉ slotsOf G i := fun h => hm ((mem_slotsOf G i x).mp h)
      simp [countSlot, hm, this]

/-- PSBT-level link; `G` = the slots signed earlier in the call -/
structure PTr (G : List (Nat × Slot)) (p p' : Psbt) (n : Nat) (ws : List Write) : Prop where
  app : p' = applyWrites p ws
  cnt : n = newCount G (ws.map Write.slot)

theorem PTr.refl (G : List (Nat × Slot)) (p : Psbt) : PTr G p p 0 [] := ⟨rfl, rfl⟩

theorem PTr.trans {G : List (Nat × Slot)} {p p1 p2 : Psbt} {k1 k2 : Nat} {w1 w2 : List Write}
    (h1 : PTr G p p1 k1 w1) (h2 : PTr (G ++ w1.map Write.slot) p1 p2 k2 w2) : PTr G p p2 (k1 + k2) (w1 ++ w2) := by
  refine ⟨?_, ?_⟩
  · rw [applyWrites_append, ← h1.app]; exact h2.app
  · rw [List.map_append, newCount_append, ← h1.cnt, ← h2.cnt]

theorem PTr.pcore {G : List (Nat × Slot)} {p p' : Psbt} {n : Nat} {ws : List Write} (t : PTr G p p' n ws) : pcore p' = pcore p := by
  rw [t.app, pcore_applyWrites]

theorem PTr.ofInput {G : List (Nat × Slot)} {p : Psbt} {i : Nat} {s s' : InScope} {k : Nat}
    {ws : List (Slot × Bytes)} (h : p.inputs[i]? = some s) (t : Tr (slotsOf G i) s s' k ws) :
    PTr G p (Psbt.setInput p i s') k (ws.map (fun w => (i, w))) := by
  refine ⟨?_, ?_⟩
  · rw [applyWrites_input p i s ws h, t.app]
  · rw [t.cnt, ← newCount_input]
    simp [List.map_map, Write.slot, Function.comp_def]

theorem slots_of_input (i : Nat) (ws : List (Slot × Bytes)) :
    (ws.map (fun w => ((i, w) : Write))).map Write.slot = ws.map (fun w => (i, w.1)) := by
  simp [List.map_map, Write.slot, Function.comp_def]

end Embit.Model.SignWith
