import EmbitModel.Proofs.ContractCurve
/-
  Public-key recovery: `py_secp256k1.ecdsa_recover` (u1·R − u2·G with u1 = s/r, u2 = z/r, followed by a
  re-verification of the signature under the recovered key) against the contract of
  `secp256k1_ecdsa_recover` (SEC 1 §4.1.6: Q = r⁻¹(sR − zG)), relative to `EcLaws`.
-/
namespace Embit
open Embit.Model Embit.Model.Der Embit.Model.PySecp

variable {E : EcOps}

theorem comb_neg (L : EcLaws E) (u c v : Nat) (hv : v ≤ E.n) :
    E.add (E.mul u (E.mul c E.g)) (E.neg (E.mul v E.g)) = E.mul (u * c + (E.n - v)) E.g := by
  rw [L.mul_mul, L.neg_mul v hv, L.mul_add]

/-- the recovered point, both formulations: for `R = cG` they are `(r⁻¹(s c − z)) G` -/
theorem recover_point_eq (L : EcLaws E) (r s z c : Nat) :
    E.add (E.mul (s * E.invN r % E.n) (E.mul c E.g)) (E.neg (E.mul (z * E.invN r % E.n) E.g))
      = E.mul (E.invN r) (E.add (E.mul s (E.mul c E.g)) (E.neg (E.mul (z % E.n) E.g))) := by
  have hn := L.n_pos
  rw [comb_neg L _ _ _ (Nat.le_of_lt (Nat.mod_lt _ hn)), comb_neg L _ _ _ (Nat.le_of_lt (Nat.mod_lt _ hn)),
    L.mul_mul]
  apply mul_congr L
  push_cast
  rw [cast_sub_self _ (Nat.le_of_lt (Nat.mod_lt _ hn)), cast_sub_self _ (Nat.le_of_lt (Nat.mod_lt _ hn))]
  simp only [ZMod.natCast_mod]
  push_cast
  ring

theorem recover_scalar (L : EcLaws E) (r s z c : Nat) :
    ∃ e, e < E.n ∧
      E.mul (E.invN r) (E.add (E.mul s (E.mul c E.g)) (E.neg (E.mul (z % E.n) E.g))) = E.mul e E.g ∧
      (e : ZMod E.n) = (E.invN r : ZMod E.n) * ((s : ZMod E.n) * c - z) := by
  have hn := L.n_pos
  refine ⟨(E.invN r * (s * c + (E.n - z % E.n))) % E.n, Nat.mod_lt _ hn, ?_, ?_⟩
  · rw [comb_neg L _ _ _ (Nat.le_of_lt (Nat.mod_lt _ hn)), L.mul_mul, L.mul_mod]
  · simp only [ZMod.natCast_mod]
    push_cast
    rw [cast_sub_self _ (Nat.le_of_lt (Nat.mod_lt _ hn))]
    simp only [ZMod.natCast_mod]
    ring

/-- the re-verification at the end of py's `ecdsa_recover` always succeeds: `z/s·G + r/s·Q = R` for the recovered `Q` -/
theorem reverify_point (L : EcLaws E) (r s z c e : Nat) (hr : 0 < r ∧ r < E.n) (hs : 0 < s ∧ s < E.n)
    (he : (e : ZMod E.n) = (E.invN r : ZMod E.n) * ((s : ZMod E.n) * c - z)) :
    E.add (E.mul (z * E.invN s % E.n) E.g) (E.mul (r * E.invN s % E.n) (E.mul e E.g)) = E.mul c E.g := by
  rw [L.lin_comb, L.mul_mod]
  apply mul_congr L
  have h1 := inv_cast L r hr.1 hr.2
  have h2 := inv_cast L s hs.1 hs.2
  push_cast
  simp only [ZMod.natCast_mod]
  push_cast
  rw [he]
  linear_combination ((c : ZMod E.n) * s * E.invN s - (z : ZMod E.n) * E.invN s) * h1 + (c : ZMod E.n) * h2

theorem recover_tail (L : EcLaws E) (hp : E.p ≤ 2 ^ 256) (r s : Nat) (msg : Bytes) (hr : 0 < r ∧ r < E.n)
    (hs : s < E.n) (hr256 : r < 2 ^ 256) (hs256 : s < 2 ^ 256) (R : E.Pt) (x yR : Nat)
    (hR : E.xy R = some (x, yR)) (hx : x % E.n = r) :
    (match pubStore E (E.add (E.mul (s * E.invN r % E.n) R) (E.neg (E.mul (ofBe msg * E.invN r % E.n) E.g))) with
      | none => none
      | some result =>
        match pubLoad E result with
        | none => none
        | some Q => if verifyEcdsaKey E Q (serRS r s) msg false = true then some result else none)
    = (if s = 0 then none else
        (match E.xy (E.mul (E.invN r) (E.add (E.mul s R) (E.neg (E.mul (ofBe msg % E.n) E.g)))) with
          | none => none
          | some _ => some (E.mul (E.invN r) (E.add (E.mul s R) (E.neg (E.mul (ofBe msg % E.n) E.g)))))).bind
          (Spec.Libsecp.pubkeyStruct E) := by
  obtain ⟨c, _, rfl⟩ := L.generated R
  rw [recover_point_eq L r s (ofBe msg) c]
  obtain ⟨e, _, hQ, he⟩ := recover_scalar L r s (ofBe msg) c
  rw [hQ]
  cases hxy : E.xy (E.mul e E.g) with
  | none =>
    have : pubStore E (E.mul e E.g) = none := by simp [pubStore, hxy]
    rw [this]
    simp only []
    split <;> rfl
  | some q =>
    obtain ⟨qx, qy⟩ := q
    obtain ⟨_, hqx, _, hqy⟩ := L.xy_range _ _ _ hxy
    have hst : pubStore E (E.mul e E.g) = some (leN 32 qx ++ leN 32 qy) := by simp [pubStore, hxy]
    have hld : pubLoad E (leN 32 qx ++ leN 32 qy) = some (E.mul e E.g) := by
      rw [pubLoad_store E qx qy hqx hqy hp]; exact L.ofXY_xy _ _ _ hxy
    simp only [hst, hld]
    have hps : Spec.Libsecp.pubkeyStruct E (E.mul e E.g) = some (leN 32 qx ++ leN 32 qy) := by
      rw [← pubStore_eq, hst]
    unfold verifyEcdsaKey
    rw [parse_of_ser E.n false r s hr256 hs256]
    by_cases hs0 : s = 0
    · have : rangeOk E.n false r s = false := by
        cases hb : rangeOk E.n false r s
        · rfl
        · have := (rangeOk_iff E.n false r s).mp hb; omega
      subst hs0
      simp [this]
    · have hok : rangeOk E.n false r s = true :=
        (rangeOk_iff E.n false r s).mpr ⟨hr.1, hr.2, by omega, hs, fun h => by cases h⟩
      simp only [hok, if_true, hs0, if_false, Option.bind_some, hps]
      rw [reverify_point L r s (ofBe msg) c e hr ⟨by omega, hs⟩ he, hR]
      simp [hx]

/-- py's candidate list (`02‖r, 03‖r` and, when `r + n < p`, `02‖(r+n), 03‖(r+n)`, indexed by the recovery id
    and parsed by `ECPubKey.set`) against SEC 1's "x = r + jn, reject when x ≥ p; lift; negate by the parity bit" -/
theorem candidate_eq (hn : E.n ≤ 2 ^ 256) (hp : E.p ≤ 2 ^ 256) (r idx : Nat) (hr : r < E.n) (hidx : idx ≤ 3) :
    (if idx ≥ (if r + E.n < E.p then 4 else 2) then none
      else setCompressed E (if idx % 2 = 0 then 0x02 else 0x03) (beN 32 (if idx < 2 then r else r + E.n)))
    = (if (if idx / 2 = 1 then r + E.n else r) ≥ E.p then none
        else (E.liftX (if idx / 2 = 1 then r + E.n else r)).bind fun R0 =>
          some (if idx % 2 = 1 then E.neg R0 else R0)) := by
  have hpre : ((if idx % 2 = 0 then (0x02 : UInt8) else 0x03).toNat % 2 = 1) = (idx % 2 = 1) := by
    split
    · exact propext ⟨fun h => absurd h (by decide), fun h => by omega⟩
    · exact propext ⟨fun _ => by omega, fun _ => by decide⟩
  by_cases h2 : idx < 2
  · -- ids 0, 1: the abscissa is `r`
    rw [if_neg (by split <;> omega), if_pos h2, if_neg (by omega : ¬ idx / 2 = 1),
      setCompressed_beN E r (by omega)]
    simp only [hpre]
  · -- ids 2, 3: the abscissa is `r + n`, tried only when it is below `p`
    rw [if_pos (by omega : idx / 2 = 1), if_neg h2]
    by_cases hc : r + E.n < E.p
    · rw [if_pos hc, if_neg (by omega), setCompressed_beN E (r + E.n) (by omega)]
      simp only [hpre]
    · rw [if_neg hc, if_pos (by omega), if_pos (by omega)]

theorem take64_take32 (sig : Bytes) : (sig.take 64).take 32 = sig.take 32 := by
  rw [List.take_take]; rfl

theorem take64_drop32 (sig : Bytes) : (sig.take 64).drop 32 = (sig.drop 32).take 32 := by
  rw [List.drop_take]

variable (E)

theorem eq_ecdsa_recover (L : EcLaws E) (hn : E.n ≤ 2 ^ 256) (hp : E.p ≤ 2 ^ 256) (sig msg : Bytes) :
    ecdsaRecover E sig msg = Spec.Libsecp.ecdsa_recover E sig msg := by
  unfold ecdsaRecover Spec.Libsecp.ecdsa_recover
  by_cases hl : sig.length = 65
  swap
  · simp [hl]
  by_cases hm : msg.length = 32
  swap
  · simp [hl, hm]
  have hlt : 64 < sig.length := by omega
  have hib : sig[64]? = some sig[64] := List.getElem?_eq_getElem hlt
  have hgd : sig.getD 64 0 = sig[64] := by simp [List.getD, hib]
  have hder : ecdsaSignatureSerializeDer (sig.take 64)
      = some (serRS (ofLe (sig.take 32)) (ofLe ((sig.drop 32).take 32))) := by
    unfold ecdsaSignatureSerializeDer
    rw [if_neg (by simp [hl]), take64_take32, take64_drop32]
  simp only [hl, hm, ne_eq, not_true_eq_false, if_false, or_self, hib, hgd, hder]
  generalize sig[64].toNat = idx
  have hr256 : ofLe (sig.take 32) < 2 ^ 256 := ofLe_lt_256 _ (by simp [hl])
  have hs256 : ofLe ((sig.drop 32).take 32) < 2 ^ 256 := ofLe_lt_256 _ (by simp [hl])
  generalize ofLe (sig.take 32) = r at hr256 ⊢
  generalize ofLe ((sig.drop 32).take 32) = s at hs256 ⊢
  by_cases hrange : r ≥ E.n ∨ s ≥ E.n
  · rw [if_pos hrange, if_pos (Or.inr hrange)]
  rw [if_neg hrange]
  have hrn : r < E.n := by omega
  have hsn : s < E.n := by omega
  by_cases hidx : idx > 3
  · have h1 : idx > 3 ∨ r ≥ E.n ∨ s ≥ E.n := Or.inl hidx
    have h2 : idx ≥ (if r + E.n < E.p then 4 else 2) := by split <;> omega
    rw [if_pos h1, if_pos h2]
  have h3 : ¬ (idx > 3 ∨ r ≥ E.n ∨ s ≥ E.n) := by omega
  rw [if_neg h3]
  have hcand := candidate_eq (E := E) hn hp r idx hrn (by omega)
  unfold Spec.Libsecp.recoverPoint
  by_cases hr0 : r = 0
  · -- r = 0: py computes modinv(0, n) = None and raises; SEC 1 refuses
    have h4 : r = 0 ∨ s = 0 := Or.inl hr0
    rw [if_pos h4]
    simp only [Option.bind_none]
    by_cases hge : idx ≥ (if r + E.n < E.p then 4 else 2)
    · rw [if_pos hge]
    · rw [if_neg hge]
      cases setCompressed E (if idx % 2 = 0 then 0x02 else 0x03) (beN 32 (if idx < 2 then r else r + E.n)) with
      | none => rfl
      | some R => simp only [hr0, if_true]
  by_cases hge : idx ≥ (if r + E.n < E.p then 4 else 2)
  · rw [if_pos hge] at hcand ⊢
    by_cases hs0 : s = 0
    · rw [if_pos (Or.inr hs0)]; rfl
    · rw [if_neg (by omega)]
      by_cases hx : (if idx / 2 = 1 then r + E.n else r) ≥ E.p
      · rw [if_pos hx]; rfl
      · rw [if_neg hx] at hcand ⊢
        cases hlx : E.liftX (if idx / 2 = 1 then r + E.n else r) with
        | none => rfl
        | some R0 => rw [hlx] at hcand; cases hcand
  rw [if_neg hge] at hcand ⊢
  rw [hcand]
  by_cases hx : (if idx / 2 = 1 then r + E.n else r) ≥ E.p
  · rw [if_pos hx]
    simp only []
    rw [if_pos hx]
    split <;> rfl
  rw [if_neg hx]
  rw [if_neg hx]
  cases hlx : E.liftX (if idx / 2 = 1 then r + E.n else r) with
  | none =>
    simp only [Option.bind_none]
    split <;> rfl
  | some R0 =>
    simp only [Option.bind_some, hr0, if_false, false_or]
    obtain ⟨y0, hxy0, _⟩ := L.liftX_sound _ _ hlx
    have hxmod : (if idx / 2 = 1 then r + E.n else r) % E.n = r := by
      split
      · rw [Nat.add_mod_right, Nat.mod_eq_of_lt hrn]
      · exact Nat.mod_eq_of_lt hrn
    have hR : ∃ yR, E.xy (if idx % 2 = 1 then E.neg R0 else R0) = some ((if idx / 2 = 1 then r + E.n else r), yR) := by
      split
      · exact ⟨_, L.xy_neg _ _ _ hxy0⟩
      · exact ⟨_, hxy0⟩
    obtain ⟨yR, hR⟩ := hR
    exact recover_tail L hp r s msg ⟨by omega, hrn⟩ hsn hr256 hs256 _ _ yR hR hxmod

end Embit
