import EmbitModel.Proofs.SighashLink
import EmbitModel.Proofs.ViewFrame
/-
  B-1 of audit2: the byte-level model of `PSBTView.sign_with` (`View.signWith`, Model/ViewSignBytes.lean) refines the
  model over the parsed PSBT (`viewSignWith`, Model/SignWithView.lean) whenever the view presents the PSBT
  (scope objects, number of inputs) and its accessors describe the PSBT's transaction.
-/
set_option linter.unusedSimpArgs false
set_option linter.unusedVariables false
namespace Embit.Model.SignWith
open Embit Embit.Model

variable {HD : Type}

theorem signInput_nontap_leafless (O : Ops HD) (sg : Single HD) (auth : Option Nat) (dg : Digest) (seen : List Slot)
    (s : InScope) (u : TxOut) (hu : s.utxo = some u) (htap : isTaprootSpk u.spk = false) :
    signInput O sg auth dg seen s = signInput O sg auth (fun t f _ => dg t f none) seen s := by
  unfold signInput
  simp only [hu, htap, Bool.false_eq_true, if_false]

/-- two digest functions that agree on every argument combination the loop body can pass (any flag; a leaf only when the
    scope is taproot), on every scope with the frame of `s`, give the same run -/
theorem signInput_congr_args (O : Ops HD) (sg : Single HD) (auth : Option Nat) (dg dg' : Digest) (seen : List Slot)
    (s : InScope)
    (hd : ∀ t, core t = core s → ∀ f leaf,
      (leaf.isSome = true → ∃ u, s.utxo = some u ∧ isTaprootSpk u.spk = true) → dg t f leaf = dg' t f leaf) :
    signInput O sg auth dg seen s = signInput O sg auth dg' seen s := by
  cases hu : s.utxo with
  | none => unfold signInput; simp only [hu]
  | some u =>
    cases htap : isTaprootSpk u.spk with
    | true =>
      apply signInput_congr
      intro t ht
      funext f leaf
      exact hd t ht f leaf (fun _ => ⟨u, hu, htap⟩)
    | false =>
      rw [signInput_nontap_leafless O sg auth dg seen s u hu htap,
        signInput_nontap_leafless O sg auth dg' seen s u hu htap]
      apply signInput_congr
      intro t ht
      funext f leaf
      exact hd t ht f none (by simp)

theorem signInputKeys_congr_args (O : Ops HD) (auth : Option Nat) (dg dg' : Digest) (s0 : InScope)
    (hd : ∀ t, core t = core s0 → ∀ f leaf,
      (leaf.isSome = true → ∃ u, s0.utxo = some u ∧ isTaprootSpk u.spk = true) → dg t f leaf = dg' t f leaf)
    (keys : List (Single HD)) (seen : List Slot) (s : InScope) (hc : core s = core s0) :
    signInputKeys O auth dg seen keys s = signInputKeys O auth dg' seen keys s := by
  induction keys generalizing seen s with
  | nil => rfl
  | cons k ks ih =>
    unfold signInputKeys
    have hu : s.utxo = s0.utxo := (core_fields hc).1
    rw [signInput_congr_args O k auth dg dg' seen s (fun t ht f leaf hl =>
      hd t (ht.trans hc) f leaf (fun h => by rw [← hu]; exact hl h))]
    cases h1 : signInput O k auth dg' seen s with
    | none => rfl
    | some r1 =>
      obtain ⟨s1, n1, w1⟩ := r1
      have hc1 : core s1 = core s0 := by rw [(signInput_tr _ _ _ _ _ _ _ _ _ h1).core, hc]
      dsimp only
      rw [ih _ s1 hc1]

theorem viewSignInput_congr_args (O : Ops HD) (keys : List (Single HD)) (auth : Option Nat) (dg dg' : Digest)
    (s : InScope)
    (hd : ∀ t, core t = core s → ∀ f leaf,
      (leaf.isSome = true → ∃ u, s.utxo = some u ∧ isTaprootSpk u.spk = true) → dg t f leaf = dg' t f leaf) :
    viewSignInput O keys auth dg s = viewSignInput O keys auth dg' s := by
  unfold viewSignInput
  dsimp only
  rw [signInputKeys_congr_args O auth dg dg' s hd _ [] s rfl]

/-- the digest function of input `i` over PSBT `q`, written with the C01X model `Psbt.sighash` -/
def dgModel (O : Ops HD) (q : Psbt) (i : Nat) : Digest :=
  fun s f leaf => Psbt.sighash O.sha (Psbt.setInput q i s) i f (extraOf leaf)

theorem dgOf_eq_dgModel_args (O : Ops HD) (p : Psbt) (i : Nat) (s : InScope) (hs : p.inputs[i]? = some s)
    (t : InScope) (ht : core t = core s) (f : Nat) (leaf : Option (Bytes × Nat))
    (hl : leaf.isSome = true → ∃ u, s.utxo = some u ∧ isTaprootSpk u.spk = true) :
    dgOf O p i t f leaf = dgModel O p i t f leaf := by
  show psbtSighash O.sha (Psbt.setInput p i t) i f leaf = Psbt.sighash O.sha (Psbt.setInput p i t) i f (extraOf leaf)
  apply psbtSighash_eq_model
  unfold leafOnNonTaproot
  rw [setInput_get p i s t hs]
  have hut : t.utxo = s.utxo := (core_fields ht).1
  cases leaf with
  | none => rfl
  | some l =>
    obtain ⟨u, hu, htap⟩ := hl rfl
    simp [hut, hu, htap]

theorem signInput_dgModel (O : Ops HD) (sg : Single HD) (auth : Option Nat) (p : Psbt) (i : Nat) (seen : List Slot)
    (s : InScope) (hs : p.inputs[i]? = some s) :
    signInput O sg auth (dgOf O p i) seen s = signInput O sg auth (dgModel O p i) seen s :=
  signInput_congr_args O sg auth _ _ seen s (fun t ht f leaf hl => dgOf_eq_dgModel_args O p i s hs t ht f leaf hl)

/-- `PSBTView.sighash(i, …, input_scope=inp)` on a scope object with the frame of the PSBT's input `i` is
    `PSBT.sighash` of the PSBT holding that object -/
theorem sighashWith_eq_setInput (ko : KeyOps) (sha : Bytes → Bytes) (buf : Bytes) (v : View) (vc : Nat) (p : Psbt)
    (tx : Tx) (o : ViewObs buf v tx) (htx : p.tx = some tx) (hn : v.numIn = p.inputs.length)
    (hin : ∀ i, View.input ko sha buf v i vc = p.inputs[i]?) (i f : Nat) (x : TapExtra) (s t : InScope)
    (hs : p.inputs[i]? = some s) (hc : core t = core s) :
    View.sighashWith ko sha buf v vc i f x t = Psbt.sighash sha (Psbt.setInput p i t) i f x := by
  have hpc : pcore (Psbt.setInput p i t) = pcore p := pcore_setInput p i s t hs hc
  have htx' : (Psbt.setInput p i t).tx = some tx := by rw [← pcore_tx, hpc, pcore_tx, htx]
  have hut : (Psbt.setInput p i t).inputs.map InScope.utxo = p.inputs.map InScope.utxo := by
    rw [← pcore_utxos, hpc, pcore_utxos]
  exact View.sighashWith_eq_psbt ko sha buf v vc _ tx o htx'
    ((View.inputs_utxo ko sha buf v vc p hn hin).trans hut.symm) i f x t (setInput_get p i s t hs)

theorem viewDigest_eq_dgOf_args (ko : KeyOps) (O : Ops HD) (buf : Bytes) (v : View) (vc : Nat) (p : Psbt)
    (tx : Tx) (o : ViewObs buf v tx) (htx : p.tx = some tx) (hn : v.numIn = p.inputs.length)
    (hin : ∀ i, View.input ko O.sha buf v i vc = p.inputs[i]?) (i : Nat) (s : InScope)
    (hs : p.inputs[i]? = some s) (t : InScope) (ht : core t = core s) (f : Nat) (leaf : Option (Bytes × Nat))
    (hl : leaf.isSome = true → ∃ u, s.utxo = some u ∧ isTaprootSpk u.spk = true) :
    viewDigest ko O buf v vc i s t f leaf = dgOf O p i t f leaf := by
  rw [dgOf_eq_dgModel_args O p i s hs t ht f leaf hl]
  unfold viewDigest dgModel
  cases hu : s.utxo with
  | none =>
    -- no digest exists on either side: `PSBT.sighash` needs the utxo
    simp only []
    unfold Psbt.sighash
    rw [setInput_get p i s t hs]
    have : t.utxo = none := by rw [(core_fields ht).1, hu]
    simp only [this]
  | some u =>
    simp only []
    cases htap : isTaprootSpk u.spk with
    | true =>
      simp only [if_true]
      rw [View.sighash_eq_psbt ko O.sha buf v vc p tx o htx hn hin i f (extraOf leaf)]
      -- the digest of a taproot input does not read the signature fields
      have h1 : leafOnNonTaproot p i leaf = false := by
        unfold leafOnNonTaproot; rw [hs]; simp [hu, htap]
      have h2 : leafOnNonTaproot (Psbt.setInput p i t) i leaf = false := by
        unfold leafOnNonTaproot; rw [setInput_get p i s t hs]; simp [(core_fields ht).1, hu, htap]
      rw [← psbtSighash_eq_model O.sha p i f leaf h1, ← psbtSighash_eq_model O.sha _ i f leaf h2,
        digest_setInput O.sha p i s t hs ht]
    | false =>
      simp only [Bool.false_eq_true, if_false]
      have hln : leaf = none := by
        cases leaf with
        | none => rfl
        | some l =>
          obtain ⟨u', hu', htap'⟩ := hl rfl
          rw [hu] at hu'; cases hu'; rw [htap] at htap'; cases htap'
      subst hln
      exact sighashWith_eq_setInput ko O.sha buf v vc p tx o htx hn hin i f {} s t hs ht

theorem viewSignInput_bytes_eq (ko : KeyOps) (O : Ops HD) (keys : List (Single HD)) (auth : Option Nat) (buf : Bytes)
    (v : View) (vc : Nat) (p : Psbt) (tx : Tx) (o : ViewObs buf v tx) (htx : p.tx = some tx)
    (hn : v.numIn = p.inputs.length) (hin : ∀ i, View.input ko O.sha buf v i vc = p.inputs[i]?)
    (i : Nat) (s : InScope) (hs : p.inputs[i]? = some s) :
    View.signInput ko O keys auth buf v vc i
      = (viewSignInput O keys auth (fun s' f leaf => psbtSighash O.sha (Psbt.setInput p i s') i f leaf) s).map
          (fun r => (r.1, r.2.2.1)) := by
  have hi : i < p.inputs.length := (List.getElem?_eq_some_iff.mp hs).1
  unfold View.signInput
  rw [if_neg (by omega), hin i, hs]
  simp only []
  rw [viewSignInput_congr_args O keys auth (viewDigest ko O buf v vc i s) (dgOf O p i) s
    (fun t ht f leaf hl => viewDigest_eq_dgOf_args ko O buf v vc p tx o htx hn hin i s hs t ht f leaf hl)]
  change _ = (viewSignInput O keys auth (dgOf O p i) s).map (fun r => (r.1, r.2.2.1))
  cases h : viewSignInput O keys auth (dgOf O p i) s with
  | none => rfl
  | some r => obtain ⟨b, s', n, ws⟩ := r; rfl

theorem viewSignFrom_bytes_eq (ko : KeyOps) (O : Ops HD) (keys : List (Single HD)) (auth : Option Nat) (buf : Bytes)
    (v : View) (vc : Nat) (p : Psbt) (tx : Tx) (o : ViewObs buf v tx) (htx : p.tx = some tx)
    (hn : v.numIn = p.inputs.length) (hin : ∀ i, View.input ko O.sha buf v i vc = p.inputs[i]?)
    (l : List InScope) (i : Nat) (hl : ∀ j, l[j]? = p.inputs[i + j]?) (hlen : i + l.length = p.inputs.length) :
    View.signFrom ko O keys auth buf v vc i l.length
      = (viewSignFrom O keys auth p i l).map (fun r => (r.1, r.2.2.1)) := by
  induction l generalizing i with
  | nil => rfl
  | cons s r ih =>
    have hs : p.inputs[i]? = some s := by have := hl 0; simpa using this.symm
    simp only [List.length_cons]
    unfold View.signFrom viewSignFrom
    rw [viewSignInput_bytes_eq ko O keys auth buf v vc p tx o htx hn hin i s hs]
    cases h1 : viewSignInput O keys auth (fun s' f leaf => psbtSighash O.sha (Psbt.setInput p i s') i f leaf) s with
    | none => rfl
    | some r1 =>
      obtain ⟨b, s', n, ws⟩ := r1
      simp only [Option.map_some]
      rw [ih (i + 1) (fun j => by have := hl (j + 1); simpa [Nat.add_assoc, Nat.add_comm 1 j] using this)
        (by simp only [List.length_cons] at hlen; omega)]
      cases h2 : viewSignFrom O keys auth p (i + 1) r with
      | none => rfl
      | some r2 => obtain ⟨b', ss, n', ws'⟩ := r2; rfl

/-- `PSBTView.sign_with` over the bytes = `PSBTView.sign_with` over the parsed PSBT: same signature stream, same counter,
    one raises iff the other does -/
theorem viewSignWith_bytes_eq (ko : KeyOps) (O : Ops HD) (signer : Signer HD) (auth : Option Nat) (buf : Bytes)
    (v : View) (vc : Nat) (p : Psbt) (tx : Tx) (o : ViewObs buf v tx) (htx : p.tx = some tx)
    (hn : v.numIn = p.inputs.length) (hin : ∀ i, View.input ko O.sha buf v i vc = p.inputs[i]?) :
    View.signWith ko O signer auth buf v vc = (viewSignWith O signer auth p).map (fun r => (r.1, r.2.1)) := by
  unfold View.signWith viewSignWith
  rw [hn, viewSignFrom_bytes_eq ko O signer.keys auth buf v vc p tx o htx hn hin p.inputs 0
    (fun j => by simp) (by simp)]
  cases viewSignFrom O signer.keys auth p 0 p.inputs with
  | none => rfl
  | some r => obtain ⟨b, ss, n, ws⟩ := r; rfl

end Embit.Model.SignWith
