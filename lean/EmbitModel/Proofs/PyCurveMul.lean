import EmbitModel.Proofs.PyCurveGroup
/-
  `mul` (the 256-step double-and-add loop, multi-scalar), `affine`, `on_curve`, `lift_x` of key.py against
  Mathlib's group `(W C).toAffine.Point`.
-/
namespace Embit.Model.PyCurve
open WeierstrassCurve WeierstrassCurve.Jacobian

variable (C : Curve) [Fact C.p.Prime]

/-- `Σ f(nᵢ) • Pᵢ` -/
noncomputable def scalSum (f : ℕ → ℕ) (ps : List (JPt × ℕ)) : (W C).toAffine.Point :=
  (ps.map fun pn => f pn.2 • pt C pn.1).sum

theorem scalSum_nil (f : ℕ → ℕ) : scalSum C f [] = 0 := rfl

theorem scalSum_cons (f : ℕ → ℕ) (pn : JPt × ℕ) (ps : List (JPt × ℕ)) :
    scalSum C f (pn :: ps) = f pn.2 • pt C pn.1 + scalSum C f ps := by
  simp [scalSum]

theorem pt_mulInner (i : ℕ) : ∀ (ps : List (JPt × ℕ)) (r : JPt), (∀ pn ∈ ps, Valid C pn.1) → Valid C r →
    pt C (mulInner C i ps r) = pt C r + scalSum C (fun n => (n.testBit i).toNat) ps ∧
      Valid C (mulInner C i ps r) := by
  intro ps
  induction ps with
  | nil => intro r _ hr; simp [mulInner, scalSum_nil, hr]
  | cons pn ps ih =>
    intro r hps hr
    obtain ⟨P, n⟩ := pn
    have hP : Valid C P := hps (P, n) (by simp)
    have hps' : ∀ pn ∈ ps, Valid C pn.1 := fun pn h => hps pn (by simp [h])
    simp only [mulInner]
    rw [scalSum_cons]
    by_cases hb : n.testBit i = true
    · rw [if_pos hb]
      obtain ⟨g1, g2⟩ := pt_add C hr hP
      obtain ⟨k1, k2⟩ := ih _ hps' g2
      refine ⟨?_, k2⟩
      rw [k1, g1, hb]
      simp [add_assoc]
    · rw [if_neg hb]
      obtain ⟨k1, k2⟩ := ih _ hps' hr
      refine ⟨?_, k2⟩
      have : n.testBit i = false := by simpa using hb
      rw [k1, this]
      simp

theorem scalSum_step (k : ℕ) (ps : List (JPt × ℕ)) :
    2 ^ k • scalSum C (fun n => (n.testBit k).toNat) ps + scalSum C (fun n => n % 2 ^ k) ps =
      scalSum C (fun n => n % 2 ^ (k + 1)) ps := by
  induction ps with
  | nil => simp [scalSum_nil]
  | cons pn ps ih =>
    rw [scalSum_cons, scalSum_cons, scalSum_cons, ← ih]
    have : pn.2 % 2 ^ (k + 1) = 2 ^ k * (pn.2.testBit k).toNat + pn.2 % 2 ^ k := by
      rw [Nat.toNat_testBit, Nat.mod_pow_succ]; ring
    rw [this, add_nsmul, mul_nsmul', nsmul_add]
    abel

/-- the loop invariant: after the iterations for bits `k-1 … 0`, `r ↦ 2^k • r + Σ (nᵢ mod 2^k) • Pᵢ` -/
theorem pt_mulLoop (ps : List (JPt × ℕ)) (hps : ∀ pn ∈ ps, Valid C pn.1) : ∀ (k : ℕ) (r : JPt), Valid C r →
    pt C (mulLoop C ps k r) = 2 ^ k • pt C r + scalSum C (fun n => n % 2 ^ k) ps ∧ Valid C (mulLoop C ps k r) := by
  intro k
  induction k with
  | zero =>
    intro r hr
    refine ⟨?_, hr⟩
    have : scalSum C (fun n => n % 2 ^ 0) ps = 0 := by
      unfold scalSum
      apply List.sum_eq_zero
      intro x hx
      simp only [List.mem_map] at hx
      obtain ⟨pn, _, rfl⟩ := hx
      simp [Nat.mod_one]
    rw [this]
    simp [mulLoop]
  | succ k ih =>
    intro r hr
    simp only [mulLoop]
    obtain ⟨g1, g2⟩ := pt_mulInner C k ps (double C r) hps (valid_double C hr)
    obtain ⟨k1, k2⟩ := ih _ g2
    refine ⟨?_, k2⟩
    rw [k1, g1, pt_double C hr, ← scalSum_step C k ps, nsmul_add, pow_succ, mul_nsmul', two_nsmul]
    abel

/-- **`mul(ps)` is the multi-scalar product** `Σ (nᵢ mod 2^256) • Pᵢ` (the loop reads 256 bits), and valid -/
theorem pt_mul (ps : List (JPt × ℕ)) (hps : ∀ pn ∈ ps, Valid C pn.1) :
    pt C (mul C ps) = scalSum C (fun n => n % 2 ^ 256) ps ∧ Valid C (mul C ps) := by
  obtain ⟨g1, g2⟩ := pt_mulLoop C ps hps 256 inf (valid_inf C (p_gt_one C))
  refine ⟨?_, g2⟩
  unfold mul
  rw [g1, pt_inf, nsmul_zero, zero_add]

theorem pt_mul_single {P : JPt} (hP : Valid C P) (k : ℕ) (hk : k < 2 ^ 256) :
    pt C (mul C [(P, k)]) = k • pt C P := by
  rw [(pt_mul C [(P, k)] (by simpa using hP)).1, scalSum_cons, scalSum_nil, add_zero]
  simp only [Nat.mod_eq_of_lt hk]

theorem pt_mul_pair {P Q : JPt} (hP : Valid C P) (hQ : Valid C Q) (a b : ℕ) (ha : a < 2 ^ 256) (hb : b < 2 ^ 256) :
    pt C (mul C [(P, a), (Q, b)]) = a • pt C P + b • pt C Q := by
  rw [(pt_mul C [(P, a), (Q, b)] (by
    intro pn h
    simp only [List.mem_cons, List.not_mem_nil, or_false] at h
    rcases h with rfl | rfl
    · exact hP
    · exact hQ)).1, scalSum_cons, scalSum_cons, scalSum_nil, add_zero]
  simp only [Nat.mod_eq_of_lt ha, Nat.mod_eq_of_lt hb]

theorem valid_mul (ps : List (JPt × ℕ)) (hps : ∀ pn ∈ ps, Valid C pn.1) : Valid C (mul C ps) := (pt_mul C ps hps).2

omit [Fact C.p.Prime] in
theorem affine_inf (x y : ℤ) : affine C (x, y, 0) = some none := by simp [affine]

theorem affine_finite {x y z : ℤ} (hv : Valid C (x, y, z)) (hz : z ≠ 0) :
    ∃ x' y' : ℤ, affine C (x, y, z) = some (some (x', y', 1)) ∧ Valid C (x', y', 1) ∧
      (x' : ZMod C.p) = (x : ZMod C.p) / (z : ZMod C.p) ^ 2 ∧ (y' : ZMod C.p) = (y : ZMod C.p) / (z : ZMod C.p) ^ 3 ∧
      pt C (x', y', 1) = pt C (x, y, z) := by
  have hpp := p_pos C
  have hz' : (z : ZMod C.p) ≠ 0 := toF_z_ne C hv.red hz
  obtain ⟨t, ht, hti⟩ := modinv_inv C.p z hv.red.2.2.1 hz'
  simp only [affine, if_neg hz, ht]
  refine ⟨_, _, rfl, ?_⟩
  have cx : (((t ^ 2 % (C.p : ℤ) * x % (C.p : ℤ) : ℤ)) : ZMod C.p) = (x : ZMod C.p) / (z : ZMod C.p) ^ 2 := by
    push_cast [cast_emod, hti]; rw [inv_pow, div_eq_inv_mul]
  have cy : (((t ^ 2 % (C.p : ℤ) * t % (C.p : ℤ) * y % (C.p : ℤ) : ℤ)) : ZMod C.p) = (y : ZMod C.p) / (z : ZMod C.p) ^ 3 := by
    push_cast [cast_emod, hti]; rw [← pow_succ, inv_pow, div_eq_inv_mul]
  have hone : (0 : ℤ) ≤ 1 ∧ (1 : ℤ) < C.p := ⟨by norm_num, by exact_mod_cast p_gt_one C⟩
  have heq : toF C (x, y, z) ≈ toF C (t ^ 2 % (C.p : ℤ) * x % (C.p : ℤ), t ^ 2 % (C.p : ℤ) * t % (C.p : ℤ) * y % (C.p : ℤ), 1) := by
    have := equiv_some_of_Z_ne_zero (P := toF C (x, y, z)) hz'
    convert this using 1
    simp only [toF]
    rw [cx, cy]
    simp [fin3_def_ext]
  have hns := (nonsingular_of_equiv heq).mp (hv.nonsingular C hz)
  refine ⟨⟨⟨emod_range hpp _, emod_range hpp _, hone⟩, Or.inr hns⟩, cx, cy, ?_⟩
  unfold pt
  exact (Point.toAffine_of_equiv heq).symm

theorem pt_ne_zero {P : JPt} (hv : Valid C P) (hz : P.2.2 ≠ 0) : pt C P ≠ 0 := by
  unfold pt
  rw [Point.toAffine_of_Z_ne_zero (hv.nonsingular C hz) (toF_z_ne C hv.red hz)]
  exact Affine.Point.some_ne_zero _

theorem pt_eq_zero_iff {P : JPt} (hv : Valid C P) : pt C P = 0 ↔ P.2.2 = 0 :=
  ⟨fun h => by by_contra hz; exact pt_ne_zero C hv hz h, pt_of_z_zero C⟩

/-- the affine coordinates of a group element as natural numbers (`none` for the neutral element) -/
noncomputable def ptXY : (W C).toAffine.Point → Option (ℕ × ℕ)
  | .zero => none
  | .some x y _ => some (x.val, y.val)

/-- **`affine` (as used by `get_bytes`) is a function of the group element only**: whatever representative the
    Jacobian pipeline produced, the serialised coordinates are those of `pt P` -/
theorem affineXY_eq {P : JPt} (hv : Valid C P) : affineXY C P = some (ptXY C (pt C P)) := by
  obtain ⟨x, y, z⟩ := P
  have : NeZero C.p := ⟨(p_pos C).ne'⟩
  by_cases hz : z = 0
  · subst hz
    have h0 : pt C (x, y, 0) = 0 := pt_of_z_zero C rfl
    rw [h0]
    simp only [affineXY, affine_inf]
    rfl
  · obtain ⟨x', y', ha, hv', cx, cy, _⟩ := affine_finite C hv hz
    simp only [affineXY, ha]
    unfold pt
    rw [Point.toAffine_of_Z_ne_zero (hv.nonsingular C hz) (toF_z_ne C hv.red hz)]
    simp only [ptXY, toF, fin3_def_ext]
    rw [← cx, ← cy]
    rw [val_cast_of_red hv'.red.1.1 hv'.red.1.2, val_cast_of_red hv'.red.2.1.1 hv'.red.2.1.2]

theorem affineXY_congr {P Q : JPt} (hP : Valid C P) (hQ : Valid C Q) (h : pt C P = pt C Q) :
    affineXY C P = affineXY C Q := by rw [affineXY_eq C hP, affineXY_eq C hQ, h]

end Embit.Model.PyCurve
