import EmbitModel.Model.ViewSignBytes
import EmbitModel.Proofs.SignWithViewEq
import EmbitModel.Proofs.SignWithValid
/-
  B-2 of audit2: the two Lean models of `PSBT.sighash` — `Model.Psbt.sighash` (Model/ViewSighash.lean, C01X) and
  `SignWith.psbtSighash` (Model/SignWith.lean, C02X / C02Y) — related. They agree on every argument except a leaf
  argument on an existing non-taproot input (`leafOnNonTaproot`), where `psbtSighash` refuses and `Psbt.sighash`, like
  the code, ignores the keyword arguments. `sign_with` passes a leaf only for taproot inputs.
-/
set_option linter.unusedSimpArgs false
set_option linter.unusedVariables false
namespace Embit.Model.SignWith
open Embit Embit.Model

variable {HD : Type}

/-- the argument region in which the two models of `PSBT.sighash` are not the same function: a leaf argument
    (`ext_flag=1, script=…, leaf_version=…`) for an existing input with a utxo that is not taproot -/
def leafOnNonTaproot (p : Psbt) (i : Nat) (leaf : Option (Bytes × Nat)) : Bool :=
  leaf.isSome &&
    match p.inputs[i]? with
    | none => false
    | some inp =>
      match inp.utxo with
      | none => false
      | some u => !isTaprootSpk u.spk

theorem dispatch_taproot (spk : Bytes) (ws rs : Option Bytes) (hw : Bool) (h : isTaprootSpk spk = true) :
    sighashDispatch spk ws rs hw = (Algo.taproot, spk) := by
  simp only [isTaprootSpk, decide_eq_true_eq] at h
  simp [sighashDispatch, h]

theorem dispatch_not_taproot (spk : Bytes) (ws rs : Option Bytes) (hw : Bool) (h : isTaprootSpk spk = false) :
    ∃ sc, sighashDispatch spk ws rs hw = (Algo.segwit, sc) ∨ sighashDispatch spk ws rs hw = (Algo.legacy, sc) := by
  simp only [isTaprootSpk, decide_eq_false_iff_not] at h
  unfold sighashDispatch
  rw [if_neg h]
  dsimp only
  split
  · exact ⟨_, Or.inl rfl⟩
  · exact ⟨_, Or.inr rfl⟩

theorem psbtSighash_eq_model (sha : Bytes → Bytes) (p : Psbt) (i f : Nat) (leaf : Option (Bytes × Nat))
    (h : leafOnNonTaproot p i leaf = false) :
    psbtSighash sha p i f leaf = Psbt.sighash sha p i f (extraOf leaf) := by
  unfold psbtSighash Psbt.sighash
  unfold leafOnNonTaproot at h
  cases hi : p.inputs[i]? with
  | none => rfl
  | some inp =>
    rw [hi] at h
    cases hu : inp.utxo with
    | none => simp only [hu]
    | some u =>
      simp only [hu, InScope.dispatch] at h ⊢
      cases htap : isTaprootSpk u.spk with
      | true =>
        rw [dispatch_taproot _ _ _ _ htap]
        cases ht : p.tx with
        | none => cases optAll (p.inputs.map InScope.utxo) <;> rfl
        | some t =>
          simp only [if_true]
          cases optAll (p.inputs.map InScope.utxo) with
          | none => rfl
          | some us => cases leaf with
            | none => rfl
            | some l => rfl
      | false =>
        rw [htap] at h
        have hl : leaf = none := by cases leaf <;> simp_all
        subst hl
        obtain ⟨sc, hd | hd⟩ := dispatch_not_taproot u.spk inp.witnessScript inp.redeemScript inp.witnessUtxo.isSome htap
        · rw [hd]; cases p.tx <;> simp
        · rw [hd]; cases p.tx <;> simp

theorem psbtSighash_region (sha : Bytes → Bytes) (p : Psbt) (i f : Nat) (leaf : Option (Bytes × Nat))
    (h : leafOnNonTaproot p i leaf = true) :
    psbtSighash sha p i f leaf = none ∧ Psbt.sighash sha p i f (extraOf leaf) = Psbt.sighash sha p i f {} := by
  unfold leafOnNonTaproot at h
  cases leaf with
  | none => simp at h
  | some l =>
    unfold psbtSighash Psbt.sighash
    cases hi : p.inputs[i]? with
    | none => rw [hi] at h; simp at h
    | some inp =>
      rw [hi] at h
      cases hu : inp.utxo with
      | none => simp [hu] at h
      | some u =>
        simp only [hu] at h
        have htap : isTaprootSpk u.spk = false := by simpa using h
        simp only [hu, InScope.dispatch]
        obtain ⟨sc, hd | hd⟩ := dispatch_not_taproot u.spk inp.witnessScript inp.redeemScript inp.witnessUtxo.isSome htap
        · rw [hd]; cases p.tx <;> simp [htap]
        · rw [hd]; cases p.tx <;> simp [htap]

/-- `ValidWrite` reads the digest function only where `sign_with` calls it: without leaf, or with a leaf on a taproot input -/
theorem ValidWrite.congr_digest {ev sv : Bytes → Bytes → Bytes → Bool} {O : Ops HD} {s : InScope} {u : TxOut} {f : Nat}
    {D D' : Nat → Option (Bytes × Nat) → Option Bytes} {w : Slot × Bytes}
    (hd : ∀ f leaf, (leaf.isSome = true → isTaprootSpk u.spk = true) → D f leaf = D' f leaf)
    (h : ValidWrite ev sv O s u f D w) : ValidWrite ev sv O s u f D' w := by
  obtain ⟨sl, v⟩ := w
  cases sl with
  | partialSig pub =>
    obtain ⟨h1, hh, sig, h2, h3, h4⟩ := h
    exact ⟨h1, hh, sig, by rw [← hd f none (by simp)]; exact h2, h3, h4⟩
  | tapKeySig =>
    obtain ⟨h1, xo, hh, sig, h2, h3, h4, h5⟩ := h
    exact ⟨h1, xo, hh, sig, h2, by rw [← hd f none (by simp)]; exact h3, h4, h5⟩
  | tapScriptSig key =>
    obtain ⟨h1, xo, ctrl, sc, lv, hh, sig, h2, h3, h4, h5, h6, h7, h8⟩ := h
    exact ⟨h1, xo, ctrl, sc, lv, hh, sig, h2, h3, h4, h5, by rw [← hd f _ (fun _ => h1)]; exact h6, h7, h8⟩

theorem psbtSighash_eq_model_valid (sha : Bytes → Bytes) (p : Psbt) (i : Nat) (s : InScope) (u : TxOut)
    (hs : p.inputs[i]? = some s) (hu : s.utxo = some u) (f : Nat) (leaf : Option (Bytes × Nat))
    (hl : leaf.isSome = true → isTaprootSpk u.spk = true) :
    psbtSighash sha p i f leaf = Psbt.sighash sha p i f (extraOf leaf) := by
  apply psbtSighash_eq_model
  unfold leafOnNonTaproot
  rw [hs]
  cases leaf with
  | none => rfl
  | some l => simp [hu, hl rfl]

end Embit.Model.SignWith
