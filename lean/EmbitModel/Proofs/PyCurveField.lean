import EmbitModel.Model.PyCurve
import Mathlib.Data.ZMod.Basic
import Mathlib.FieldTheory.Finite.Basic
import Mathlib.Tactic.Ring
import Mathlib.Tactic.LinearCombination
/-
  Field arithmetic of key.py (`pow(b, e, m)`, `modinv`, `modsqrt`) against `ZMod`: the square-and-multiply model of
  `pow` is `b ^ e % m`; extended Euclid as written returns `t` with `t·a ≡ 1 (mod n)` exactly when `gcd(a, n) = 1`,
  else `None`, and is the field inverse for a prime modulus; `a^((p+1)/4)` is a square root exactly when `a` is a
  square (p prime, p ≡ 3 mod 4).
-/
namespace Embit.Model.PyCurve

theorem cast_emod (p : ℕ) (a : ℤ) : (((a % (p : ℤ) : ℤ)) : ZMod p) = (a : ZMod p) := ZMod.intCast_mod a p

theorem eq_of_cast_eq {p : ℕ} {a b : ℤ} (ha0 : 0 ≤ a) (ha : a < p) (hb0 : 0 ≤ b) (hb : b < p)
    (h : (a : ZMod p) = (b : ZMod p)) : a = b := by
  have := (ZMod.intCast_eq_intCast_iff a b p).mp h
  unfold Int.ModEq at this
  rwa [Int.emod_eq_of_lt ha0 ha, Int.emod_eq_of_lt hb0 hb] at this

theorem emod_range {p : ℕ} (hp : 0 < p) (a : ℤ) : 0 ≤ a % (p : ℤ) ∧ a % (p : ℤ) < p :=
  ⟨Int.emod_nonneg _ (by exact_mod_cast hp.ne'), Int.emod_lt_of_pos _ (by exact_mod_cast hp)⟩

theorem cast_eq_zero_iff {p : ℕ} {a : ℤ} (ha0 : 0 ≤ a) (ha : a < p) : (a : ZMod p) = 0 ↔ a = 0 := by
  constructor
  · intro h
    have hp : (0 : ℤ) < p := lt_of_le_of_lt ha0 ha
    exact eq_of_cast_eq ha0 ha le_rfl hp (by simpa using h)
  · rintro rfl; simp

theorem val_cast_of_red {p : ℕ} [NeZero p] {a : ℤ} (ha0 : 0 ≤ a) (ha : a < p) : (a : ZMod p).val = a.toNat := by
  have := ZMod.val_intCast (n := p) a
  rw [Int.emod_eq_of_lt ha0 ha] at this
  omega

theorem powModAux_cast (m : ℕ) : ∀ (fuel : ℕ) (b : ℤ) (e : ℕ) (acc : ℤ), e < 2 ^ fuel →
    ((powModAux m fuel b e acc : ℤ) : ZMod m) = (acc : ZMod m) * (b : ZMod m) ^ e := by
  intro fuel
  induction fuel with
  | zero =>
    intro b e acc he
    have : e = 0 := by simpa using he
    subst this
    simp [powModAux]
  | succ f ih =>
    intro b e acc he
    unfold powModAux
    by_cases h0 : e = 0
    · subst h0; simp
    · rw [if_neg h0]
      have he2 : e / 2 < 2 ^ f := by
        rw [pow_succ] at he
        omega
      rw [ih _ _ _ he2]
      have hsplit : (b : ZMod m) ^ e = ((b : ZMod m) * b) ^ (e / 2) * (b : ZMod m) ^ (e % 2) := by
        conv_lhs => rw [← Nat.div_add_mod e 2, pow_add, pow_mul, sq]
      rw [hsplit]
      rcases Nat.mod_two_eq_zero_or_one e with h | h
      · rw [if_neg (by omega), h]
        simp only [cast_emod, Int.cast_mul, pow_zero, mul_one]
      · rw [if_pos h, h]
        simp only [cast_emod, Int.cast_mul, pow_one]
        ring

theorem powModAux_range (m : ℕ) (hm : 0 < m) : ∀ (fuel : ℕ) (b : ℤ) (e : ℕ) (acc : ℤ), 0 ≤ acc → acc < m →
    0 ≤ powModAux m fuel b e acc ∧ powModAux m fuel b e acc < m := by
  intro fuel
  induction fuel with
  | zero => intro b e acc h0 h1; exact ⟨h0, h1⟩
  | succ f ih =>
    intro b e acc h0 h1
    unfold powModAux
    by_cases he : e = 0
    · rw [if_pos he]; exact ⟨h0, h1⟩
    · rw [if_neg he]
      by_cases ho : e % 2 = 1
      · rw [if_pos ho]; exact ih _ _ _ (emod_range hm _).1 (emod_range hm _).2
      · rw [if_neg ho]; exact ih _ _ _ h0 h1

theorem powMod_cast (m : ℕ) (b : ℤ) (e : ℕ) : ((powMod b e m : ℤ) : ZMod m) = (b : ZMod m) ^ e := by
  unfold powMod
  rw [powModAux_cast m _ _ _ _ Nat.lt_log2_self]
  simp

theorem powMod_range (m : ℕ) (hm : 0 < m) (b : ℤ) (e : ℕ) : 0 ≤ powMod b e m ∧ powMod b e m < m := by
  unfold powMod
  exact powModAux_range m hm _ _ _ _ (emod_range hm _).1 (emod_range hm _).2

theorem powMod_eq (m : ℕ) (hm : 0 < m) (b : ℤ) (e : ℕ) : powMod b e m = b ^ e % (m : ℤ) := by
  obtain ⟨h0, h1⟩ := powMod_range m hm b e
  obtain ⟨h2, h3⟩ := emod_range hm (b ^ e)
  apply eq_of_cast_eq h0 h1 h2 h3
  rw [powMod_cast, cast_emod]
  push_cast
  rfl

theorem modinvLoop_zero (f : ℕ) (t1 t2 r1 : ℤ) : modinvLoop (f + 1) t1 t2 r1 0 = some (t1, r1) := by
  rw [modinvLoop, if_pos rfl]

/-- one iteration on a positive remainder: `//` is Euclidean division there, `r1 - q * r2` the remainder -/
theorem modinvLoop_succ (f : ℕ) (t1 t2 r1 : ℤ) {r2 : ℤ} (h2 : 0 < r2) :
    modinvLoop (f + 1) t1 t2 r1 r2 = modinvLoop f t2 (t1 - r1 / r2 * t2) r2 (r1 % r2) := by
  have hrem : r1 - r1 / r2 * r2 = r1 % r2 := by rw [Int.emod_def]; ring
  simp only [modinvLoop, if_neg h2.ne', Int.fdiv_eq_ediv_of_nonneg _ h2.le, hrem]

/-- the loop invariant of extended Euclid: `tᵢ·a ≡ rᵢ (mod n)`, gcd preserved, fuel sufficient -/
theorem modinvLoop_spec (n : ℕ) (a : ℤ) : ∀ (fuel : ℕ) (t1 t2 r1 r2 : ℤ), 0 ≤ r1 → 0 ≤ r2 → r2.natAbs < fuel →
    ((t1 : ZMod n) * a = r1) → ((t2 : ZMod n) * a = r2) →
    ∃ t : ℤ, modinvLoop fuel t1 t2 r1 r2 = some (t, (Int.gcd r1 r2 : ℤ)) ∧
      (t : ZMod n) * a = ((Int.gcd r1 r2 : ℤ) : ZMod n) := by
  intro fuel
  induction fuel with
  | zero => intro t1 t2 r1 r2 _ _ h; omega
  | succ f ih =>
    intro t1 t2 r1 r2 h1 h2 hf e1 e2
    rcases h2.eq_or_lt with rfl | hpos
    · have : ((Int.gcd r1 0 : ℕ) : ℤ) = r1 := by
        rw [Int.gcd_zero_right]; exact Int.natAbs_of_nonneg h1
      exact ⟨t1, by rw [modinvLoop_zero, this], by rw [this]; exact e1⟩
    · rw [modinvLoop_succ f t1 t2 r1 hpos, ← Int.gcd_emod, Int.gcd_comm]
      have hr0 : 0 ≤ r1 % r2 := Int.emod_nonneg _ hpos.ne'
      have hrlt : r1 % r2 < r2 := Int.emod_lt_of_pos _ hpos
      refine ih t2 (t1 - r1 / r2 * t2) r2 (r1 % r2) h2 hr0 (by omega) e2 ?_
      rw [Int.emod_def]
      push_cast
      linear_combination e1 - ((r1 / r2 : ℤ) : ZMod n) * e2

theorem modinvLoop_init (n : ℕ) (a : ℤ) (ha : 0 ≤ a) :
    ∃ t : ℤ, modinvLoop (a.natAbs + 2) 0 1 n a = some (t, (Int.gcd n a : ℤ)) ∧
      (t : ZMod n) * a = ((Int.gcd n a : ℤ) : ZMod n) :=
  modinvLoop_spec n a (a.natAbs + 2) 0 1 n a (by positivity) ha (by omega) (by simp) (by simp)

theorem modinv_some (n : ℕ) (a : ℤ) (ha : 0 ≤ a) (hg : Int.gcd a n = 1) :
    ∃ t : ℤ, modinv a n = some t ∧ (t : ZMod n) * a = 1 := by
  obtain ⟨t, ht, hta⟩ := modinvLoop_init n a ha
  rw [Int.gcd_comm, hg] at ht hta
  unfold modinv
  rw [ht]
  simp only [Nat.cast_one, gt_iff_lt, lt_self_iff_false, if_false]
  refine ⟨_, rfl, ?_⟩
  split
  · push_cast; simpa using hta
  · simpa using hta

theorem modinv_none (n : ℕ) (hn : 0 < n) (a : ℤ) (ha : 0 ≤ a) (hg : Int.gcd a n ≠ 1) : modinv a n = none := by
  obtain ⟨t, ht, _⟩ := modinvLoop_init n a ha
  have hpos : 0 < Int.gcd (n : ℤ) a := Int.gcd_pos_of_ne_zero_left _ (by exact_mod_cast hn.ne')
  rw [Int.gcd_comm] at hg
  unfold modinv
  rw [ht]
  simp only
  rw [if_pos (by omega)]

theorem modinv_inv (p : ℕ) [Fact p.Prime] (a : ℤ) (ha : 0 ≤ a) (hne : (a : ZMod p) ≠ 0) :
    ∃ t : ℤ, modinv a p = some t ∧ (t : ZMod p) = (a : ZMod p)⁻¹ := by
  have hp : p.Prime := Fact.out
  have hg : Int.gcd a p = 1 := by
    have hnd : ¬ (p : ℤ) ∣ a := fun h => hne ((ZMod.intCast_zmod_eq_zero_iff_dvd a p).mpr h)
    have : Int.gcd a p = Nat.gcd a.natAbs p := by simp [Int.gcd]
    rw [this, Nat.gcd_comm]
    have : ¬ p ∣ a.natAbs := fun h => hnd (Int.natCast_dvd.mpr h)
    exact (Nat.Prime.coprime_iff_not_dvd hp).mpr this
  obtain ⟨t, ht, hta⟩ := modinv_some p a ha hg
  exact ⟨t, ht, eq_inv_of_mul_eq_one_left hta⟩

theorem modinv_zero (p : ℕ) [Fact p.Prime] (a : ℤ) (ha : 0 ≤ a) (h0 : (a : ZMod p) = 0) : modinv a p = none := by
  have hp : p.Prime := Fact.out
  apply modinv_none p hp.pos a ha
  have hd : (p : ℤ) ∣ a := (ZMod.intCast_zmod_eq_zero_iff_dvd a p).mp h0
  have : Int.gcd a p = p := by
    rw [Int.gcd_comm]
    exact Int.gcd_eq_left_iff_dvd (by positivity) |>.mpr hd |> fun h => by simpa using h
  rw [this]
  exact hp.one_lt.ne'

/-- second loop invariant (size of the Bézout coefficients): the signs of `t1`, `t2` alternate and
    `|t2|·r1 + |t1|·r2 = n`, `|t1|·(r1 + 1) ≤ n` — so the coefficient returned is at most `n / 2` in absolute value -/
theorem modinvLoop_range (n : ℤ) : ∀ (fuel : ℕ) (t1 t2 r1 r2 u1 u2 : ℤ), 0 ≤ r2 → r2 < r1 → 0 ≤ u1 → 0 ≤ u2 →
    ((t1 = -u1 ∧ t2 = u2) ∨ (t1 = u1 ∧ t2 = -u2)) → u2 * r1 + u1 * r2 = n → (u1 * (r1 + 1) ≤ n ∨ u1 = 0) →
    ∀ t r, modinvLoop fuel t1 t2 r1 r2 = some (t, r) →
      ∃ u : ℤ, 0 ≤ u ∧ (t = u ∨ t = -u) ∧ (u * (r + 1) ≤ n ∨ u = 0) ∧ 1 ≤ r := by
  intro fuel
  induction fuel with
  | zero => intro t1 t2 r1 r2 u1 u2 _ _ _ _ _ _ _ t r h; simp [modinvLoop] at h
  | succ f ih =>
    intro t1 t2 r1 r2 u1 u2 h2 h21 hu1 hu2 hs hA hB t r h
    rcases h2.eq_or_lt with rfl | hpos
    · rw [modinvLoop_zero] at h
      simp only [Option.some.injEq, Prod.mk.injEq] at h
      obtain ⟨rfl, rfl⟩ := h
      exact ⟨u1, hu1, hs.symm.imp (·.1) (·.1), hB, by omega⟩
    · rw [modinvLoop_succ f t1 t2 r1 hpos] at h
      have hq0 : 0 ≤ r1 / r2 := Int.ediv_nonneg (by omega) h2
      have hr0 : 0 ≤ r1 % r2 := Int.emod_nonneg _ hpos.ne'
      have hrlt : r1 % r2 < r2 := Int.emod_lt_of_pos _ hpos
      apply ih t2 (t1 - r1 / r2 * t2) r2 (r1 % r2) u2 (u1 + r1 / r2 * u2) hr0 hrlt hu2
        (by positivity) ?_ ?_ ?_ t r h
      · rcases hs with ⟨a1, a2⟩ | ⟨a1, a2⟩
        · right; refine ⟨a2, ?_⟩; rw [a1, a2]; ring
        · left; refine ⟨a2, ?_⟩; rw [a1, a2]; ring
      · rw [Int.emod_def, ← hA]; ring
      · left
        have h1 : u2 * (r2 + 1) ≤ u2 * r1 := mul_le_mul_of_nonneg_left (by omega) hu2
        have h3 : 0 ≤ u1 * r2 := mul_nonneg hu1 h2
        omega

theorem modinv_range (n : ℕ) (a : ℤ) (h0 : 0 ≤ a) (h1 : a < n) (t : ℤ) (h : modinv a n = some t) : 0 ≤ t ∧ t < n := by
  unfold modinv at h
  cases hl : modinvLoop (a.natAbs + 2) 0 1 n a with
  | none => rw [hl] at h; cases h
  | some tr =>
    obtain ⟨t1, r⟩ := tr
    rw [hl] at h
    simp only at h
    obtain ⟨u, hu0, hsgn, hB, hr⟩ := modinvLoop_range n (a.natAbs + 2) 0 1 n a 0 1 h0 h1 le_rfl zero_le_one
      (Or.inl ⟨by simp, rfl⟩) (by ring) (Or.inr rfl) t1 r hl
    split at h
    · cases h
    · rename_i hr1
      simp only [Option.some.injEq] at h
      have hr1' : r = 1 := by omega
      subst hr1'
      have hn : (0 : ℤ) < n := by omega
      have hu : u * 2 ≤ n ∨ u = 0 := by simpa using hB
      split at h <;> omega

section sqrt
variable (p : ℕ) [Fact p.Prime]

omit [Fact p.Prime] in
theorem modsqrt_raises (a : ℤ) (h : p % 4 ≠ 3) : modsqrt a p = none := by
  unfold modsqrt; rw [if_pos h]

theorem modsqrt_sound (a y : ℤ) (h : modsqrt a p = some (some y)) :
    0 ≤ y ∧ y < p ∧ (y : ZMod p) ^ 2 = (a : ZMod p) := by
  have hp : p.Prime := Fact.out
  unfold modsqrt at h
  split at h
  · cases h
  · simp only at h
    split at h
    · rename_i hc
      simp only [Option.some.injEq] at h
      subst h
      obtain ⟨h0, h1⟩ := powMod_range p hp.pos a ((p + 1) / 4)
      refine ⟨h0, h1, ?_⟩
      have := congrArg (fun t : ℤ => (t : ZMod p)) hc
      simp only [cast_emod] at this
      rw [powMod_cast] at this
      exact this
    · cases h

/-- Euler: for `p ≡ 3 (mod 4)` the power `a^((p+1)/4)` squares to `a` whenever `a` is a square -/
theorem sqrt_candidate_sq (h3 : p % 4 = 3) (a : ZMod p) (hsq : IsSquare a) : (a ^ ((p + 1) / 4)) ^ 2 = a := by
  obtain ⟨c, rfl⟩ := hsq
  by_cases hc : c = 0
  · subst hc
    have : (p + 1) / 4 ≠ 0 := by omega
    simp [this]
  · have hf := ZMod.pow_card_sub_one_eq_one hc
    have he : 2 * ((p + 1) / 4 * 2) = (p - 1) + 2 := by omega
    rw [← sq, ← pow_mul, ← pow_mul, he, pow_add, hf, one_mul]

theorem modsqrt_complete (h3 : p % 4 = 3) (a : ℤ) (hsq : IsSquare (a : ZMod p)) :
    ∃ y, modsqrt a p = some (some y) := by
  unfold modsqrt
  rw [if_neg (by omega)]
  refine ⟨powMod a ((p + 1) / 4) p, ?_⟩
  rw [if_pos]
  have hp : p.Prime := Fact.out
  obtain ⟨h0, h1⟩ := powMod_range p hp.pos (powMod a ((p + 1) / 4) p) 2
  obtain ⟨h2, h3'⟩ := emod_range hp.pos a
  apply eq_of_cast_eq h0 h1 h2 h3'
  rw [powMod_cast, powMod_cast, cast_emod]
  exact sqrt_candidate_sq p h3 _ hsq

theorem modsqrt_nonsquare (h3 : p % 4 = 3) (a : ℤ) (hsq : ¬ IsSquare (a : ZMod p)) :
    modsqrt a p = some none := by
  cases hm : modsqrt a p with
  | none => unfold modsqrt at hm; rw [if_neg (by omega)] at hm; simp only at hm; split at hm <;> cases hm
  | some r =>
    cases r with
    | none => rfl
    | some y =>
      exfalso
      obtain ⟨_, _, hy⟩ := modsqrt_sound p a y hm
      exact hsq ⟨(y : ZMod p), by rw [← hy]; ring⟩

end sqrt

end Embit.Model.PyCurve
