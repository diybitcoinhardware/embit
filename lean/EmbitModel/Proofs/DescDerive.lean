import EmbitModel.Spec.DescriptorSpec
/-
  Helper lemmas about `mapKeys` (the common body of `derive` / `branch` / `to_public`) for C12 and C14.
-/
namespace Embit.Model.Descriptor
open Embit Embit.Miniscript

variable {K : Type}

theorem DMs.ind {P : DMs K → Prop}
    (key : ∀ f k, P (.key f k)) (time : ∀ f n, P (.time f n)) (hash : ∀ f h, P (.hash f h))
    (andor : ∀ x y z, P x → P y → P z → P (.andor x y z))
    (bin : ∀ f x y, P x → P y → P (.bin f x y))
    (thresh : ∀ k xs, (∀ x ∈ xs, P x) → P (.thresh k xs))
    (multi : ∀ f k keys, P (.multi f k keys))
    (wrap : ∀ w x, P x → P (.wrap w x)) : ∀ e, P e := by
  intro e
  exact DMs.rec (motive_1 := P) (motive_2 := fun xs => ∀ x ∈ xs, P x)
    key time hash (fun x y z => andor x y z) (fun f x y => bin f x y) (fun k xs => thresh k xs) multi
    (fun w x => wrap w x)
    (by intro x hx; cases hx)
    (by
      intro h t ph pt x hx
      cases hx with
      | head => exact ph
      | tail _ h' => exact pt x h')
    e

/-- the recursor of the nested type, with a motive of its own for the argument list of `thresh` -/
theorem DMs.ind₂ {P : DMs K → Prop} {Q : List (DMs K) → Prop}
    (key : ∀ f k, P (.key f k)) (time : ∀ f n, P (.time f n)) (hash : ∀ f h, P (.hash f h))
    (andor : ∀ x y z, P x → P y → P z → P (.andor x y z))
    (bin : ∀ f x y, P x → P y → P (.bin f x y))
    (thresh : ∀ k xs, Q xs → P (.thresh k xs))
    (multi : ∀ f k keys, P (.multi f k keys))
    (wrap : ∀ w x, P x → P (.wrap w x))
    (nil : Q []) (cons : ∀ x xs, P x → Q xs → Q (x :: xs)) : ∀ e, P e :=
  fun e => DMs.rec (motive_1 := P) (motive_2 := Q) key time hash andor bin thresh multi wrap nil cons e

theorem mapOpt_length {α β : Type} {f : α → Option β} : ∀ {l : List α} {l' : List β},
    mapOpt f l = some l' → l'.length = l.length := by
  intro l
  induction l with
  | nil => intro l' h; cases h; rfl
  | cons a r ih =>
    intro l' h
    simp only [mapOpt] at h
    split at h
    next a' r' _ hr => cases h; simp [ih hr]
    next => cases h

theorem mapOpt_mem {α β : Type} {f : α → Option β} : ∀ {l : List α} {l' : List β},
    mapOpt f l = some l' → ∀ x ∈ l, ∃ x' ∈ l', f x = some x' := by
  intro l
  induction l with
  | nil => intro _ _ x hx; cases hx
  | cons a r ih =>
    intro l' h x hx
    simp only [mapOpt] at h
    split at h
    next a' r' ha hr =>
      cases h
      cases hx with
      | head => exact ⟨a', List.mem_cons_self, ha⟩
      | tail _ hm =>
        obtain ⟨x', hx', hf⟩ := ih hr x hm
        exact ⟨x', List.mem_cons_of_mem _ hx', hf⟩
    next => cases h

theorem mem_keysL {xs : List (DMs K)} {k : KeyExpr K} (h : k ∈ DMs.keysL xs) : ∃ x ∈ xs, k ∈ x.keys := by
  induction xs with
  | nil => simp [DMs.keysL] at h
  | cons a r ih =>
    simp only [DMs.keysL, List.mem_append] at h
    cases h with
    | inl h1 => exact ⟨a, List.mem_cons_self, h1⟩
    | inr h2 =>
      obtain ⟨x, hx, hk⟩ := ih h2
      exact ⟨x, List.mem_cons_of_mem _ hx, hk⟩

theorem mapOpt_append {α β : Type} {f : α → Option β} {a b : List α} {a' b' : List β}
    (ha : mapOpt f a = some a') (hb : mapOpt f b = some b') : mapOpt f (a ++ b) = some (a' ++ b') := by
  induction a generalizing a' with
  | nil => cases ha; simpa using hb
  | cons x r ih =>
    simp only [mapOpt] at ha
    split at ha
    next x' r' hx hr => cases ha; simp [mapOpt, hx, ih hr]
    next => cases ha

theorem DMs.mapKeys_keys (f : KeyExpr K → Option (KeyExpr K)) :
    ∀ (e e' : DMs K), e.mapKeys f = some e' → mapOpt f e.keys = some e'.keys := by
  intro e
  induction e using DMs.ind₂
    (Q := fun xs => ∀ l, DMs.mapKeysL f xs = some l → mapOpt f (DMs.keysL xs) = some (DMs.keysL l)) with
  | key fr k =>
    intro e' h
    simp only [DMs.mapKeys, Option.map_eq_some_iff] at h
    obtain ⟨k', hf, rfl⟩ := h
    simp [DMs.keys, mapOpt, hf]
  | time _ _ => intro e' h; cases h; rfl
  | hash _ _ => intro e' h; cases h; rfl
  | andor x y z ihx ihy ihz =>
    intro e' h
    simp only [DMs.mapKeys] at h
    split at h
    next a b c hx hy hz => cases h; exact mapOpt_append (mapOpt_append (ihx a hx) (ihy b hy)) (ihz c hz)
    next => cases h
  | bin fr x y ihx ihy =>
    intro e' h
    simp only [DMs.mapKeys] at h
    split at h
    next a b hx hy => cases h; exact mapOpt_append (ihx a hx) (ihy b hy)
    next => cases h
  | thresh n xs ih =>
    intro e' h
    simp only [DMs.mapKeys, Option.map_eq_some_iff] at h
    obtain ⟨l, hl, rfl⟩ := h
    exact ih l hl
  | multi fr n keys =>
    intro e' h
    simp only [DMs.mapKeys, Option.map_eq_some_iff] at h
    obtain ⟨l, hl, rfl⟩ := h
    exact hl
  | wrap w x ih =>
    intro e' h
    simp only [DMs.mapKeys, Option.map_eq_some_iff] at h
    obtain ⟨a, hx, rfl⟩ := h
    exact ih a hx
  | nil => rename_i l h; cases h; rfl
  | cons a r iha ihr =>
    rename_i l h
    simp only [DMs.mapKeysL] at h
    split at h
    next a' r' ha hr => cases h; exact mapOpt_append (iha a' ha) (ihr r' hr)
    next => cases h

theorem DMs.mapKeys_some_all (f : KeyExpr K → Option (KeyExpr K)) (e : DMs K) (h : (e.mapKeys f).isSome = true) :
    ∀ k ∈ e.keys, (f k).isSome = true := by
  obtain ⟨e', he⟩ := Option.isSome_iff_exists.mp h
  intro k hk
  obtain ⟨_, _, hf⟩ := mapOpt_mem (DMs.mapKeys_keys f e e' he) k hk
  simp [hf]

theorem TapTree.mapKeys_keys (f : KeyExpr K → Option (KeyExpr K)) :
    ∀ (t t' : TapTree K), t.mapKeys f = some t' → mapOpt f t.keys = some t'.keys := by
  intro t
  induction t with
  | empty => intro t' h; cases h; rfl
  | leaf ms =>
    intro t' h
    simp only [TapTree.mapKeys] at h
    split at h
    next ms' hm =>
      split at h
      · cases h; exact DMs.mapKeys_keys f ms ms' hm
      · cases h
    next => cases h
  | node l r ihl ihr =>
    intro t' h
    simp only [TapTree.mapKeys] at h
    split at h
    next l' r' hl hr => cases h; exact mapOpt_append (ihl l' hl) (ihr r' hr)
    next => cases h

theorem TapTree.mapKeys_some_all (f : KeyExpr K → Option (KeyExpr K)) (t : TapTree K)
    (h : (t.mapKeys f).isSome = true) : ∀ k ∈ t.keys, (f k).isSome = true := by
  obtain ⟨t', ht⟩ := Option.isSome_iff_exists.mp h
  intro k hk
  obtain ⟨_, _, hf⟩ := mapOpt_mem (TapTree.mapKeys_keys f t t' ht) k hk
  simp [hf]

/-- a descriptor object has EITHER a miniscript OR a key (+ tap tree): what the parser and `derive` produce -/
def Desc.Shaped (d : Desc K) : Prop := d.miniscript = none ∨ (d.key = none ∧ d.taptree = .empty)

theorem Desc.mapKeys_ms {f : KeyExpr K → Option (KeyExpr K)} {d d' : Desc K} {ms : DMs K}
    (hms : d.miniscript = some ms) (h : d.mapKeys f = some d') :
    ∃ ms', ms.mapKeys f = some ms' ∧ msAccepted d.ctx ms' = true ∧
      d' = ⟨some ms', d.sh, d.wsh, none, d.wpkh, d.taproot, .empty⟩ := by
  simp only [Desc.mapKeys, hms] at h
  split at h
  next => cases h
  next ms' hm =>
    split at h
    next hacc => cases h; exact ⟨ms', hm, hacc, rfl⟩
    next => cases h

theorem Desc.mapKeys_key {f : KeyExpr K → Option (KeyExpr K)} {d d' : Desc K}
    (hms : d.miniscript = none) (h : d.mapKeys f = some d') :
    ∃ k k' t', d.key = some k ∧ f k = some k' ∧ d.taptree.mapKeys f = some t' ∧
      d' = ⟨none, d.sh, d.wsh, some k', d.wpkh, d.taproot, t'⟩ := by
  simp only [Desc.mapKeys, hms] at h
  split at h
  next => cases h
  next k hk =>
    split at h
    next k' t' hf ht => cases h; exact ⟨k, k', t', hk, hf, ht, rfl⟩
    next => cases h

theorem Desc.mapKeys_some_all (f : KeyExpr K → Option (KeyExpr K)) (d : Desc K) (hs : d.Shaped)
    (h : (d.mapKeys f).isSome = true) : ∀ k ∈ d.keys, (f k).isSome = true := by
  intro k hk
  obtain ⟨d', h⟩ := Option.isSome_iff_exists.mp h
  unfold Desc.keys at hk
  cases hm : d.miniscript with
  | some ms =>
    obtain ⟨ms', hmm, _, _⟩ := Desc.mapKeys_ms hm h
    cases hs with
    | inl h0 => rw [hm] at h0; cases h0
    | inr h1 =>
      simp only [hm, h1.1, h1.2, TapTree.truthy] at hk
      exact DMs.mapKeys_some_all f ms (by simp [hmm]) k (by simpa using hk)
  | none =>
    obtain ⟨k0, k', t', hkey, hf, ht, _⟩ := Desc.mapKeys_key hm h
    simp only [hkey] at hk
    split at hk
    · cases hk with
      | head => simp [hf]
      | tail _ hm' => exact TapTree.mapKeys_some_all f d.taptree (by simp [ht]) k hm'
    · simp only [List.mem_singleton] at hk
      subst hk
      simp [hf]

theorem KeyExpr.derive_of_no_deriv {ops : KeyOps K} {h : Hashes} {k k' : KeyExpr K} {idx br : Option Nat}
    (hd : k.derive ops h idx br = some k') (hdv : k.deriv = none) : k' = k := by
  simp only [KeyExpr.derive, hdv, Option.some.injEq] at hd
  exact hd.symm

theorem KeyExpr.derive_of_deriv {ops : KeyOps K} {h : Hashes} {k k' : KeyExpr K} {ix : List Step}
    {idx br : Option Nat} (hd : k.derive ops h idx br = some k') (hdv : k.deriv = some ix) :
    ∃ der key child, fill ix idx br = some der ∧ k.key = .obj key ∧ ops.derive key der = some child ∧
      k'.key = .obj child := by
  simp only [KeyExpr.derive, hdv] at hd
  split at hd
  next => cases hd
  next der hf =>
    split at hd
    next => cases hd
    next key hk =>
      split at hd
      next => cases hd
      next child hc => cases hd; exact ⟨der, key, child, hf, hk, hc, rfl⟩

/-- what `Key.to_public()` can return: the key itself (a raw hash, a public key), or the neutered key object under
    the same origin and steps -/
theorem KeyExpr.toPublic_cases {ops : KeyOps K} {k kp : KeyExpr K} (hp : k.toPublic ops = some kp) :
    kp = k ∨ ∃ key p, k.key = .obj key ∧ ops.toPublic key = some p ∧ kp = ⟨k.origin, .obj p, k.deriv, false⟩ := by
  unfold KeyExpr.toPublic at hp
  split at hp
  · exact .inl (Option.some.inj hp).symm
  · rename_i key hk
    split at hp
    · exact .inl (Option.some.inj hp).symm
    · obtain ⟨p, hpub, rfl⟩ := Option.map_eq_some_iff.mp hp
      exact .inr ⟨key, p, hk, hpub, rfl⟩

theorem KeyExpr.derive_hardened (ops : KeyOps K) (h : Hashes) (k : KeyExpr K) (ix : List Step)
    (hix : k.deriv = some ix) (i : Nat) (b : Option Nat) (hi : i ≥ 2 ^ 31) : k.derive ops h (some i) b = none := by
  unfold KeyExpr.derive
  simp only [hix]
  have : fill ix (some i) b = none := by
    unfold fill
    simp only
    rw [if_pos]
    simpa [HARDENED] using hi
  simp [this]

theorem deriveScript_hardened (ops : KeyOps K) (h : Hashes) (d : Desc K) (hs : d.Shaped)
    (k : KeyExpr K) (hk : k ∈ d.keys) (ix : List Step) (hix : k.deriv = some ix) (i b : Nat) (hi : i ≥ 2 ^ 31) :
    d.deriveScript ops h i b = none := by
  unfold Desc.deriveScript Desc.derive
  cases hd : d.mapKeys (fun k => k.derive ops h (some i) (some b)) with
  | none => rfl
  | some d' =>
    have := Desc.mapKeys_some_all (fun k => k.derive ops h (some i) (some b)) d hs (by rw [hd]; rfl) k hk
    simp only [KeyExpr.derive_hardened ops h k ix hix i (some b) hi] at this
    cases this

open Spec.Descriptor in
theorem pathAt_cons {i b : Nat} {s : Step} {r : List Step} {p : List Nat} (h : pathAt i b (s :: r) = some p) :
    ∃ n t, pathAt i b r = some t ∧ p = n :: t ∧
      (match s with | .idx m => n = m | .wild => n = i | .set l => l[b]? = some (some n)) := by
  cases s with
  | idx m =>
    simp only [pathAt, Option.map_eq_some_iff] at h
    obtain ⟨t, ht, rfl⟩ := h
    exact ⟨m, t, ht, rfl, rfl⟩
  | wild =>
    simp only [pathAt, Option.map_eq_some_iff] at h
    obtain ⟨t, ht, rfl⟩ := h
    exact ⟨i, t, ht, rfl, rfl⟩
  | set l =>
    simp only [pathAt] at h
    split at h
    next n t hg ht => cases h; exact ⟨n, t, ht, rfl, hg⟩
    next => cases h

end Embit.Model.Descriptor
