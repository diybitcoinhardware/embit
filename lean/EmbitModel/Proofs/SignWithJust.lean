import EmbitModel.Proofs.SignWithTrace
import EmbitModel.Proofs.SignWithDigest
/-
  Every write `SignWith.signInput` performs is justified: authorised flag, a key the signer controls for that input,
  a signature over the digest of the scope as handed in; `JustifiedAt` says it of a write to a PSBT, over `PSBT.sighash`
  (Mathlib-free).
-/
namespace Embit.Model.SignWith
open Embit Embit.Model

variable {HD : Type}

theorem core_fields {s t : InScope} (h : core s = core t) :
    s.utxo = t.utxo ∧ s.witnessScript = t.witnessScript ∧ s.redeemScript = t.redeemScript ∧
    s.tapMerkleRoot = t.tapMerkleRoot ∧ s.tapScripts = t.tapScripts ∧ s.bip32 = t.bip32 ∧ s.tapBip32 = t.tapBip32 ∧
    s.sighashType = t.sighashType :=
  ⟨show (core s).utxo = (core t).utxo from congrArg _ h,
   show (core s).witnessScript = (core t).witnessScript from congrArg _ h,
   show (core s).redeemScript = (core t).redeemScript from congrArg _ h,
   show (core s).tapMerkleRoot = (core t).tapMerkleRoot from congrArg _ h,
   show (core s).tapScripts = (core t).tapScripts from congrArg _ h,
   show (core s).bip32 = (core t).bip32 from congrArg _ h,
   show (core s).tapBip32 = (core t).tapBip32 from congrArg _ h,
   show (core s).sighashType = (core t).sighashType from congrArg _ h⟩

theorem scriptOf_core {s t : InScope} (h : core s = core t) (spk : Bytes) : scriptOf s spk = scriptOf t spk := by
  obtain ⟨_, h2, h3, _⟩ := core_fields h
  simp [scriptOf, h2, h3]

theorem matchingDerivs_core {s t : InScope} (h : core s = core t) (fp : Bytes) :
    matchingDerivs s fp = matchingDerivs t fp := by
  obtain ⟨_, _, _, _, _, h6, h7, _⟩ := core_fields h
  simp [matchingDerivs, h6, h7]

theorem Controls.core {O : Ops HD} {sg : Single HD} {tap : Bool} {s t : InScope} {sk pub : Bytes}
    (h : core s = core t) (hc : Controls O sg tap s sk pub) : Controls O sg tap t sk pub := by
  obtain ⟨fp, d, k, h1, h2, h3, h4⟩ := hc
  exact ⟨fp, d, k, h1, h2, matchingDerivs_core h fp ▸ h3, h4⟩

theorem OwnKey.core {O : Ops HD} {sg : Single HD} {s t : InScope} {sk : Bytes} {c : Bool}
    (h : core s = core t) (hc : OwnKey O sg s sk c) : OwnKey O sg t sk c := by
  rcases hc with h1 | ⟨h1, pub, h2⟩
  · exact Or.inl h1
  · exact Or.inr ⟨h1, pub, h2.core h⟩

theorem Justified.core {O : Ops HD} {sg : Single HD} {s t : InScope} {u : TxOut} {f : Nat}
    {D : Nat → Option (Bytes × Nat) → Option Bytes} {w : Slot × Bytes}
    (h : core s = core t) (hj : Justified O sg s u f D w) : Justified O sg t u f D w := by
  have hf := core_fields h
  cases hj with
  | ecdsaRoot hh sig h1 h2 h3 h4 =>
    exact Justified.ecdsaRoot hh sig h1 (scriptOf_core h u.spk ▸ h2) h3 h4
  | ecdsaDerived sk pub hh sig h1 h2 h3 h4 =>
    exact Justified.ecdsaDerived sk pub hh sig h1 (h2.core h) h3 h4
  | tapKey sk c tsk hh sig h1 h2 h3 h4 h5 h6 =>
    exact Justified.tapKey sk c tsk hh sig h1 (h2.core h) (hf.2.2.2.1 ▸ h3) h4 h5 h6
  | tapLeaf sk c ctrl sc lv hh sig h1 h2 h3 h4 h5 h6 h7 =>
    exact Justified.tapLeaf sk c ctrl sc lv hh sig h1 (h2.core h) (hf.2.2.2.2.1 ▸ h3) h4 h5 h6 h7

theorem Justified.digest {O : Ops HD} {sg : Single HD} {s : InScope} {u : TxOut} {f : Nat}
    {D D' : Nat → Option (Bytes × Nat) → Option Bytes} {w : Slot × Bytes}
    (h : ∀ f leaf, D f leaf = D' f leaf) (hj : Justified O sg s u f D w) : Justified O sg s u f D' w := by
  have : D = D' := by funext f leaf; exact h f leaf
  exact this ▸ hj

section ScopeJust
variable {O : Ops HD} {sg : Single HD} {dg : Digest} {sk : Bytes} {c : Bool} {f : Nat} {seen : List Slot}
  {s s' s0 : InScope} {u : TxOut} {k : Nat} {ws : List (Slot × Bytes)} {l : List (Bytes × Bytes)} {hh sc rootpub : Bytes}
  {D : Nat → Option (Bytes × Nat) → Option Bytes}

theorem signLeaves_just (hdg : ∀ t, core t = core s0 → dg t = dg s0) (htap : isTaprootSpk u.spk = true)
    (hown : OwnKey O sg s0 sk c) (hsub : ∀ e ∈ l, e ∈ s0.tapScripts) (hc : core s = core s0)
    (h : signLeaves O dg sk f (xonlyOfSec (O.secOf sk c)) seen l s = some (s', k, ws)) :
    ∀ w ∈ ws, Justified O sg s0 u f (dg s0) w := by
  induction l generalizing seen s s' k ws with
  | nil => cases h; exact fun w hw => nomatch hw
  | cons e r ih =>
    have hsub' : ∀ e ∈ r, e ∈ s0.tapScripts := fun e he => hsub e (List.mem_cons_of_mem _ he)
    rcases signLeaves_cons_some h with ⟨_, h⟩ | ⟨lv, hh, sig, k2, ws2, hin, hlv, hdig, hsig, hrec, rfl, rfl⟩
    · exact ih hsub' hc h
    · intro w hw
      rcases List.mem_cons.mp hw with rfl | hw
      · rw [hdg s hc] at hdig
        exact Justified.tapLeaf sk c e.1 e.2 lv hh sig htap hown (hsub _ List.mem_cons_self) hin hlv hdig hsig
      · exact ih hsub' ((core_applySlot s _).trans hc) hrec w hw

theorem signTapKey_just (hdg : ∀ t, core t = core s0 → dg t = dg s0) (hu : s0.utxo = some u)
    (hown : OwnKey O sg s0 sk c) (hc : core s = core s0) (h : signTapKey O dg sk c f seen s = some (s', k, ws)) :
    ∀ w ∈ ws, Justified O sg s0 u f (dg s0) w := by
  have hf := core_fields hc
  obtain ⟨u', hu', hrun⟩ := signTapKey_some h
  obtain rfl : u' = u := Option.some.inj (by rw [← hu', hf.1, hu])
  rcases hrun with ⟨_, _, _, rfl⟩ | ⟨tsk, htap, htw, ⟨hin, hh, sig, hdig, hsig, _, _, rfl⟩ | ⟨_, h⟩⟩
  · exact fun w hw => nomatch hw
  · intro w hw
    obtain rfl := List.mem_singleton.mp hw
    rw [hdg s hc] at hdig
    rw [hf.2.2.2.1] at htw
    exact Justified.tapKey sk c tsk hh sig htap hown htw hin hdig hsig
  · rw [hf.2.2.2.2.1] at h
    exact signLeaves_just hdg htap hown (fun e he => he) hc h

theorem signTapDerived_just (hdg : ∀ t, core t = core s0 → dg t = dg s0) (hu : s0.utxo = some u)
    (hl : ∀ e ∈ l, Controls O sg true s0 e.1 e.2) (hc : core s = core s0)
    (h : signTapDerived O dg f seen l s = some (s', k, ws)) :
    ∀ w ∈ ws, Justified O sg s0 u f (dg s0) w := by
  induction l generalizing seen s s' k ws with
  | nil => cases h; exact fun w hw => nomatch hw
  | cons e r ih =>
    obtain ⟨s1, k1, w1, k2, w2, h1, h2, rfl, rfl⟩ := signTapDerived_cons_some h
    intro w hw
    rcases List.mem_append.mp hw with hw | hw
    · exact signTapKey_just hdg hu (Or.inr ⟨rfl, e.2, hl e List.mem_cons_self⟩) hc h1 w hw
    · exact ih (fun e he => hl e (List.mem_cons_of_mem _ he)) ((signTapKey_tr h1).core.trans hc) h2 w hw

theorem signEcdsaRoot_just (htap : isTaprootSpk u.spk = false) (hD : D f none = some hh)
    (h : signEcdsaRoot O (sg.secret O) sg.compressed f hh (scriptOf s0 u.spk) seen s = some (s', k, ws)) :
    ∀ w ∈ ws, Justified O sg s0 u f D w := by
  rcases signEcdsaRoot_some h with ⟨_, _, _, rfl⟩ | ⟨hin, sig, hsig, _, _, rfl⟩
  · exact fun w hw => nomatch hw
  · intro w hw
    obtain rfl := List.mem_singleton.mp hw
    exact Justified.ecdsaRoot hh sig htap (by simpa [Bool.or_eq_true] using hin) hD hsig

theorem signEcdsaDerived_just (htap : isTaprootSpk u.spk = false) (hD : D f none = some hh)
    (hl : ∀ e ∈ l, Controls O sg false s0 e.1 e.2) (h : signEcdsaDerived O rootpub f hh seen l s = some (s', k, ws)) :
    ∀ w ∈ ws, Justified O sg s0 u f D w := by
  induction l generalizing seen s s' k ws with
  | nil => cases h; exact fun w hw => nomatch hw
  | cons e r ih =>
    have hl' : ∀ e ∈ r, Controls O sg false s0 e.1 e.2 := fun e he => hl e (List.mem_cons_of_mem _ he)
    rcases signEcdsaDerived_cons_some h with ⟨_, _, h⟩ | ⟨sig, k2, ws2, hsig, hrec, rfl, rfl⟩
    · exact ih hl' h
    · intro w hw
      rcases List.mem_cons.mp hw with rfl | hw
      · exact Justified.ecdsaDerived e.1 e.2 hh sig htap (hl e List.mem_cons_self) hD hsig
      · exact ih hl' hrec w hw

end ScopeJust

theorem derivedPairs_sound (O : Ops HD) (sg : Single HD) (tap : Bool) (l : List (Bytes × Deriv))
    (kps : List (Bytes × Bytes)) (h : derivedPairs O sg tap l = some kps) :
    ∀ e ∈ kps, ∃ d k, (e.2, d) ∈ l ∧ sg.deriveFor O d.path = some (some k) ∧ O.hdSecret k = e.1 ∧
      keyMatches O tap e.1 e.2 = true := by
  induction l generalizing kps with
  | nil => simp only [derivedPairs, Option.some.injEq] at h; subst h; intro e he; cases he
  | cons a r ih =>
    obtain ⟨pub, d⟩ := a
    unfold derivedPairs at h
    split at h
    · cases h
    · intro e he
      obtain ⟨d', k', h1, h2⟩ := ih kps h e he
      exact ⟨d', k', List.mem_cons_of_mem _ h1, h2⟩
    · rename_i k hk
      split at h
      · cases h
      · rename_i hm
        split at h
        · cases h
        · rename_i l' hl'
          simp only [Option.some.injEq] at h; subst h
          intro e he
          rw [List.mem_cons] at he
          rcases he with rfl | he
          · exact ⟨d, k, List.mem_cons_self, hk, rfl, by simpa using hm⟩
          · obtain ⟨d', k', h1, h2⟩ := ih l' hl' e he
            exact ⟨d', k', List.mem_cons_of_mem _ h1, h2⟩

theorem derived_controls (O : Ops HD) (OL : OrderLaws O) (sg : Single HD) (tap : Bool) (s : InScope)
    (kps0 : List (Bytes × Bytes))
    (h : derivedPairs O sg tap (O.orderD (dedup (candidateDerivs O sg s))) = some kps0) :
    ∀ e ∈ O.orderK (dedup kps0), Controls O sg tap s e.1 e.2 := by
  intro e he
  have he' : e ∈ kps0 := (mem_dedup e kps0).mp ((OL.permK _).mem_iff.mp he)
  obtain ⟨d, k, h1, h2, h3, h4⟩ := derivedPairs_sound O sg tap _ kps0 h e he'
  obtain ⟨fp, hfp, hne, hm⟩ := mem_candidateDerivs.mp ((mem_dedup _ _).mp ((OL.permD _).mem_iff.mp h1))
  exact ⟨fp, d, k, hfp, hne, hm, h2, h3, h4⟩

theorem signInput_just (O : Ops HD) (OL : OrderLaws O) (sg : Single HD) (auth : Option Nat) (dg : Digest)
    (s : InScope) (u : TxOut) (hdg : ∀ t, core t = core s → dg t = dg s) (hu : s.utxo = some u) (seen : List Slot)
    (s' : InScope) (k : Nat) (ws : List (Slot × Bytes)) (h : signInput O sg auth dg seen s = some (s', k, ws)) :
    ∀ w ∈ ws, ∃ f, signPolicy auth s.sighashType (isTaprootSpk u.spk) = some f ∧ Justified O sg s u f (dg s) w := by
  obtain ⟨u', hu', hrun⟩ := signInput_some h
  obtain rfl : u' = u := Option.some.inj (by rw [← hu', hu])
  rcases hrun with ⟨_, _, _, rfl⟩ | ⟨f, kps0, s1, k1, w1, k2, w2, hpol, hkps, _, rfl, hrun⟩
  · exact fun w hw => nomatch hw
  · have hctl := derived_controls O OL sg _ s kps0 hkps
    intro w hw
    refine ⟨f, hpol, ?_⟩
    rcases hrun with ⟨htap, h1, h2⟩ | ⟨htap, hh, hdig, h1, h2⟩ <;> rw [htap] at hctl <;>
      rcases List.mem_append.mp hw with hw | hw
    · exact signTapKey_just hdg hu (Or.inl ⟨rfl, rfl⟩) rfl h1 w hw
    · exact signTapDerived_just hdg hu hctl (signTapKey_tr h1).core h2 w hw
    · exact signEcdsaRoot_just htap hdig h1 w hw
    · exact signEcdsaDerived_just htap hdig hctl h2 w hw

/-- the write `w` is justified for key `sg` on PSBT `p`: its input exists and has a previous output, the policy
    authorises the flag, and the signature is by a key `sg` controls there over the digest `PSBT.sighash` of `p` -/
def JustifiedAt (O : Ops HD) (sg : Single HD) (auth : Option Nat) (p : Psbt) (w : Write) : Prop :=
  ∃ s u f, p.inputs[w.1]? = some s ∧ s.utxo = some u ∧
    signPolicy auth s.sighashType (isTaprootSpk u.spk) = some f ∧
    Justified O sg s u f (fun f leaf => psbtSighash O.sha p w.1 f leaf) w.2

theorem pcore_get {p q : Psbt} (h : pcore p = pcore q) (i : Nat) (s : InScope) (hs : p.inputs[i]? = some s) :
    ∃ t, q.inputs[i]? = some t ∧ core s = core t := by
  have h1 : (pcore p).inputs[i]? = (pcore q).inputs[i]? := by rw [h]
  simp only [pcore, List.getElem?_map, hs, Option.map_some] at h1
  cases hq : q.inputs[i]? with
  | none => rw [hq] at h1; cases h1
  | some t =>
    rw [hq] at h1
    exact ⟨t, rfl, Option.some.inj h1⟩

theorem JustifiedAt.pcore {O : Ops HD} {sg : Single HD} {auth : Option Nat} {p q : Psbt} {w : Write}
    (h : pcore p = pcore q) (hj : JustifiedAt O sg auth p w) : JustifiedAt O sg auth q w := by
  obtain ⟨s, u, f, h1, h2, h3, h4⟩ := hj
  obtain ⟨t, ht, hc⟩ := pcore_get h w.1 s h1
  have hf := core_fields hc
  refine ⟨t, u, f, ht, hf.1 ▸ h2, hf.2.2.2.2.2.2.2 ▸ h3, ?_⟩
  exact (h4.core hc).digest (fun f leaf => psbtSighash_congr O.sha p q h w.1 f leaf)

theorem dgOf_frame (O : Ops HD) {p : Psbt} {i : Nat} {s : InScope} (hs : p.inputs[i]? = some s) :
    ∀ t, core t = core s → dgOf O p i t = dgOf O p i s := fun t ht => by
  funext f leaf
  exact (digest_setInput O.sha p i s t hs ht f leaf).trans (digest_setInput O.sha p i s s hs rfl f leaf).symm

theorem dgOf_self (O : Ops HD) {p : Psbt} {i : Nat} {s : InScope} (hs : p.inputs[i]? = some s) (f : Nat)
    (leaf : Option (Bytes × Nat)) : dgOf O p i s f leaf = psbtSighash O.sha p i f leaf :=
  digest_setInput O.sha p i s s hs rfl f leaf

end Embit.Model.SignWith
