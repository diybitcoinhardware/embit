import EmbitModel.Proofs.PsetSerParse
import EmbitModel.Proofs.PsbtParseWF
/-
  C18 (deepening): every version-2 PSET that `PSET.parse` returns is well-formed (`LPsetWF`), hence
  parse ∘ serialise ∘ parse = norm ∘ parse. One step of `read_value` preserves `LInWF` / `LOutWF`; for the bitcoin part
  this rests on `Step.frame`: a typed key leaves the unknown map alone and does not look at it, so the scope without its
  unknown keys takes the same step, and what it writes grows by the pair read only.
-/
set_option linter.unusedSimpArgs false
set_option linter.unusedVariables false
namespace Embit
open Model Spec.LWire


/-- a step of the bitcoin `read_value` (KEEP_ALL) on a key other than a utxo key either appends the pair to the unknown
    map — the key is then one no typed field is written under — or neither reads nor changes the unknown map and the
    utxos: the same step is taken by the scope without its unknown keys -/
theorem InScope.Step.frame {ko : KeyOps} {sha : Bytes → Bytes} {s s' : InScope} {k0 : UInt8} {kr v : Bytes}
    (h : InScope.Step ko sha 0 s v (k0 :: kr) s') (h0 : k0 ≠ 0x00) (h1 : k0 ≠ 0x01) :
    (unkKeyIn (k0 :: kr) = true ∧ lookup (k0 :: kr) s.unknown = none
      ∧ s' = { s with unknown := s.unknown ++ [(k0 :: kr, v)] })
    ∨ (s'.unknown = s.unknown ∧ s'.nonWitnessUtxo = s.nonWitnessUtxo ∧ s'.witnessUtxo = s.witnessUtxo
      ∧ InScope.Step ko sha 0 s.typed v (k0 :: kr) s'.typed) := by
  cases h with
  | utxoStreamed hc => simp at hc
  | nonWitnessUtxo | witnessUtxo => contradiction
  | dropped hc => exact absurd rfl hc
  | unknown ht hx hn =>
    simp only [List.mem_cons, List.not_mem_nil, or_false, not_or] at ht
    exact .inl ⟨by simp [unkKeyIn, typedIn, ht, txFieldKey_eq_false.mpr hx], hn, rfl⟩
  | partialSig a b c => exact .inr ⟨rfl, rfl, rfl, .partialSig a b c⟩
  | sighashType a b => exact .inr ⟨rfl, rfl, rfl, .sighashType a b⟩
  | redeemScript a => exact .inr ⟨rfl, rfl, rfl, .redeemScript a⟩
  | witnessScript a => exact .inr ⟨rfl, rfl, rfl, .witnessScript a⟩
  | bip32 a b c => exact .inr ⟨rfl, rfl, rfl, .bip32 a b c⟩
  | finalScriptSig a b => exact .inr ⟨rfl, rfl, rfl, .finalScriptSig a b⟩
  | finalWitness a b c => exact .inr ⟨rfl, rfl, rfl, .finalWitness a b c⟩
  | txid a b => exact .inr ⟨rfl, rfl, rfl, .txid a b⟩
  | vout a b => exact .inr ⟨rfl, rfl, rfl, .vout a b⟩
  | sequence a b => exact .inr ⟨rfl, rfl, rfl, .sequence a b⟩
  | tapSig a b c => exact .inr ⟨rfl, rfl, rfl, .tapSig a b c⟩
  | tapScript a => exact .inr ⟨rfl, rfl, rfl, .tapScript a⟩
  | tapBip32 a b c d => exact .inr ⟨rfl, rfl, rfl, .tapBip32 a b c d⟩
  | tapInternalKey a b c => exact .inr ⟨rfl, rfl, rfl, .tapInternalKey a b c⟩
  | tapMerkleRoot a => exact .inr ⟨rfl, rfl, rfl, .tapMerkleRoot a⟩

theorem OutScope.Step.frame {ko : KeyOps} {s s' : OutScope} {k0 : UInt8} {kr v : Bytes}
    (h : OutScope.Step ko s v (k0 :: kr) s') :
    (unkKeyOut (k0 :: kr) = true ∧ lookup (k0 :: kr) s.unknown = none
      ∧ s' = { s with unknown := s.unknown ++ [(k0 :: kr, v)] })
    ∨ (s'.unknown = s.unknown ∧ OutScope.Step ko s.typed v (k0 :: kr) s'.typed) := by
  cases h with
  | unknown ht hx hn =>
    simp only [List.mem_cons, List.not_mem_nil, or_false, not_or] at ht
    exact .inl ⟨by simp [unkKeyOut, typedOut, ht, txFieldKeyOut_eq_false.mpr hx], hn, rfl⟩
  | redeemScript a => exact .inr ⟨rfl, .redeemScript a⟩
  | witnessScript a => exact .inr ⟨rfl, .witnessScript a⟩
  | bip32 a b c => exact .inr ⟨rfl, .bip32 a b c⟩
  | value a b => exact .inr ⟨rfl, .value a b⟩
  | spk a => exact .inr ⟨rfl, .spk a⟩
  | tapInternalKey a b c => exact .inr ⟨rfl, .tapInternalKey a b c⟩
  | tapBip32 a b c d => exact .inr ⟨rfl, .tapBip32 a b c d⟩

theorem typedNL_step {l l' : List KV} {k v : Bytes} (h : Inserted (k, v) l l') (hl : isLiquidKey k = false)
    (hw : ∀ kv ∈ l, isLiquidKey kv.1 = false) : ∀ kv ∈ l', isLiquidKey kv.1 = false := by
  intro kv hkv
  rcases List.mem_cons.mp (h.perm.mem_iff.mp hkv) with rfl | hkv
  · exact hl
  · exact hw kv hkv

theorem LInScope.addPair_wf (ko : KeyOps) (s s' : LInScope) (k v : Bytes) (hkv : KVWF (k, v)) (hw : LInWF ko s)
    (h : LInScope.addPair ko s k v = some s') : LInWF ko s' := by
  obtain ⟨hk, hkl, hvl⟩ := hkv
  simp only at hk hkl hvl
  cases LInScope.addPair_step h with
  | sep => exact hw
  | nonWitnessUtxo _ ht =>
    obtain ⟨hs, hwf⟩ := LTx.parse_sound ht
    exact { hw with nwu := ⟨hwf, by rw [hs]; exact hvl⟩ }
  | witnessUtxo _ ho =>
    obtain ⟨hs, hwf, hwit⟩ := LTxOut.parse_sound ho
    exact { hw with wu := ⟨hwf, hwit, by rw [hs]; exact hvl⟩ }
  | @base _ b hb hs =>
    cases k with
    | nil => exact absurd rfl hk
    | cons k0 kr =>
      simp only [baseKey, Bool.and_eq_true, Bool.not_eq_true', bne_iff_ne, ne_eq] at hb
      obtain ⟨hl, h0, h1⟩ := hb
      rcases (InScope.addPair_step hs).frame h0 h1 with ⟨hu, hlook, rfl⟩ | ⟨f1, f2, f3, st⟩
      · exact { hw with
          unknown := forall_snoc hw.unknown ⟨⟨hk, hkl, hvl⟩, Or.inl ⟨hl, hu⟩⟩
          unknownNodup := nodup_snoc _ _ _ hw.unknownNodup hlook }
      · exact { baseNwu := f2.trans hw.baseNwu, baseWu := f3.trans hw.baseWu
                typed := InScope.addPair_wf ko _ s.base.typed b.typed _ v ⟨hk, hkl, hvl⟩ hw.typed st.addPair
                typedNL := typedNL_step (st.pairs hk (.inl rfl)) hl hw.typedNL
                unknown := f1 ▸ hw.unknown, unknownNodup := f1 ▸ hw.unknownNodup
                nwu := hw.nwu, wu := hw.wu, lf := hw.lf, txparts := hw.txparts, lfPfx := hw.lfPfx }
  | field f _ hlen hp =>
    exact { hw with lf := forall_snoc hw.lf ⟨hlen, hvl⟩
                    lfPfx := forall_snoc (P := fun e : LInField × Bytes => e.1.pfxOK e.2 = true) hw.lfPfx hp }
  | unknown hl hf hn =>
    exact { hw with
      unknown := forall_snoc hw.unknown ⟨⟨hk, hkl, hvl⟩, Or.inr ⟨hl, hf⟩⟩
      unknownNodup := nodup_snoc _ _ _ hw.unknownNodup hn }

theorem LInScope.addPairs_wf (ko : KeyOps) (kvs : List KV) (s s' : LInScope)
    (hkv : ∀ kv ∈ kvs, KVWF kv) (hw : LInWF ko s) (h : LInScope.addPairs ko s kvs = some s') : LInWF ko s' :=
  LInScope.addPairs_invariant (fun hk hi ha => LInScope.addPair_wf ko _ _ _ _ hk hi ha) hkv hw h

theorem LInWF_empty (ko : KeyOps) : LInWF ko {} :=
  ⟨rfl, rfl, InWF_empty ko, by simp [InScope.typed, InScope.pairs, optKV], by simp, by simp, trivial, trivial, by simp, ⟨rfl, rfl⟩, by simp⟩

theorem LOutScope.addPair_wf (ko : KeyOps) (s s' : LOutScope) (k v : Bytes) (hkv : KVWF (k, v)) (hw : LOutWF ko s)
    (h : LOutScope.addPair ko s k v = some s') : LOutWF ko s' := by
  obtain ⟨hk, hkl, hvl⟩ := hkv
  simp only at hk hkl hvl
  cases LOutScope.addPair_step h with
  | @base _ b hl _ hs =>
    cases k with
    | nil => exact absurd rfl hk
    | cons k0 kr =>
      rcases (OutScope.addPair_step hs).frame with ⟨hu, hlook, rfl⟩ | ⟨f1, st⟩
      · exact { hw with
          unknown := forall_snoc hw.unknown ⟨⟨hk, hkl, hvl⟩, Or.inl ⟨hl, hu⟩⟩
          unknownNodup := nodup_snoc _ _ _ hw.unknownNodup hlook }
      · exact { valueConf := hw.valueConf
                typed := OutScope.addPair_wf ko s.base.typed b.typed _ v ⟨hk, hkl, hvl⟩ hw.typed st.addPair
                typedNL := typedNL_step (st.pairs hk (.inl rfl)) hl hw.typedNL
                unknown := f1 ▸ hw.unknown, unknownNodup := f1 ▸ hw.unknownNodup
                lf := hw.lf, txNonce := hw.txNonce }
  | field f sp _ hlen => exact { hw with lf := forall_snoc hw.lf ⟨hlen, hvl⟩ }
  | unknown hl hf hn =>
    exact { hw with
      unknown := forall_snoc hw.unknown ⟨⟨hk, hkl, hvl⟩, Or.inr ⟨hl, hf⟩⟩
      unknownNodup := nodup_snoc _ _ _ hw.unknownNodup hn }

theorem LOutScope.addPairs_wf (ko : KeyOps) (kvs : List KV) (s s' : LOutScope)
    (hkv : ∀ kv ∈ kvs, KVWF kv) (hw : LOutWF ko s) (h : LOutScope.addPairs ko s kvs = some s') : LOutWF ko s' :=
  LOutScope.addPairs_invariant (fun hk hi ha => LOutScope.addPair_wf ko _ _ _ _ hk hi ha) hkv hw h

theorem LOutWF_empty (ko : KeyOps) : LOutWF ko {} :=
  ⟨rfl, OutWF_empty ko, by simp [OutScope.typed, OutScope.pairs, optKV], by simp, by simp, by simp, rfl⟩

theorem lglobalFold_unk : ∀ (g : List KV) (tx : Option LTx) (ver : Option Nat) (unk : List KV)
    (tx' : Option LTx) (ver' : Option Nat) (unk' : List KV),
    lglobalFold tx ver unk g = some (tx', ver', unk') → unk' = unk ++ g.filter notTxVer := by
  intro g
  induction g with
  | nil => intro tx ver unk tx' ver' unk' h; cases h; simp
  | cons kv g ih =>
    intro tx ver unk tx' ver' unk' h
    obtain ⟨k, v⟩ := kv
    rcases lglobalFold_cons h with ⟨hk, _, t, _, _, _, h⟩ | ⟨_, hk, _, _, h⟩ | ⟨hk, hfb, _, h⟩
    · rw [ih _ _ _ _ _ _ h]; simp [notTxVer, hk]
    · rw [ih _ _ _ _ _ _ h]; simp [notTxVer, hk]
    · have hp : notTxVer (k, v) = true := by simp [notTxVer, hk, hfb]
      rw [ih _ _ _ _ _ _ h]; simp [List.filter_cons, hp]

theorem LPset.parse_wf_v2 (ko : KeyOps) (b : Bytes) (p : LPset) (h : LPset.parse ko b = some p)
    (hv : p.version = some 2) : LPsetWF ko p := by
  obtain ⟨g, kin, kout, tx, unk, gs, eb, wg, ws, hgf, hpu, hver, e1, e2, e3, e4, l1, l2, l3, l4, fi, fo⟩ :=
    LPset.parse_decomp ko b p h
  have htx : tx = none := by
    rcases hver with ⟨_, ht⟩ | ⟨hn, _⟩
    · exact ht
    · exact absurd hv hn
  subst htx
  have hunk : unk = g.filter notTxVer := by simpa using lglobalFold_unk g none none [] none p.version unk hgf
  have hnd := lglobalFold_nodup g none none [] none p.version unk hgf (by simp)
  have hunkwf : ∀ kv ∈ unk, KVWF kv ∧ notTxVer kv = true := by
    intro kv hkv
    rw [hunk] at hkv
    obtain ⟨a, b⟩ := List.mem_filter.mp hkv
    exact ⟨wg kv a, b⟩
  have hg0 : GInv ko (p.version == some 2) (lgstate0 none) unk := by
    constructor <;> simp [lgstate0]
  have hgs := parseUnknowns_inv ko _ unk _ gs hunkwf hnd hg0 hpu
  have kinwf : ∀ kvs ∈ kin, ∀ kv ∈ kvs, KVWF kv := fun kvs hk => ws kvs (by simp [hk])
  have koutwf : ∀ kvs ∈ kout, ∀ kv ∈ kvs, KVWF kv := fun kvs hk => ws kvs (by simp [hk])
  refine ⟨hv, ?_, ?_, ?_⟩
  · -- the global fields
    refine ⟨by simp [LPset.shadow, hv], by simp only [LPset.shadow, e1]; exact hgs.txVersion,
      by simp only [LPset.shadow, e2]; exact hgs.locktime, by simp only [LPset.shadow, e3]; exact hgs.xpubs,
      by simp only [LPset.shadow, e3]; exact hgs.xpubsNodup, by simp only [LPset.shadow, e4]; exact hgs.unknown,
      by simp only [LPset.shadow, e4]; exact hgs.unknownNodup, ?_, ?_, ?_, ?_, ?_⟩
    · simp only [LPset.shadow, List.length_map]
      rw [l3]
      have := hgs.nin
      cases hn : gs.nin with
      | none => simp
      | some n => rw [hn] at this; simpa using this
    · simp only [LPset.shadow, List.length_map]
      rw [l4]
      have := hgs.nout
      cases hn : gs.nout with
      | none => simp
      | some n => rw [hn] at this; simpa using this
    · intro s hs
      simp only [LPset.shadow, List.mem_map] at hs
      obtain ⟨_, _, rfl⟩ := hs
      exact InWF_empty ko
    · intro s hs
      simp only [LPset.shadow, List.mem_map] at hs
      obtain ⟨_, _, rfl⟩ := hs
      exact OutWF_empty ko
    · intro hne
      exact absurd (by simp [LPset.shadow, hv]) hne
  · intro s hs
    obtain ⟨j, hj⟩ := List.mem_iff_getElem?.mp hs
    have hjl : j < p.inputs.length := (List.getElem?_eq_some_iff.mp hj).1
    obtain ⟨kvs, s', a1, a2, a3⟩ := fi j hjl
    rw [hj] at a2; simp at a2; subst a2
    have hseed : lseedIn none j = {} := by simp [lseedIn]
    rw [hseed] at a3
    exact LInScope.addPairs_wf ko kvs _ s (kinwf kvs (List.mem_of_getElem? a1)) (LInWF_empty ko) a3
  · intro s hs
    obtain ⟨j, hj⟩ := List.mem_iff_getElem?.mp hs
    have hjl : j < p.outputs.length := (List.getElem?_eq_some_iff.mp hj).1
    obtain ⟨kvs, s', a1, a2, a3⟩ := fo j hjl
    rw [hj] at a2; simp at a2; subst a2
    have hseed : lseedOut none j = {} := by simp [lseedOut]
    rw [hseed] at a3
    exact LOutScope.addPairs_wf ko kvs _ s (koutwf kvs (List.mem_of_getElem? a1)) (LOutWF_empty ko) a3

theorem LPset.parse_ser_parse_v2 (ko : KeyOps) (b : Bytes) (p : LPset) (h : LPset.parse ko b = some p)
    (hv : p.version = some 2) : ∃ b', LPset.ser p = some b' ∧ LPset.parse ko b' = some p.norm :=
  LPset.parse_ser_v2 ko p (LPset.parse_wf_v2 ko b p h hv)

end Embit
