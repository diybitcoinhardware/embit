import EmbitModel.Proofs.Bech32Complete
/-
  Completeness of `address_to_scriptpubkey` (`Address.toScript`): exactly which strings yield a script.
  Base58 addresses: the Base58Check text itself. Segwit addresses: the canonical text up to whole-string case,
  restricted by the case-sensitive comparison of `addr.split("1")[0]` with the table's human-readable parts.
-/
namespace Embit.Model.Address
open Embit Digits Spec.Address

def hrpsHaveLower (nets : List Network) : Bool := nets.all (fun n => n.bech32.any Spec.Bech32.isLower)

theorem hrpsHaveLower_mem {nets : List Network} (hL : hrpsHaveLower nets = true) {net : Network} (hn : net ∈ nets) :
    net.bech32.any Spec.Bech32.isLower = true :=
  List.all_eq_true.mp hL net hn

/-- completeness of the segwit branch: any spelling of a canonical v0/v1 address that is not mixed case and
    whose part before the first `1` is literally the table's human-readable part is accepted -/
theorem bech32Branch_complete (nets : List Network) (net : Network) (hn : NetOk net) (hmem : net ∈ nets)
    (ver : Nat) (h : Bytes) (hv : ver ≤ 1) (hl : h.length = 20 ∨ h.length = 32) (h1 : ver = 1 → h.length = 32)
    (s : List Char) (hlow : Bech32.lower s = Bech32.segwitText net.bech32 ver (convOf h))
    (hmix : Spec.Bech32.mixedCase s = false) (hsplit : splitOne s = net.bech32) :
    bech32Branch true nets s
        = some (UInt8.ofNat (if ver > 0 then ver + 0x50 else ver) :: UInt8.ofNat h.length :: h)
      ∧ 35 < s.length := by
  have hnm : ¬ (Bech32.lower s ≠ s ∧ Bech32.upper s ≠ s) := mt (Bech32.mixedCase_iff s).mpr (by simp [hmix])
  have hd : Bech32.decode net.bech32 s = some (ver, h.map UInt8.toNat) := by
    rw [Bech32.decode_lower _ s hnm, hlow]; exact (encode_convOf net hn ver h hv hl).2
  refine ⟨bech32Branch_of_decode nets net hmem s ver h hsplit hd hv hl h1, ?_⟩
  rw [← Bech32.lower_length s, hlow]
  exact segwitText_long net ver h hl

theorem bech32Branch_sound (nets : List Network) (s : List Char) (sc : Bytes)
    (hb : bech32Branch true nets s = some sc) :
    ∃ net ∈ nets, ∃ ver, ∃ h : Bytes,
      ((ver = 0 ∧ (h.length = 20 ∨ h.length = 32)) ∨ (ver = 1 ∧ h.length = 32))
      ∧ sc = UInt8.ofNat (if ver > 0 then ver + 0x50 else ver) :: UInt8.ofNat h.length :: h
      ∧ Bech32.lower s = Bech32.segwitText net.bech32 ver (convOf h)
      ∧ Spec.Bech32.mixedCase s = false ∧ splitOne s = net.bech32 := by
  obtain ⟨hh, ver, prog, hd, hv, hsc⟩ := bech32Branch_yields nets s sc hb
  obtain ⟨net, hn, hnb⟩ := List.mem_map.mp hh
  obtain ⟨pb, rfl, ⟨hv16, _⟩, _, hmix, _, _, henc⟩ := Bech32.decode_sound _ s ver prog hd
  rw [map_ofNat_toNat, List.length_map] at hsc
  rw [List.length_map] at hv
  refine ⟨net, hn, ver, pb, hv, hsc, ?_, hmix, hnb.symm⟩
  rw [← Bech32.toLower_eq_lower, henc, hnb, Bech32.segwitText_eq_spec _ ver pb (by omega)]; rfl

theorem lower_of_hrp_lower (s hrp : List Char) (hsplit : splitOne s = hrp)
    (hl : hrp.any Spec.Bech32.isLower = true) (hmix : Spec.Bech32.mixedCase s = false) : Bech32.lower s = s := by
  have hany : s.any Spec.Bech32.isLower = true := by
    obtain ⟨c, hc, hcl⟩ := List.any_eq_true.mp hl
    rw [← hsplit] at hc
    exact List.any_eq_true.mpr ⟨c, (List.takeWhile_sublist _).subset hc, hcl⟩
  rw [Bech32.lower_eq_self_iff]
  simpa [Spec.Bech32.mixedCase, hany] using hmix

theorem upper_ne (a : List Char) (hl : a.any Spec.Bech32.isLower = true) : Bech32.upper a ≠ a :=
  fun e => by rw [Bech32.upper_eq_self_iff, hl] at e; exact absurd e (by decide)

theorem decode_upper (hrp a : List Char) (hl : Bech32.lower a = a) :
    Bech32.decode hrp (Bech32.upper a) = Bech32.decode hrp a := by
  rw [Bech32.decode_lower hrp _ (fun hh => hh.2 (Bech32.upper_upper a)), Bech32.lower_upper hl]

theorem std_of_segwit (ver : Nat) (h : Bytes)
    (hv : (ver = 0 ∧ (h.length = 20 ∨ h.length = 32)) ∨ (ver = 1 ∧ h.length = 32)) :
    ∃ std : Std, std.WF ∧ isSegwit std = true
      ∧ UInt8.ofNat (if ver > 0 then ver + 0x50 else ver) :: UInt8.ofNat h.length :: h = std.script
      ∧ (∀ dsha net, textOf dsha net std = Bech32.segwitText net.bech32 ver (convOf h)) := by
  rcases hv with ⟨rfl, hl | hl⟩ | ⟨rfl, hl⟩
  · exact ⟨.p2wpkh h, hl, rfl, by simp [Std.script, hl], fun _ _ => rfl⟩
  · exact ⟨.p2wsh h, hl, rfl, by simp [Std.script, hl], fun _ _ => rfl⟩
  · exact ⟨.p2tr h, hl, rfl, by simp [Std.script, hl], fun _ _ => rfl⟩

end Embit.Model.Address
