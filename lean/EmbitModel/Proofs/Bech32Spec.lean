import EmbitModel.Proofs.Address
/-
  The model's bech32 / segwit encoder equals the BIP173/BIP350 specification text (`Spec.Bech32`), and the
  model's address texts equal `Spec.Address.addressOf`.
-/
namespace Embit.Model.Bech32
open Embit Digits

theorem hrpExpand_eq_spec (hrp : List Char) : Spec.Bech32.hrpExpand hrp = hrpExpand hrp := by
  unfold Spec.Bech32.hrpExpand hrpExpand
  congr 1
  · congr 1
    apply List.map_congr_left; intro c _
    rw [Nat.shiftRight_eq_div_pow]
  · apply List.map_congr_left; intro c _
    exact (Nat.and_two_pow_sub_one_eq_mod c.toNat 5).symm

theorem testBit_iff (b i : Nat) : b.testBit i = true ↔ (b >>> i) &&& 1 = 1 := by
  unfold Nat.testBit
  rw [Nat.and_comm, Nat.and_one_is_mod]
  simp only [bne_iff_ne, ne_eq]
  omega

theorem sel_eq (b i g c : Nat) : (if b.testBit i then c ^^^ g else c) = c ^^^ (if (b >>> i) &&& 1 = 1 then g else 0) := by
  by_cases h : b.testBit i = true
  · rw [if_pos h, if_pos ((testBit_iff b i).mp h)]
  · have : ¬ ((b >>> i) &&& 1 = 1) := fun e => h ((testBit_iff b i).mpr e)
    rw [if_neg h, if_neg this, Nat.xor_zero]

theorem step_eq_spec (chk v : Nat) : Spec.Bech32.step chk v = polymodStep chk v := by
  unfold Spec.Bech32.step
  rw [polymodStep_eq]
  have : List.range 5 = [0, 1, 2, 3, 4] := by decide
  simp only [this, List.foldl_cons, List.foldl_nil, Spec.Bech32.gen, List.getD_cons_zero, List.getD_cons_succ, sel_eq,
    gsel, Nat.xor_assoc]

theorem polymod_eq_spec (vs : List Nat) : Spec.Bech32.polymod vs = polymod vs := by
  unfold Spec.Bech32.polymod polymod polymodFrom
  congr 1
  funext a b
  exact step_eq_spec a b

theorem checksum_eq_spec (e : Encoding) (hrp : List Char) (data : List Nat) :
    Spec.Bech32.checksum e.const hrp data = createChecksum e hrp data := by
  rw [createChecksum_eq]
  unfold Spec.Bech32.checksum
  simp only [polymod_eq_spec, hrpExpand_eq_spec, fixedBE, List.nil_append, List.cons_append,
    Nat.div_div_eq_div_mul]
  rfl

theorem chr_eq_spec (d : Nat) (h : d < 32) : Spec.Bech32.charset.getD d '?' = chr d := by
  have hl : d < charset.length := by rw [charset_length]; exact h
  simp [chr, charset_eq_spec, List.getD_eq_getElem?_getD, hl]

theorem encode_eq_spec (e : Encoding) (hrp : List Char) (data : List Nat) (hd : ∀ d ∈ data, d < 32) :
    Spec.Bech32.encode e.const hrp data = hrp ++ ['1'] ++ (data ++ createChecksum e hrp data).map chr := by
  unfold Spec.Bech32.encode
  rw [checksum_eq_spec]
  exact congrArg _ (List.map_congr_left fun d hd' => chr_eq_spec d (data_checksum_lt e hrp hd d hd'))

theorem digitsFixed_eq (B k n : Nat) : Spec.Bech32.digitsFixed B k n = fixedBE B k n := by
  induction k generalizing n with
  | zero => rfl
  | succ k ih => simp [Spec.Bech32.digitsFixed, fixedBE, ih]

theorem value_eq_spec (b : Bytes) : Spec.Bech32.value b = ofBE 256 (b.map UInt8.toNat) := by
  unfold Spec.Bech32.value ofBE
  rw [List.foldl_map]
  congr 1
  funext a x
  rw [Nat.mul_comm]

theorem toBase32_eq (prog : Bytes) : Spec.Bech32.toBase32 prog = Address.convOf prog := by
  unfold Address.convOf Spec.Bech32.toBase32
  rw [convertbits_8_5 _ (bytes_lt prog)]
  simp only [Option.getD_some, digitsFixed_eq, value_eq_spec, List.length_map]

theorem variantOf_eq (ver : Nat) : Spec.Bech32.variantOf ver = (encOf ver).const := by
  unfold Spec.Bech32.variantOf encOf
  by_cases h : ver = 0 <;> simp [h, Encoding.const, Spec.Bech32.bech32, Spec.Bech32.bech32m, bech32Const, bech32mConst]

theorem segwitText_eq_spec (hrp : List Char) (ver : Nat) (prog : Bytes) (hv : ver < 32) :
    segwitText hrp ver (Address.convOf prog) = Spec.Bech32.segwitEncode hrp ver prog := by
  unfold Spec.Bech32.segwitEncode segwitText
  rw [variantOf_eq, toBase32_eq, encode_eq_spec _ _ _ (List.forall_mem_cons.mpr ⟨hv, convOf_lt prog⟩)]

end Embit.Model.Bech32

namespace Embit.Model.Address
open Embit Spec.Address

theorem eq_singleton_headD {l : Bytes} (h : l.length = 1) : l = [l.headD 0] := by
  match l, h with
  | [_], _ => rfl

theorem textOf_eq_spec (sha : Bytes → Bytes) (net : Network) (hn : NetOk net) (s : Std) :
    textOf (fun x => sha (sha x)) net s = addressOf sha (paramsOf net) s := by
  cases s with
  | p2pkh h =>
    simp only [textOf, addressOf, paramsOf]
    rw [Base58.encodeCheck_eq_spec, eq_singleton_headD hn.pkh1]
    rfl
  | p2sh h =>
    simp only [textOf, addressOf, paramsOf]
    rw [Base58.encodeCheck_eq_spec, eq_singleton_headD hn.sh1]
    rfl
  | p2wpkh h => exact Bech32.segwitText_eq_spec _ 0 h (by decide)
  | p2wsh h => exact Bech32.segwitText_eq_spec _ 0 h (by decide)
  | p2tr h => exact Bech32.segwitText_eq_spec _ 1 h (by decide)

theorem segwit_std_address (sha : Bytes → Bytes) (net : Network) (hn : NetOk net) (std : Std)
    (hs : isSegwit std = true) (hw : std.WF) :
    ∃ ver, ∃ h : Bytes, ver ≤ 1 ∧ (h.length = 20 ∨ h.length = 32) ∧ (ver = 1 → h.length = 32)
      ∧ addressOf sha (paramsOf net) std = Bech32.segwitText net.bech32 ver (convOf h)
      ∧ std.script = UInt8.ofNat (if ver > 0 then ver + 0x50 else ver) :: UInt8.ofNat h.length :: h := by
  obtain ⟨ver, h, hv, hl, h1, htext, hscr⟩ := segwit_std_cases std hs hw
  exact ⟨ver, h, hv, hl, h1, (textOf_eq_spec sha net hn std).symm.trans (htext _ net), hscr⟩

theorem segwitText_convOf_lower (net : Network) (hn : NetOk net) (ver : Nat) (h : Bytes) (hv : ver ≤ 1) :
    Bech32.lower (Bech32.segwitText net.bech32 ver (convOf h)) = Bech32.segwitText net.bech32 ver (convOf h) :=
  Bech32.segwitText_lower _ _ _ hn.hrpOk (by omega) (Bech32.convOf_lt h)

end Embit.Model.Address
