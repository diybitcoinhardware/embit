import EmbitModel.Model.Desc3
import EmbitModel.Model.Cost
/-
  The argument grammar of the miniscript operators, written once. `readMsBody` (Model/Descriptor), `readMsBody3`
  (Model/Desc3) and `readMsBodyCost` (Model/Cost) look the operator name up through the same chain and then go
  through the same argument lists. Here the chain is `opCases` (`opOf`: the operator it finds), the argument lists
  are the tables `Op.reader` (one for the two- and the three-valued readers, over the interface `RM`) and `Op.cost`,
  and three equations, true by unfolding, say that the model's functions are these tables. A proof about the body of
  an operator goes by cases on `Op`, with one closure lemma per combinator of the tables (`Costs` in CostDesc,
  `Settles` in Desc3, `Yields` in DescParseNormal).
-/
namespace Embit.Model.Descriptor
open Embit Embit.Miniscript

variable {K : Type} {α β : Type}

/-- the operators `readMsBody` knows, grouped by argument list -/
inductive Op
  | key (f : KeyFrag) | time (f : TimeFrag) | hash (f : HashFrag) | andor | bin (f : BinFrag) | thresh
  | multi (f : MultiFrag)

/-- the look-up chain of `readMsBody`: `k` on the operator found, `e` if there is none -/
def opCases {γ : Type} (op : Str) (e : γ) (k : Op → γ) : γ :=
  if let some f := keyFragOf op then k (.key f)
  else if let some f := timeFragOf op then k (.time f)
  else if let some f := hashFragOf op then k (.hash f)
  else if op = ['a', 'n', 'd', 'o', 'r'] then k .andor
  else if let some f := binFragOf op then k (.bin f)
  else if op = ['t', 'h', 'r', 'e', 's', 'h'] then k .thresh
  else if let some f := multiFragOf op then k (.multi f)
  else e

def opOf (op : Str) : Option Op := opCases op none some

theorem opCases_eq {γ : Type} (op : Str) (e : γ) (k : Op → γ) :
    opCases op e k = match opOf op with | some o => k o | none => e := by
  unfold opOf opCases
  rcases keyFragOf op with _ | f
  rotate_left
  · rfl
  rcases timeFragOf op with _ | f
  rotate_left
  · rfl
  rcases hashFragOf op with _ | f
  rotate_left
  · rfl
  by_cases h1 : op = ['a', 'n', 'd', 'o', 'r']
  · simp only [h1, if_true]
  rcases binFragOf op with _ | f
  rotate_left
  · simp only [h1, if_false]
  by_cases h2 : op = ['t', 'h', 'r', 'e', 's', 'h']
  · simp only [h2, if_true]; rfl
  rcases multiFragOf op with _ | f <;> simp only [h1, h2, if_false]

/-- what the two- and the three-valued readers are both written with: the answers, how a reader's answer is handed
    to what follows, and the loop over list arguments -/
structure RM (M : Type → Type) where
  ok : {α : Type} → α → M α
  fail : {α : Type} → M α
  lift : {α : Type} → Option α → M α
  bind : {α β : Type} → M (α × Stream) → (α → Stream → M β) → M β
  more : {α : Type} → (Stream → M (α × Stream)) → Nat → Stream → M (List α × Stream)

/-- the answer of a reader without fuel handed to `k`; its `none` becomes `e` -/
def obind {γ : Type} (e : γ) (r : Option (α × Stream)) (k : α → Stream → γ) : γ :=
  match r with
  | none => e
  | some (x, s) => k x s

def obindS {γ : Type} (e : γ) (r : Option Stream) (k : Stream → γ) : γ :=
  match r with
  | none => e
  | some s => k s

/-- sequencing of three-valued readers: `reject` and `outOfFuel` are handed up unchanged -/
def Res.bind (r : Res (α × Stream)) (k : α → Stream → Res β) : Res β :=
  match r with
  | .outOfFuel => .outOfFuel
  | .reject => .reject
  | .ok (x, s) => k x s

def optRM : RM Option := ⟨some, none, id, obind none, readMore⟩
def resRM : RM Res := ⟨Res.ok, Res.reject, Res.ofOption, Res.bind, readMore3⟩

namespace RM
variable {M : Type → Type} (I : RM M)

/-- `p`, then `q` on its answer -/
def thn (p : Stream → M (α × Stream)) (q : α → Stream → M β) : Stream → M β := fun s => I.bind (p s) q
/-- the same for a reader `p` without fuel -/
def othn (p : Stream → Option (α × Stream)) (q : α → Stream → M β) : Stream → M β := fun s => obind I.fail (p s) q
/-- the separator, then `q` -/
def comma (q : Stream → M β) : Stream → M β := fun s => obindS I.fail (expectChar ',' s) q
/-- the closing bracket after the last argument; `a` is the fragment read -/
def close (a : α) : Stream → M (α × Stream) := fun s => I.lift ((expectChar ')' s).map fun s => (a, s))
def ret (a : α) : Stream → M (α × Stream) := fun s => I.ok (a, s)
def guard (b : Bool) (a : α) : Stream → M (α × Stream) := fun s => if b then I.ok (a, s) else I.fail
end RM

/-- the argument list of each operator (`read_arguments` of the fragment's class); `sub` reads a sub-expression -/
def Op.reader {M : Type → Type} (I : RM M) (ops : KeyOps K) (tap : Bool) (sub : Stream → M (DMs K × Stream))
    (fuel : Nat) : Op → Stream → M (DMs K × Stream)
  | .key f => I.othn (readKey ops tap (f == .pk_h || f == .pkh)) fun k => I.close (.key f k)
  | .time f => I.othn readNumber fun n => I.close (.time f n)
  | .hash f => I.othn (readRaw (hashFragLen f)) fun h => I.close (.hash f h)
  | .andor => I.thn sub fun x => I.comma <| I.thn sub fun y => I.comma <| I.thn sub fun z => I.close (.andor x y z)
  | .bin f => I.thn sub fun x => I.comma <| I.thn sub fun y => I.close (.bin f x y)
  | .thresh => I.othn readNumber fun k => I.thn (I.more sub fuel) fun xs => I.ret (.thresh k xs)
  | .multi f => I.othn readNumber fun k => I.thn (I.more (fun t => I.lift (readKey ops tap false t)) fuel) fun keys =>
      I.guard (Gen.Ms.multiTaproot f == tap) (.multi f k keys)

-- `rfl` has to see that the model's own `match`es and those of `opCases`, `obind`, `Res.bind` are the same
-- `casesOn`; with smart unfolding the elaborator stops at the different matcher constants
set_option smartUnfolding false in
theorem readMsBody_eq (ops : KeyOps K) (tap : Bool) (sub : Stream → Option (DMs K × Stream)) (fuel : Nat) (op : Str)
    (s : Stream) : readMsBody ops tap sub fuel op s = opCases op none fun o => o.reader optRM ops tap sub fuel s := by
  rfl

set_option smartUnfolding false in
theorem readMsBody3_eq (ops : KeyOps K) (tap : Bool) (sub : Stream → Res (DMs K × Stream)) (fuel : Nat) (op : Str)
    (s : Stream) : readMsBody3 ops tap sub fuel op s = opCases op .reject fun o => o.reader resRM ops tap sub fuel s := by
  rfl

end Embit.Model.Descriptor

namespace Embit.Model.Cost
open Embit Embit.Miniscript Embit.Model.Descriptor

variable {K : Type} {α : Type}

namespace Alg
variable (A : Alg)

/-- cost `pc` of the reader `p`, then `q` if it answered -/
def thn (pc : Stream → Nat) (p : Stream → Option (α × Stream)) (q : Stream → Nat) : Stream → Nat := fun s =>
  A.seq (pc s) (obind 0 (p s) fun _ => q)
def comma (q : Stream → Nat) : Stream → Nat := fun s => A.seq (A.ops 1) (obindS 0 (expectChar ',' s) q)
def close : Stream → Nat := fun s => A.ops (closeOps s)
end Alg

/-- what the argument list of each operator costs; `sub` / `subc`: `Miniscript.read_from` and its cost -/
def _root_.Embit.Model.Descriptor.Op.cost (A : Alg) (ops : KeyOps K) (tap : Bool)
    (sub : Stream → Option (DMs K × Stream)) (subc : Stream → Nat) (fuel : Nat) : Op → Stream → Nat
  | .key f => A.thn (fun s => A.ops (readKeyOps s)) (readKey ops tap (f == .pk_h || f == .pkh)) A.close
  | .time _ => A.thn (fun s => A.ops (readNumberOps s)) readNumber A.close
  | .hash f => A.thn (fun _ => A.ops 1) (readRaw (hashFragLen f)) A.close
  | .andor => A.thn subc sub <| A.comma <| A.thn subc sub <| A.comma <| A.thn subc sub A.close
  | .bin _ => A.thn subc sub <| A.comma <| A.thn subc sub A.close
  | .thresh => A.thn (fun s => A.ops (readNumberOps s)) readNumber (readMoreCost A sub subc fuel)
  | .multi _ => A.thn (fun s => A.ops (readNumberOps s)) readNumber
      (readMoreCost A (readKey ops tap false) (fun s => A.ops (readKeyOps s)) fuel)

set_option smartUnfolding false in
theorem readMsBodyCost_eq (A : Alg) (ops : KeyOps K) (tap : Bool) (sub : Stream → Option (DMs K × Stream))
    (subc : Stream → Nat) (fuel : Nat) (op : Str) (s : Stream) :
    readMsBodyCost A ops tap sub subc fuel op s = opCases op 0 fun o => o.cost A ops tap sub subc fuel s := by
  rfl

end Embit.Model.Cost
