import EmbitModel.Proofs.Tx
/-
  C03 main lemmas: `Tx.read` inverts `Tx.ser` on well-formed transactions and accepts nothing else.
-/
namespace Embit
open Model Spec.Wire

def clearWitness (i : TxIn) : TxIn := { i with witness := [] }

theorem setWitnesses_clear (vin : List TxIn) :
    setWitnesses (vin.map clearWitness) (vin.map (·.witness)) = vin := by
  induction vin with
  | nil => rfl
  | cons i is ih => simp [setWitnesses, clearWitness, ih]

theorem Tx.read_ser (t : Tx) (r : Bytes) (h : WF t) : Tx.read (Tx.ser t ++ r) = some (t, r) := by
  have hver : ∀ r, readLe 4 (leN 4 t.version ++ r) = some (t.version, r) := fun r =>
    readLe_leN 4 t.version r (by have := h.version; omega)
  have hvin : ∀ r, readMany TxIn.read t.vin.length (t.vin.flatMap TxIn.ser ++ r)
      = some (t.vin.map clearWitness, r) := fun r =>
    readMany_enc_map TxIn.read TxIn.ser clearWitness t.vin r
      (fun i hi r => TxIn.read_ser i r (h.ins i hi))
  have hvout : ∀ r, readMany TxOut.read t.vout.length (t.vout.flatMap TxOut.ser ++ r)
      = some (t.vout, r) := fun r =>
    readMany_enc TxOut.read TxOut.ser t.vout r (fun o ho r => TxOut.read_ser o r (h.outs o ho))
  have hn0 : t.vin.length ≠ 0 := by have := h.nin; omega
  cases hs : Tx.isSegwit t with
  | false =>
    have hnowit : t.vin.map clearWitness = t.vin := by
      have : ∀ i ∈ t.vin, clearWitness i = i := by
        intro i hi
        have : TxIn.isSegwit i = false := by
          unfold Tx.isSegwit at hs
          rw [List.any_eq_false] at hs
          simpa using hs i hi
        rw [TxIn.isSegwit_iff] at this
        simp at this
        cases i; simp_all [clearWitness]
      calc t.vin.map clearWitness = t.vin.map id := List.map_congr_left this
        _ = t.vin := List.map_id _
    simp only [Tx.ser, hs, Tx.read, List.append_assoc, Bool.false_eq_true, if_false,
      hver, Compact.read_enc _ _ h.ninLt, hn0, hvin,
      Compact.read_enc _ _ h.noutLt, hvout, readLe_leN 4 t.locktime r (by have := h.locktime; omega),
      hnowit, List.append_nil]
  | true =>
    have hw : ∀ r, readMany witnessRead (t.vin.map clearWitness).length
        (t.vin.flatMap (fun i => witnessSer i.witness) ++ r) = some (t.vin.map (·.witness), r) := by
      intro r
      have := readMany_enc witnessRead witnessSer (t.vin.map (·.witness)) r
        (fun w hw r => by
          simp at hw
          obtain ⟨i, hi, rfl⟩ := hw
          exact witnessRead_ser _ r (h.ins i hi).witCount (h.ins i hi).witItems)
      simpa [List.flatMap_map] using this
    have hs' : (t.vin.any TxIn.isSegwit) = true := hs
    simp only [Tx.ser, hs, Tx.read, List.append_assoc, if_true,
      hver, List.cons_append, List.nil_append]
    have c0 : Compact.read (0 :: 1 :: (Compact.enc t.vin.length ++ (t.vin.flatMap TxIn.ser ++
        (Compact.enc t.vout.length ++ (t.vout.flatMap TxOut.ser ++
        (t.vin.flatMap (fun i => witnessSer i.witness) ++ (leN 4 t.locktime ++ r)))))))
        = some (0, 1 :: (Compact.enc t.vin.length ++ (t.vin.flatMap TxIn.ser ++
        (Compact.enc t.vout.length ++ (t.vout.flatMap TxOut.ser ++
        (t.vin.flatMap (fun i => witnessSer i.witness) ++ (leN 4 t.locktime ++ r))))))) := by
      simp [Compact.read]
    simp only [c0, if_true, takeN, List.length_cons]
    simp only [Nat.le_add_left, if_true, List.take_succ_cons, List.take_zero, List.drop_succ_cons,
      List.drop_zero, ne_eq, not_true_eq_false, if_false,
      Compact.read_enc _ _ h.ninLt, hvin, Compact.read_enc _ _ h.noutLt, hvout, hw,
      setWitnesses_clear, hs', Bool.not_true, Bool.false_eq_true,
      readLe_leN 4 t.locktime r (by have := h.locktime; omega)]

theorem Tx.read_sound {b r : Bytes} {t : Tx} (h : Tx.read b = some (t, r)) :
    b = Tx.ser t ++ r ∧ WF t := by
  unfold Tx.read at h
  split at h
  · simp at h
  · rename_i ver r1 h1
    obtain ⟨e1, l1⟩ := readLe_sound h1
    split at h
    · simp at h
    · rename_i n0 r2 h2
      obtain ⟨e2, l2⟩ := Compact.read_sound h2
      split at h
      · rename_i hn0
        subst hn0
        split at h
        · simp at h
        · rename_i flag r3 h3
          obtain ⟨e3, l3⟩ := takeN_sound h3
          split at h
          · simp at h
          · rename_i hflag
            simp only [ne_eq, Decidable.not_not] at hflag
            subst hflag
            split at h
            · simp at h
            · rename_i n r4 h4
              obtain ⟨e4, l4⟩ := Compact.read_sound h4
              split at h
              · simp at h
              · rename_i vin r5 h5
                obtain ⟨e5, l5, a5⟩ := readIns_sound h5
                split at h
                · simp at h
                · rename_i m r6 h6
                  obtain ⟨e6, l6⟩ := Compact.read_sound h6
                  split at h
                  · simp at h
                  · rename_i vout r7 h7
                    obtain ⟨e7, l7, a7⟩ := readOuts_sound h7
                    split at h
                    · simp at h
                    · rename_i wits r8 h8
                      obtain ⟨e8, l8, a8⟩ := readMany_sound witnessRead witnessSer
                        (fun w => w.length < 2^64 ∧ ∀ d ∈ w, d.length < 2^64)
                        (fun _ _ _ hx => witnessRead_sound hx) _ _ _ _ h8
                      obtain ⟨s1, s2, s3, s4⟩ := reattach_props setWitnesses (fun i w => { i with witness := w })
                        (·.witness) rfl (fun _ _ _ _ => rfl) TxIn.ser witnessSer _ WFIn _ (fun _ _ => rfl)
                        (fun _ _ => rfl) (fun _ _ hi ww => ⟨hi.1.txid, hi.1.vout, hi.1.script, hi.1.sequence, ww.1, ww.2⟩)
                        vin wits l8 a5 a8
                      simp only at h
                      split at h
                      · simp at h
                      · rename_i hseg
                        simp only [Bool.not_eq_true, Bool.not_eq_false'] at hseg
                        split at h
                        · simp at h
                        · rename_i lt r9 h9
                          obtain ⟨e9, l9⟩ := readLe_sound h9
                          simp at h
                          obtain ⟨ht, hr⟩ := h
                          subst ht; subst hr
                          have hseg' : Tx.isSegwit
                            { version := ver, vin := setWitnesses vin wits, vout := vout, locktime := lt }
                              = true := by simpa [Tx.isSegwit] using hseg
                          have hne : vin.length ≠ 0 := by
                            intro h0
                            have : setWitnesses vin wits = [] := by
                              apply List.eq_nil_of_length_eq_zero; omega
                            rw [this] at hseg
                            simp at hseg
                          refine ⟨?_, ⟨by simpa using l1, by simpa using l9, by simp [s1]; omega,
                            by simp [s1, l5]; exact l4, by simp [l7]; exact l6, s4, a7⟩⟩
                          simp only [Tx.ser, hseg', if_true, s1, s2, s3, List.append_assoc]
                          subst l5; subst l7
                          simp [e1, e2, e3, e4, e5, e6, e7, e8, e9, Compact.enc]
      · rename_i hn0
        split at h
        · simp at h
        · rename_i vin r5 h5
          obtain ⟨e5, l5, a5⟩ := readIns_sound h5
          split at h
          · simp at h
          · rename_i m r6 h6
            obtain ⟨e6, l6⟩ := Compact.read_sound h6
            split at h
            · simp at h
            · rename_i vout r7 h7
              obtain ⟨e7, l7, a7⟩ := readOuts_sound h7
              split at h
              · simp at h
              · rename_i lt r9 h9
                obtain ⟨e9, l9⟩ := readLe_sound h9
                simp at h
                obtain ⟨ht, hr⟩ := h
                subst ht; subst hr
                have hseg : Tx.isSegwit
                    { version := ver, vin := vin, vout := vout, locktime := lt } = false := by
                  simp only [Tx.isSegwit, List.any_eq_false]
                  intro i hi
                  rw [TxIn.isSegwit_iff, (a5 i hi).2]; simp
                refine ⟨?_, ⟨by simpa using l1, by simpa using l9, by simp; omega,
                  by simp [l5]; exact l2, by simp [l7]; exact l6, fun i hi => (a5 i hi).1, a7⟩⟩
                simp only [Tx.ser, hseg, List.append_assoc]
                subst l5; subst l7
                simp [e1, e2, e5, e6, e7, e9]

theorem Tx.exact : ExactRead Tx.read Tx.ser WF := ⟨Tx.read_ser, Tx.read_sound⟩

theorem Tx.exact_wire : ExactRead Tx.read encode WF := Tx.exact.congr fun t _ => Tx.ser_eq_encode t

end Embit
