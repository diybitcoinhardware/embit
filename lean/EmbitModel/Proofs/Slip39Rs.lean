import EmbitModel.Model.Slip39
import EmbitModel.Proofs.PolymodLinear
import EmbitModel.Proofs.DigitsBridge
/-
  RS1024: the polymod step is `Polymod.step 10 20 gsel` (Proofs/PolymodLinear.lean), XOR-linear in (state, symbol);
  consequences: the syndrome of an error pattern does not depend on the code word, and appending the created
  checksum always verifies.
  Everything on `Nat` by the core bitwise lemmas (no `bv_decide`).
-/
namespace Embit.Model.Slip39
open Embit.Polymod Embit.Digits

theorem and1023 (a : Nat) : a &&& 1023 = a % 1024 := Nat.and_two_pow_sub_one_eq_mod a 10

def sel (b i g : Nat) : Nat := if (b >>> i) &&& 1 = 1 then g else 0

theorem sel_xor (b1 b2 i g : Nat) : sel (b1 ^^^ b2) i g = sel b1 i g ^^^ sel b2 i g := ite_bit_xor b1 b2 i g

theorem sel_zero (i g : Nat) : sel 0 i g = 0 := by simp [sel]

theorem genFold_acc (b : Nat) (gs : List Nat) (i chk : Nat) :
    genFold b gs i chk = chk ^^^ genFold b gs i 0 := by
  induction gs generalizing i chk with
  | nil => simp [genFold]
  | cons g gs ih =>
    simp only [genFold]
    rw [ih (i + 1) (chk ^^^ _), ih (i + 1) (0 ^^^ _)]
    simp [Nat.xor_assoc]

theorem genFold_xor (b1 b2 : Nat) (gs : List Nat) (i : Nat) :
    genFold (b1 ^^^ b2) gs i 0 = genFold b1 gs i 0 ^^^ genFold b2 gs i 0 := by
  induction gs generalizing i with
  | nil => simp [genFold]
  | cons g gs ih =>
    simp only [genFold]
    rw [genFold_acc _ _ _ (0 ^^^ _), genFold_acc b1 _ _ (0 ^^^ _), genFold_acc b2 _ _ (0 ^^^ _), ih]
    have := sel_xor b1 b2 i g
    unfold sel at this
    rw [this]
    simp only [Nat.zero_xor]
    ac_rfl

theorem genFold_zero (gs : List Nat) (i : Nat) : genFold 0 gs i 0 = 0 := by
  induction gs generalizing i with
  | nil => rfl
  | cons g gs ih => simp [genFold, ih]

theorem gen_lt : ∀ g ∈ rs1024Gen, g < 2 ^ 30 := by decide

theorem genFold_lt (b : Nat) (gs : List Nat) (hg : ∀ g ∈ gs, g < 2 ^ 30) (i chk : Nat) (h : chk < 2 ^ 30) :
    genFold b gs i chk < 2 ^ 30 := by
  induction gs generalizing i chk with
  | nil => simpa [genFold] using h
  | cons g gs ih =>
    simp only [genFold]
    apply ih (fun g' hg' => hg g' (List.mem_cons_of_mem _ hg'))
    apply Nat.xor_lt_two_pow h
    split
    · exact hg g (List.mem_cons_self)
    · decide

/-- what the `for i in range(10)` loop XORs in -/
def gsel (b : Nat) : Nat := genFold b rs1024Gen 0 0

theorem gsel_sel : Sel 10 20 gsel where
  xor s t := genFold_xor s t rs1024Gen 0
  lt t := genFold_lt t _ gen_lt 0 0 (by decide)

theorem rs1024Step_eq_step : rs1024Step = step 10 20 gsel := by
  funext chk v
  rw [rs1024Step, genFold_acc]
  rfl

theorem rs1024Step_xor (a b v w : Nat) :
    rs1024Step (a ^^^ b) (v ^^^ w) = rs1024Step a v ^^^ rs1024Step b w := by
  rw [rs1024Step_eq_step]; exact step_xor gsel_sel a b v w

theorem rs1024Step_zero : rs1024Step 0 0 = 0 := by decide

theorem rs1024Step_zero_left (v : Nat) : rs1024Step 0 v = v := by
  unfold rs1024Step
  rw [genFold_acc]
  simp [genFold_zero]

def xorList (a b : List Nat) : List Nat := List.zipWith (· ^^^ ·) a b

theorem foldl_step_xor (vs ws : List Nat) (h : vs.length = ws.length) (a b : Nat) :
    (xorList vs ws).foldl rs1024Step (a ^^^ b) = vs.foldl rs1024Step a ^^^ ws.foldl rs1024Step b := by
  rw [rs1024Step_eq_step]; exact Polymod.foldl_step_xor gsel_sel vs ws h a b

theorem foldl_step_zeros (n : Nat) : (List.replicate n 0).foldl rs1024Step 0 = 0 := by
  induction n with
  | zero => rfl
  | succ n ih => simp [List.replicate_succ, rs1024Step_zero, ih]

theorem rs1024Step_lt (chk v : Nat) (hv : v < 2 ^ 30) : rs1024Step chk v < 2 ^ 30 := by
  rw [rs1024Step_eq_step]; exact step_lt gsel_sel chk v hv

theorem words_eq_fixedBE (p : Nat) :
    [(p >>> 20) &&& 1023, (p >>> 10) &&& 1023, p &&& 1023] = fixedBE (2 ^ 10) 3 p :=
  wordsOfBits_eq p 3

/-- appending the created checksum always verifies (any customisation string, any data): the three words of
    `P ^^^ 1`, where `P` is the register after three zero words, XOR `P ^^^ 1` into `P` -/
theorem rs1024_create_verify (cs data : List Nat) :
    rs1024Verify cs (data ++ rs1024Create cs data) = true := by
  unfold rs1024Verify rs1024Create rs1024Polymod
  simp only [beq_iff_eq, List.foldl_append]
  generalize data.foldl rs1024Step (cs.foldl rs1024Step 1) = s
  have hp : ([0, 0, 0].foldl rs1024Step s ^^^ 1) < 2 ^ 30 :=
    Nat.xor_lt_two_pow (rs1024Step_lt _ 0 (by decide)) (by decide)
  rw [words_eq_fixedBE, rs1024Step_eq_step,
    foldl_step_symbols gsel_sel s _ (fixedBE_lt (Nat.two_pow_pos 10) 3 _) (by rw [fixedBE_length]; decide),
    fixedBE_length, ofBE_fixedBE, ← rs1024Step_eq_step, show List.replicate 3 0 = [0, 0, 0] from rfl,
    Nat.mod_eq_of_lt hp, ← Nat.xor_assoc, Nat.xor_self, Nat.zero_xor]

end Embit.Model.Slip39
