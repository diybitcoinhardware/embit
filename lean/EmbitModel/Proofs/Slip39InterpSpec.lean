import EmbitModel.Proofs.Slip39Recover
/-
  `ShareSet.interpolate` = the executable `Interpolation` of the spec (Lagrange formula written with carry-less
  multiplication and a^254 inverses), for well-formed share data.
-/
namespace Embit.Model.Slip39
open Embit.Spec.Slip39 (gfMul gfInv gfProd xorAll basisAt basisValues interpolation)

theorem gfProd_val (l : List Nat) (h : ∀ a ∈ l, a < 256) : gfProd l = ((l.map GF256.ofNat).prod).val := by
  induction l with
  | nil => rfl
  | cons a l ih =>
    have ha := h a List.mem_cons_self
    have ih' := ih (fun a' h' => h a' (List.mem_cons_of_mem _ h'))
    simp only [gfProd, List.foldr_cons, List.map_cons, List.prod_cons, GF256.mul_val, ofNat_val ha] at ih' ⊢
    rw [ih', ← mulL_eq_gfMul _ _ ha (GF256.lt _)]

theorem xorAll_val (l : List Nat) (h : ∀ a ∈ l, a < 256) : xorAll l = ((l.map GF256.ofNat).sum).val := by
  induction l with
  | nil => rfl
  | cons a l ih =>
    have ha := h a List.mem_cons_self
    have ih' := ih (fun a' h' => h a' (List.mem_cons_of_mem _ h'))
    simp only [xorAll, List.foldr_cons, List.map_cons, List.sum_cons, GF256.add_val, ofNat_val ha] at ih' ⊢
    rw [ih']

theorem ofNat_self (a : GF256) : GF256.ofNat a.val = a := by
  ext; exact ofNat_val a.lt

theorem basisAt_eq (x : Nat) (xs : List Nat) (hx : x < 256) (hxs : ∀ a ∈ xs, a < 256) (hnd : xs.Nodup)
    (i : Nat) (hi : i < xs.length) : basisAt x xs i = (basisVal x xs xs[i]).val := by
  unfold basisAt basisVal
  have hg : xs.getD i 0 = xs[i] := by simp [List.getD, List.getElem?_eq_getElem hi]
  have he : xs.eraseIdx i = xs.erase xs[i] := (hnd.erase_getElem i hi).symm
  have hxi := hxs xs[i] (List.getElem_mem hi)
  simp only [hg, he]
  rw [prod_map_div]
  have hsub : ∀ a ∈ xs.erase xs[i], a < 256 := fun a h => hxs a (List.mem_of_mem_erase h)
  have hdiv : ∀ a ∈ xs.erase xs[i], gfMul (x ^^^ a) (gfInv (xs[i] ^^^ a)) = mulL (x ^^^ a) (invL (xs[i] ^^^ a)) :=
    fun a ha => by
      rw [gfInv_eq_invL _ (xor_lt_256 hxi (hsub a ha)), mulL_eq_gfMul _ _ (xor_lt_256 hx (hsub a ha)) (invL_lt _)]
  rw [gfProd_val]
  · rw [List.map_map]
    congr 2
    apply List.map_congr_left
    intro a ha
    have h1 := hsub a ha
    simp only [Function.comp]
    rw [hdiv a ha]
    ext
    simp only [ofNat_val (mulL_lt _ _), div_eq_mul_inv, GF256.mul_val, GF256.inv_val, GF256.sub_eq_add, GF256.add_val,
      ofNat_val hx, ofNat_val h1, ofNat_val hxi]
  · intro a ha
    obtain ⟨b, hb, rfl⟩ := List.mem_map.mp ha
    rw [hdiv b hb]
    exact mulL_lt _ _

theorem interpolate_eq_spec {data : List (Nat × Bytes)} {L : Nat} (g : Good data L) (x : Nat) (hx : x < 256)
    (hnot : x ∉ data.map (·.1)) : interpolate x data = interpolation L x data := by
  apply ext_getD
  · rw [interpolate_length' g]; simp [interpolation]
  · intro b hb
    rw [interpolate_length' g] at hb
    apply toG_inj
    cases data with
    | nil => exact absurd rfl g.ne
    | cons s data =>
      rw [interpolate_byte g x hx hnot b hb]
      have hget : (interpolation L x (s :: data)).getD b 0 =
          UInt8.ofNat (xorAll (List.zipWith (fun (p : Nat × Bytes) l => gfMul (p.2.getD b 0).toNat l) (s :: data)
            (basisValues x ((s :: data).map (·.1))))) := by
        simp [interpolation, List.getD, hb]
      rw [hget]
      have hz : List.zipWith (fun (p : Nat × Bytes) l => gfMul (p.2.getD b 0).toNat l) (s :: data)
            (basisValues x ((s :: data).map (·.1))) =
          (s :: data).map (fun p => (toG (p.2.getD b 0) * basisVal x ((s :: data).map (·.1)) p.1).val) := by
        apply List.ext_getElem
        · simp [basisValues]
        · intro i h1 h2
          have hi : i < (s :: data).length := by simpa [basisValues] using h1
          have hi' : i < ((s :: data).map (·.1)).length := by simpa using hi
          simp only [List.getElem_zipWith, basisValues, List.getElem_map, List.getElem_range]
          rw [basisAt_eq x _ hx g.xs_lt g.nodup i hi']
          simp only [List.getElem_map, GF256.mul_val, toG]
          exact (mulL_eq_gfMul _ _ (UInt8.toNat_lt _) (GF256.lt _)).symm
      rw [hz, xorAll_val _ (by
        intro a ha; obtain ⟨p, _, rfl⟩ := List.mem_map.mp ha; exact GF256.lt _)]
      rw [List.map_map]
      have : (GF256.ofNat ∘ fun p : Nat × Bytes => (toG (p.2.getD b 0) * basisVal x ((s :: data).map (·.1)) p.1).val) =
          fun p => toG (p.2.getD b 0) * basisVal x ((s :: data).map (·.1)) p.1 := by
        funext p; exact ofNat_self _
      rw [this]
      ext
      simp only [toG, UInt8.toNat_ofNat']
      exact (Nat.mod_eq_of_lt (GF256.lt _)).symm

theorem recoverSecret_eq_spec (P : Prims) {T : List (Nat × Bytes)} {L : Nat} (g : Good T L) (t : Nat) (ht : t ≠ 1)
    (h254 : 254 ∉ T.map (·.1)) (h255 : 255 ∉ T.map (·.1)) :
    recoverSecret P T = Spec.Slip39.recoverSecret ⟨P.hmac, P.pbkdf2⟩ t T := by
  cases T with
  | nil => exact absurd rfl g.ne
  | cons s0 T' =>
    have hs := g.len s0 List.mem_cons_self
    unfold recoverSecret Spec.Slip39.recoverSecret
    simp only [ht, if_false, hs]
    rw [interpolate_eq_spec g 255 (by decide) h255, interpolate_eq_spec g 254 (by decide) h254]
    simp only [digest]
    by_cases hc : List.take 4 (interpolation L 254 (s0 :: T')) =
        List.take 4 (P.hmac (List.drop 4 (interpolation L 254 (s0 :: T'))) (interpolation L 255 (s0 :: T')))
    · simp [hc]
    · simp [hc]

/-- `split_secret` = the spec's `SplitSecret` run on the same random choices (k ≥ 2): the first n−4 draws are `R`,
    the following (k−2)·n draws are y_0 … y_{k−3} -/
theorem splitSecret_eq_spec (P : Prims) (hH : ∀ key msg, 4 ≤ (P.hmac key msg).length)
    (secret : Bytes) (k n : Nat) (tape : List Nat) (shares : List (Nat × Bytes))
    (hs : splitSecret P secret k n tape = some shares) (hk : 2 ≤ k) :
    ∃ (r : Bytes) (ys : List Bytes), r.length = secret.length - 4 ∧ ys.length = k - 2 ∧
      Spec.Slip39.splitSecret ⟨P.hmac, P.pbkdf2⟩ k n secret r ys = some shares := by
  obtain ⟨hkn, hn, hsz, r, base, hr, hbx, hbl, rfl⟩ := splitSecret_structure P secret k n tape shares hs hk
  have hblen : base.length = k - 2 := by
    have := congrArg List.length hbx; simpa using this
  refine ⟨r, base.map (·.2), hr, by simpa using hblen, ?_⟩
  have hbase : (List.range (k - 2)).map (fun i => (i, (base.map (·.2)).getD i [])) = base := by
    apply List.ext_getElem
    · simp [hblen]
    · intro i h1 h2
      have hi : i < base.length := h2
      have hx : (base.map (·.1))[i]'(by simpa using hi) = i := by
        simp only [hbx, List.getElem_range']; omega
      simp only [List.getElem_map, List.getElem_range, List.getD, List.getElem?_map, List.getElem?_eq_getElem hi,
        Option.map_some, Option.getD_some]
      rw [List.getElem_map] at hx
      exact Prod.ext hx.symm rfl
  -- well-formedness of the base points (as in `splitSecret_onpoly`)
  have hdg : (digest P r secret).length = 4 := by simp [digest]; exact hH r secret
  obtain ⟨hBx, gB'⟩ := good_base base (digest P r secret ++ r) secret (k - 2) (by omega) hbx hbl
    (by simp [hdg, hr]; omega)
  unfold Spec.Slip39.splitSecret
  have c1 : (1 ≤ k ∧ k ≤ n ∧ n ≤ 16) := ⟨by omega, hkn, hn⟩
  simp only [c1, and_self, decide_true, Bool.not_true, Bool.false_eq_true, if_false]
  rw [if_neg (by omega)]
  have c2 : ¬ (r.length ≠ secret.length - 4 ∨ (base.map (·.2)).length ≠ k - 2 ∨
      (base.map (·.2)).any (fun y => decide (y.length ≠ secret.length)) = true) := by
    simp only [hr, ne_eq, not_true_eq_false, List.length_map, hblen, false_or, List.any_map, List.any_eq_true,
      Function.comp, decide_eq_true_eq, not_exists, not_and, not_not]
    exact fun s hs' => hbl s hs'
  rw [if_neg c2, hbase]
  simp only [Option.some.injEq]
  have hsplit : List.range n = List.range (k - 2) ++ List.range' (k - 2) (n - (k - 2)) := by
    rw [List.range_eq_range', List.range_eq_range',
      show List.range' (k - 2) (n - (k - 2)) = List.range' (0 + (k - 2)) (n - (k - 2)) by simp,
      List.range'_append_1]
    congr 1; omega
  rw [hsplit, List.map_append]
  congr 1
  · conv_rhs => rw [← hbase]
    apply List.map_congr_left
    intro i hi
    simp only [List.mem_range] at hi
    simp [hi]
  · apply List.map_congr_left
    intro i hi
    simp only [List.mem_range'_1] at hi
    have hnot : i ∉ (base ++ [(254, digest P r secret ++ r), (255, secret)]).map (fun x : Nat × Bytes => x.1) := by
      rw [hBx]; simp [List.mem_range'_1]; omega
    rw [if_neg (by omega)]
    have := interpolate_eq_spec gB' i (by omega) hnot
    simp only [digest] at this ⊢
    rw [this]

end Embit.Model.Slip39
