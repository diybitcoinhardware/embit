import EmbitModel.Proofs.PsbtReject
/-
  C04X helpers: a second PSBT_IN_NON_WITNESS_UTXO pair (key `00`) in an input scope is refused in EVERY reader mode
  (`fixes/fix-compress-dup-utxo.diff`: the memory-saving modes keep only `_txhash` / `_utxo` of the previous
  transaction, so `read_value` has to look at `_txhash` too).
-/
namespace Embit
open Model

/-- "a previous transaction was read": the parsed transaction (KEEP_ALL, or no outpoint known yet) or its hash -/
def Model.InScope.hasPrev (s : InScope) : Bool := s.nonWitnessUtxo.isSome || s.txhash.isSome

local macro "finish_prev" h:ident hp:ident : tactic => `(tactic| (
  repeat' (split at $h:ident)
  all_goals (try (simp at $h:ident; done))
  all_goals (try (have e := Option.some.inj $h; subst e))
  all_goals (first
    | exact $hp
    | (simp [Model.InScope.hasPrev]; done)
    | (simp [Model.InScope.hasPrev] at $hp:ident ⊢; exact $hp))))

theorem InScope.addPair_keeps_prev (ko : KeyOps) (sha : Bytes → Bytes) (c : Nat) (s s' : InScope) (k v : Bytes)
    (h : InScope.addPair ko sha c s k v = some s') (hp : s.hasPrev = true) : s'.hasPrev = true := by
  cases InScope.addPair_step h with
  | utxoStreamed => simp [Model.InScope.hasPrev]
  | nonWitnessUtxo => simp [Model.InScope.hasPrev]
  | _ => exact hp

theorem InScope.addPairs_keeps_prev (ko : KeyOps) (sha : Bytes → Bytes) (c : Nat) :
    ∀ (kvs : List KV) (s s' : InScope), InScope.addPairs ko sha c s kvs = some s' → s.hasPrev = true →
      s'.hasPrev = true :=
  fun _ _ _ h hp => InScope.addPairs_invariant (Q := fun _ => True)
    (fun _ hp h1 => InScope.addPair_keeps_prev ko sha c _ _ _ _ h1 hp) (fun _ _ => trivial) hp h

theorem InScope.addPair_00_sets_prev (ko : KeyOps) (sha : Bytes → Bytes) (c : Nat) (s s' : InScope) (v : Bytes)
    (h : InScope.addPair ko sha c s [0x00] v = some s') : s'.hasPrev = true := by
  simp only [InScope.addPair, if_true] at h
  repeat' (split at h)
  all_goals (try (simp at h; done))
  all_goals (have e := Option.some.inj h; subst e; simp [Model.InScope.hasPrev])

theorem InScope.addPair_00_refused (ko : KeyOps) (sha : Bytes → Bytes) (c : Nat) (s : InScope) (v : Bytes)
    (hp : s.hasPrev = true) : InScope.addPair ko sha c s [0x00] v = none := by
  simp only [Model.InScope.hasPrev, Bool.or_eq_true] at hp
  rcases hp with hp | hp <;> simp [InScope.addPair, hp]

theorem InScope.addPairs_dup_utxo_none (ko : KeyOps) (sha : Bytes → Bytes) (c : Nat) (s : InScope)
    (a b d : List KV) (v1 v2 : Bytes) :
    InScope.addPairs ko sha c s (a ++ ([0x00], v1) :: (b ++ ([0x00], v2) :: d)) = none := by
  rw [InScope.addPairs_append]
  cases InScope.addPairs ko sha c s a with
  | none => rfl
  | some s1 =>
    simp only [Option.bind_some, InScope.addPairs]
    cases h1 : InScope.addPair ko sha c s1 [0x00] v1 with
    | none => rfl
    | some s2 =>
      simp only []
      rw [InScope.addPairs_append]
      cases h2 : InScope.addPairs ko sha c s2 b with
      | none => rfl
      | some s3 =>
        have hp := InScope.addPairs_keeps_prev ko sha c b s2 s3 h2 (InScope.addPair_00_sets_prev ko sha c s1 s2 v1 h1)
        simp only [Option.bind_some, InScope.addPairs, InScope.addPair_00_refused ko sha c s3 v2 hp]

theorem readIns_scope_none (ko : KeyOps) (sha : Bytes → Bytes) (c : Nat) (tx : Option Tx) :
    ∀ (scopes : List (List KV)) (j n i : Nat) (kvs : List KV) (rest : Bytes),
      (∀ kvs ∈ scopes, ∀ kv ∈ kvs, KVWF kv) → scopes[j]? = some kvs → j < n →
      (∀ s, InScope.addPairs ko sha c s kvs = none) →
      readIns ko sha c tx n i (scopes.flatMap writeKVs ++ rest) = none := by
  intro scopes
  induction scopes with
  | nil => intro j n i kvs rest _ hj; simp at hj
  | cons x xs ih =>
    intro j n i kvs rest hs hj hn hbad
    obtain ⟨n', rfl⟩ : ∃ n', n = n' + 1 := ⟨n - 1, by omega⟩
    simp only [List.flatMap_cons, List.append_assoc, readIns,
      readKVs_write x _ (hs x (by simp))]
    cases j with
    | zero =>
      simp only [List.getElem?_cons_zero, Option.some.injEq] at hj
      subst hj
      rw [hbad]
    | succ j' =>
      simp only [List.getElem?_cons_succ] at hj
      cases InScope.addPairs ko sha c (seedIn tx i) x with
      | none => rfl
      | some s =>
        rw [ih j' n' (i + 1) kvs rest (fun k hk => hs k (by simp [hk])) hj (by omega) hbad]

/-- `PSBT.parse`, any mode: a framed PSBT one of whose INPUT scopes (number `j` below the input count the global
    map announces) is refused from every seed is refused -/
theorem parse_input_scope_none (ko : KeyOps) (sha : Bytes → Bytes) (c : Nat) (g : List KV) (scopes : List (List KV))
    (hg : ∀ kv ∈ g, KVWF kv) (hs : ∀ kvs ∈ scopes, ∀ kv ∈ kvs, KVWF kv)
    (j : Nat) (kvs : List KV) (hj : scopes[j]? = some kvs) (hbad : ∀ s, InScope.addPairs ko sha c s kvs = none)
    (hin : ∀ tx ver unk gs, globalFold none none [] g = some (tx, ver, unk) →
      (tx.isSome && ver == some 2) = false → (tx.isNone && !(ver == some 2)) = false →
      parseUnknowns ko (ver == some 2) (gstate0 tx) unk = some gs → j < gs.nin.getD 0) :
    Psbt.parse ko sha c (framePsbt g scopes) = none := by
  have h1 : takeN 5 (psbtMagic ++ (writeKVs g ++ scopes.flatMap writeKVs))
      = some (psbtMagic, writeKVs g ++ scopes.flatMap writeKVs) := takeN_append psbtMagic _
  have h2 := readKVs_write g (scopes.flatMap writeKVs) hg
  unfold Psbt.parse framePsbt
  simp only [h1, h2]
  cases hgf : globalFold none none [] g with
  | none => simp
  | some r =>
    obtain ⟨tx, ver, unk⟩ := r
    simp only [ne_eq, not_true_eq_false, if_false]
    split
    · rfl
    rename_i c1
    split
    · rfl
    rename_i c2
    cases hpu : parseUnknowns ko (ver == some 2) (gstate0 tx) unk with
    | none => simp only [gstate0] at hpu; simp only [hpu]
    | some gs =>
      have hlt := hin tx ver unk gs hgf (by simpa using c1) (by simpa using c2) hpu
      simp only [gstate0] at hpu
      simp only [hpu]
      have := readIns_scope_none ko sha c tx scopes j (gs.nin.getD 0) 0 kvs [] hs hj hlt hbad
      simp only [List.append_nil] at this
      rw [this]

end Embit
