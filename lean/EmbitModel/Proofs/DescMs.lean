import EmbitModel.Proofs.DescText
import EmbitModel.Proofs.DescDerive
/-
  Helper lemmas for C12: `Miniscript.read_from` / `read_arguments` / `Number` / `Raw` against `__str__`.
-/
namespace Embit.Model.Descriptor
open Embit Embit.Miniscript

variable {K : Type}

theorem readNumberAux_digits : ∀ (ds : Str) (acc : Nat) (b : Str) (c : Char) (r : Str),
    (∀ x ∈ ds, (digitVal x).isSome = true) → digitVal c = none →
    readNumberAux acc b (ds ++ c :: r) = some (digitsVal acc ds, ⟨ds.reverse ++ b, c :: r⟩) := by
  intro ds
  induction ds with
  | nil => intro acc b c r _ hc; simp [readNumberAux, hc, digitsVal]
  | cons d ds ih =>
    intro acc b c r hd hc
    have h0 := hd d List.mem_cons_self
    cases hv : digitVal d with
    | none => rw [hv] at h0; cases h0
    | some v =>
      simp only [List.cons_append, readNumberAux, hv, digitsVal, Option.getD_some]
      rw [ih _ (d :: b) c r (fun x hx => hd x (List.mem_cons_of_mem _ hx)) hc]
      simp

theorem readNumber_showNat (n : Nat) (b : Str) (c : Char) (r : Str) (hc : digitVal c = none) :
    readNumber ⟨b, showNat n ++ c :: r⟩ = some (n, ⟨(showNat n).reverse ++ b, c :: r⟩) := by
  unfold readNumber
  rw [readNumberAux_digits (showNat n) 0 b c r (showNat_digits n) hc, digitsVal_showNat]

theorem readRaw_hexlify (len : Nat) (h : Bytes) (hl : h.length = len) (b r : Str) :
    readRaw len ⟨b, hexlify h ++ r⟩ = some (h, ⟨(hexlify h).reverse ++ b, r⟩) := by
  unfold readRaw
  have hlen : (hexlify h).length = 2 * len := by rw [hexlify_length, hl]
  rw [readN_exact (2 * len) b (hexlify h) r hlen]
  simp [hlen, unhexlify_hexlify]

theorem keyFragOf_name (f : KeyFrag) : keyFragOf (keyFragName f) = some f := by cases f <;> decide
theorem timeFragOf_name (f : TimeFrag) : keyFragOf (timeFragName f) = none ∧ timeFragOf (timeFragName f) = some f := by
  cases f <;> decide
theorem hashFragOf_name (f : HashFrag) :
    keyFragOf (hashFragName f) = none ∧ timeFragOf (hashFragName f) = none ∧ hashFragOf (hashFragName f) = some f := by
  cases f <;> decide
theorem andor_name : keyFragOf ['a', 'n', 'd', 'o', 'r'] = none ∧ timeFragOf ['a', 'n', 'd', 'o', 'r'] = none ∧
    hashFragOf ['a', 'n', 'd', 'o', 'r'] = none := by decide
theorem binFragOf_name (f : BinFrag) :
    keyFragOf (binFragName f) = none ∧ timeFragOf (binFragName f) = none ∧ hashFragOf (binFragName f) = none ∧
      binFragName f ≠ ['a', 'n', 'd', 'o', 'r'] ∧ binFragOf (binFragName f) = some f := by
  cases f <;> decide
theorem thresh_name : keyFragOf ['t', 'h', 'r', 'e', 's', 'h'] = none ∧ timeFragOf ['t', 'h', 'r', 'e', 's', 'h'] = none ∧
    hashFragOf ['t', 'h', 'r', 'e', 's', 'h'] = none ∧ (['t', 'h', 'r', 'e', 's', 'h'] : Str) ≠ ['a', 'n', 'd', 'o', 'r'] ∧
    binFragOf ['t', 'h', 'r', 'e', 's', 'h'] = none := by decide
theorem multiFragOf_name (f : MultiFrag) :
    keyFragOf (multiFragName f) = none ∧ timeFragOf (multiFragName f) = none ∧ hashFragOf (multiFragName f) = none ∧
      multiFragName f ≠ ['a', 'n', 'd', 'o', 'r'] ∧ binFragOf (multiFragName f) = none ∧
      multiFragName f ≠ ['t', 'h', 'r', 'e', 's', 'h'] ∧ multiFragOf (multiFragName f) = some f := by
  cases f <;> decide

theorem wrapOf_char (w : Wrap) : wrapOf (wrapChar w) = some w := by cases w <;> decide

/-- neither `(` nor `:`, the characters at which `readMs` ends the operator word and the wrapper prefix; all that
    the reader needs of the characters of operator names and wrappers -/
def nameChar (c : Char) : Bool := c != '(' && c != ':'

theorem keyFragName_chars (f : KeyFrag) : ∀ c ∈ keyFragName f, nameChar c = true := by cases f <;> decide
theorem timeFragName_chars (f : TimeFrag) : ∀ c ∈ timeFragName f, nameChar c = true := by cases f <;> decide
theorem hashFragName_chars (f : HashFrag) : ∀ c ∈ hashFragName f, nameChar c = true := by cases f <;> decide
theorem binFragName_chars (f : BinFrag) : ∀ c ∈ binFragName f, nameChar c = true := by cases f <;> decide
theorem multiFragName_chars (f : MultiFrag) : ∀ c ∈ multiFragName f, nameChar c = true := by cases f <;> decide
theorem wrapChar_chars (w : Wrap) : nameChar (wrapChar w) = true := by cases w <;> decide

def DMs.isWrap : DMs K → Bool
  | .wrap _ _ => true
  | _ => false

/-- `ws` applied around `e`, first = outermost -/
def wrapsOf (ws : List Wrap) (e : DMs K) : DMs K := ws.foldr DMs.wrap e

mutual
/-- fuel the parser needs: nodes and list lengths; wrappers are read in the same call as their operator -/
def DMs.size : DMs K → Nat
  | .key _ _ => 1
  | .time _ _ => 1
  | .hash _ _ => 1
  | .andor x y z => 1 + x.size + y.size + z.size
  | .bin _ x y => 1 + x.size + y.size
  | .thresh _ xs => 2 + DMs.sizeL xs
  | .multi _ _ keys => 2 + keys.length
  | .wrap _ x => x.size
def DMs.sizeL : List (DMs K) → Nat
  | [] => 0
  | x :: r => 1 + x.size + DMs.sizeL r
end

mutual
/-- an expression the parser can have produced and the printer prints back to it -/
def MsNormal (ops : KeyOps K) (tap : Bool) : DMs K → Prop
  | .key f k => KeyNormal ops tap (f == .pk_h || f == .pkh) k
  | .time _ _ => True
  | .hash f h => h.length = hashFragLen f
  | .andor x y z => MsNormal ops tap x ∧ MsNormal ops tap y ∧ MsNormal ops tap z
  | .bin _ x y => MsNormal ops tap x ∧ MsNormal ops tap y
  | .thresh _ xs => MsNormalL ops tap xs
  | .multi f _ keys => Gen.Ms.multiTaproot f = tap ∧ ∀ k ∈ keys, KeyNormal ops tap false k
  | .wrap _ x => MsNormal ops tap x
def MsNormalL (ops : KeyOps K) (tap : Bool) : List (DMs K) → Prop
  | [] => True
  | x :: r => MsNormal ops tap x ∧ MsNormalL ops tap r
end

theorem MsNormalL_mem {ops : KeyOps K} {tap : Bool} : ∀ {xs : List (DMs K)}, MsNormalL ops tap xs →
    ∀ x ∈ xs, MsNormal ops tap x := by
  intro xs
  induction xs with
  | nil => intro _ x hx; cases hx
  | cons a r ih =>
    intro h x hx
    simp only [MsNormalL] at h
    cases hx with
    | head => exact h.1
    | tail _ hm => exact ih h.2 x hm

theorem sizeL_mem : ∀ {xs : List (DMs K)} {x : DMs K}, x ∈ xs → x.size < DMs.sizeL xs := by
  intro xs
  induction xs with
  | nil => intro x hx; cases hx
  | cons a r ih =>
    intro x hx
    simp only [DMs.sizeL]
    cases hx with
    | head => omega
    | tail _ hm => have := ih hm; omega

theorem sizeL_length : ∀ (xs : List (DMs K)), xs.length ≤ DMs.sizeL xs := by
  intro xs
  induction xs with
  | nil => simp [DMs.sizeL]
  | cons a r ih => simp only [DMs.sizeL, List.length_cons]; omega

def wrapPrefix (ws : List Wrap) : Str := if ws = [] then [] else ws.map wrapChar ++ [':']

theorem showMs_wrap_wrap (ops : KeyOps K) (w w' : Wrap) (x : DMs K) :
    showMs ops (.wrap w (.wrap w' x)) = (showMs ops (.wrap w' x)).map fun a => wrapChar w :: a := by
  simp only [showMs]

theorem showMs_wrap_base (ops : KeyOps K) (w : Wrap) (e : DMs K) (he : e.isWrap = false) :
    showMs ops (.wrap w e) = (showMs ops e).map fun a => wrapChar w :: ':' :: a := by
  cases e with
  | wrap _ _ => simp [DMs.isWrap] at he
  | key _ _ => simp only [showMs]
  | time _ _ => simp only [showMs]
  | hash _ _ => simp only [showMs]
  | andor _ _ _ => simp only [showMs]
  | bin _ _ _ => simp only [showMs]
  | thresh _ _ => simp only [showMs]
  | multi _ _ _ => simp only [showMs]

theorem showMs_wrapsOf (ops : KeyOps K) (e : DMs K) (he : e.isWrap = false) : ∀ (ws : List Wrap),
    showMs ops (wrapsOf ws e) = (showMs ops e).map fun t => wrapPrefix ws ++ t := by
  intro ws
  induction ws with
  | nil => simp [wrapsOf, wrapPrefix]
  | cons w r ih =>
    have hw : wrapsOf (w :: r) e = .wrap w (wrapsOf r e) := rfl
    rw [hw]
    cases r with
    | nil =>
      have : wrapsOf [] e = e := rfl
      rw [this, showMs_wrap_base ops w e he]
      cases showMs ops e <;> simp [wrapPrefix]
    | cons w' r' =>
      have hx : wrapsOf (w' :: r') e = .wrap w' (wrapsOf r' e) := rfl
      rw [hx] at ih ⊢
      rw [showMs_wrap_wrap, ih]
      cases showMs ops e <;> simp [wrapPrefix]

theorem applyWrappers_chars (ws : List Wrap) (e : DMs K) :
    applyWrappers (ws.map wrapChar) e = some (wrapsOf ws e) := by
  induction ws with
  | nil => rfl
  | cons w r ih => simp [applyWrappers, ih, wrapOf_char, wrapsOf]

theorem joinWith_cons_flat (a : Str) : ∀ (as : List Str),
    joinWith ',' (a :: as) = a ++ as.flatMap (fun t => ',' :: t) := by
  intro as
  induction as generalizing a with
  | nil => simp [joinWith]
  | cons x r ih => rw [joinWith_cons_cons, ih x]; simp

theorem call_eq (name a : Str) (as : List Str) :
    call name (a :: as) = name ++ '(' :: (a ++ as.flatMap (fun t => ',' :: t) ++ [')']) := by
  simp [call, joinWith_cons_flat]

theorem flat_next (ts : List Str) (r : Str) : Delim (ts.flatMap (fun t => ',' :: t) ++ ')' :: r) := by
  cases ts with
  | nil => exact Delim.close r
  | cons t ts' => simpa using Delim.comma (t ++ (ts'.flatMap (fun t => ',' :: t) ++ ')' :: r))

inductive AllReads {α : Type} (p : Stream → Option (α × Stream)) : List α → List Str → Prop
  | nil : AllReads p [] []
  | cons {x : α} {t : Str} {xs : List α} {ts : List Str} :
      Reads p x t Delim → AllReads p xs ts → AllReads p (x :: xs) (t :: ts)

theorem readMore_spec {α : Type} (p : Stream → Option (α × Stream)) :
    ∀ (items : List α) (texts : List Str), AllReads p items texts →
      ∀ (fuel : Nat) (b r : Str), fuel > items.length →
      readMore p fuel ⟨b, texts.flatMap (fun t => ',' :: t) ++ ')' :: r⟩ =
        some (items, ⟨(texts.flatMap (fun t => ',' :: t) ++ [')']).reverse ++ b, r⟩) := by
  intro items texts h
  induction h with
  | nil =>
    intro fuel b r hf
    cases fuel with
    | zero => omega
    | succ f => simp [readMore, Stream.read1]
  | @cons x t xs ts hx _ ih =>
    intro fuel b r hf
    cases fuel with
    | zero => omega
    | succ f =>
      have hrest : (t :: ts).flatMap (fun t => ',' :: t) ++ ')' :: r =
          ',' :: (t ++ (ts.flatMap (fun t => ',' :: t) ++ ')' :: r)) := by simp
      rw [hrest]
      simp only [readMore, Stream.read1]
      rw [hx (',' :: b) _ (flat_next ts r)]
      simp only [ih f (t.reverse ++ ',' :: b) r (by simp at hf; omega)]
      simp

theorem nameChar_not_open {s : Str} (h : ∀ c ∈ s, nameChar c = true) : ∀ c ∈ s, c ∉ ['('] := by
  intro c hc hm
  simp only [List.mem_singleton] at hm
  subst hm
  have := h '(' hc
  revert this
  decide

theorem nameChar_no_colon {s : Str} (h : ∀ c ∈ s, nameChar c = true) : ∀ c ∈ s, c ≠ ':' := by
  intro c hc hm
  subst hm
  have := h ':' hc
  revert this
  decide

theorem contains_colon_false {s : Str} (h : ∀ c ∈ s, nameChar c = true) : s.contains ':' = false := by
  cases hcon : s.contains ':' with
  | false => rfl
  | true =>
    have : ':' ∈ s := by simpa using hcon
    exact absurd rfl (nameChar_no_colon h ':' this)

/-- none of `w`, `{`, `,`, `)`, `}`. A printed miniscript starts with such a character, so `readHead` does not take
    it behind `sh(` for the start of `wsh(` / `wpkh(`, nor `readTapTree` for the start of a sub-tree -/
def headOk (c : Char) : Bool := c != 'w' && c != '{' && c != ',' && c != ')' && c != '}'

/-- an operator name: at least two characters, the first none of those `readHead` / `readTapTree` branch on -/
def opName (name : Str) : Prop := 2 ≤ name.length ∧ ∃ c r, name = c :: r ∧ headOk c = true

/-- what the readers around a miniscript need of its printed text `t`: the fuel `|t| + 1` is above the size, `read(7)`
    gets its seven characters, and the first character is none they branch on -/
structure MsText (e : DMs K) (t : Str) : Prop where
  size_le : e.size ≤ t.length
  long : 4 ≤ t.length
  head : ∃ c r, t = c :: r ∧ headOk c = true

theorem msText_call (e : DMs K) (name args : Str) (hop : opName name) (hsize : e.size ≤ args.length + 2)
    (ws : List Wrap) : MsText e (wrapPrefix ws ++ (name ++ '(' :: (args ++ [')']))) := by
  have hlen : (wrapPrefix ws ++ (name ++ '(' :: (args ++ [')']))).length =
      (wrapPrefix ws).length + name.length + args.length + 2 := by
    simp only [List.length_append, List.length_cons, List.length_nil]; omega
  obtain ⟨hl, c, r, rfl, hc⟩ := hop
  refine ⟨by omega, by omega, ?_⟩
  cases ws with
  | nil => exact ⟨c, _, rfl, hc⟩
  | cons w ws' => exact ⟨wrapChar w, _, rfl, by cases w <;> decide⟩

theorem readMs_base (ops : KeyOps K) (tap : Bool) (e : DMs K) (he : e.isWrap = false) (name args : Str)
    (hshow : showMs ops e = some (name ++ '(' :: (args ++ [')']))) (hname : ∀ c ∈ name, nameChar c = true)
    (hop : opName name) (hsize : e.size ≤ args.length + 2)
    (hbody : ∀ (fuel : Nat), fuel > e.size → ∀ (b' rest : Str),
      readMsBody ops tap (readMs ops tap (fuel - 1)) (fuel - 1) name ⟨b', args ++ ')' :: rest⟩ =
        some (e, ⟨(args ++ [')']).reverse ++ b', rest⟩))
    (ws : List Wrap) :
    ∃ t, showMs ops (wrapsOf ws e) = some t ∧ MsText e t ∧
      ∀ fuel, fuel > e.size → Reads (readMs ops tap fuel) (wrapsOf ws e) t fun _ => True := by
  refine ⟨wrapPrefix ws ++ (name ++ '(' :: (args ++ [')'])), by rw [showMs_wrapsOf ops e he ws, hshow]; rfl,
    msText_call e name args hop hsize ws, ?_⟩
  intro fuel hfuel b rest _
  obtain ⟨fuel, rfl⟩ : ∃ f, fuel = f + 1 := ⟨fuel - 1, by omega⟩
  have hbody := hbody (fuel + 1) hfuel
  simp only [Nat.add_sub_cancel] at hbody
  have hpre : ∀ x ∈ wrapPrefix ws ++ name, x ∉ ['('] := by
    intro x hx
    simp only [List.mem_append] at hx
    cases hx with
    | inr h2 => exact nameChar_not_open hname x h2
    | inl h1 =>
      unfold wrapPrefix at h1
      split at h1
      · cases h1
      · simp only [List.mem_append, List.mem_map, List.mem_singleton] at h1
        rcases h1 with ⟨w, _, rfl⟩ | rfl
        · intro hm; simp only [List.mem_singleton] at hm; have := wrapChar_chars w; rw [hm] at this; revert this; decide
        · decide
  have htext : (wrapPrefix ws ++ (name ++ '(' :: (args ++ [')']))) ++ rest
      = (wrapPrefix ws ++ name) ++ '(' :: (args ++ ')' :: rest) := by simp
  have hru := readUntil_stop ['('] (wrapPrefix ws ++ name) b '(' (args ++ ')' :: rest) hpre (by simp)
  rw [htext]
  simp only [readMs, hru, ne_eq, not_true_eq_false, if_false]
  cases ws with
  | nil =>
    have hp : wrapPrefix ([] : List Wrap) = [] := rfl
    simp only [hp, List.nil_append, contains_colon_false hname, Bool.false_eq_true, if_false,
      hbody _ rest]
    simp [applyWrappers, wrapsOf]
  | cons w ws' =>
    have hp : wrapPrefix (w :: ws') = (w :: ws').map wrapChar ++ [':'] := by simp [wrapPrefix]
    have hcon : (((w :: ws').map wrapChar ++ [':']) ++ name).contains ':' = true := by simp
    have hs : splitOn ':' (((w :: ws').map wrapChar ++ [':']) ++ name) = [(w :: ws').map wrapChar, name] := by
      have : ((w :: ws').map wrapChar ++ [':']) ++ name = (w :: ws').map wrapChar ++ ':' :: name := by simp
      rw [this, splitOn_append ':' _ name (by
        intro x hx
        simp only [List.mem_map] at hx
        obtain ⟨w0, _, rfl⟩ := hx
        intro hm
        have := wrapChar_chars w0
        rw [hm] at this
        revert this
        decide), splitOn_no_sep ':' name (nameChar_no_colon hname)]
    simp only [hp, hcon, hs, if_true, hbody _ rest, applyWrappers_chars, Option.map_some]
    simp

/-- the statement proved for every expression: under any wrappers the printed text is as the readers around it need
    it and is read back, with any fuel above the size, whatever was consumed before and whatever follows -/
def MsRoundTrip (ops : KeyOps K) (tap : Bool) (e : DMs K) : Prop :=
  MsNormal ops tap e → ∀ (ws : List Wrap),
    ∃ t, showMs ops (wrapsOf ws e) = some t ∧ MsText e t ∧
      ∀ fuel, fuel > e.size → Reads (readMs ops tap fuel) (wrapsOf ws e) t fun _ => True

theorem reads_of_roundtrip {ops : KeyOps K} {tap : Bool} {x : DMs K} (h : MsRoundTrip ops tap x)
    (hn : MsNormal ops tap x) :
    ∃ t, showMs ops x = some t ∧ MsText x t ∧
      ∀ fuel, fuel > x.size → Reads (readMs ops tap fuel) x t fun _ => True :=
  h hn []

theorem allReads_list (ops : KeyOps K) (tap : Bool) : ∀ (xs : List (DMs K)),
    (∀ x ∈ xs, MsRoundTrip ops tap x) → MsNormalL ops tap xs →
    ∃ ts, showMsL ops xs = some ts ∧ DMs.sizeL xs ≤ (ts.flatMap fun t => ',' :: t).length ∧
      ∀ fuel, (∀ x ∈ xs, fuel > x.size) → AllReads (readMs ops tap fuel) xs ts := by
  intro xs
  induction xs with
  | nil => intro _ _; exact ⟨[], rfl, Nat.le_refl _, fun _ _ => .nil⟩
  | cons a r ih =>
    intro hrt hn
    simp only [MsNormalL] at hn
    obtain ⟨t, ht, htxt, hr⟩ := reads_of_roundtrip (hrt a List.mem_cons_self) hn.1
    obtain ⟨ts, hts, hlen, hrs⟩ := ih (fun x hx => hrt x (List.mem_cons_of_mem _ hx)) hn.2
    have := htxt.size_le
    exact ⟨t :: ts, by simp [showMsL, ht, hts],
      by simp only [DMs.sizeL, List.flatMap_cons, List.length_append, List.length_cons]; omega, fun fuel hf =>
      .cons (fun b rest _ => hr fuel (hf a List.mem_cons_self) b rest trivial)
        (hrs fuel fun x hx => hf x (List.mem_cons_of_mem _ hx))⟩

theorem allReads_keys (ops : KeyOps K) (tap : Bool) : ∀ (keys : List (KeyExpr K)),
    (∀ k ∈ keys, KeyNormal ops tap false k) →
    ∃ ts, showKeys ops keys = some ts ∧ keys.length ≤ (ts.flatMap fun t => ',' :: t).length ∧
      AllReads (readKey ops tap false) keys ts := by
  intro keys
  induction keys with
  | nil => intro _; exact ⟨[], rfl, Nat.le_refl _, .nil⟩
  | cons k r ih =>
    intro hn
    obtain ⟨t, ht, hr⟩ := readKey_showKey ops tap false k (hn k List.mem_cons_self)
    obtain ⟨ts, hts, hlen, hrs⟩ := ih (fun x hx => hn x (List.mem_cons_of_mem _ hx))
    exact ⟨t :: ts, by simp [showKeys, ht, hts],
      by simp only [List.flatMap_cons, List.length_append, List.length_cons]; omega, .cons hr hrs⟩

theorem digitVal_delim (c : Char) (hc : c = ',' ∨ c = ')') : digitVal c = none := by
  rcases hc with rfl | rfl <;> decide

/-- MINISCRIPT TEXT: `Miniscript.read_from` inverts `__str__` -/
theorem readMs_roundtrip (ops : KeyOps K) (tap : Bool) : ∀ e : DMs K, MsRoundTrip ops tap e := by
  intro e
  induction e using DMs.ind with
  | wrap w x ih =>
    intro hn ws
    have hw : wrapsOf ws (.wrap w x) = wrapsOf (ws ++ [w]) x := by simp [wrapsOf]
    rw [hw]
    obtain ⟨t, ht, htxt, hr⟩ := ih (by simpa [MsNormal] using hn) (ws ++ [w])
    exact ⟨t, ht, ⟨htxt.size_le, htxt.long, htxt.head⟩, hr⟩
  | key f k =>
    intro hn ws
    simp only [MsNormal] at hn
    obtain ⟨a, ha, hr⟩ := readKey_showKey ops tap (f == .pk_h || f == .pkh) k hn
    apply readMs_base ops tap (.key f k) rfl (keyFragName f) a
      (by simp [showMs, ha, call_eq]) (keyFragName_chars f)
      (by cases f <;> exact ⟨by decide, _, _, rfl, by decide⟩) (by simp [DMs.size]) _ ws
    intro fuel _ b' rest
    simp only [readMsBody, keyFragOf_name, hr b' _ (Delim.close rest), expectChar_ok]
    simp
  | time f n =>
    intro _ ws
    apply readMs_base ops tap (.time f n) rfl (timeFragName f) (showNat n)
      (by simp [showMs, call_eq]) (timeFragName_chars f)
      (by cases f <;> exact ⟨by decide, _, _, rfl, by decide⟩) (by simp [DMs.size]) _ ws
    intro fuel _ b' rest
    simp only [readMsBody, timeFragOf_name f,
      readNumber_showNat n b' ')' rest (by decide), expectChar_ok]
    simp
  | hash f h =>
    intro hn ws
    simp only [MsNormal] at hn
    apply readMs_base ops tap (.hash f h) rfl (hashFragName f) (hexlify h)
      (by simp [showMs, call_eq]) (hashFragName_chars f)
      (by cases f <;> exact ⟨by decide, _, _, rfl, by decide⟩) (by simp [DMs.size]) _ ws
    intro fuel _ b' rest
    simp only [readMsBody, hashFragOf_name f,
      readRaw_hexlify (hashFragLen f) h hn b' (')' :: rest), expectChar_ok]
    simp
  | andor x y z ihx ihy ihz =>
    intro hn ws
    simp only [MsNormal] at hn
    obtain ⟨tx, hx, sx, rx⟩ := reads_of_roundtrip ihx hn.1
    obtain ⟨ty, hy, sy, ry⟩ := reads_of_roundtrip ihy hn.2.1
    obtain ⟨tz, hz, sz, rz⟩ := reads_of_roundtrip ihz hn.2.2
    apply readMs_base ops tap (.andor x y z) rfl ['a', 'n', 'd', 'o', 'r'] (tx ++ ',' :: (ty ++ ',' :: tz))
      (by simp [showMs, hx, hy, hz, call_eq]) (by decide) ⟨by decide, _, _, rfl, by decide⟩
      (by have := sx.size_le; have := sy.size_le; have := sz.size_le; simp [DMs.size]; omega) _ ws
    intro fuel hf b' rest
    simp only [DMs.size] at hf
    have e1 : (tx ++ ',' :: (ty ++ ',' :: tz)) ++ ')' :: rest = tx ++ ',' :: (ty ++ ',' :: (tz ++ ')' :: rest)) := by
      simp
    rw [e1]
    simp only [readMsBody, andor_name, if_true, rx (fuel - 1) (by omega) b' _ trivial, expectChar_ok,
      ry (fuel - 1) (by omega) _ _ trivial, rz (fuel - 1) (by omega) _ _ trivial, Option.map_some]
    simp
  | bin f x y ihx ihy =>
    intro hn ws
    simp only [MsNormal] at hn
    obtain ⟨tx, hx, sx, rx⟩ := reads_of_roundtrip ihx hn.1
    obtain ⟨ty, hy, sy, ry⟩ := reads_of_roundtrip ihy hn.2
    apply readMs_base ops tap (.bin f x y) rfl (binFragName f) (tx ++ ',' :: ty)
      (by simp [showMs, hx, hy, call_eq]) (binFragName_chars f)
      (by cases f <;> exact ⟨by decide, _, _, rfl, by decide⟩)
      (by have := sx.size_le; have := sy.size_le; simp [DMs.size]; omega) _ ws
    intro fuel hf b' rest
    simp only [DMs.size] at hf
    have e1 : (tx ++ ',' :: ty) ++ ')' :: rest = tx ++ ',' :: (ty ++ ')' :: rest) := by simp
    rw [e1]
    simp only [readMsBody, binFragOf_name f, if_false, rx (fuel - 1) (by omega) b' _ trivial, expectChar_ok,
      ry (fuel - 1) (by omega) _ _ trivial, Option.map_some]
    simp
  | thresh k xs ih =>
    intro hn ws
    simp only [MsNormal] at hn
    obtain ⟨ts, hts, hlen, hrs⟩ := allReads_list ops tap xs ih hn
    apply readMs_base ops tap (.thresh k xs) rfl ['t', 'h', 'r', 'e', 's', 'h']
      (showNat k ++ ts.flatMap (fun t => ',' :: t))
      (by simp [showMs, hts, call_eq]) (by decide) ⟨by decide, _, _, rfl, by decide⟩
      (by simp only [DMs.size, List.length_append]; omega) _ ws
    intro fuel hf b' rest
    simp only [DMs.size] at hf
    obtain ⟨cn, rn, hnext, hcn⟩ := flat_next ts rest
    have e1 : (showNat k ++ ts.flatMap (fun t => ',' :: t)) ++ ')' :: rest = showNat k ++ cn :: rn := by
      simp [hnext]
    rw [e1]
    simp only [readMsBody, thresh_name, if_false, if_true,
      readNumber_showNat k b' cn rn (digitVal_delim cn hcn)]
    rw [← hnext, readMore_spec (readMs ops tap (fuel - 1)) xs ts
      (hrs (fuel - 1) fun x hx => by have := sizeL_mem hx; omega) (fuel - 1) _ rest
      (by have := sizeL_length xs; omega)]
    simp
  | multi f k keys =>
    intro hn ws
    simp only [MsNormal] at hn
    obtain ⟨ts, hts, hlen, hrs⟩ := allReads_keys ops tap keys hn.2
    apply readMs_base ops tap (.multi f k keys) rfl (multiFragName f)
      (showNat k ++ ts.flatMap (fun t => ',' :: t))
      (by simp [showMs, hts, call_eq]) (multiFragName_chars f)
      (by cases f <;> exact ⟨by decide, _, _, rfl, by decide⟩)
      (by simp only [DMs.size, List.length_append]; omega) _ ws
    intro fuel hf b' rest
    simp only [DMs.size] at hf
    obtain ⟨cn, rn, hnext, hcn⟩ := flat_next ts rest
    have e1 : (showNat k ++ ts.flatMap (fun t => ',' :: t)) ++ ')' :: rest = showNat k ++ cn :: rn := by
      simp [hnext]
    rw [e1]
    simp only [readMsBody, multiFragOf_name f, if_false, readNumber_showNat k b' cn rn (digitVal_delim cn hcn)]
    rw [← hnext, readMore_spec (readKey ops tap false) keys ts hrs (fuel - 1) _ rest (by omega)]
    simp [hn.1]

def TapTree.size : TapTree K → Nat
  | .empty => 0
  | .leaf ms => ms.size
  | .node l r => 1 + l.size + r.size

/-- a tree the parser can have produced: leaves are accepted miniscripts, no empty sub-tree -/
def TreeNormal (ops : KeyOps K) : TapTree K → Prop
  | .empty => False
  | .leaf ms => MsNormal ops true ms ∧ leafAccepted ms = true
  | .node l r => TreeNormal ops l ∧ TreeNormal ops r

/-- `TapTree.read_from` inverts `__str__` (whatever follows) -/
theorem readTapTree_roundtrip (ops : KeyOps K) : ∀ (t : TapTree K), TreeNormal ops t →
    ∃ tt, showTapTree ops t = some tt ∧ t.size ≤ tt.length ∧
      ∀ fuel, fuel > t.size → Reads (readTapTree ops fuel) t tt fun _ => True := by
  intro t
  induction t with
  | empty => intro h; exact absurd h (by simp [TreeNormal])
  | leaf ms =>
    intro hn
    simp only [TreeNormal] at hn
    obtain ⟨tt, htt, htxt, hr⟩ := reads_of_roundtrip (readMs_roundtrip ops true ms) hn.1
    obtain ⟨c0, r0, rfl, hc0⟩ := htxt.head
    refine ⟨c0 :: r0, htt, htxt.size_le, fun fuel hf b rest _ => ?_⟩
    simp only [TapTree.size] at hf
    obtain ⟨f, rfl⟩ : ∃ f, fuel = f + 1 := ⟨fuel - 1, by omega⟩
    have hne : c0 ≠ '{' := by intro he; subst he; revert hc0; decide
    simp only [readTapTree, List.cons_append, Stream.read1, hne, if_false, Stream.unread]
    have : (⟨b, c0 :: (r0 ++ rest)⟩ : Stream) = ⟨b, (c0 :: r0) ++ rest⟩ := by simp
    rw [this, hr (f + 1) hf b rest trivial]
    simp [hn.2]
  | node l r ihl ihr =>
    intro hn
    simp only [TreeNormal] at hn
    obtain ⟨tl, htl, sl, hrl⟩ := ihl hn.1
    obtain ⟨tr, htr, sr, hrr⟩ := ihr hn.2
    refine ⟨['{'] ++ tl ++ [','] ++ tr ++ ['}'], by simp [showTapTree, htl, htr], by simp [TapTree.size]; omega,
      fun fuel hf b rest _ => ?_⟩
    simp only [TapTree.size] at hf
    obtain ⟨f, rfl⟩ : ∃ f, fuel = f + 1 := ⟨fuel - 1, by omega⟩
    have e : (['{'] ++ tl ++ [','] ++ tr ++ ['}']) ++ rest = '{' :: (tl ++ ',' :: (tr ++ '}' :: rest)) := by simp
    rw [e]
    simp only [readTapTree, Stream.read1, if_true, hrl f (by omega) _ _ trivial, hrr f (by omega) _ _ trivial,
      expectChar_ok, Option.map_some]
    simp

inductive MsForm | sh | wsh | shwsh
deriving DecidableEq

def MsForm.desc (f : MsForm) (m : DMs K) : Desc K :=
  match f with
  | .sh => ⟨some m, true, false, none, false, false, .empty⟩
  | .wsh => ⟨some m, false, true, none, false, false, .empty⟩
  | .shwsh => ⟨some m, true, true, none, false, false, .empty⟩

def MsForm.head : MsForm → Head
  | .sh => .sh
  | .wsh => .wsh
  | .shwsh => .shwsh

def MsForm.closing : MsForm → Str
  | .shwsh => [')', ')']
  | _ => [')']

theorem print_msForm (ops : KeyOps K) (f : MsForm) (m : DMs K) (t : Str) (ht : showMs ops m = some t) :
    (f.desc m).print ops = some (f.head.opening ++ t ++ f.closing) := by
  cases f <;> simp [MsForm.desc, Desc.print, ht, MsForm.head, Head.opening, MsForm.closing]

/-- PRINT then PARSE, `sh(M)`, `wsh(M)`, `sh(wsh(M))` -/
theorem print_parse_msForm (ops : KeyOps K) (f : MsForm) (m : DMs K) (hn : MsNormal ops false m)
    (hacc : msAccepted .wsh m = true) :
    ∃ text, (f.desc m).print ops = some text ∧ Desc.parse ops text = some (f.desc m) := by
  obtain ⟨t, ht, ⟨hsz, hlen, c0, r0, ht0, hc0⟩, hr⟩ := reads_of_roundtrip (readMs_roundtrip ops false m) hn
  refine ⟨f.head.opening ++ t ++ f.closing, print_msForm ops f m t ht, ?_⟩
  have hrh := readHead_opening f.head t hlen
    (fun _ => by rw [ht0]; intro he; cases he; revert hc0; decide) f.closing
  unfold Desc.parse Desc.readFrom
  rw [show Stream.ofStr (f.head.opening ++ t ++ f.closing) = ⟨[], f.head.opening ++ t ++ f.closing⟩ from rfl, hrh]
  -- the expression is read in front of the first closing bracket, whatever follows it
  have hr := fun rest => hr ((f.head.opening ++ t ++ f.closing).length + 1) (by simp; omega)
    f.head.opening.reverse rest trivial
  generalize (f.head.opening ++ t ++ f.closing).length + 1 = fuel at hr ⊢
  cases f <;> simp only [MsForm.closing, MsForm.head] at hr ⊢ <;>
    simp [hr, expectClose, expectChar, Stream.read1, MsForm.desc, hacc]

/-- PRINT then PARSE, `tr(K, TREE)` -/
theorem print_parse_trTree (ops : KeyOps K) (k : KeyExpr K) (tree : TapTree K) (hk : KeyNormal ops true false k)
    (hlen : ∀ t, showKey ops k = some t → t.length ≥ 4) (htree : TreeNormal ops tree) :
    ∃ text, (⟨none, false, false, some k, false, true, tree⟩ : Desc K).print ops = some text ∧
      Desc.parse ops text = some ⟨none, false, false, some k, false, true, tree⟩ := by
  obtain ⟨tk, htk, hrk⟩ := readKey_showKey ops true false k hk
  obtain ⟨tt, htt, hsz, hrt⟩ := readTapTree_roundtrip ops tree htree
  have htruthy : tree.truthy = true := by
    cases tree with
    | empty => exact absurd htree (by simp [TreeNormal])
    | leaf _ => rfl
    | node _ _ => rfl
  refine ⟨['t', 'r', '('] ++ tk ++ [','] ++ tt ++ [')'], by
    simp [Desc.print, htruthy, showOptKey, htk, htt], ?_⟩
  have hrh := readHead_opening .tr tk (hlen tk htk) (by simp) (',' :: (tt ++ [')']))
  unfold Desc.parse Desc.readFrom
  have hstream : Stream.ofStr (['t', 'r', '('] ++ tk ++ [','] ++ tt ++ [')'])
      = ⟨[], Head.tr.opening ++ tk ++ ',' :: (tt ++ [')'])⟩ := by simp [Stream.ofStr, Head.opening]
  rw [hstream, hrh]
  dsimp only
  rw [hrk _ _ (Delim.comma _)]
  simp only [Stream.read1, if_true]
  rw [hrt ((['t', 'r', '('] ++ tk ++ [','] ++ tt ++ [')']).length + 1) (by simp; omega) _ _ trivial]
  simp [expectClose, expectChar, Stream.read1]

/-- a descriptor the parser can have produced and the printer prints back to it: one of the seven forms over normal
    key expressions / accepted normal miniscripts / a tap tree of accepted normal leaves -/
inductive DescNormal (ops : KeyOps K) : Desc K → Prop
  | keyForm (f : KeyForm) (k : KeyExpr K) : KeyNormal ops f.tap false k →
      (∀ t, showKey ops k = some t → t.length ≥ 4) → DescNormal ops (f.desc k)
  | msForm (f : MsForm) (m : DMs K) : MsNormal ops false m → msAccepted .wsh m = true → DescNormal ops (f.desc m)
  | trTree (k : KeyExpr K) (tree : TapTree K) : KeyNormal ops true false k →
      (∀ t, showKey ops k = some t → t.length ≥ 4) → TreeNormal ops tree →
      DescNormal ops ⟨none, false, false, some k, false, true, tree⟩

theorem print_parse_all (ops : KeyOps K) (d : Desc K) (hn : DescNormal ops d) :
    ∃ text, d.print ops = some text ∧ Desc.parse ops text = some d := by
  cases hn with
  | keyForm f k hk hlen => exact print_parse_keyForm ops f k hk hlen
  | msForm f m hm hacc => exact print_parse_msForm ops f m hm hacc
  | trTree k tree hk hlen ht => exact print_parse_trTree ops k tree hk hlen ht

end Embit.Model.Descriptor
