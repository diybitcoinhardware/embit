import EmbitModel.Proofs.DescDerive
/-
  Helper lemmas for C14: `AllowedDerivation.check_derivation` against the specification's `pathAt`,
  `Key.check_derivation` against `RecordOf`, and the two scanning loops of `owns`.
-/
namespace Embit.Model.Descriptor
open Embit Embit.Spec.Descriptor

def wildCount (ix : List Step) : Nat := (ix.filter fun s => s == .wild).length
def setCount (ix : List Step) : Nat := (ix.filter Step.isSet).length

@[simp] theorem wildCount_nil : wildCount [] = 0 := rfl
@[simp] theorem setCount_nil : setCount [] = 0 := rfl
@[simp] theorem wildCount_idx (n : Nat) (r : List Step) : wildCount (.idx n :: r) = wildCount r := by
  simp [wildCount, List.filter]
  rfl
@[simp] theorem wildCount_set (l : List (Option Nat)) (r : List Step) : wildCount (.set l :: r) = wildCount r := by
  simp [wildCount, List.filter]
  rfl
@[simp] theorem wildCount_wild (r : List Step) : wildCount (.wild :: r) = wildCount r + 1 := by
  simp [wildCount, List.filter]
@[simp] theorem setCount_idx (n : Nat) (r : List Step) : setCount (.idx n :: r) = setCount r := by
  simp [setCount, List.filter, Step.isSet]
@[simp] theorem setCount_wild (r : List Step) : setCount (.wild :: r) = setCount r := by
  simp [setCount, List.filter, Step.isSet]
@[simp] theorem setCount_set (l : List (Option Nat)) (r : List Step) : setCount (.set l :: r) = setCount r + 1 := by
  simp [setCount, List.filter, Step.isSet]

/-! ### `list.index` -/

theorem indexOfOpt_sound {x : Nat} {l : List (Option Nat)} {j : Nat} (h : indexOfOpt x l = some j) :
    l[j]? = some (some x) := by
  induction l generalizing j with
  | nil => simp [indexOfOpt] at h
  | cons y r ih =>
    unfold indexOfOpt at h
    split at h
    · rename_i hy
      cases h
      simp [hy]
    · cases hr : indexOfOpt x r with
      | none => simp [hr] at h
      | some j' =>
        simp [hr] at h
        subst h
        simpa using ih hr

theorem indexOfOpt_lt {x : Nat} {l : List (Option Nat)} {j : Nat} (h : indexOfOpt x l = some j) : j < l.length := by
  have := indexOfOpt_sound h
  exact (List.getElem?_eq_some_iff.mp this).1

def NoDupSet : List (Option Nat) → Bool
  | [] => true
  | x :: r => !r.contains x && NoDupSet r

theorem indexOfOpt_complete {x : Nat} {l : List (Option Nat)} {j : Nat} (hn : NoDupSet l = true)
    (h : l[j]? = some (some x)) : indexOfOpt x l = some j := by
  induction l generalizing j with
  | nil => simp at h
  | cons y r ih =>
    simp only [NoDupSet, Bool.and_eq_true, Bool.not_eq_true'] at hn
    cases j with
    | zero =>
      simp at h
      simp [indexOfOpt, h]
    | succ j =>
      simp at h
      have hmem : some x ∈ r := List.mem_of_getElem? h
      have hne : y ≠ some x := by
        intro he
        subst he
        have : r.contains (some x) = true := by simpa using hmem
        rw [this] at hn
        exact absurd hn.1 (by simp)
      simp [indexOfOpt, hne, ih hn.2 h]

/-! ### `AllowedDerivation.check_derivation` -/

theorem branchesOf_of_no_set : ∀ ix : List Step, setCount ix = 0 → branchesOf ix = none := by
  intro ix
  induction ix with
  | nil => intro _; rfl
  | cons s r ih =>
    intro hs
    cases s with
    | idx n => simpa [branchesOf] using ih (by simpa using hs)
    | wild => simpa [branchesOf] using ih (by simpa using hs)
    | set l => simp at hs

/-- the loop of `check_derivation`: without a wildcard / a set the index / the branch is the one it started with;
    the recorded path is the steps instantiated at the returned (index, branch); the branch is an index into the set -/
theorem checkStepsAux_spec :
    ∀ (ix : List Step) (der : List Nat) (idx0 : Option Nat) (b0 : Nat) (idx : Option Nat) (b : Nat),
      wildCount ix ≤ 1 → setCount ix ≤ 1 → ix.length = der.length →
      checkStepsAux ix der idx0 b0 = some (idx, b) →
      (wildCount ix = 0 → idx = idx0) ∧ (setCount ix = 0 → b = b0) ∧
      (∀ i b', (wildCount ix = 0 ∨ idx = some i) → (setCount ix = 0 ∨ b' = b) → pathAt i b' ix = some der) ∧
      (setCount ix = 0 ∨ ∃ l, branchesOf ix = some l ∧ b < l.length) := by
  intro ix
  induction ix with
  | nil =>
    intro der idx0 b0 idx b _ _ hl h
    cases der with
    | nil => cases h; exact ⟨fun _ => rfl, fun _ => rfl, fun _ _ _ _ => rfl, Or.inl rfl⟩
    | cons _ _ => simp at hl
  | cons s r ih =>
    intro der idx0 b0 idx b hw hs hl h
    cases der with
    | nil => simp at hl
    | cons d ds =>
      have hl' : r.length = ds.length := by simpa using hl
      cases s with
      | idx n =>
        simp only [checkStepsAux] at h
        split at h
        · cases h
        · rename_i hnd
          have hnd' : n = d := by simpa using hnd
          obtain ⟨h1, h2, h3, h4⟩ := ih ds idx0 b0 idx b (by simpa using hw) (by simpa using hs) hl' h
          refine ⟨by simpa using h1, by simpa using h2, fun i b' hi hb => ?_, by simpa [branchesOf] using h4⟩
          simp [pathAt, h3 i b' (by simpa using hi) (by simpa using hb), hnd']
      | set l =>
        simp only [checkStepsAux] at h
        split at h
        · cases h
        · rename_i j hj
          have hs0 : setCount r = 0 := by simp at hs; omega
          obtain ⟨h1, h2, h3, _⟩ := ih ds idx0 j idx b (by simpa using hw) (by omega) hl' h
          have hbj : b = j := h2 hs0
          refine ⟨by simpa using h1, fun h0 => by simp at h0, fun i b' hi hb => ?_,
            Or.inr ⟨l, by simp [branchesOf], hbj ▸ indexOfOpt_lt hj⟩⟩
          have hb' : b' = j := by
            cases hb with
            | inl h0 => simp at h0
            | inr h1 => exact h1.trans hbj
          subst hb'
          simp [pathAt, h3 i b' (by simpa using hi) (Or.inl hs0), indexOfOpt_sound hj]
      | wild =>
        simp only [checkStepsAux] at h
        have hw0 : wildCount r = 0 := by simp at hw; omega
        obtain ⟨h1, h2, h3, h4⟩ := ih ds (some d) b0 idx b (by omega) (by simpa using hs) hl' h
        have hid : idx = some d := h1 hw0
        refine ⟨fun h0 => by simp at h0, by simpa using h2, fun i b' hi hb => ?_, by simpa [branchesOf] using h4⟩
        have hi' : i = d := by
          cases hi with
          | inl h0 => simp at h0
          | inr h1 => rw [hid] at h1; exact (Option.some.inj h1).symm
        subst hi'
        simp [pathAt, h3 i b' (Or.inl hw0) (by simpa using hb)]

theorem pathAt_length : ∀ (ix : List Step) (i b : Nat) (p : List Nat), pathAt i b ix = some p → p.length = ix.length := by
  intro ix
  induction ix with
  | nil => intro i b p h; cases h; rfl
  | cons s r ih =>
    intro i b p h
    obtain ⟨n, t, ht, rfl, _⟩ := pathAt_cons h
    simp [ih i b t ht]

def NoDupSteps : List Step → Bool
  | [] => true
  | .set l :: r => NoDupSet l && NoDupSteps r
  | _ :: r => NoDupSteps r

/-- completeness of the loop -/
theorem checkStepsAux_complete :
    ∀ (ix : List Step) (der : List Nat) (idx0 : Option Nat) (b0 : Nat) (i b : Nat),
      NoDupSteps ix = true → pathAt i b ix = some der →
      checkStepsAux ix der idx0 b0 =
        some (if wildCount ix = 0 then idx0 else some i, if setCount ix = 0 then b0 else b) := by
  intro ix
  induction ix with
  | nil => intro der idx0 b0 i b _ h; simp [pathAt] at h; subst h; simp [checkStepsAux]
  | cons s r ih =>
    intro der idx0 b0 i b hn h
    obtain ⟨n, t, hr, rfl, hs⟩ := pathAt_cons h
    cases s with
    | idx m =>
      cases hs
      simp only [checkStepsAux]
      simp [ih t idx0 b0 i b (by simpa [NoDupSteps] using hn) hr]
    | wild =>
      cases hs
      simp only [checkStepsAux]
      rw [ih t (some i) b0 i b (by simpa [NoDupSteps] using hn) hr]
      by_cases hw : wildCount r = 0 <;> simp [hw]
    | set l =>
      simp only [NoDupSteps, Bool.and_eq_true] at hn
      simp only [checkStepsAux, indexOfOpt_complete hn.1 hs]
      rw [ih t idx0 b i b hn.2 hr]
      by_cases hs : setCount r = 0 <;> simp [hs]

/-- at most one wildcard and at most one set (what `AllowedDerivation.__init__` enforces) -/
def StepsWF (ix : List Step) : Prop := wildCount ix ≤ 1 ∧ setCount ix ≤ 1

theorem checkSteps_sound {ix : List Step} {der : List Nat} {i b : Nat} (hwf : StepsWF ix)
    (h : checkSteps ix der = some (i, b)) :
    pathAt i b ix = some der ∧
      ((branchesOf ix = none ∧ b = 0) ∨ (∃ l, branchesOf ix = some l ∧ b < l.length)) := by
  unfold checkSteps at h
  split at h
  · cases h
  · rename_i hl
    have hl' : ix.length = der.length := by
      have : ¬ der.length ≠ ix.length := hl
      omega
    split at h
    · rename_i i' b' hc
      cases h
      obtain ⟨_, h2, h3, h4⟩ := checkStepsAux_spec ix der none 0 (some i) b hwf.1 hwf.2 hl' hc
      exact ⟨h3 i b (Or.inr rfl) (Or.inr rfl), h4.imp (fun h0 => ⟨branchesOf_of_no_set ix h0, h2 h0⟩) id⟩
    · cases h

theorem checkSteps_complete {ix : List Step} {der : List Nat} {i b : Nat} (hn : NoDupSteps ix = true)
    (hw : wildCount ix ≠ 0) (hb : setCount ix ≠ 0 ∨ b = 0) (h : pathAt i b ix = some der) :
    checkSteps ix der = some (i, b) := by
  unfold checkSteps
  have hl := pathAt_length ix i b der h
  rw [if_neg (by omega)]
  rw [checkStepsAux_complete ix der none 0 i b hn h]
  simp only [hw, if_false]
  cases hb with
  | inl h1 => simp [h1]
  | inr h2 => by_cases hs : setCount ix = 0 <;> simp [hs, h2]

/-! ### `Key.check_derivation` -/

def KeyView.WF (k : KeyView) : Prop := ∀ ix, k.allowed = some ix → StepsWF ix

theorem take_append_drop_map (n : Nat) (p : List Nat) :
    p.map Int.ofNat = (p.take n).map Int.ofNat ++ (p.drop n).map Int.ofNat := by
  rw [← List.map_append, List.take_append_drop]

theorem KeyView.check_sound {k : KeyView} {r : DerivRec} {i b : Nat} (hwf : k.WF) (h : k.check r = some (i, b)) :
    RecordOf k r i b ∧ b < branchCount k := by
  unfold KeyView.check at h
  cases ha : k.allowed with
  | none => simp [ha] at h
  | some ix =>
    simp only [ha] at h
    split at h
    · rename_i ix' p heq1 heq2
      cases heq1
      have hs := checkSteps_sound (hwf ix ha) h
      refine ⟨⟨ix, p, ha, hs.1, ?_⟩, ?_⟩
      · by_cases hm : k.myFingerprint = some r.fingerprint
        · simp [hm] at heq2
          exact Or.inr ⟨hm, heq2⟩
        · simp only [hm, if_false] at heq2
          split at heq2
          · rename_i hf
            split at heq2
            · rename_i ho
              cases heq2
              refine Or.inl ⟨hf, ?_⟩
              rw [take_append_drop_map k.originPath.length r.path, ← ho]
            · cases heq2
          · cases heq2
      · unfold branchCount
        cases hs.2 with
        | inl h0 => simp [ha, h0.1, h0.2]
        | inr h1 =>
          obtain ⟨l, hl, hlt⟩ := h1
          simp [ha, hl, hlt]
    · rename_i hne
      exfalso
      cases hrest : (if k.myFingerprint = some r.fingerprint then some r.path else
          if k.fingerprint = some r.fingerprint then
            if k.originPath = List.map Int.ofNat (List.take k.originPath.length r.path) then
              some (List.drop k.originPath.length r.path) else none
          else none) with
      | none => simp at h
      | some p => exact hne ix p rfl hrest

/-- origin fingerprint = own fingerprint only for a key that is its own origin (empty origin path) -/
def KeyView.OriginConsistent (k : KeyView) : Prop :=
  ∀ fp, k.myFingerprint = some fp → k.fingerprint = some fp → k.originPath = []

theorem map_ofNat_inj {a b : List Nat} (h : a.map Int.ofNat = b.map Int.ofNat) : a = b := by
  induction a generalizing b with
  | nil => cases b <;> simp_all
  | cons x xs ih =>
    cases b with
    | nil => simp at h
    | cons y ys =>
      simp only [List.map_cons, List.cons.injEq] at h
      rw [ih h.2, Int.ofNat.inj h.1]

theorem KeyView.check_complete {k : KeyView} {r : DerivRec} {i b : Nat} {ix : List Step}
    (ha : k.allowed = some ix) (hn : NoDupSteps ix = true) (hw : wildCount ix ≠ 0)
    (hb : setCount ix ≠ 0 ∨ b = 0) (hoc : k.OriginConsistent) (h : RecordOf k r i b) :
    k.check r = some (i, b) := by
  obtain ⟨steps, p, hst, hp, hcl⟩ := h
  rw [ha] at hst
  cases hst
  unfold KeyView.check
  simp only [ha]
  have key : ∀ rest, rest = p → checkSteps ix rest = some (i, b) := by
    intro rest hr; subst hr; exact checkSteps_complete hn hw hb hp
  cases hcl with
  | inr h2 =>
    simp only [h2.1, if_true]
    exact key _ h2.2
  | inl h1 =>
    by_cases hm : k.myFingerprint = some r.fingerprint
    · simp only [hm, if_true]
      have ho := hoc _ hm h1.1
      rw [ho] at h1
      exact key _ (map_ofNat_inj (by simpa using h1.2))
    · simp only [hm, if_false, h1.1, if_true]
      have hlen : k.originPath.length ≤ r.path.length := by
        have := congrArg List.length h1.2
        simp at this
        omega
      have htake : k.originPath = List.map Int.ofNat (List.take k.originPath.length r.path) := by
        have h3 := congrArg (List.take k.originPath.length) h1.2
        rw [List.take_left' rfl] at h3
        rw [List.map_take]
        exact h3.symm
      rw [if_pos htake]
      apply key
      have h3 := congrArg (List.drop k.originPath.length) h1.2
      rw [List.drop_left' rfl, ← List.map_drop] at h3
      exact map_ofNat_inj h3

/-- extended key `k` matches record `r` and derives the script `spk` at the matched (index, branch) -/
abbrev KeyView.Hits (ds : Nat → Nat → Option Bytes) (spk : Bytes) (r : DerivRec) (k : KeyView) : Prop :=
  k.extended = true ∧ ∃ i b, k.check r = some (i, b) ∧ ds i b = some spk

/-- the loop shape of `owns`: try the elements in order, stop at the first that raises (`none`) or hits (`some true`) -/
def firstHit {α : Type} (step : α → Option Bool) : List α → Option Bool
  | [] => some false
  | a :: r =>
    match step a with
    | none => none
    | some true => some true
    | some false => firstHit step r

theorem firstHit_true {α : Type} {step : α → Option Bool} :
    ∀ {l : List α}, firstHit step l = some true → ∃ a ∈ l, step a = some true := by
  intro l
  induction l with
  | nil => intro h; cases h
  | cons a r ih =>
    intro h
    unfold firstHit at h
    split at h
    · cases h
    · exact ⟨a, List.mem_cons_self, ‹_›⟩
    · obtain ⟨x, hx, hs⟩ := ih h
      exact ⟨x, List.mem_cons_of_mem _ hx, hs⟩

theorem firstHit_ne_none {α : Type} {step : α → Option Bool} :
    ∀ {l : List α}, (∀ a ∈ l, step a ≠ none) → firstHit step l ≠ none := by
  intro l
  induction l with
  | nil => intro _ h; cases h
  | cons a r ih =>
    intro hn
    unfold firstHit
    cases hs : step a with
    | none => exact absurd hs (hn a List.mem_cons_self)
    | some w =>
      cases w with
      | true => exact Option.some_ne_none _
      | false => exact ih fun x hx => hn x (List.mem_cons_of_mem _ hx)

/-- when no step raises, a step that hits makes the loop answer True, wherever it stands -/
theorem firstHit_complete {α : Type} {step : α → Option Bool} :
    ∀ {l : List α}, (∀ a ∈ l, step a ≠ none) → (∃ a ∈ l, step a = some true) → firstHit step l = some true := by
  intro l
  induction l with
  | nil => intro _ ⟨_, ha, _⟩; cases ha
  | cons a r ih =>
    intro hn ⟨x, hx, hx1⟩
    unfold firstHit
    cases hs : step a with
    | none => exact absurd hs (hn a List.mem_cons_self)
    | some w =>
      cases w with
      | true => rfl
      | false =>
        rcases List.mem_cons.mp hx with rfl | hx
        · rw [hs] at hx1; cases hx1
        · exact ih (fun y hy => hn y (List.mem_cons_of_mem _ hy)) ⟨x, hx, hx1⟩

theorem firstHit_append {α : Type} (step : α → Option Bool) (l1 l2 : List α) :
    firstHit step (l1 ++ l2) =
      match firstHit step l1 with
      | none => none
      | some true => some true
      | some false => firstHit step l2 := by
  induction l1 with
  | nil => rfl
  | cons a r ih =>
    simp only [List.cons_append, firstHit]
    cases step a with
    | none => rfl
    | some w => cases w <;> simp [ih]

/-- what one key does with one record -/
def keyStep (ds : Nat → Nat → Option Bytes) (spk : Bytes) (r : DerivRec) (k : KeyView) : Option Bool :=
  if !k.extended then some false
  else match k.check r with
    | none => some false
    | some (i, b) => (ds i b).map (· == spk)

theorem keyStep_true {ds : Nat → Nat → Option Bytes} {spk : Bytes} {r : DerivRec} {k : KeyView} :
    keyStep ds spk r k = some true ↔ k.Hits ds spk r := by
  unfold keyStep KeyView.Hits
  cases k.extended with
  | false => simp
  | true =>
    cases k.check r with
    | none => simp
    | some p =>
      obtain ⟨i, b⟩ := p
      simp only [Bool.not_true, Bool.false_eq_true, if_false, Option.map_eq_some_iff, beq_iff_eq, true_and,
        Option.some.injEq, Prod.mk.injEq]
      exact ⟨fun ⟨s, hs, e⟩ => ⟨i, b, ⟨rfl, rfl⟩, e ▸ hs⟩, fun ⟨_, _, ⟨e1, e2⟩, hs⟩ => ⟨spk, e1 ▸ e2 ▸ hs, rfl⟩⟩

theorem keyStep_ne_none {ds : Nat → Nat → Option Bytes} {spk : Bytes} {r : DerivRec} {k : KeyView}
    (h : k.extended = true → ∀ i b, k.check r = some (i, b) → (ds i b).isSome = true) :
    keyStep ds spk r k ≠ none := by
  unfold keyStep
  cases he : k.extended with
  | false => simp
  | true =>
    cases hc : k.check r with
    | none => simp
    | some p =>
      obtain ⟨i, b⟩ := p
      have := h he i b hc
      cases hd : ds i b with
      | none => simp [hd] at this
      | some _ => simp [hd]

theorem scanKeys_eq (ds : Nat → Nat → Option Bytes) (spk : Bytes) (r : DerivRec) (keys : List KeyView) :
    scanKeys ds spk r keys = firstHit (keyStep ds spk r) keys := by
  induction keys with
  | nil => rfl
  | cons k ks ih =>
    simp only [scanKeys, firstHit, keyStep, ih]
    cases k.extended with
    | false => rfl
    | true =>
      cases k.check r with
      | none => rfl
      | some p =>
        obtain ⟨i, b⟩ := p
        cases hd : ds i b with
        | none => simp [hd]
        | some s => cases hs : s == spk <;> simp [hd, hs]

theorem scanRecords_eq (keys : List KeyView) (ds : Nat → Nat → Option Bytes) (spk : Bytes) (recs : List DerivRec) :
    scanRecords keys ds spk recs = firstHit (fun r => firstHit (keyStep ds spk r) keys) recs := by
  induction recs with
  | nil => rfl
  | cons r rs ih =>
    simp only [scanRecords, firstHit, scanKeys_eq, ih]
    -- the two `match`es are different constants (one per module): same cases, same arms
    cases firstHit (keyStep ds spk r) keys with
    | none => rfl
    | some w => cases w <;> rfl

/-- `owns`, past the two early exits, is one loop over the records of both PSBT maps -/
theorem ownsCore_eq (keys : List KeyView) (ty : Option SpkType) (ds : Nat → Nat → Option Bytes) (sc : Scope) :
    ownsCore keys ty ds sc =
      match sc.spk with
      | none => some false
      | some spk =>
        if scriptType spk ≠ ty then some false else scanRecords keys ds spk (sc.derivs ++ sc.tapDerivs) := by
  unfold ownsCore
  cases sc.spk with
  | none => rfl
  | some spk =>
    simp only [scanRecords_eq, firstHit_append]
    split
    · rfl
    · cases firstHit (fun r => firstHit (keyStep ds spk r) keys) sc.derivs with
      | none => rfl
      | some w => cases w <;> rfl

/-- what an answer True of the decision procedure rests on -/
theorem ownsCore_true_witness {keys : List KeyView} {ty : Option SpkType} {ds : Nat → Nat → Option Bytes}
    {sc : Scope} (h : ownsCore keys ty ds sc = some true) :
    ∃ spk, sc.spk = some spk ∧ scriptType spk = ty ∧ ∃ r, r ∈ sc.derivs ++ sc.tapDerivs ∧
      ∃ k, k ∈ keys ∧ k.Hits ds spk r := by
  rw [ownsCore_eq] at h
  cases hspk : sc.spk with
  | none => simp [hspk] at h
  | some spk =>
    simp only [hspk] at h
    split at h
    · cases h
    · rename_i hty
      rw [scanRecords_eq] at h
      obtain ⟨r, hr, hk⟩ := firstHit_true h
      obtain ⟨k, hkm, hs⟩ := firstHit_true hk
      exact ⟨spk, rfl, by simpa using hty, r, hr, k, hkm, keyStep_true.mp hs⟩

/-- no matching (record, key) pair makes `derive` raise -/
def NoRaise (keys : List KeyView) (ds : Nat → Nat → Option Bytes) (recs : List DerivRec) : Prop :=
  ∀ r, r ∈ recs → ∀ k, k ∈ keys → k.extended = true → ∀ i b, k.check r = some (i, b) → (ds i b).isSome = true

/-- when no matching key makes `derive` raise, an extended key that matches some record and derives the script is
    found, whatever stands before it -/
theorem scanRecords_complete {keys : List KeyView} {ds : Nat → Nat → Option Bytes} {spk : Bytes}
    {recs : List DerivRec} (hnr : NoRaise keys ds recs)
    (hex : ∃ r, r ∈ recs ∧ ∃ k, k ∈ keys ∧ k.Hits ds spk r) :
    scanRecords keys ds spk recs = some true := by
  obtain ⟨r, hr, k, hk, hit⟩ := hex
  have inner : ∀ r ∈ recs, ∀ k ∈ keys, keyStep ds spk r k ≠ none := fun r hr k hk => keyStep_ne_none (hnr r hr k hk)
  rw [scanRecords_eq]
  exact firstHit_complete (fun r hr => firstHit_ne_none (inner r hr))
    ⟨r, hr, firstHit_complete (inner r hr) ⟨k, hk, keyStep_true.mpr hit⟩⟩

end Embit.Model.Descriptor
