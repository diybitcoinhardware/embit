import EmbitModel.Model.SignWith
/-
  Vocabulary for the C02X theorems about `SignWith.signWith` and basic lemmas (Mathlib-free):
  the frame (`core`), applying a trace of writes, the laws assumed of the abstract signing functions and of the set
  iteration orders, the involvement rule (`Controls`, `OwnKey`), the justification of a single write (`Justified`), and
  for each function of the model what a successful run consists of (`sign*_some`): the proofs about runs start there.
-/
namespace Embit.Model.SignWith
open Embit Embit.Model

variable {HD : Type}

/-- a scope with its signature fields blanked: two scopes with the same `core` differ at most in `partial_sigs`,
    `taproot_sigs` and `final_scriptwitness` -/
def core (s : InScope) : InScope := { s with partialSigs := [], tapSigs := [], finalWitness := none }

def pcore (p : Psbt) : Psbt := { p with inputs := p.inputs.map core }

def applySlot (s : InScope) : Slot × Bytes → InScope
  | (.partialSig k, v) => { s with partialSigs := setKV k v s.partialSigs }
  | (.tapScriptSig k, v) => { s with tapSigs := setKV k v s.tapSigs }
  | (.tapKeySig, v) => { s with finalWitness := some [v] }

def applySlots (s : InScope) (ws : List (Slot × Bytes)) : InScope := ws.foldl applySlot s

def applyWrite (p : Psbt) (w : Write) : Psbt :=
  match p.inputs[w.1]? with
  | some s => Psbt.setInput p w.1 (applySlot s w.2)
  | none => p

def applyWrites (p : Psbt) (ws : List Write) : Psbt := ws.foldl applyWrite p

def slotValue (s : InScope) : Slot → Option Bytes
  | .partialSig k => lookup k s.partialSigs
  | .tapScriptSig k => lookup k s.tapSigs
  | .tapKeySig => match s.finalWitness with
    | some [v] => some v
    | _ => none

/-- the set iteration orders are permutations -/
structure OrderLaws (O : Ops HD) : Prop where
  permD : ∀ l, (O.orderD l).Perm l
  permK : ∀ l, (O.orderK l).Perm l

/-- the signer holds the secret `sk` of the derivation entry `pub` of scope `s`: the entry's fingerprint is the
    signer's, the entry's path (minus the signer's origin path) derives a key from the signer's HD key, and that key is
    `pub` (same point; for taproot inputs same x-only key) -/
def Controls (O : Ops HD) (sg : Single HD) (tap : Bool) (s : InScope) (sk pub : Bytes) : Prop :=
  ∃ fp d k, sg.fingerprint O = some fp ∧ fp ≠ [] ∧ (pub, d) ∈ matchingDerivs s fp ∧
    sg.deriveFor O d.path = some (some k) ∧ O.hdSecret k = sk ∧ keyMatches O tap sk pub = true

/-- a key the signer signs taproot inputs with: its own key, or a controlled derived key (always compressed) -/
def OwnKey (O : Ops HD) (sg : Single HD) (s : InScope) (sk : Bytes) (c : Bool) : Prop :=
  (sk = sg.secret O ∧ c = sg.compressed) ∨ (c = true ∧ ∃ pub, Controls O sg true s sk pub)

/-- one write is justified on scope `s` (previous output `u`, flag `f`, digest function `D` of that input): what was
    written where, by which key the signer controls, over which digest -/
inductive Justified (O : Ops HD) (sg : Single HD) (s : InScope) (u : TxOut) (f : Nat)
    (D : Nat → Option (Bytes × Nat) → Option Bytes) : Slot × Bytes → Prop
  /-- the signer's own key occurs in the script (as SEC key or as HASH160): ECDSA, filed under that key -/
  | ecdsaRoot (h sig : Bytes) :
      isTaprootSpk u.spk = false →
      (isInfix (O.secOf (sg.secret O) sg.compressed) (scriptOf s u.spk) = true
        ∨ isInfix (O.hash160 (O.secOf (sg.secret O) sg.compressed)) (scriptOf s u.spk) = true) →
      D f none = some h → O.ecdsaSign (sg.secret O) h = some sig →
      Justified O sg s u f D (.partialSig (O.secOf (sg.secret O) sg.compressed), sig ++ flagByte f)
  /-- a derivation entry the signer controls: ECDSA, filed under the entry's key -/
  | ecdsaDerived (sk pub h sig : Bytes) :
      isTaprootSpk u.spk = false → Controls O sg false s sk pub →
      D f none = some h → O.ecdsaSign sk h = some sig →
      Justified O sg s u f D (.partialSig pub, sig ++ flagByte f)
  /-- taproot key path: the tweaked key's x-only encoding occurs in the scriptPubKey -/
  | tapKey (sk : Bytes) (c : Bool) (tsk h sig : Bytes) :
      isTaprootSpk u.spk = true → OwnKey O sg s sk c →
      O.tapTweak sk (s.tapMerkleRoot.getD []) = some tsk →
      isInfix (xonlyOfSec (O.secOf tsk true)) u.spk = true →
      D f none = some h → O.schnorrSign tsk h = some sig →
      Justified O sg s u f D (.tapKeySig, sig ++ flagSuffix f)
  /-- taproot script path: the key's x-only encoding occurs in a leaf script of the scope -/
  | tapLeaf (sk : Bytes) (c : Bool) (ctrl sc : Bytes) (lv : UInt8) (h sig : Bytes) :
      isTaprootSpk u.spk = true → OwnKey O sg s sk c →
      (ctrl, sc) ∈ s.tapScripts → isInfix (xonlyOfSec (O.secOf sk c)) sc = true → sc.getLast? = some lv →
      D f (some (sc.dropLast, lv.toNat)) = some h → O.schnorrSign sk h = some sig →
      Justified O sg s u f D
        (.tapScriptSig (xonlyOfSec (O.secOf sk c) ++ taggedHash O.sha "TapLeaf" ([lv] ++ scriptSer sc.dropLast)),
         sig ++ flagSuffix f)

theorem mem_dedup {α : Type} [DecidableEq α] (x : α) (l : List α) : x ∈ dedup l ↔ x ∈ l := by
  induction l with
  | nil => simp [dedup]
  | cons a r ih =>
    unfold dedup
    by_cases h : a ∈ r
    · simp only [h, if_true, ih, List.mem_cons]
      constructor
      · intro hx; exact Or.inr hx
      · rintro (rfl | hx)
        · exact h
        · exact hx
    · simp only [h, if_false, List.mem_cons, ih]

theorem nodup_dedup {α : Type} [DecidableEq α] (l : List α) : (dedup l).Nodup := by
  induction l with
  | nil => simp [dedup]
  | cons a r ih =>
    unfold dedup
    by_cases h : a ∈ r
    · simp only [h, if_true]; exact ih
    · simp only [h, if_false, List.nodup_cons]
      exact ⟨fun hx => h ((mem_dedup a r).mp hx), ih⟩

theorem lookup_setKV_self (k v : Bytes) (l : List (Bytes × Bytes)) : lookup k (setKV k v l) = some v := by
  induction l with
  | nil => simp [setKV, lookup]
  | cons a r ih =>
    obtain ⟨k', v'⟩ := a
    unfold setKV
    by_cases h : k = k'
    · simp [h, lookup]
    · simp [h, lookup, ih]

theorem lookup_setKV_ne (k k' v : Bytes) (l : List (Bytes × Bytes)) (h : k' ≠ k) :
    lookup k' (setKV k v l) = lookup k' l := by
  induction l with
  | nil => simp [setKV, lookup, h]
  | cons a r ih =>
    obtain ⟨k2, v2⟩ := a
    unfold setKV
    by_cases h2 : k = k2
    · subst h2
      simp [lookup, h]
    · simp only [h2, if_false, lookup]
      by_cases h3 : k' = k2
      · simp [h3]
      · simp [h3, ih]

theorem lookup_setKV (k k' v : Bytes) (l : List (Bytes × Bytes)) :
    lookup k' (setKV k v l) = if k' = k then some v else lookup k' l := by
  by_cases h : k' = k
  · subst h; simp [lookup_setKV_self]
  · simp [h, lookup_setKV_ne k k' v l h]

theorem keys_setKV (k v : Bytes) (l : List (Bytes × Bytes)) :
    (setKV k v l).map Prod.fst = if (lookup k l).isSome then l.map Prod.fst else l.map Prod.fst ++ [k] := by
  induction l with
  | nil => simp [setKV, lookup]
  | cons a r ih =>
    obtain ⟨k2, v2⟩ := a
    unfold setKV
    by_cases h2 : k = k2
    · subst h2; simp [lookup]
    · simp only [h2, if_false, lookup, List.map_cons, ih]
      split <;> simp

theorem mem_filterMap_index {α : Type} (l : List (Nat × α)) (i : Nat) (x : α) :
    x ∈ l.filterMap (fun e => if e.1 = i then some e.2 else none) ↔ (i, x) ∈ l := by
  simp only [List.mem_filterMap]
  constructor
  · rintro ⟨⟨j, y⟩, hm, h⟩
    dsimp only at h
    split at h
    · rename_i hj; cases h; subst hj; exact hm
    · cases h
  · exact fun h => ⟨(i, x), h, by simp⟩

theorem filterMap_index_nil {α : Type} (l : List (Nat × α)) (i : Nat) (h : ∀ e ∈ l, e.1 ≠ i) :
    l.filterMap (fun e => if e.1 = i then some e.2 else none) = [] := by
  induction l with
  | nil => rfl
  | cons e r ih =>
    rw [List.filterMap_cons, if_neg (h e List.mem_cons_self)]
    exact ih fun e he => h e (List.mem_cons_of_mem _ he)

/-- the counter contribution of filing signatures under the slots `l` in order, given the slots `seen` before -/
def newCount {α : Type} [DecidableEq α] (seen : List α) : List α → Nat
  | [] => 0
  | x :: r => countSlot seen x + newCount (seen ++ [x]) r

def firsts {α : Type} [DecidableEq α] (seen : List α) : List α → List α
  | [] => []
  | x :: r => (if x ∈ seen then [] else [x]) ++ firsts (seen ++ [x]) r

theorem newCount_append {α : Type} [DecidableEq α] (seen a b : List α) :
    newCount seen (a ++ b) = newCount seen a + newCount (seen ++ a) b := by
  induction a generalizing seen with
  | nil => simp [newCount]
  | cons x r ih =>
    have e : seen ++ x :: r = (seen ++ [x]) ++ r := by simp
    simp only [List.cons_append, newCount, ih, e, Nat.add_assoc]

theorem newCount_eq_firsts {α : Type} [DecidableEq α] (seen l : List α) :
    newCount seen l = (firsts seen l).length := by
  induction l generalizing seen with
  | nil => rfl
  | cons x r ih =>
    simp only [newCount, firsts, List.length_append, ih, countSlot]
    split <;> simp

theorem mem_firsts {α : Type} [DecidableEq α] (seen l : List α) (x : α) :
    x ∈ firsts seen l ↔ x ∈ l ∧ x ∉ seen := by
  induction l generalizing seen with
  | nil => simp [firsts]
  | cons y r ih =>
    simp only [firsts, List.mem_append, ih, List.mem_cons, not_or]
    by_cases hy : y ∈ seen <;> by_cases e : x = y
    · subst e; simp [hy]
    · simp [hy, e]
    · subst e; simp [hy]
    · simp [hy, e]

theorem nodup_firsts {α : Type} [DecidableEq α] (seen l : List α) : (firsts seen l).Nodup := by
  induction l generalizing seen with
  | nil => simp [firsts]
  | cons y r ih =>
    simp only [firsts]
    by_cases hy : y ∈ seen
    · simp only [hy, if_true, List.nil_append]; exact ih _
    · simp only [hy, if_false, List.singleton_append, List.nodup_cons]
      refine ⟨?_, ih _⟩
      intro hm
      have := ((mem_firsts _ _ _).mp hm).2
      exact this (by simp)

@[simp] theorem core_applySlot (s : InScope) (w : Slot × Bytes) : core (applySlot s w) = core s := by
  obtain ⟨sl, v⟩ := w
  cases sl <;> rfl

@[simp] theorem core_applySlots (s : InScope) (ws : List (Slot × Bytes)) : core (applySlots s ws) = core s := by
  induction ws generalizing s with
  | nil => rfl
  | cons w r ih => simp [applySlots, List.foldl_cons] at ih ⊢; rw [ih, core_applySlot]

theorem applySlots_append (s : InScope) (a b : List (Slot × Bytes)) :
    applySlots s (a ++ b) = applySlots (applySlots s a) b := by
  simp [applySlots, List.foldl_append]

theorem applyWrites_append (p : Psbt) (a b : List Write) :
    applyWrites p (a ++ b) = applyWrites (applyWrites p a) b := by
  simp [applyWrites, List.foldl_append]

theorem setInput_self (p : Psbt) (i : Nat) (s : InScope) (h : p.inputs[i]? = some s) : Psbt.setInput p i s = p := by
  obtain ⟨hi, rfl⟩ := List.getElem?_eq_some_iff.mp h
  rw [Psbt.setInput, List.set_getElem_self]

theorem setInput_get (p : Psbt) (i : Nat) (s t : InScope) (h : p.inputs[i]? = some s) :
    (Psbt.setInput p i t).inputs[i]? = some t := by
  exact List.getElem?_set_self (List.getElem?_eq_some_iff.mp h).1

theorem setInput_setInput (p : Psbt) (i : Nat) (s t : InScope) :
    Psbt.setInput (Psbt.setInput p i s) i t = Psbt.setInput p i t := by
  simp [Psbt.setInput, List.set_set]

theorem applyWrites_input (p : Psbt) (i : Nat) (s : InScope) (ws : List (Slot × Bytes))
    (h : p.inputs[i]? = some s) :
    applyWrites p (ws.map (fun w => (i, w))) = Psbt.setInput p i (applySlots s ws) := by
  induction ws generalizing p s with
  | nil => simp [applyWrites, applySlots, setInput_self p i s h]
  | cons w r ih =>
    simp only [List.map_cons, applyWrites, List.foldl_cons, applySlots]
    have h1 : applyWrite p (i, w) = Psbt.setInput p i (applySlot s w) := by simp [applyWrite, h]
    rw [h1]
    have h2 := ih (Psbt.setInput p i (applySlot s w)) (applySlot s w) (setInput_get p i s _ h)
    simp only [applyWrites, applySlots] at h2
    rw [h2, setInput_setInput]

theorem pcore_setInput (p : Psbt) (i : Nat) (s t : InScope) (h : p.inputs[i]? = some s) (hc : core t = core s) :
    pcore (Psbt.setInput p i t) = pcore p := by
  obtain ⟨hi, rfl⟩ := List.getElem?_eq_some_iff.mp h
  simp only [pcore, Psbt.setInput, List.map_set, hc]
  rw [← List.getElem_map core (h := (List.length_map core).symm ▸ hi), List.set_getElem_self]

theorem pcore_inputs_length {p q : Psbt} (h : pcore p = pcore q) : p.inputs.length = q.inputs.length := by
  simpa [pcore] using congrArg (fun r => r.inputs.length) h

theorem pcore_applyWrite (p : Psbt) (w : Write) : pcore (applyWrite p w) = pcore p := by
  unfold applyWrite
  split
  · rename_i s hs
    exact pcore_setInput p w.1 s _ hs (core_applySlot s w.2)
  · rfl

theorem pcore_applyWrites (p : Psbt) (ws : List Write) : pcore (applyWrites p ws) = pcore p := by
  induction ws generalizing p with
  | nil => rfl
  | cons w r ih =>
    simp only [applyWrites, List.foldl_cons] at ih ⊢
    rw [ih, pcore_applyWrite]

/-- the TapLeaf hash `sign_input_with_tapkey` files a script-path signature under -/
def leafHashOf (O : Ops HD) (sc : Bytes) (lv : UInt8) : Bytes :=
  taggedHash O.sha "TapLeaf" ([lv] ++ scriptSer sc.dropLast)

/-- `bip32_derivations` of `signInput`: the entries with the signer's fingerprint, if it has a non-empty one -/
def candidateDerivs (O : Ops HD) (sg : Single HD) (s : InScope) : List (Bytes × Deriv) :=
  match sg.fingerprint O with
  | some fp => if fp.isEmpty then [] else matchingDerivs s fp
  | none => []

theorem mem_candidateDerivs {O : Ops HD} {sg : Single HD} {s : InScope} {e : Bytes × Deriv} :
    e ∈ candidateDerivs O sg s ↔ ∃ fp, sg.fingerprint O = some fp ∧ fp ≠ [] ∧ e ∈ matchingDerivs s fp := by
  unfold candidateDerivs
  cases sg.fingerprint O with
  | none => simp
  | some fp => cases fp <;> simp

def dgOf (O : Ops HD) (q : Psbt) (i : Nat) : Digest :=
  fun s f leaf => psbtSighash O.sha (Psbt.setInput q i s) i f leaf

section ScopeRuns
variable {O : Ops HD} {sg : Single HD} {auth : Option Nat} {dg : Digest} {sk : Bytes} {c : Bool} {f : Nat} {xo : Bytes}
  {seen : List Slot} {s s' s0 : InScope} {u : TxOut} {k : Nat} {ws : List (Slot × Bytes)} {l r : List (Bytes × Bytes)}
  {ctrl sc prv pub rootpub hh : Bytes}

theorem signLeaves_cons_some (h : signLeaves O dg sk f xo seen ((ctrl, sc) :: r) s = some (s', k, ws)) :
    (isInfix xo sc = false ∧ signLeaves O dg sk f xo seen r s = some (s', k, ws)) ∨
    ∃ lv hh sig k2 ws2, isInfix xo sc = true ∧ sc.getLast? = some lv ∧
      dg s f (some (sc.dropLast, lv.toNat)) = some hh ∧ O.schnorrSign sk hh = some sig ∧
      signLeaves O dg sk f xo (seen ++ [.tapScriptSig (xo ++ leafHashOf O sc lv)]) r
        (applySlot s (.tapScriptSig (xo ++ leafHashOf O sc lv), sig ++ flagSuffix f)) = some (s', k2, ws2) ∧
      k = countSlot seen (.tapScriptSig (xo ++ leafHashOf O sc lv)) + k2 ∧
      ws = (.tapScriptSig (xo ++ leafHashOf O sc lv), sig ++ flagSuffix f) :: ws2 := by
  unfold signLeaves at h
  cases hin : isInfix xo sc with
  | false => exact Or.inl ⟨rfl, by simpa [hin] using h⟩
  | true =>
    simp only [hin, Bool.not_true, Bool.false_eq_true, if_false] at h
    split at h
    · cases h
    · rename_i lv hlv
      split at h
      · cases h
      · rename_i hh hdig
        split at h
        · cases h
        · rename_i sig hsig
          split at h
          · cases h
          · rename_i s2 k2 ws2 hrec
            cases h
            exact Or.inr ⟨lv, hh, sig, k2, ws2, rfl, hlv, hdig, hsig, hrec, rfl, rfl⟩

theorem signTapKey_some (h : signTapKey O dg sk c f seen s = some (s', k, ws)) :
    ∃ u, s.utxo = some u ∧
      ((isTaprootSpk u.spk = false ∧ s' = s ∧ k = 0 ∧ ws = []) ∨
       ∃ tsk, isTaprootSpk u.spk = true ∧ O.tapTweak sk (s.tapMerkleRoot.getD []) = some tsk ∧
        ((isInfix (xonlyOfSec (O.secOf tsk true)) u.spk = true ∧ ∃ hh sig, dg s f none = some hh ∧
            O.schnorrSign tsk hh = some sig ∧ s' = applySlot s (.tapKeySig, sig ++ flagSuffix f) ∧
            k = countSlot seen .tapKeySig ∧ ws = [(.tapKeySig, sig ++ flagSuffix f)]) ∨
         (isInfix (xonlyOfSec (O.secOf tsk true)) u.spk = false ∧
            signLeaves O dg sk f (xonlyOfSec (O.secOf sk c)) seen s.tapScripts s = some (s', k, ws)))) := by
  unfold signTapKey at h
  split at h
  · cases h
  · rename_i u hu
    refine ⟨u, hu, ?_⟩
    cases htap : isTaprootSpk u.spk with
    | false =>
      simp only [htap, Bool.not_false, if_true] at h
      cases h
      exact Or.inl ⟨rfl, rfl, rfl, rfl⟩
    | true =>
      simp only [htap, Bool.not_true, Bool.false_eq_true, if_false] at h
      split at h
      · cases h
      · rename_i tsk htw
        refine Or.inr ⟨tsk, rfl, htw, ?_⟩
        cases hin : isInfix (xonlyOfSec (O.secOf tsk true)) u.spk with
        | false => exact Or.inr ⟨rfl, by simpa [hin] using h⟩
        | true =>
          simp only [hin, if_true] at h
          split at h
          · cases h
          · rename_i hh hdig
            split at h
            · cases h
            · rename_i sig hsig
              cases h
              exact Or.inl ⟨rfl, hh, sig, hdig, hsig, rfl, rfl, rfl⟩

theorem signTapDerived_cons_some (h : signTapDerived O dg f seen ((prv, pub) :: r) s = some (s', k, ws)) :
    ∃ s1 k1 w1 k2 w2, signTapKey O dg prv true f seen s = some (s1, k1, w1) ∧
      signTapDerived O dg f (seen ++ w1.map Prod.fst) r s1 = some (s', k2, w2) ∧ k = k1 + k2 ∧ ws = w1 ++ w2 := by
  unfold signTapDerived at h
  split at h
  · cases h
  · rename_i s1 k1 w1 h1
    split at h
    · cases h
    · rename_i s2 k2 w2 h2
      cases h
      exact ⟨s1, k1, w1, k2, w2, h1, h2, rfl, rfl⟩

theorem signEcdsaRoot_some (h : signEcdsaRoot O sk c f hh sc seen s = some (s', k, ws)) :
    ((isInfix (O.secOf sk c) sc || isInfix (O.hash160 (O.secOf sk c)) sc) = false ∧ s' = s ∧ k = 0 ∧ ws = []) ∨
    ((isInfix (O.secOf sk c) sc || isInfix (O.hash160 (O.secOf sk c)) sc) = true ∧ ∃ sig,
      O.ecdsaSign sk hh = some sig ∧ s' = applySlot s (.partialSig (O.secOf sk c), sig ++ flagByte f) ∧
      k = countSlot seen (.partialSig (O.secOf sk c)) ∧ ws = [(.partialSig (O.secOf sk c), sig ++ flagByte f)]) := by
  unfold signEcdsaRoot at h
  dsimp only at h
  cases hin : (isInfix (O.secOf sk c) sc || isInfix (O.hash160 (O.secOf sk c)) sc) with
  | false =>
    simp only [hin, Bool.false_eq_true, if_false] at h
    cases h
    exact Or.inl ⟨rfl, rfl, rfl, rfl⟩
  | true =>
    simp only [hin, if_true] at h
    split at h
    · cases h
    · rename_i sig hsig
      cases h
      exact Or.inr ⟨rfl, sig, hsig, rfl, rfl, rfl⟩

theorem signEcdsaDerived_cons_some (h : signEcdsaDerived O rootpub f hh seen ((prv, pub) :: r) s = some (s', k, ws)) :
    (pub = rootpub ∧ (slotValue s (.partialSig pub)).isSome = true ∧
      signEcdsaDerived O rootpub f hh seen r s = some (s', k, ws)) ∨
    ∃ sig k2 ws2, O.ecdsaSign prv hh = some sig ∧
      signEcdsaDerived O rootpub f hh (seen ++ [.partialSig pub]) r (applySlot s (.partialSig pub, sig ++ flagByte f))
        = some (s', k2, ws2) ∧
      k = countSlot seen (.partialSig pub) + k2 ∧ ws = (.partialSig pub, sig ++ flagByte f) :: ws2 := by
  unfold signEcdsaDerived at h
  split at h
  · rename_i hskip
    simp only [Bool.and_eq_true, decide_eq_true_eq] at hskip
    exact Or.inl ⟨hskip.1, hskip.2, h⟩
  · split at h
    · cases h
    · rename_i sig hsig
      dsimp only at h
      split at h
      · cases h
      · rename_i s2 k2 ws2 hrec
        cases h
        exact Or.inr ⟨sig, k2, ws2, hsig, hrec, rfl, rfl⟩

theorem signInput_some (h : signInput O sg auth dg seen s = some (s', k, ws)) :
    ∃ u, s.utxo = some u ∧
      ((signPolicy auth s.sighashType (isTaprootSpk u.spk) = none ∧ s' = s ∧ k = 0 ∧ ws = []) ∨
       ∃ f kps0 s1 k1 w1 k2 w2, signPolicy auth s.sighashType (isTaprootSpk u.spk) = some f ∧
        derivedPairs O sg (isTaprootSpk u.spk) (O.orderD (dedup (candidateDerivs O sg s))) = some kps0 ∧
        k = k1 + k2 ∧ ws = w1 ++ w2 ∧
        ((isTaprootSpk u.spk = true ∧ signTapKey O dg (sg.secret O) sg.compressed f seen s = some (s1, k1, w1) ∧
            signTapDerived O dg f (seen ++ w1.map Prod.fst) (O.orderK (dedup kps0)) s1 = some (s', k2, w2)) ∨
         (isTaprootSpk u.spk = false ∧ ∃ hh, dg s f none = some hh ∧
            signEcdsaRoot O (sg.secret O) sg.compressed f hh (scriptOf s u.spk) seen s = some (s1, k1, w1) ∧
            signEcdsaDerived O (O.secOf (sg.secret O) sg.compressed) f hh (seen ++ w1.map Prod.fst)
              (O.orderK (dedup kps0)) s1 = some (s', k2, w2)))) := by
  unfold signInput at h
  split at h
  · cases h
  · rename_i u hu
    refine ⟨u, hu, ?_⟩
    dsimp only at h
    split at h
    · rename_i hpol
      cases h
      exact Or.inl ⟨hpol, rfl, rfl, rfl⟩
    · rename_i f hpol
      split at h
      · cases h
      · rename_i kps0 hkps
        split at h
        · rename_i htap
          split at h
          · cases h
          · rename_i s1 k1 w1 h1
            split at h
            · cases h
            · rename_i s2 k2 w2 h2
              cases h
              exact Or.inr ⟨f, kps0, s1, k1, w1, k2, w2, hpol, hkps, rfl, rfl, Or.inl ⟨htap, h1, h2⟩⟩
        · rename_i htap
          split at h
          · cases h
          · rename_i hh hdig
            split at h
            · cases h
            · rename_i s1 k1 w1 h1
              split at h
              · cases h
              · rename_i s2 k2 w2 h2
                cases h
                exact Or.inr ⟨f, kps0, s1, k1, w1, k2, w2, hpol, hkps, rfl, rfl,
                  Or.inr ⟨by simpa using htap, hh, hdig, h1, h2⟩⟩

end ScopeRuns

section PsbtRuns
variable {O : Ops HD} {sg : Single HD} {auth : Option Nat} {i : Nat} {is : List Nat} {G : List (Nat × Slot)} {p p' : Psbt}
  {n : Nat} {ws : List Write} {ks : List (Single HD)} {signer : Signer HD}

theorem signInputs_cons_some (h : signInputs O sg auth (i :: is) G p = some (p', n, ws)) :
    ∃ s s1 k1 w1 k2 w2, p.inputs[i]? = some s ∧ signInput O sg auth (dgOf O p i) (slotsOf G i) s = some (s1, k1, w1) ∧
      signInputs O sg auth is (G ++ w1.map (fun w => (i, w.1))) (Psbt.setInput p i s1) = some (p', k2, w2) ∧
      n = k1 + k2 ∧ ws = w1.map (fun w => (i, w)) ++ w2 := by
  unfold signInputs at h
  split at h
  · cases h
  · rename_i s hs
    split at h
    · cases h
    · rename_i s1 k1 w1 h1
      split at h
      · cases h
      · rename_i p2 k2 w2 h2
        cases h
        exact ⟨s, s1, k1, w1, k2, w2, hs, h1, h2, rfl, rfl⟩

theorem signSingle_some (h : signSingle O sg auth G p = some (p', n, ws)) :
    (sg = .keyPub ∧ p' = p ∧ n = 0 ∧ ws = []) ∨
    (sg ≠ .keyPub ∧ signInputs O sg auth (List.range p.inputs.length) G p = some (p', n, ws)) := by
  cases sg with
  | keyPub => cases h; exact Or.inl ⟨rfl, rfl, rfl, rfl⟩
  | wif a b => exact Or.inr ⟨nofun, h⟩
  | hd a => exact Or.inr ⟨nofun, h⟩
  | keyHd a b => exact Or.inr ⟨nofun, h⟩

theorem signKeys_cons_some (h : signKeys O auth (sg :: ks) G p = some (p', n, ws)) :
    ∃ p1 n1 w1 n2 w2, signSingle O sg auth G p = some (p1, n1, w1) ∧
      signKeys O auth ks (G ++ w1.map Write.slot) p1 = some (p', n2, w2) ∧ n = n1 + n2 ∧ ws = w1 ++ w2 := by
  unfold signKeys at h
  split at h
  · cases h
  · rename_i p1 n1 w1 h1
    split at h
    · cases h
    · rename_i p2 n2 w2 h2
      cases h
      exact ⟨p1, n1, w1, n2, w2, h1, h2, rfl, rfl⟩

theorem signWith_eq_signKeys (O : Ops HD) (signer : Signer HD) (auth : Option Nat) (p : Psbt) :
    signWith O signer auth p = signKeys O auth signer.keys [] p := by
  cases signer with
  | descriptor ks => rfl
  | single sg =>
    simp only [signWith, Signer.keys, signKeys]
    cases signSingle O sg auth [] p with
    | none => rfl
    | some r => simp

end PsbtRuns

end Embit.Model.SignWith
