import EmbitModel.Proofs.PsbtSerParse
import EmbitModel.Proofs.ScopeRoundtrip
import EmbitModel.Proofs.BasicList
/-
  C04 (deepening): everything `PSBT.parse` (KEEP_ALL) returns is well-formed (`PsbtWF`).
-/
set_option linter.unusedSimpArgs false
set_option linter.unusedVariables false
namespace Embit
open Model Spec.Wire

theorem globalFold_ver_lt : ∀ (g : List KV) (tx : Option Tx) (ver : Option Nat) (unk : List KV)
    (tx' : Option Tx) (ver' : Option Nat) (unk' : List KV),
    globalFold tx ver unk g = some (tx', ver', unk') → OptP (· < 2^32) ver → OptP (· < 2^32) ver' := by
  intro g tx ver unk tx' ver' unk' h
  exact globalFold_induction (motive := fun _ ver _ _ res => OptP (· < 2^32) ver → OptP (· < 2^32) res.2.1)
    (fun _ _ _ hv => hv) (fun _ _ _ ih => ih) (fun hl _ ih _ => ih (ofLe_lt32 hl)) (fun _ _ _ _ ih => ih) h

theorem globalFold_tx_wf (g : List KV) (t : Tx) (ver' : Option Nat) (unk' : List KV)
    (hg : ∀ kv ∈ g, KVWF kv) (h : globalFold none none [] g = some (some t, ver', unk')) :
    WF t ∧ Unsigned t ∧ Fits (Tx.ser t) := by
  obtain ⟨g1, v, g2, e, _, _, hp, hu⟩ := globalFold_split g none [] t ver' unk' h
  refine ⟨(Props.C03.parse_sound _ _ hp).1, hu, ?_⟩
  rw [Props.C03.reencode _ _ hp]
  exact (hg ([0x00], v) (by rw [e]; simp)).2.2

/-- invariant of `parse_unknowns`: the state is well-formed, and no pair still to come collides with a key
    already filed -/
structure GInv (ko : KeyOps) (isV2 : Bool) (g : GState) (rem : List KV) : Prop where
  txVersion : OptP (· < 2^32) g.txVersion
  locktime : OptP (· < 2^32) g.locktime
  nin : OptP (· < 2^64) g.nin
  nout : OptP (· < 2^64) g.nout
  xpubs : ∀ e ∈ g.xpubs, ko.validXpub e.1 = true ∧ Fits (0x01 :: e.1) ∧ DerivWF e.2
  xpubsNodup : (g.xpubs.map Prod.fst).Nodup
  xpubsFresh : ∀ e ∈ g.xpubs, ∀ kv ∈ rem, kv.1 ≠ 0x01 :: e.1
  unknown : ∀ kv ∈ g.unknown, KVWF kv ∧ unkKeyGlobal isV2 kv.1 = true
  unknownNodup : (g.unknown.map Prod.fst).Nodup
  unknownFresh : ∀ u ∈ g.unknown, ∀ kv ∈ rem, kv.1 ≠ u.1

theorem GInv.weaken {ko : KeyOps} {isV2 : Bool} {g : GState} {kv : KV} {rest : List KV}
    (h : GInv ko isV2 g (kv :: rest)) : GInv ko isV2 g rest :=
  { h with xpubsFresh := fun e he x hx => h.xpubsFresh e he x (by simp [hx]),
           unknownFresh := fun e he x hx => h.unknownFresh e he x (by simp [hx]) }

theorem GInv.add_unknown {ko : KeyOps} {isV2 : Bool} {g : GState} {k v : Bytes} {rest : List KV}
    (h : GInv ko isV2 g ((k, v) :: rest)) (hkv : KVWF (k, v)) (hk : unkKeyGlobal isV2 k = true)
    (hfresh : ∀ x ∈ rest, x.1 ≠ k) :
    GInv ko isV2 { g with unknown := g.unknown ++ [(k, v)] } rest :=
  { h.weaken with
    unknown := forall_snoc h.unknown ⟨hkv, hk⟩,
    unknownNodup := nodup_snoc _ _ _ h.unknownNodup ((lookup_none_iff _ _).mpr (fun u hu e =>
      h.unknownFresh u hu (k, v) (by simp) e.symm)),
    unknownFresh := fun u hu x hx => by
      rcases List.mem_append.mp hu with hu | hu
      · exact h.unknownFresh u hu x (by simp [hx])
      · simp at hu; subst hu; exact hfresh x hx }

theorem parseUnknowns_inv (ko : KeyOps) (isV2 : Bool) : ∀ (unk : List KV) (g g' : GState),
    (∀ kv ∈ unk, KVWF kv ∧ notTxVer kv = true) → (unk.map Prod.fst).Nodup → GInv ko isV2 g unk →
    parseUnknowns ko isV2 g unk = some g' → GInv ko isV2 g' [] := by
  intro unk g g' hkv hn hi h
  refine parseUnknowns_induction (motive := fun g unk g' => (∀ kv ∈ unk, KVWF kv ∧ notTxVer kv = true) →
    (unk.map Prod.fst).Nodup → GInv ko isV2 g unk → GInv ko isV2 g' []) (fun _ _ _ hi => hi) ?_ h hkv hn hi
  intro g k v g1 r g' hs _ ih hkv hn hi
  obtain ⟨hnk, hn'⟩ := List.nodup_cons.mp hn
  have hfresh : ∀ x ∈ r, x.1 ≠ k := fun x hx e => hnk (List.mem_map.mpr ⟨x, hx, e⟩)
  obtain ⟨hwf, hnt⟩ := hkv (k, v) List.mem_cons_self
  refine ih (fun x hx => hkv x (List.mem_cons_of_mem _ hx)) hn' ?_
  cases hs with
  | xpub hval hd =>
    exact { hi.weaken with
      xpubs := forall_snoc hi.xpubs ⟨hval, hwf.2.1, Deriv.parse_wf hd hwf.2.2⟩,
      xpubsNodup := nodup_snoc _ _ _ hi.xpubsNodup ((lookup_none_iff _ _).mpr (fun e he ee =>
        hi.xpubsFresh e he _ List.mem_cons_self (by rw [ee])))
      xpubsFresh := fun e he x hx => by
        rcases List.mem_append.mp he with he | he
        · exact hi.xpubsFresh e he x (List.mem_cons_of_mem _ hx)
        · simp at he; subst he; exact hfresh x hx }
  | txVersion _ hl => exact { hi.weaken with txVersion := ofLe_lt32 hl }
  | locktime _ hl => exact { hi.weaken with locktime := ofLe_lt32 hl }
  | nin _ hp => exact { hi.weaken with nin := parseAll_compact_lt hp }
  | nout _ hp => exact { hi.weaken with nout := parseAll_compact_lt hp }
  | unknown h1 h2 =>
    refine hi.add_unknown hwf ?_ hfresh
    obtain ⟨k0, kr, rfl⟩ := List.exists_cons_of_ne_nil hwf.1
    simp only [notTxVer, Bool.and_eq_true, Bool.not_eq_true', beq_eq_false_iff_ne, ne_eq] at hnt
    have h1' : k0 ≠ 0x01 := fun e => h1 kr (by rw [e])
    simp only [unkKeyGlobal, Bool.and_eq_true, Bool.not_eq_true', beq_eq_false_iff_ne, ne_eq]
    refine ⟨⟨⟨h1', hnt.1⟩, hnt.2⟩, ?_⟩
    cases isV2 with
    | false => rfl
    | true =>
      simp only [Bool.true_and, Bool.or_eq_false_iff, beq_eq_false_iff_ne, ne_eq]
      simpa only [List.mem_cons, List.not_mem_nil, or_false, not_or, and_assoc] using h2 rfl

theorem Psbt.parse_wf (ko : KeyOps) (sha : Bytes → Bytes) (b : Bytes) (p : Psbt)
    (h : Psbt.parse ko sha 0 b = some p) : PsbtWF ko p := by
  obtain ⟨g, kin, kout, tx, unk, gs, eb, wg, ws, hgf, hpu, hver, e1, e2, e3, e4, l1, l2, l3, l4, fi, fo, ft⟩ :=
    parse_decomp ko sha b p h
  have hvlt : OptP (· < 2^32) p.version := globalFold_ver_lt g none none [] tx p.version unk hgf trivial
  have htx : OptP (fun t => WF t ∧ Unsigned t ∧ Fits (Tx.ser t)) tx := by
    cases tx with
    | none => trivial
    | some t => exact globalFold_tx_wf g t _ _ wg hgf
  have htx' : OptP WF tx := OptP_imp htx (fun t ht => ht.1)
  have hunk : unk = g.filter notTxVer := by simpa using globalFold_unk g none none [] tx p.version unk hgf
  have hnd := globalFold_nodup g none none [] tx p.version unk hgf (by simp)
  have hunkwf : ∀ kv ∈ unk, KVWF kv ∧ notTxVer kv = true := by
    intro kv hkv
    rw [hunk] at hkv
    obtain ⟨a, b⟩ := List.mem_filter.mp hkv
    exact ⟨wg kv a, b⟩
  have hg0 : GInv ko (p.version == some 2) (gstate0 tx) unk := by
    cases tx with
    | none => constructor <;> simp [gstate0]
    | some t =>
      have hw : WF t := htx.1
      constructor <;> simp [gstate0, hw.version, hw.locktime, hw.ninLt, hw.noutLt]
  have hgs := parseUnknowns_inv ko _ unk _ gs hunkwf hnd hg0 hpu
  have kinwf : ∀ kvs ∈ kin, ∀ kv ∈ kvs, KVWF kv := fun kvs hk => ws kvs (by simp [hk])
  have koutwf : ∀ kvs ∈ kout, ∀ kv ∈ kvs, KVWF kv := fun kvs hk => ws kvs (by simp [hk])
  refine ⟨hvlt, by rw [e1]; exact hgs.txVersion, by rw [e2]; exact hgs.locktime, by rw [e3]; exact hgs.xpubs,
    by rw [e3]; exact hgs.xpubsNodup, by rw [e4]; exact hgs.unknown, by rw [e4]; exact hgs.unknownNodup, ?_, ?_, ?_, ?_, ?_⟩
  · rw [l3]
    have := hgs.nin
    cases hn : gs.nin with
    | none => simp
    | some n => rw [hn] at this; simpa using this
  · rw [l4]
    have := hgs.nout
    cases hn : gs.nout with
    | none => simp
    | some n => rw [hn] at this; simpa using this
  · intro s hs
    obtain ⟨j, hj⟩ := List.mem_iff_getElem?.mp hs
    have hjl : j < p.inputs.length := (List.getElem?_eq_some_iff.mp hj).1
    obtain ⟨kvs, s', a1, a2, a3⟩ := fi j hjl
    rw [hj] at a2; simp at a2; subst a2
    exact InScope.addPairs_wf ko sha kvs _ s (kinwf kvs (List.mem_of_getElem? a1)) (seedIn_wf ko tx htx' j) a3
  · intro s hs
    obtain ⟨j, hj⟩ := List.mem_iff_getElem?.mp hs
    have hjl : j < p.outputs.length := (List.getElem?_eq_some_iff.mp hj).1
    obtain ⟨kvs, s', a1, a2, a3⟩ := fo j hjl
    rw [hj] at a2; simp at a2; subst a2
    exact OutScope.addPairs_wf ko kvs _ s (koutwf kvs (List.mem_of_getElem? a1)) (seedOut_wf ko tx htx' j) a3
  · -- version 0
    intro hv
    rcases hver with ⟨hv2, _⟩ | ⟨_, t, rfl⟩
    · exact absurd hv2 hv
    · obtain ⟨ptx, pl1, pl2⟩ := ft t rfl
      have hw : WF t := htx.1
      have hisv2 : (p.version == some 2) = false := by simp [hv]
      obtain ⟨c1, c2, c3, c4⟩ := (parseUnknowns_spec ko (p.version == some 2) unk _ gs hnd hpu).2.2.2.2.2.2.1 hisv2
      refine ⟨by rw [e1, c1]; rfl, by rw [e2, c2]; rfl, by rw [pl1]; exact hw.nin, ?_, ?_, by rw [ptx]; exact htx.2.2⟩
      · intro s hs
        obtain ⟨j, hj⟩ := List.mem_iff_getElem?.mp hs
        have hjl : j < p.inputs.length := (List.getElem?_eq_some_iff.mp hj).1
        obtain ⟨kvs, s', a1, a2, a3⟩ := fi j hjl
        rw [hj] at a2; simp at a2; subst a2
        have hjt : j < t.vin.length := by omega
        have hseed : InSeeded (seedIn (some t) j) := by
          simp [seedIn, List.getElem?_eq_getElem hjt, InSeeded]
        have hne : ∀ kv ∈ kvs, kv.1 ≠ [] := fun kv hkv => (kinwf kvs (List.mem_of_getElem? a1) kv hkv).1
        obtain ⟨_, _, k3⟩ := InScope.addPairs_lossless ko sha p.version kvs _ s (Or.inr hseed) hne a3
        obtain ⟨q1, q2, q3⟩ := k3 hseed
        exact ⟨by rw [q1]; exact hseed.1, by rw [q2]; exact hseed.2.1, by rw [q3]; exact hseed.2.2⟩
      · intro s hs
        obtain ⟨j, hj⟩ := List.mem_iff_getElem?.mp hs
        have hjl : j < p.outputs.length := (List.getElem?_eq_some_iff.mp hj).1
        obtain ⟨kvs, s', a1, a2, a3⟩ := fo j hjl
        rw [hj] at a2; simp at a2; subst a2
        have hjt : j < t.vout.length := by omega
        have hseed : OutSeeded (seedOut (some t) j) := by
          simp [seedOut, List.getElem?_eq_getElem hjt, OutSeeded]
        have hne : ∀ kv ∈ kvs, kv.1 ≠ [] := fun kv hkv => (koutwf kvs (List.mem_of_getElem? a1) kv hkv).1
        obtain ⟨_, _, k3⟩ := OutScope.addPairs_lossless ko p.version kvs _ s (Or.inr hseed) hne a3
        obtain ⟨q1, q2⟩ := k3 hseed
        exact ⟨by rw [q1]; exact hseed.1, by rw [q2]; exact hseed.2⟩

end Embit
