import EmbitModel.Proofs.PsbtLossless
/-
  C04: the whole-PSBT statements (framing, scopes, global scope, unsigned-transaction reconstruction), and the
  decomposition `PSBT.parse` performs, in every mode (`parse_frame`).
-/
set_option linter.unusedSimpArgs false
set_option linter.unusedVariables false
namespace Embit
open Model

/-- `n` scopes starting with scope number `i`, each a key-value map folded by `step i`: the shape shared by the readers
    of input and output scopes -/
def readScopes {σ : Type} (step : Nat → List KV → Option σ) : Nat → Nat → Parser (List σ)
  | 0, _ => fun b => some ([], b)
  | n+1, i => fun b =>
    match readKVs b with
    | none => none
    | some (kvs, r) =>
      match step i kvs with
      | none => none
      | some s => match readScopes step n (i+1) r with
        | none => none
        | some (ss, r') => some (s :: ss, r')

theorem readIns_eq (ko : KeyOps) (sha : Bytes → Bytes) (c : Nat) (tx : Option Tx) (n : Nat) :
    readIns ko sha c tx n = readScopes (fun i => InScope.addPairs ko sha c (seedIn tx i)) n := by
  induction n with
  | zero => rfl
  | succ n ih =>
    funext i b
    simp only [readIns, readScopes, ih]
    rcases readKVs b with _ | ⟨kvs, r⟩
    · rfl
    dsimp only
    rcases InScope.addPairs ko sha c (seedIn tx i) kvs with _ | s
    · rfl
    dsimp only
    rcases readScopes _ n (i + 1) r with _ | ⟨ss, r'⟩ <;> rfl

theorem readOuts_eq (ko : KeyOps) (tx : Option Tx) (n : Nat) :
    readOuts ko tx n = readScopes (fun i => OutScope.addPairs ko (seedOut tx i)) n := by
  induction n with
  | zero => rfl
  | succ n ih =>
    funext i b
    simp only [readOuts, readScopes, ih]
    rcases readKVs b with _ | ⟨kvs, r⟩
    · rfl
    dsimp only
    rcases OutScope.addPairs ko (seedOut tx i) kvs with _ | s
    · rfl
    dsimp only
    rcases readScopes _ n (i + 1) r with _ | ⟨ss, r'⟩ <;> rfl

theorem readScopes_spec {σ : Type} (step : Nat → List KV → Option σ) :
    ∀ (n i : Nat) (b : Bytes) (ss : List σ) (r : Bytes),
      readScopes step n i b = some (ss, r) →
      ∃ kvss : List (List KV), b = kvss.flatMap writeKVs ++ r ∧ kvss.length = n ∧ ss.length = n
        ∧ (∀ kvs ∈ kvss, ∀ kv ∈ kvs, KVWF kv)
        ∧ ∀ j (hj : j < n), ∃ kvs s, kvss[j]? = some kvs ∧ ss[j]? = some s ∧ step (i + j) kvs = some s := by
  intro n
  induction n with
  | zero =>
    intro i b ss r h
    cases h
    exact ⟨[], by simp, rfl, rfl, by simp, fun j hj => by omega⟩
  | succ n ih =>
    intro i b ss r h
    simp only [readScopes] at h
    split at h
    · cases h
    · rename_i kvs r1 hk
      obtain ⟨e1, w1⟩ := readKVs_sound hk
      split at h
      · cases h
      · rename_i s hs
        split at h
        · cases h
        · rename_i ss' r' hrec
          cases h
          obtain ⟨kvss, e2, l1, l2, w2, f⟩ := ih (i+1) _ _ _ hrec
          refine ⟨kvs :: kvss, by simp [e1, e2, List.append_assoc], by simp [l1], by simp [l2], ?_, ?_⟩
          · intro x hx
            rcases List.mem_cons.mp hx with rfl | hx
            · exact w1
            · exact w2 x hx
          · intro j hj
            cases j with
            | zero => exact ⟨kvs, s, by simp, by simp, by simpa using hs⟩
            | succ j =>
              obtain ⟨kvs', s', a1, a2, a3⟩ := f j (by omega)
              refine ⟨kvs', s', by simpa using a1, by simpa using a2, ?_⟩
              rw [show i + (j + 1) = i + 1 + j by omega]; exact a3

theorem readScopes_write {σ : Type} (step : Nat → List KV → Option σ) (pairs : σ → List KV) (norm : σ → σ) :
    ∀ (l : List σ) (i : Nat) (r : Bytes), (∀ s ∈ l, ∀ kv ∈ pairs s, KVWF kv) →
    (∀ (j : Nat) (s : σ), l[j]? = some s → step (i + j) (pairs s) = some (norm s)) →
    readScopes step l.length i (l.flatMap (fun s => writeKVs (pairs s)) ++ r) = some (l.map norm, r) := by
  intro l
  induction l with
  | nil => intro i r _ _; rfl
  | cons s l ih =>
    intro i r hwf hfold
    have h1 := readKVs_write (pairs s) (l.flatMap (fun s => writeKVs (pairs s)) ++ r) (hwf s (by simp))
    have h2 : step i (pairs s) = some (norm s) := by simpa using hfold 0 s (by simp)
    have h3 := ih (i + 1) r (fun x hx => hwf x (by simp [hx])) (fun j x hx => by
      have := hfold (j + 1) x (by simpa using hx)
      rwa [show i + (j + 1) = i + 1 + j by omega] at this)
    simp only [List.flatMap_cons, List.append_assoc, List.length_cons, readScopes, h1, h2, h3, List.map_cons]

theorem readIns_spec_mode (ko : KeyOps) (sha : Bytes → Bytes) (c : Nat) (tx : Option Tx) :
    ∀ (n i : Nat) (b : Bytes) (ss : List InScope) (r : Bytes),
      readIns ko sha c tx n i b = some (ss, r) →
      ∃ kvss : List (List KV), b = kvss.flatMap writeKVs ++ r ∧ kvss.length = n ∧ ss.length = n
        ∧ (∀ kvs ∈ kvss, ∀ kv ∈ kvs, KVWF kv)
        ∧ ∀ j (hj : j < n), ∃ kvs s, kvss[j]? = some kvs ∧ ss[j]? = some s
            ∧ InScope.addPairs ko sha c (seedIn tx (i + j)) kvs = some s := by
  intro n i b ss r h
  rw [readIns_eq] at h
  exact readScopes_spec _ n i b ss r h

theorem readIns_spec (ko : KeyOps) (sha : Bytes → Bytes) (tx : Option Tx) :
    ∀ (n i : Nat) (b : Bytes) (ss : List InScope) (r : Bytes),
      readIns ko sha 0 tx n i b = some (ss, r) →
      ∃ kvss : List (List KV), b = kvss.flatMap writeKVs ++ r ∧ kvss.length = n ∧ ss.length = n
        ∧ (∀ kvs ∈ kvss, ∀ kv ∈ kvs, KVWF kv)
        ∧ ∀ j (hj : j < n), ∃ kvs s, kvss[j]? = some kvs ∧ ss[j]? = some s
            ∧ InScope.addPairs ko sha 0 (seedIn tx (i + j)) kvs = some s :=
  readIns_spec_mode ko sha 0 tx

theorem readOuts_spec (ko : KeyOps) (tx : Option Tx) :
    ∀ (n i : Nat) (b : Bytes) (ss : List OutScope) (r : Bytes),
      readOuts ko tx n i b = some (ss, r) →
      ∃ kvss : List (List KV), b = kvss.flatMap writeKVs ++ r ∧ kvss.length = n ∧ ss.length = n
        ∧ (∀ kvs ∈ kvss, ∀ kv ∈ kvs, KVWF kv)
        ∧ ∀ j (hj : j < n), ∃ kvs s, kvss[j]? = some kvs ∧ ss[j]? = some s
            ∧ OutScope.addPairs ko (seedOut tx (i + j)) kvs = some s := by
  intro n i b ss r h
  rw [readOuts_eq] at h
  exact readScopes_spec _ n i b ss r h

def Unsigned (t : Tx) : Prop := ∀ i ∈ t.vin, i.scriptSig = [] ∧ i.witness = []

theorem unsigned_of_any {t : Tx} (h : t.vin.any (fun i => !i.scriptSig.isEmpty || !i.witness.isEmpty) = false) :
    Unsigned t := by
  intro i hi
  have := List.any_eq_false.mp h i hi
  simpa using this

/-- induction over an accepted global map: the unsigned transaction (once), the version (once, 4 bytes), and any
    other key not seen before -/
theorem globalFold_induction
    {motive : Option Tx → Option Nat → List KV → List KV → Option Tx × Option Nat × List KV → Prop}
    (nil : ∀ tx ver unk, motive tx ver unk [] (tx, ver, unk))
    (tx : ∀ {ver unk v t r res}, Tx.parse v = some t → Unsigned t → globalFold (some t) ver unk r = some res →
      motive (some t) ver unk r res → motive none ver unk (([0x00], v) :: r) res)
    (ver : ∀ {tx unk v r res}, v.length = 4 → globalFold tx (some (ofLe v)) unk r = some res →
      motive tx (some (ofLe v)) unk r res → motive tx none unk (([0xfb], v) :: r) res)
    (other : ∀ {tx ver unk k v r res}, k ≠ [0x00] → k ≠ [0xfb] → lookup k unk = none →
      globalFold tx ver (unk ++ [(k, v)]) r = some res →
      motive tx ver (unk ++ [(k, v)]) r res → motive tx ver unk ((k, v) :: r) res) :
    ∀ {g tx0 ver0 unk res}, globalFold tx0 ver0 unk g = some res → motive tx0 ver0 unk g res := by
  intro g
  induction g with
  | nil => intro tx0 ver0 unk res h; cases h; exact nil ..
  | cons kv g ih =>
    intro tx0 ver0 unk res h
    obtain ⟨k, v⟩ := kv
    rw [globalFold] at h
    split at h
    · rename_i hk; subst hk
      split at h
      · cases h
      rename_i htx
      split at h
      · cases h
      rename_i t ht
      split at h
      · cases h
      rename_i hun
      obtain rfl : tx0 = none := by simpa using htx
      exact tx ht (unsigned_of_any (by simpa using hun)) h (ih h)
    rename_i hk0
    split at h
    · rename_i hk; subst hk
      split at h
      · cases h
      rename_i hv
      split at h
      · cases h
      rename_i hl
      obtain rfl : ver0 = none := by simpa using hv
      exact ver (by simpa using hl) h (ih h)
    rename_i hkfb
    split at h
    · cases h
    rename_i hl
    exact other hk0 hkfb (by simpa using hl) h (ih h)
theorem globalFold_spec : ∀ (g : List KV) (tx : Option Tx) (ver : Option Nat) (unk : List KV)
    (tx' : Option Tx) (ver' : Option Nat) (unk' : List KV),
    globalFold tx ver unk g = some (tx', ver', unk') →
      (∀ t, tx = some t → tx' = some t) ∧ (∀ n, ver = some n → ver' = some n)
      ∧ (∀ kv ∈ unk, kv ∈ unk')
      ∧ (∀ t, tx' = some t → tx = some t ∨ Unsigned t)
      ∧ (∀ kv ∈ g, (kv.1 = [0x00] ∧ ∃ t, tx' = some t ∧ Tx.ser t = kv.2 ∧ Unsigned t ∧ tx = none)
                  ∨ (kv.1 = [0xfb] ∧ ∃ n, ver' = some n ∧ leN 4 n = kv.2)
                  ∨ (kv ∈ unk' ∧ kv.1 ≠ [0x00] ∧ kv.1 ≠ [0xfb])) := by
  intro g tx ver unk tx' ver' unk' h
  refine globalFold_induction (motive := fun tx ver unk g res =>
      (∀ t, tx = some t → res.1 = some t) ∧ (∀ n, ver = some n → res.2.1 = some n)
      ∧ (∀ kv ∈ unk, kv ∈ res.2.2)
      ∧ (∀ t, res.1 = some t → tx = some t ∨ Unsigned t)
      ∧ (∀ kv ∈ g, (kv.1 = [0x00] ∧ ∃ t, res.1 = some t ∧ Tx.ser t = kv.2 ∧ Unsigned t ∧ tx = none)
                  ∨ (kv.1 = [0xfb] ∧ ∃ n, res.2.1 = some n ∧ leN 4 n = kv.2)
                  ∨ (kv ∈ res.2.2 ∧ kv.1 ≠ [0x00] ∧ kv.1 ≠ [0xfb]))) ?_ ?_ ?_ ?_ h
  · exact fun _ _ _ => ⟨fun _ h => h, fun _ h => h, fun _ h => h, fun _ h => Or.inl h, fun _ h => (nomatch h)⟩
  · intro ver unk v t r res ht hu _ ⟨a1, a2, a3, _, a4⟩
    refine ⟨fun _ h => (nomatch h), a2, a3, fun t0 ht0 => ?_, ?_⟩
    · rw [a1 t rfl] at ht0; cases ht0; exact Or.inr hu
    intro x hx
    rcases List.mem_cons.mp hx with rfl | hx
    · exact Or.inl ⟨rfl, t, a1 t rfl, Props.C03.reencode _ _ ht, hu, rfl⟩
    · rcases a4 x hx with ⟨_, _, _, _, _, b4⟩ | b | b
      · cases b4
      · exact Or.inr (Or.inl b)
      · exact Or.inr (Or.inr b)
  · intro tx unk v r res hl _ ⟨a1, a2, a3, a5, a4⟩
    refine ⟨a1, fun _ h => (nomatch h), a3, a5, fun x hx => ?_⟩
    rcases List.mem_cons.mp hx with rfl | hx
    · exact Or.inr (Or.inl ⟨rfl, ofLe v, a2 _ rfl, len4 hl⟩)
    · exact a4 x hx
  · intro tx ver unk k v r res hk0 hkfb _ _ ⟨a1, a2, a3, a5, a4⟩
    refine ⟨a1, a2, fun x hx => a3 x (List.mem_append_left _ hx), a5, fun x hx => ?_⟩
    rcases List.mem_cons.mp hx with rfl | hx
    · exact Or.inr (Or.inr ⟨a3 _ (by simp), hk0, hkfb⟩)
    · exact a4 x hx

theorem globalFold_nodup : ∀ (g : List KV) (tx : Option Tx) (ver : Option Nat) (unk : List KV)
    (tx' : Option Tx) (ver' : Option Nat) (unk' : List KV),
    globalFold tx ver unk g = some (tx', ver', unk') → (unk.map Prod.fst).Nodup → (unk'.map Prod.fst).Nodup := by
  intro g tx ver unk tx' ver' unk' h
  refine globalFold_induction (motive := fun _ _ unk _ res => (unk.map Prod.fst).Nodup → (res.2.2.map Prod.fst).Nodup)
    (fun _ _ _ hn => hn) (fun _ _ _ ih => ih) (fun _ _ ih => ih) (fun _ _ hl _ ih hn => ih (nodup_snoc _ _ _ hn hl)) h

/-- `Step ko isV2 g v k g1`: `parse_unknowns` files the global pair `(k, v)` in state `g`, giving `g1` -/
inductive GState.Step (ko : KeyOps) (isV2 : Bool) (g : GState) (v : Bytes) : Bytes → GState → Prop
  | xpub {p d} : ko.validXpub p → Deriv.parse v = some d → Step ko isV2 g v (0x01 :: p) { g with xpubs := g.xpubs ++ [(p, d)] }
  | txVersion : isV2 = true → v.length = 4 → Step ko isV2 g v [0x02] { g with txVersion := some (ofLe v) }
  | locktime : isV2 = true → v.length = 4 → Step ko isV2 g v [0x03] { g with locktime := some (ofLe v) }
  | nin {n} : isV2 = true → parseAll Compact.read v = some n → Step ko isV2 g v [0x04] { g with nin := some n }
  | nout {n} : isV2 = true → parseAll Compact.read v = some n → Step ko isV2 g v [0x05] { g with nout := some n }
  | unknown {k} : (∀ p, k ≠ 0x01 :: p) → (isV2 = true → k ∉ [[0x02], [0x03], [0x04], [0x05]]) →
      Step ko isV2 g v k { g with unknown := g.unknown ++ [(k, v)] }

theorem parseUnknowns_cons {ko : KeyOps} {isV2 : Bool} {g g' : GState} {k v : Bytes} {r : List KV}
    (h : parseUnknowns ko isV2 g ((k, v) :: r) = some g') :
    ∃ g1, GState.Step ko isV2 g v k g1 ∧ parseUnknowns ko isV2 g1 r = some g' := by
  simp only [parseUnknowns] at h
  split at h
  · exact ⟨_, .unknown (fun _ e => nomatch e) (fun _ => by simp), h⟩
  rename_i k0 kr
  by_cases h1 : k0 = 0x01
  · subst h1
    rw [if_pos rfl] at h
    split at h
    · cases h
    rename_i hx
    split at h
    · cases h
    rename_i d hd
    exact ⟨_, .xpub (by simpa using hx) hd, h⟩
  rw [if_neg h1] at h
  have h1' : ∀ p, k0 :: kr ≠ 0x01 :: p := fun p e => h1 (List.cons.inj e).1
  cases isV2 with
  | false => exact ⟨_, .unknown h1' (fun e => nomatch e), by simpa using h⟩
  | true =>
    simp only [Bool.true_and, decide_eq_true_eq] at h
    by_cases h2 : k0 :: kr = [0x02]
    · rw [if_pos h2] at h
      split at h
      · cases h
      rename_i hl
      exact h2 ▸ ⟨_, .txVersion rfl (by simpa using hl), h⟩
    rw [if_neg h2] at h
    by_cases h3 : k0 :: kr = [0x03]
    · rw [if_pos h3] at h
      split at h
      · cases h
      rename_i hl
      exact h3 ▸ ⟨_, .locktime rfl (by simpa using hl), h⟩
    rw [if_neg h3] at h
    by_cases h4 : k0 :: kr = [0x04]
    · rw [if_pos h4] at h
      split at h
      · cases h
      rename_i n hn
      exact h4 ▸ ⟨_, .nin rfl hn, h⟩
    rw [if_neg h4] at h
    by_cases h5 : k0 :: kr = [0x05]
    · rw [if_pos h5] at h
      split at h
      · cases h
      rename_i n hn
      exact h5 ▸ ⟨_, .nout rfl hn, h⟩
    rw [if_neg h5] at h
    exact ⟨_, .unknown h1' (fun _ => by simp [h2, h3, h4, h5]), h⟩

theorem parseUnknowns_induction {ko : KeyOps} {isV2 : Bool} {motive : GState → List KV → GState → Prop}
    (nil : ∀ g, motive g [] g)
    (cons : ∀ {g k v g1 r g'}, GState.Step ko isV2 g v k g1 → parseUnknowns ko isV2 g1 r = some g' →
      motive g1 r g' → motive g ((k, v) :: r) g') :
    ∀ {unk g g'}, parseUnknowns ko isV2 g unk = some g' → motive g unk g' := by
  intro unk
  induction unk with
  | nil => intro g g' h; cases h; exact nil g
  | cons kv r ih =>
    intro g g' h
    obtain ⟨g1, hs, h1⟩ := parseUnknowns_cons h
    exact cons hs h1 (ih h1)

theorem parseUnknowns_spec (ko : KeyOps) (isV2 : Bool) : ∀ (unk : List KV) (g g' : GState),
    (unk.map Prod.fst).Nodup → parseUnknowns ko isV2 g unk = some g' →
      (∀ x ∈ g.xpubs, x ∈ g'.xpubs) ∧ (∀ x ∈ g.unknown, x ∈ g'.unknown)
      ∧ ((∀ kv ∈ unk, kv.1 ≠ [0x02]) → g'.txVersion = g.txVersion)
      ∧ ((∀ kv ∈ unk, kv.1 ≠ [0x03]) → g'.locktime = g.locktime)
      ∧ ((∀ kv ∈ unk, kv.1 ≠ [0x04]) → g'.nin = g.nin)
      ∧ ((∀ kv ∈ unk, kv.1 ≠ [0x05]) → g'.nout = g.nout)
      ∧ (isV2 = false → g'.txVersion = g.txVersion ∧ g'.locktime = g.locktime ∧ g'.nin = g.nin ∧ g'.nout = g.nout)
      ∧ ∀ kv ∈ unk,
          (∃ x d, kv.1 = 0x01 :: x ∧ (x, d) ∈ g'.xpubs ∧ Deriv.ser d = kv.2)
          ∨ (isV2 = true ∧ kv.1 = [0x02] ∧ ∃ n, g'.txVersion = some n ∧ leN 4 n = kv.2)
          ∨ (isV2 = true ∧ kv.1 = [0x03] ∧ ∃ n, g'.locktime = some n ∧ leN 4 n = kv.2)
          ∨ (isV2 = true ∧ kv.1 = [0x04] ∧ ∃ n, g'.nin = some n ∧ Compact.enc n = kv.2)
          ∨ (isV2 = true ∧ kv.1 = [0x05] ∧ ∃ n, g'.nout = some n ∧ Compact.enc n = kv.2)
          ∨ kv ∈ g'.unknown := by
  intro unk g g' hn h
  refine parseUnknowns_induction (motive := fun g unk g' => (unk.map Prod.fst).Nodup →
      (∀ x ∈ g.xpubs, x ∈ g'.xpubs) ∧ (∀ x ∈ g.unknown, x ∈ g'.unknown)
      ∧ ((∀ kv ∈ unk, kv.1 ≠ [0x02]) → g'.txVersion = g.txVersion)
      ∧ ((∀ kv ∈ unk, kv.1 ≠ [0x03]) → g'.locktime = g.locktime)
      ∧ ((∀ kv ∈ unk, kv.1 ≠ [0x04]) → g'.nin = g.nin)
      ∧ ((∀ kv ∈ unk, kv.1 ≠ [0x05]) → g'.nout = g.nout)
      ∧ (isV2 = false → g'.txVersion = g.txVersion ∧ g'.locktime = g.locktime ∧ g'.nin = g.nin ∧ g'.nout = g.nout)
      ∧ ∀ kv ∈ unk,
          (∃ x d, kv.1 = 0x01 :: x ∧ (x, d) ∈ g'.xpubs ∧ Deriv.ser d = kv.2)
          ∨ (isV2 = true ∧ kv.1 = [0x02] ∧ ∃ n, g'.txVersion = some n ∧ leN 4 n = kv.2)
          ∨ (isV2 = true ∧ kv.1 = [0x03] ∧ ∃ n, g'.locktime = some n ∧ leN 4 n = kv.2)
          ∨ (isV2 = true ∧ kv.1 = [0x04] ∧ ∃ n, g'.nin = some n ∧ Compact.enc n = kv.2)
          ∨ (isV2 = true ∧ kv.1 = [0x05] ∧ ∃ n, g'.nout = some n ∧ Compact.enc n = kv.2)
          ∨ kv ∈ g'.unknown)
    (fun _ _ => ⟨fun _ h => h, fun _ h => h, fun _ => rfl, fun _ => rfl, fun _ => rfl, fun _ => rfl,
      fun _ => ⟨rfl, rfl, rfl, rfl⟩, fun _ h => (nomatch h)⟩) ?_ h hn
  intro g k v g1 r g' hs _ ih hn
  obtain ⟨hnk, hn'⟩ := List.nodup_cons.mp hn
  obtain ⟨a1, a2, a3, a4, a5, a6, a7, a8⟩ := ih hn'
  -- the key in front does not occur again, so the field it sets is not overwritten later
  have later : ∀ kv ∈ r, kv.1 ≠ k := fun kv hkv e => hnk (List.mem_map.mpr ⟨kv, hkv, e⟩)
  have tl {P : KV → Prop} (hh : ∀ kv ∈ (k, v) :: r, P kv) : ∀ kv ∈ r, P kv := fun y hy => hh y (List.mem_cons_of_mem _ hy)
  have hd {P : KV → Prop} (hh : ∀ kv ∈ (k, v) :: r, P kv) : P (k, v) := hh _ List.mem_cons_self
  cases hs with
  | xpub _ hd' =>
    exact ⟨fun x hx => a1 x (List.mem_append_left _ hx), a2, a3 ∘ tl, a4 ∘ tl, a5 ∘ tl, a6 ∘ tl, a7,
      List.forall_mem_cons.mpr ⟨.inl ⟨_, _, rfl, a1 _ (by simp), Deriv.ser_parse hd'⟩, a8⟩⟩
  | txVersion hv hl =>
    exact ⟨a1, a2, fun hh => absurd rfl (hd hh), a4 ∘ tl, a5 ∘ tl, a6 ∘ tl, fun hf => absurd hv (by simp [hf]),
      List.forall_mem_cons.mpr ⟨.inr (.inl ⟨hv, rfl, _, a3 later, len4 hl⟩), a8⟩⟩
  | locktime hv hl =>
    exact ⟨a1, a2, a3 ∘ tl, fun hh => absurd rfl (hd hh), a5 ∘ tl, a6 ∘ tl, fun hf => absurd hv (by simp [hf]),
      List.forall_mem_cons.mpr ⟨.inr (.inr (.inl ⟨hv, rfl, _, a4 later, len4 hl⟩)), a8⟩⟩
  | nin hv hp =>
    exact ⟨a1, a2, a3 ∘ tl, a4 ∘ tl, fun hh => absurd rfl (hd hh), a6 ∘ tl, fun hf => absurd hv (by simp [hf]),
      List.forall_mem_cons.mpr ⟨.inr (.inr (.inr (.inl ⟨hv, rfl, _, a5 later, parseAll_compact hp⟩))), a8⟩⟩
  | nout hv hp =>
    exact ⟨a1, a2, a3 ∘ tl, a4 ∘ tl, a5 ∘ tl, fun hh => absurd rfl (hd hh), fun hf => absurd hv (by simp [hf]),
      List.forall_mem_cons.mpr ⟨.inr (.inr (.inr (.inr (.inl ⟨hv, rfl, _, a6 later, parseAll_compact hp⟩)))), a8⟩⟩
  | unknown =>
    exact ⟨a1, fun x hx => a2 x (List.mem_append_left _ hx), a3 ∘ tl, a4 ∘ tl, a5 ∘ tl, a6 ∘ tl, a7,
      List.forall_mem_cons.mpr ⟨.inr (.inr (.inr (.inr (.inr (a2 _ (by simp)))))), a8⟩⟩

theorem optAll_map_of_getElem {α β : Type} (f : α → Option β) : ∀ (l : List α) (l' : List β), l.length = l'.length →
    (∀ (j : Nat) (a : α), l[j]? = some a → ∃ b, l'[j]? = some b ∧ f a = some b) → optAll (l.map f) = some l' := by
  intro l
  induction l with
  | nil => intro l' hl _; cases l' with
    | nil => rfl
    | cons _ _ => simp at hl
  | cons a l ih =>
    intro l' hl h
    cases l' with
    | nil => simp at hl
    | cons b l' =>
      obtain ⟨b', hb1, hb2⟩ := h 0 a (by simp)
      simp at hb1; subst hb1
      have := ih l' (by simpa using hl) (fun j x hx => by
        obtain ⟨y, hy1, hy2⟩ := h (j+1) x (by simpa using hx)
        exact ⟨y, by simpa using hy1, hy2⟩)
      simp [optAll, hb2, this]

/-- the initial state of `parse_unknowns` (counts / version / locktime of the global transaction, if any) -/
def gstate0 (tx : Option Tx) : GState :=
  { txVersion := tx.map (·.version), locktime := tx.map (·.locktime),
    nin := tx.map (·.vin.length), nout := tx.map (·.vout.length), xpubs := [], unknown := [] }

/-- `PSBT.parse(b, compress=c)` accepted `b`: the framing, the global fold, the `parse_unknowns` pass and the
    per-scope folds, with every equation -/
theorem parse_frame (ko : KeyOps) (sha : Bytes → Bytes) (c : Nat) (b : Bytes) (p : Psbt)
    (h : Psbt.parse ko sha c b = some p) :
    ∃ (g : List KV) (kin kout : List (List KV)) (tx : Option Tx) (unk : List KV) (gs : GState),
      b = psbtMagic ++ (writeKVs g ++ ((kin ++ kout).flatMap writeKVs))
      ∧ (∀ kv ∈ g, KVWF kv) ∧ (∀ kvs ∈ kin ++ kout, ∀ kv ∈ kvs, KVWF kv)
      ∧ globalFold none none [] g = some (tx, p.version, unk)
      ∧ parseUnknowns ko (p.version == some 2) (gstate0 tx) unk = some gs
      ∧ ((p.version = some 2 ∧ tx = none) ∨ (p.version ≠ some 2 ∧ ∃ t, tx = some t))
      ∧ p.txVersion = gs.txVersion ∧ p.locktime = gs.locktime ∧ p.xpubs = gs.xpubs ∧ p.unknown = gs.unknown
      ∧ kin.length = p.inputs.length ∧ kout.length = p.outputs.length
      ∧ p.inputs.length = gs.nin.getD 0 ∧ p.outputs.length = gs.nout.getD 0
      ∧ (∀ j, j < p.inputs.length → ∃ kvs s, kin[j]? = some kvs ∧ p.inputs[j]? = some s
            ∧ InScope.addPairs ko sha c (seedIn tx j) kvs = some s)
      ∧ (∀ j, j < p.outputs.length → ∃ kvs s, kout[j]? = some kvs ∧ p.outputs[j]? = some s
            ∧ OutScope.addPairs ko (seedOut tx j) kvs = some s)
      ∧ (∀ t, tx = some t → p.tx = some t ∧ p.inputs.length = t.vin.length ∧ p.outputs.length = t.vout.length) := by
  unfold Psbt.parse at h
  split at h
  · simp at h
  · rename_i m r0 hm
    obtain ⟨em, lm⟩ := takeN_sound hm
    split at h
    · simp at h
    · rename_i hmagic
      simp only [ne_eq, Decidable.not_not] at hmagic
      split at h
      · simp at h
      · rename_i g r1 hg
        obtain ⟨eg, wg⟩ := readKVs_sound hg
        split at h
        · simp at h
        · rename_i tx ver unk hgf
          simp only [] at h
          split at h
          · simp at h
          · rename_i hc1
            split at h
            · simp at h
            · rename_i hc2
              split at h
              · simp at h
              · rename_i gs hpu
                generalize hnin : gs.nin.getD 0 = nin at h
                generalize hnout : gs.nout.getD 0 = nout at h
                · split at h
                  · simp at h
                  · rename_i ins' r2 hins
                    split at h
                    · simp at h
                    · rename_i outs' r3 houts
                      split at h
                      · simp at h
                      · rename_i hr3
                        simp at h
                        have hr3' : r3 = [] := by simpa using hr3
                        obtain ⟨f1, f2, f3, f5, f4⟩ := globalFold_spec g none none [] tx ver unk hgf
                        have hnd := globalFold_nodup g none none [] tx ver unk hgf (by simp)
                        obtain ⟨u1, u2, u3, u4, u5, u6, u7, u8⟩ :=
                          parseUnknowns_spec ko (ver == some 2) unk _ gs hnd hpu
                        obtain ⟨kin, ei, li1, li2, wi, fi⟩ := readIns_spec_mode ko sha c tx nin 0 r1 ins' r2 hins
                        obtain ⟨kout, eo, lo1, lo2, wo, fo⟩ := readOuts_spec ko tx nout 0 r2 outs' r3 houts
                        subst h
                        have hver : (ver = some 2 ∧ tx = none) ∨ (ver ≠ some 2 ∧ ∃ t, tx = some t) := by
                          by_cases hv : ver = some 2
                          · left; refine ⟨hv, ?_⟩
                            cases tx with
                            | none => rfl
                            | some t => simp [hv] at hc1
                          · right; refine ⟨hv, ?_⟩
                            cases tx with
                            | none => simp [hv] at hc2
                            | some t => exact ⟨t, rfl⟩
                        have hrec : ∀ t, tx = some t →
                            Psbt.tx { version := ver, txVersion := gs.txVersion, locktime := gs.locktime,
                                      xpubs := gs.xpubs, unknown := gs.unknown, inputs := ins', outputs := outs' }
                              = some t ∧ nin = t.vin.length ∧ nout = t.vout.length := by
                          intro t ht
                          subst ht
                          have hv : ver ≠ some 2 := by
                            rcases hver with ⟨_, hn⟩ | ⟨hv, _⟩
                            · simp at hn
                            · exact hv
                          have huns : Unsigned t := by
                            rcases f5 t rfl with hh | hh
                            · simp at hh
                            · exact hh
                          obtain ⟨c1, c2, c3, c4⟩ := u7 (by simp [hv])
                          rw [c3] at hnin; simp at hnin
                          rw [c4] at hnout; simp at hnout
                          have hvin : optAll (ins'.map InScope.vin) = some t.vin := by
                            apply optAll_map_of_getElem
                            · omega
                            · intro j a ha
                              have hj : j < nin := by
                                have := (List.getElem?_eq_some_iff.mp ha).1; omega
                              have hjt : j < t.vin.length := by omega
                              obtain ⟨kvs', s', a1, a2, a3⟩ := fi j hj
                              rw [ha] at a2; simp at a2; subst a2
                              obtain ⟨e1, e2, e3⟩ := InScope.addPairs_seeded
                                (by simp [seedIn, List.getElem?_eq_getElem hjt, InSeeded]) a3
                              simp [seedIn, List.getElem?_eq_getElem hjt] at e1 e2 e3
                              refine ⟨t.vin[j], List.getElem?_eq_getElem hjt, ?_⟩
                              have hu := huns t.vin[j] (List.getElem_mem hjt)
                              simp only [InScope.vin, e1, e2, e3, Option.getD_some]
                              cases hh : t.vin[j] with
                              | mk a1 a2 a3 a4 a5 => simp [hh] at hu ⊢; exact ⟨hu.1, hu.2⟩
                          have hvout : optAll (outs'.map OutScope.vout) = some t.vout := by
                            apply optAll_map_of_getElem
                            · omega
                            · intro j a ha
                              have hj : j < nout := by
                                have := (List.getElem?_eq_some_iff.mp ha).1; omega
                              have hjt : j < t.vout.length := by omega
                              obtain ⟨kvs', s', a1, a2, a3⟩ := fo j hj
                              rw [ha] at a2; simp at a2; subst a2
                              obtain ⟨e1, e2⟩ := OutScope.addPairs_seeded
                                (by simp [seedOut, List.getElem?_eq_getElem hjt, OutSeeded]) a3
                              simp [seedOut, List.getElem?_eq_getElem hjt] at e1 e2
                              refine ⟨t.vout[j], List.getElem?_eq_getElem hjt, ?_⟩
                              simp only [OutScope.vout, e1, e2]
                          refine ⟨?_, hnin.symm, hnout.symm⟩
                          simp only [Psbt.tx, hvin, hvout, c1, c2]
                          simp
                        refine ⟨g, kin, kout, tx, unk, gs, ?_, wg, ?_, hgf, hpu, hver, rfl, rfl, rfl, rfl,
                          by simp [li1, li2], by simp [lo1, lo2], by simp [li2, hnin], by simp [lo2, hnout], ?_, ?_, ?_⟩
                        · simp [em, hmagic, eg, ei, eo, hr3', List.append_assoc]
                        · intro kvs hk
                          rcases List.mem_append.mp hk with hk | hk
                          · exact wi kvs hk
                          · exact wo kvs hk
                        · intro j hj
                          obtain ⟨kvs, s, a1, a2, a3⟩ := fi j (by simpa [li2] using hj)
                          exact ⟨kvs, s, a1, a2, by simpa using a3⟩
                        · intro j hj
                          obtain ⟨kvs, s, a1, a2, a3⟩ := fo j (by simpa [lo2] using hj)
                          exact ⟨kvs, s, a1, a2, by simpa using a3⟩
                        · intro t ht
                          obtain ⟨r1, r2, r3⟩ := hrec t ht
                          exact ⟨r1, by simp [li2, r2], by simp [lo2, r3]⟩

/-- `parse_frame` for KEEP_ALL -/
theorem parse_decomp (ko : KeyOps) (sha : Bytes → Bytes) (b : Bytes) (p : Psbt)
    (h : Psbt.parse ko sha 0 b = some p) :
    ∃ (g : List KV) (kin kout : List (List KV)) (tx : Option Tx) (unk : List KV) (gs : GState),
      b = psbtMagic ++ (writeKVs g ++ ((kin ++ kout).flatMap writeKVs))
      ∧ (∀ kv ∈ g, KVWF kv) ∧ (∀ kvs ∈ kin ++ kout, ∀ kv ∈ kvs, KVWF kv)
      ∧ globalFold none none [] g = some (tx, p.version, unk)
      ∧ parseUnknowns ko (p.version == some 2) (gstate0 tx) unk = some gs
      ∧ ((p.version = some 2 ∧ tx = none) ∨ (p.version ≠ some 2 ∧ ∃ t, tx = some t))
      ∧ p.txVersion = gs.txVersion ∧ p.locktime = gs.locktime ∧ p.xpubs = gs.xpubs ∧ p.unknown = gs.unknown
      ∧ kin.length = p.inputs.length ∧ kout.length = p.outputs.length
      ∧ p.inputs.length = gs.nin.getD 0 ∧ p.outputs.length = gs.nout.getD 0
      ∧ (∀ j, j < p.inputs.length → ∃ kvs s, kin[j]? = some kvs ∧ p.inputs[j]? = some s
            ∧ InScope.addPairs ko sha 0 (seedIn tx j) kvs = some s)
      ∧ (∀ j, j < p.outputs.length → ∃ kvs s, kout[j]? = some kvs ∧ p.outputs[j]? = some s
            ∧ OutScope.addPairs ko (seedOut tx j) kvs = some s)
      ∧ (∀ t, tx = some t → p.tx = some t ∧ p.inputs.length = t.vin.length ∧ p.outputs.length = t.vout.length) :=
  parse_frame ko sha 0 b p h

end Embit
