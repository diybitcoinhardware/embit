import EmbitModel.Proofs.DescDerive
import EmbitModel.Proofs.MiniscriptScript
import EmbitModel.Spec.DescriptorSpec
/-
  Helper lemmas for the script theorems of C12: fusion of `mapKeys` with `toMs`, agreement of the model's
  `Key.derive` with the specification's `deriveKey`, the tap tree hash, independence of typing from key bytes.
-/
namespace Embit.Model.Descriptor
open Embit Embit.Miniscript Embit.Spec.Descriptor

variable {K : Type}

theorem mapOpt_bind {α β γ : Type} (f : α → Option β) (g : β → Option γ) (l : List α) :
    (mapOpt f l).bind (mapOpt g) = mapOpt (fun x => (f x).bind g) l := by
  induction l with
  | nil => rfl
  | cons a r ih =>
    simp only [mapOpt]
    cases hfa : f a with
    | none => simp
    | some a' =>
      cases hr : mapOpt f r with
      | none =>
        rw [hr] at ih
        simp only [Option.bind_none] at ih
        simp only [Option.bind_some, ← ih]
        cases g a' <;> rfl
      | some r' =>
        rw [hr] at ih
        simp only [Option.bind_some] at ih
        simp only [Option.bind_some, ← ih, mapOpt]

theorem mapOpt_congr {α β : Type} {f g : α → Option β} {l : List α} (h : ∀ x ∈ l, f x = g x) :
    mapOpt f l = mapOpt g l := by
  induction l with
  | nil => rfl
  | cons a r ih =>
    simp only [mapOpt]
    rw [h a List.mem_cons_self, ih (fun x hx => h x (List.mem_cons_of_mem _ hx))]

def fuse (f : KeyExpr K → Option (KeyExpr K)) (P : KeyFrag → KeyExpr K → Option Bytes) :
    KeyFrag → KeyExpr K → Option Bytes := fun fr k => (f k).bind (P fr)

theorem DMs.toMs_mapKeys (f : KeyExpr K → Option (KeyExpr K)) (P : KeyFrag → KeyExpr K → Option Bytes) :
    ∀ (e : DMs K), (e.mapKeys f).bind (fun e' => e'.toMs P) = e.toMs (fuse f P) := by
  intro e
  induction e using DMs.ind₂
    (Q := fun xs => (DMs.mapKeysL f xs).bind (fun l => DMs.toMsL P l) = DMs.toMsL (fuse f P) xs) with
  | key fr k =>
    simp only [DMs.mapKeys, DMs.toMs, fuse]
    cases f k <;> simp [DMs.toMs]
  | time _ _ => rfl
  | hash _ _ => rfl
  | andor x y z ihx ihy ihz =>
    simp only [DMs.mapKeys, DMs.toMs]
    rw [← ihx, ← ihy, ← ihz]
    cases x.mapKeys f with
    | none => simp
    | some x' =>
      cases y.mapKeys f with
      | none => simp only [Option.bind_some, Option.bind_none]; cases x'.toMs P <;> rfl
      | some y' =>
        cases z.mapKeys f with
        | none =>
          simp only [Option.bind_some, Option.bind_none]
          cases x'.toMs P <;> cases y'.toMs P <;> rfl
        | some z' => simp [DMs.toMs]
  | bin fr x y ihx ihy =>
    simp only [DMs.mapKeys, DMs.toMs]
    rw [← ihx, ← ihy]
    cases x.mapKeys f with
    | none => simp
    | some x' =>
      cases y.mapKeys f with
      | none => simp only [Option.bind_some, Option.bind_none]; cases x'.toMs P <;> rfl
      | some y' => simp [DMs.toMs]
  | thresh n xs ih =>
    simp only [DMs.mapKeys, DMs.toMs]
    rw [← ih]
    cases DMs.mapKeysL f xs <;> simp [DMs.toMs]
  | multi fr n keys =>
    simp only [DMs.mapKeys, DMs.toMs]
    have := mapOpt_bind f (P .pk_k) keys
    unfold fuse
    rw [← this]
    cases mapOpt f keys <;> simp [DMs.toMs]
  | wrap w x ih =>
    simp only [DMs.mapKeys, DMs.toMs]
    rw [← ih]
    cases x.mapKeys f <;> simp [DMs.toMs]
  | nil => rfl
  | cons a r iha ihr =>
    simp only [DMs.mapKeysL, DMs.toMsL]
    rw [← iha, ← ihr]
    cases a.mapKeys f with
    | none => simp
    | some a' =>
      cases DMs.mapKeysL f r with
      | none =>
        simp only [Option.bind_some, Option.bind_none]
        cases a'.toMs P <;> rfl
      | some r' => simp [DMs.toMsL]

theorem DMs.toMs_congr {P Q : KeyFrag → KeyExpr K → Option Bytes} :
    ∀ (e : DMs K), (∀ fr k, k ∈ e.keys → P fr k = Q fr k) → e.toMs P = e.toMs Q := by
  intro e
  induction e using DMs.ind₂
    (Q := fun xs => (∀ fr k, k ∈ DMs.keysL xs → P fr k = Q fr k) → DMs.toMsL P xs = DMs.toMsL Q xs) with
  | key fr k => intro h; simp only [DMs.toMs]; rw [h fr k (by simp [DMs.keys])]
  | time _ _ => intro _; rfl
  | hash _ _ => intro _; rfl
  | andor x y z ihx ihy ihz =>
    intro h
    simp only [DMs.toMs]
    rw [ihx (fun fr k hk => h fr k (by simp [DMs.keys, hk])),
      ihy (fun fr k hk => h fr k (by simp [DMs.keys, hk])),
      ihz (fun fr k hk => h fr k (by simp [DMs.keys, hk]))]
  | bin fr x y ihx ihy =>
    intro h
    simp only [DMs.toMs]
    rw [ihx (fun fr k hk => h fr k (by simp [DMs.keys, hk])),
      ihy (fun fr k hk => h fr k (by simp [DMs.keys, hk]))]
  | thresh n xs ih => intro h; simp only [DMs.toMs]; rw [ih h]
  | multi fr n keys =>
    intro h
    simp only [DMs.toMs]
    rw [mapOpt_congr (fun k hk => h .pk_k k (by simpa [DMs.keys] using hk))]
  | wrap w x ih => intro h; simp only [DMs.toMs]; rw [ih h]
  | nil => rfl
  | cons a r iha ihr =>
    rename_i h
    simp only [DMs.toMsL]
    rw [iha (fun fr k hk => h fr k (by simp [DMs.keysL, hk])), ihr (fun fr k hk => h fr k (by simp [DMs.keysL, hk]))]

theorem fillSteps_pathAt (i b : Nat) : ∀ (ix : List Step) (der : List (Option Nat)),
    fillSteps (some i) (some b) ix = some der → (∀ x ∈ der, x ≠ none) →
    ∃ p, pathAt i b ix = some p ∧ der = p.map some := by
  intro ix
  induction ix with
  | nil => intro der h _; simp [fillSteps] at h; subst h; exact ⟨[], rfl, rfl⟩
  | cons s r ih =>
    intro der h hn
    -- in every case the tail `t` of `der` is the filled rest, to which the induction hypothesis applies
    have tail : ∀ {o t}, der = o :: t → fillSteps (some i) (some b) r = some t →
        ∃ p, pathAt i b r = some p ∧ t = p.map some :=
      fun e ht => ih _ ht fun x hx => hn x (e ▸ List.mem_cons_of_mem _ hx)
    cases s with
    | idx n =>
      simp only [fillSteps, Option.map_eq_some_iff] at h
      obtain ⟨t, hr, rfl⟩ := h
      obtain ⟨p, hp, ht⟩ := tail rfl hr
      exact ⟨n :: p, by simp [pathAt, hp], by simp [ht]⟩
    | wild =>
      simp only [fillSteps, Option.map_eq_some_iff] at h
      obtain ⟨t, hr, rfl⟩ := h
      obtain ⟨p, hp, ht⟩ := tail rfl hr
      exact ⟨i :: p, by simp [pathAt, hp], by simp [ht]⟩
    | set l =>
      simp only [fillSteps] at h
      split at h
      · cases h
      · simp only [Option.map_eq_some_iff] at h
        obtain ⟨t, hr, rfl⟩ := h
        obtain ⟨p, hp, ht⟩ := tail rfl hr
        have hne := hn (l.getD b none) List.mem_cons_self
        cases hg : l[b]? with
        | none => simp at hg; omega
        | some o =>
          have hgd : l.getD b none = o := by simp [List.getD, hg]
          rw [hgd] at hne
          cases o with
          | none => exact absurd rfl hne
          | some n => exact ⟨n :: p, by simp [pathAt, hg, hp], by simp [ht, hg]⟩

theorem pathAt_fillSteps (i b : Nat) : ∀ (ix : List Step) (p : List Nat),
    pathAt i b ix = some p → fillSteps (some i) (some b) ix = some (p.map some) := by
  intro ix
  induction ix with
  | nil => intro p h; simp [pathAt] at h; subst h; rfl
  | cons s r ih =>
    intro p h
    obtain ⟨n, t, hr, rfl, hs⟩ := pathAt_cons h
    cases s with
    | idx m => cases hs; simp [fillSteps, ih t hr]
    | wild => cases hs; simp [fillSteps, ih t hr]
    | set l =>
      have hlt : b < l.length := (List.getElem?_eq_some_iff.mp hs).1
      simp only [fillSteps, ih t hr]
      rw [if_neg (by omega)]
      simp [hs]

end Embit.Model.Descriptor

namespace Embit.Model.Descriptor
open Embit Embit.Miniscript Embit.Spec.Descriptor Embit.Model.Miniscript

variable {K : Type}

theorem mapOpt_blank {α : Type} (l : List α) : mapOpt (fun _ => some ([] : Bytes)) l = some (l.map fun _ => []) := by
  induction l with
  | nil => rfl
  | cons a r ih => simp [mapOpt, ih]

/-- whatever the keys resolve to, the expression has the type, properties and checks of its blank shape -/
theorem DMs.toMs_shape (ctx : Ctx) (P : KeyFrag → KeyExpr K → Option Bytes) :
    ∀ (e : DMs K) (m : Ms), e.toMs P = some m →
      ∃ mb, e.toMs (fun _ _ => some []) = some mb ∧ type mb = type m ∧ props ctx mb = props ctx m ∧
        constructible ctx mb = constructible ctx m ∧ verify ctx mb = verify ctx m := by
  intro e
  induction e using DMs.ind₂
    (Q := fun xs => ∀ l, DMs.toMsL P xs = some l →
      ∃ lb, DMs.toMsL (fun _ _ => some []) xs = some lb ∧ tpL ctx lb = tpL ctx l ∧ propsL ctx lb = propsL ctx l ∧
        constructibleL ctx lb = constructibleL ctx l ∧ verifyL ctx lb = verifyL ctx l) with
  | key fr k =>
    intro m h
    simp only [DMs.toMs, Option.map_eq_some_iff] at h
    obtain ⟨b, _, rfl⟩ := h
    exact ⟨_, rfl, rfl, rfl, rfl, rfl⟩
  | time _ _ => intro m h; cases h; exact ⟨_, rfl, rfl, rfl, rfl, rfl⟩
  | hash _ _ => intro m h; cases h; exact ⟨_, rfl, rfl, rfl, rfl, rfl⟩
  | andor x y z ihx ihy ihz =>
    intro m h
    simp only [DMs.toMs] at h
    split at h
    next a b c hx hy hz =>
      cases h
      obtain ⟨xb, ex, tx, px, cx, vx⟩ := ihx a hx
      obtain ⟨yb, ey, ty, py, cy, vy⟩ := ihy b hy
      obtain ⟨zb, ez, tz, pz, cz, vz⟩ := ihz c hz
      exact ⟨.andor xb yb zb, by simp only [DMs.toMs, ex, ey, ez],
        by simp only [type, props, constructible, verify, *, and_self]⟩
    next => cases h
  | bin fr x y ihx ihy =>
    intro m h
    simp only [DMs.toMs] at h
    split at h
    next a b hx hy =>
      cases h
      obtain ⟨xb, ex, tx, px, cx, vx⟩ := ihx a hx
      obtain ⟨yb, ey, ty, py, cy, vy⟩ := ihy b hy
      exact ⟨.bin fr xb yb, by simp only [DMs.toMs, ex, ey],
        by simp only [type, props, constructible, verify, *, and_self]⟩
    next => cases h
  | thresh n xs ih =>
    intro m h
    simp only [DMs.toMs, Option.map_eq_some_iff] at h
    obtain ⟨l, hl, rfl⟩ := h
    obtain ⟨lb, el, tl, pl, cl, vl⟩ := ih l hl
    exact ⟨.thresh n lb, by simp only [DMs.toMs, el, Option.map_some],
      by simp only [type, props, constructible, verify, *, and_self]⟩
  | multi fr n keys =>
    intro m h
    simp only [DMs.toMs, Option.map_eq_some_iff] at h
    obtain ⟨l, hl, rfl⟩ := h
    exact ⟨.multi fr n (keys.map fun _ => []), by simp only [DMs.toMs, mapOpt_blank, Option.map_some],
      by simp only [type, props, constructible, verify, List.length_map, mapOpt_length hl, and_self]⟩
  | wrap w x ih =>
    intro m h
    simp only [DMs.toMs, Option.map_eq_some_iff] at h
    obtain ⟨a, hx, rfl⟩ := h
    obtain ⟨xb, ex, tx, px, cx, vx⟩ := ih a hx
    exact ⟨.wrap w xb, by simp only [DMs.toMs, ex, Option.map_some],
      by simp only [type, props, constructible, verify, *, and_self]⟩
  | nil => rename_i l h; cases h; exact ⟨[], rfl, rfl, rfl, rfl, rfl⟩
  | cons a r iha ihr =>
    rename_i l h
    simp only [DMs.toMsL] at h
    split at h
    next a' r' ha hr =>
      cases h
      obtain ⟨ab, ea, ta, pa, ca, va⟩ := iha a' ha
      obtain ⟨rb, er, tr, pr, cr, vr⟩ := ihr r' hr
      exact ⟨ab :: rb, by simp only [DMs.toMsL, ea, er],
        by simp only [tpL, propsL, constructibleL, verifyL, *, and_self]⟩
    next => cases h

/-- what `Descriptor.__init__` / `TapLeaf.__init__` verified about the blank shape holds of the resolved
    expression -/
theorem accepts_resolved (ctx : Ctx) (P : KeyFrag → KeyExpr K → Option Bytes) (e : DMs K) (m : Ms)
    (h : e.toMs P = some m) (ha : accepts ctx e.shape = true) : verify ctx m = true := by
  obtain ⟨mb, eb, _, _, _, hv⟩ := DMs.toMs_shape ctx P e m h
  simp only [DMs.shape, eb, Option.getD_some, accepts, Bool.and_eq_true, hv] at ha
  exact ha.1.2

end Embit.Model.Descriptor

namespace Embit.Model.Descriptor
open Embit Embit.Miniscript Embit.Spec.Descriptor Embit.Model.Miniscript

variable {K : Type}

def xonlyOf (sec : Bytes) : Bytes := (sec.drop 1).take 32

/-- the laws of key objects the script theorems use; each is the subject of C09 (BIP32 / BIP341 derivation
    commutes with neutering). Hypotheses of theorems — never axioms. -/
structure KeyLaws (ops : KeyOps K) (h : Hashes) (tweakAdd : Bytes → Bytes → Option Bytes) : Prop where
  /-- `HDKey.child(None)` raises -/
  derive_none : ∀ k path, none ∈ path → ops.derive k path = none
  /-- `taproot_tweak(m).xonly()` is BIP341's output key of the x-only public key, for private and public keys -/
  tweak_eq : ∀ k m,
    ops.tweak k m = tweakAdd (xonlyOf (ops.sec k)) (h.tagged "TapTweak" (xonlyOf (ops.sec k) ++ m))
  sec_toPublic : ∀ k p, ops.toPublic k = some p → ops.sec p = ops.sec k
  /-- where public derivation works it yields the public key of the private derivation (C09 neuter_commutes) -/
  derive_toPublic : ∀ k p path c c', ops.toPublic k = some p → ops.derive k path = some c →
    ops.derive p path = some c' → ops.sec c' = ops.sec c

theorem fill_some (ix : List Step) (i : Nat) (b : Option Nat) (hi : i < 2 ^ 31) :
    fill ix (some i) b = fillSteps (some i) b ix := by
  unfold fill
  simp only
  rw [if_neg]
  simp only [HARDENED]
  omega

/-- the key the model derives contributes to a script what the specification's `deriveKey` says -/
theorem payload_agree {ops : KeyOps K} {h : Hashes} {tweakAdd : Bytes → Bytes → Option Bytes}
    (laws : KeyLaws ops h tweakAdd) (k k' : KeyExpr K) (i b : Nat) (hi : i < 2 ^ 31)
    (hd : k.derive ops h (some i) (some b) = some k') (tap : Bool) (fr : KeyFrag) :
    fragPayload ops h tap fr k' = argBytes h tap (fun k => deriveKey ops k i b) fr k := by
  have hnot : ¬ i ≥ 2 ^ 31 := by omega
  cases hdv : k.deriv with
  | none =>
    cases KeyExpr.derive_of_no_deriv hd hdv
    cases hk : k.key <;> cases fr <;>
      simp [fragPayload, argBytes, deriveKey, hk, hdv, hnot, keyBytes, keyHashBytes]
  | some ix =>
    obtain ⟨der, key, child, hf, hk, hc, hk'⟩ := KeyExpr.derive_of_deriv hd hdv
    rw [fill_some ix i (some b) hi] at hf
    have hnn : ∀ x ∈ der, x ≠ none := by
      intro x hx hxn
      subst hxn
      rw [laws.derive_none key der hx] at hc
      cases hc
    obtain ⟨p, hp, hder⟩ := fillSteps_pathAt i b ix der hf hnn
    have hdk : deriveKey ops k i b = some (ops.sec child) := by
      simp only [deriveKey, hnot, if_false, hk, hdv, hp, ← hder, hc, Option.map_some]
    cases fr <;>
      simp [fragPayload, argBytes, hdk, hk, hk', keyBytes, keyHashBytes]

def TapTree.leaves : TapTree K → List (DMs K)
  | .empty => []
  | .leaf ms => [ms]
  | .node l r => l.leaves ++ r.leaves

def treeRoot (h : Hashes) (L : DMs K → Option Bytes) : TapTree K → Option Bytes
  | .empty => none
  | .leaf ms => (L ms).map (leafHash h)
  | .node l r =>
    match treeRoot h L l, treeRoot h L r with
    | some a, some b => some (branchHash h a b)
    | _, _ => none

theorem tweakHelper_root (ops : KeyOps K) (h : Hashes) :
    ∀ t : TapTree K, (tweakHelper ops h t).map (·.2) = treeRoot h (compileMs ops h true) t := by
  intro t
  induction t with
  | empty => rfl
  | leaf ms =>
    simp only [tweakHelper, treeRoot]
    cases compileMs ops h true ms <;> rfl
  | node l r ihl ihr =>
    simp only [tweakHelper, treeRoot, ← ihl, ← ihr]
    cases tweakHelper ops h l with
    | none => rfl
    | some pl =>
      cases tweakHelper ops h r with
      | none => rfl
      | some pr =>
        obtain ⟨ll, lh⟩ := pl
        obtain ⟨rl, rh⟩ := pr
        simp only [Option.map_some, branchHash]
        cases bytesLe lh rh <;> rfl

theorem resolveTree_root (h : Hashes) (kb : KeyExpr K → Option Bytes) :
    ∀ t : TapTree K, (resolveTree h kb t).map (merkleRoot h) =
      treeRoot h (fun m => (m.toMs (argBytes h true kb)).map Spec.Miniscript.scriptBytes) t := by
  intro t
  induction t with
  | empty => rfl
  | leaf ms =>
    simp only [resolveTree, treeRoot]
    cases ms.toMs (argBytes h true kb) <;> rfl
  | node l r ihl ihr =>
    simp only [resolveTree, treeRoot, ← ihl, ← ihr]
    cases resolveTree h kb l <;> cases resolveTree h kb r <;> rfl

theorem treeRoot_mapKeys (h : Hashes) (L : DMs K → Option Bytes) (f : KeyExpr K → Option (KeyExpr K)) :
    ∀ (t t' : TapTree K), t.mapKeys f = some t' →
      treeRoot h L t' = treeRoot h (fun ms => (ms.mapKeys f).bind L) t := by
  intro t
  induction t with
  | empty => intro t' ht; cases ht; rfl
  | leaf ms =>
    intro t' ht
    simp only [TapTree.mapKeys] at ht
    split at ht
    next ms' hm =>
      split at ht
      · cases ht; simp [treeRoot, hm]
      · cases ht
    next => cases ht
  | node l r ihl ihr =>
    intro t' ht
    simp only [TapTree.mapKeys] at ht
    split at ht
    next l' r' hl hr => cases ht; simp only [treeRoot, ihl l' hl, ihr r' hr]
    next => cases ht

theorem treeRoot_congr (h : Hashes) (L1 L2 : DMs K → Option Bytes) :
    ∀ (t : TapTree K), (∀ ms ∈ t.leaves, L1 ms = L2 ms) → treeRoot h L1 t = treeRoot h L2 t := by
  intro t
  induction t with
  | empty => intro _; rfl
  | leaf ms => intro hl; simp only [treeRoot, hl ms (by simp [TapTree.leaves])]
  | node l r ihl ihr =>
    intro hl
    simp only [treeRoot, ihl (fun ms hm => hl ms (by simp [TapTree.leaves, hm])),
      ihr (fun ms hm => hl ms (by simp [TapTree.leaves, hm]))]

theorem TapTree.mapKeys_leaves (f : KeyExpr K → Option (KeyExpr K)) :
    ∀ (t t' : TapTree K), t.mapKeys f = some t' →
      ∀ ms ∈ t.leaves, ∃ ms', ms.mapKeys f = some ms' ∧ leafAccepted ms' = true := by
  intro t
  induction t with
  | empty => intro _ _ ms hm; cases hm
  | leaf ms0 =>
    intro t' ht ms hm
    simp only [TapTree.leaves, List.mem_singleton] at hm
    subst hm
    simp only [TapTree.mapKeys] at ht
    split at ht
    next ms' hmm =>
      split at ht
      · rename_i hacc; exact ⟨ms', hmm, hacc⟩
      · cases ht
    next => cases ht
  | node l r ihl ihr =>
    intro t' ht ms hm
    simp only [TapTree.mapKeys] at ht
    split at ht
    next l' r' hl hr =>
      simp only [TapTree.leaves, List.mem_append] at hm
      cases hm with
      | inl h1 => exact ihl l' hl ms h1
      | inr h2 => exact ihr r' hr ms h2
    next => cases ht

theorem TapTree.mem_keys_of_leaf {t : TapTree K} {ms : DMs K} {k : KeyExpr K} (hm : ms ∈ t.leaves)
    (hk : k ∈ ms.keys) : k ∈ t.keys := by
  induction t with
  | empty => cases hm
  | leaf ms0 =>
    simp only [TapTree.leaves, List.mem_singleton] at hm
    subst hm
    exact hk
  | node l r ihl ihr =>
    simp only [TapTree.leaves, List.mem_append] at hm
    simp only [TapTree.keys, List.mem_append]
    cases hm with
    | inl h1 => exact Or.inl (ihl h1)
    | inr h2 => exact Or.inr (ihr h2)

def ctxOf (tap : Bool) : Ctx := if tap then .tap else .wsh

theorem compile_derived_eq {ops : KeyOps K} {h : Hashes} {tweakAdd : Bytes → Bytes → Option Bytes}
    (laws : KeyLaws ops h tweakAdd) (tap : Bool) (e e' : DMs K) (i b : Nat) (hi : i < 2 ^ 31)
    (hm : e.mapKeys (fun k => k.derive ops h (some i) (some b)) = some e')
    (hacc : accepts (ctxOf tap) e'.shape = true)
    (hargs : ∀ m, e.toMs (argBytes h tap (fun k => deriveKey ops k i b)) = some m → m.argsOk = true) :
    compileMs ops h tap e' =
      (e.toMs (argBytes h tap (fun k => deriveKey ops k i b))).map Spec.Miniscript.scriptBytes := by
  let f : KeyExpr K → Option (KeyExpr K) := fun k => k.derive ops h (some i) (some b)
  have hall := DMs.mapKeys_some_all f e (by rw [hm]; rfl)
  have hfuse : e'.toMs (fragPayload ops h tap) = e.toMs (fuse f (fragPayload ops h tap)) := by
    have := DMs.toMs_mapKeys f (fragPayload ops h tap) e
    rw [hm] at this
    exact this
  have hcong : e.toMs (fuse f (fragPayload ops h tap)) =
      e.toMs (argBytes h tap (fun k => deriveKey ops k i b)) := by
    apply DMs.toMs_congr
    intro fr k hk
    have hs := hall k hk
    cases hfk : f k with
    | none => rw [hfk] at hs; cases hs
    | some k' =>
      simp only [fuse, hfk, Option.bind_some]
      exact payload_agree laws k k' i b hi hfk tap fr
  unfold compileMs
  rw [hfuse, hcong]
  cases hq : e.toMs (argBytes h tap (fun k => deriveKey ops k i b)) with
  | none => rfl
  | some m =>
    simp only [Option.map_some, Option.some.injEq]
    have hres : e'.toMs (fragPayload ops h tap) = some m := by rw [hfuse, hcong, hq]
    exact compile_eq (ctxOf tap) m (hargs m hq) (accepts_resolved (ctxOf tap) _ e' m hres hacc)

end Embit.Model.Descriptor
