import EmbitModel.Proofs.PsbtReject
import EmbitModel.Spec.Bip370
/-
  C04 (deepening): the transaction the model reconstructs for a version-2 PSBT (`PSBT.tx` over the per-scope
  fields) equals the one BIP370 assigns to the raw maps (Spec/Bip370.lean).
-/
set_option linter.unusedSimpArgs false
set_option linter.unusedVariables false
namespace Embit
open Model Spec.Wire

theorem Bip370.get_eq_lookup : ∀ (m : List KV) (k : Bytes), Spec.Bip370.get m k = lookup k m := by
  intro m
  induction m with
  | nil => intro k; rfl
  | cons x xs ih =>
    intro k
    obtain ⟨k', v⟩ := x
    by_cases hk : k' = k
    · subst hk; simp [Spec.Bip370.get, lookup]
    · have : ¬ k = k' := fun e => hk e.symm
      simp [Spec.Bip370.get, lookup, hk, this, ih]

theorem Bip370.allSome_eq_optAll {α : Type} : ∀ (l : List (Option α)), Spec.Bip370.allSome l = optAll l := by
  intro l
  induction l with
  | nil => rfl
  | cons x xs ih =>
    cases x with
    | none => rfl
    | some a =>
      simp only [Spec.Bip370.allSome, optAll, ih]
      cases optAll xs <;> rfl

/-- a PSBTv2 tx-version / fallback-locktime value that `parse_unknowns` accepts has four bytes -/
theorem parseUnknowns_len4 (ko : KeyOps) : ∀ (unk : List KV) (g g' : GState),
    parseUnknowns ko true g unk = some g' → ∀ kv ∈ unk, kv.1 = [0x02] ∨ kv.1 = [0x03] → kv.2.length = 4 := by
  intro unk g g' h
  refine parseUnknowns_induction (motive := fun _ unk _ => ∀ kv ∈ unk, kv.1 = [0x02] ∨ kv.1 = [0x03] → kv.2.length = 4)
    (fun _ _ hkv => (nomatch hkv)) ?_ h
  intro g k v g1 r g' hs _ ih
  refine List.forall_mem_cons.mpr ⟨fun hk => ?_, ih⟩
  cases hs with
  | txVersion _ hl => exact hl
  | locktime _ hl => exact hl
  | xpub => simp at hk
  | nin => simp at hk
  | nout => simp at hk
  | unknown _ h2 => exact absurd (by rcases hk with rfl | rfl <;> simp) (h2 rfl)

theorem InScope.addPairs_keylens (ko : KeyOps) (sha : Bytes → Bytes) (c : Nat) :
    ∀ (kvs : List KV) (s s' : InScope), InScope.addPairs ko sha c s kvs = some s' →
      (∀ v, ([0x0e], v) ∈ kvs → v.length = 32) ∧ (∀ v, ([0x0f], v) ∈ kvs → v.length = 4) := by
  intro kvs s s' h
  refine InScope.addPairs_induction (motive := fun _ kvs _ =>
    (∀ v, ([0x0e], v) ∈ kvs → v.length = 32) ∧ (∀ v, ([0x0f], v) ∈ kvs → v.length = 4))
    (fun _ => ⟨fun _ hv => (nomatch hv), fun _ hv => (nomatch hv)⟩) (fun {s k w s1 _ _} h1 _ ih => ?_) h
  refine ⟨fun v hv => ?_, fun v hv => ?_⟩
  · rcases List.mem_cons.mp hv with e | hv
    · cases e
      cases InScope.addPair_step h1 with
      | txid _ hl => exact hl
      | dropped _ hk => simp at hk
      | unknown _ hx => simp at hx
    · exact ih.1 v hv
  · rcases List.mem_cons.mp hv with e | hv
    · cases e; exact ((InScope.addPair_txfields ko sha c s s1 _ _ h1).2.2.2.2.1 rfl).2
    · exact ih.2 v hv

theorem OutScope.addPairs_keylens (ko : KeyOps) :
    ∀ (kvs : List KV) (s s' : OutScope), OutScope.addPairs ko s kvs = some s' →
      ∀ v, ([0x03], v) ∈ kvs → v.length = 8 := by
  intro kvs s s' h
  refine OutScope.addPairs_induction (motive := fun _ kvs _ => ∀ v, ([0x03], v) ∈ kvs → v.length = 8)
    (fun _ _ hv => (nomatch hv)) (fun {s k w s1 _ _} h1 _ ih v hv => ?_) h
  rcases List.mem_cons.mp hv with e | hv
  · cases e; exact ((OutScope.addPair_txfields ko s s1 _ _ h1).2.2.1 rfl).2
  · exact ih v hv

theorem Bip370.input_eq_vin (ko : KeyOps) (sha : Bytes → Bytes) (kvs : List KV) (s : InScope)
    (h : InScope.addPairs ko sha 0 {} kvs = some s) : Spec.Bip370.input kvs = InScope.vin s := by
  obtain ⟨f1, f2, f3, f4⟩ := InScope.addPairs_v2_fields ko sha 0 kvs s h
  obtain ⟨l1, l2⟩ := InScope.addPairs_keylens ko sha 0 kvs {} s h
  unfold Spec.Bip370.input InScope.vin
  simp only [Bip370.get_eq_lookup, Spec.Bip370.IN_PREVIOUS_TXID, Spec.Bip370.IN_OUTPUT_INDEX,
    Spec.Bip370.IN_SEQUENCE, f1, f2, f3]
  cases ht : lookup [0x0e] kvs with
  | none => simp
  | some t =>
    cases hi : lookup [0x0f] kvs with
    | none => simp
    | some idx =>
      have a1 := l1 t (lookup_mem _ _ _ ht)
      have a2 := l2 idx (lookup_mem _ _ _ hi)
      cases hq : lookup [0x10] kvs with
      | none => simp [a1, a2, Spec.Bip370.u32]
      | some q =>
        have a3 := f4 q hq
        simp [a1, a2, a3, Spec.Bip370.u32]

theorem Bip370.output_eq_vout (ko : KeyOps) (kvs : List KV) (s : OutScope)
    (h : OutScope.addPairs ko {} kvs = some s) : Spec.Bip370.output kvs = OutScope.vout s := by
  obtain ⟨f1, f2⟩ := OutScope.addPairs_v2_fields ko kvs s h
  have l1 := OutScope.addPairs_keylens ko kvs {} s h
  unfold Spec.Bip370.output OutScope.vout
  simp only [Bip370.get_eq_lookup, Spec.Bip370.OUT_AMOUNT, Spec.Bip370.OUT_SCRIPT, f1, f2]
  cases ha : lookup [0x03] kvs with
  | none => simp
  | some a =>
    cases hsc : lookup [0x04] kvs with
    | none => simp
    | some sc =>
      have a1 := l1 a (lookup_mem _ _ _ ha)
      simp [a1, Spec.Bip370.u64]

/-- version 2: the transaction embit reconstructs equals the BIP370 transaction of the raw maps, provided the
    global map carries the (required) transaction version and no input requires a lock time -/
theorem Psbt.tx_eq_bip370 (ko : KeyOps) (sha : Bytes → Bytes) (g : List KV) (ins outs : List (List KV)) (p : Psbt)
    (hg : ∀ kv ∈ g, KVWF kv) (hs : ∀ kvs ∈ ins ++ outs, ∀ kv ∈ kvs, KVWF kv)
    (h : Psbt.parse ko sha 0 (framePsbt g (ins ++ outs)) = some p)
    (hv : p.version = some 2) (hcnt : p.inputs.length = ins.length)
    (htv : (Spec.Bip370.get g Spec.Bip370.GLOBAL_TX_VERSION).isSome = true)
    (hreq : ∀ m ∈ ins, Spec.Bip370.get m Spec.Bip370.IN_REQUIRED_TIME_LOCKTIME = none
                      ∧ Spec.Bip370.get m Spec.Bip370.IN_REQUIRED_HEIGHT_LOCKTIME = none) :
    p.tx = Spec.Bip370.unsignedTx g ins outs := by
  obtain ⟨tx, unk, gs, hgf, hpu, hver, q1, q2, _, _, hl, _, _, fi, fo, _⟩ :=
    parse_framed_decomp ko sha g (ins ++ outs) p hg hs h
  obtain rfl : tx = none := by
    rcases hver with ⟨_, e⟩ | ⟨e, _⟩
    · exact e
    · exact absurd hv e
  rw [hv] at hpu
  have hpu' : parseUnknowns ko true (gstate0 none) unk = some gs := by simpa using hpu
  have hunk : unk = g.filter notTxVer := by simpa using globalFold_unk g none none [] none p.version unk hgf
  have hnd := globalFold_nodup g none none [] none p.version unk hgf (by simp)
  obtain ⟨t1, t2, _, _, _⟩ := parseUnknowns_fold ko unk _ gs hpu'
  have hlen := parseUnknowns_len4 ko unk _ gs hpu'
  have hver' : (Spec.Bip370.get g Spec.Bip370.GLOBAL_TX_VERSION).bind Spec.Bip370.u32 = some (p.txVersion.getD 2) := by
    rw [Bip370.get_eq_lookup] at htv ⊢
    obtain ⟨w, hw⟩ := Option.isSome_iff_exists.mp htv
    have hwl : w.length = 4 := hlen ([0x02], w) (by
      rw [hunk]; exact List.mem_filter.mpr ⟨lookup_mem _ _ _ hw, rfl⟩) (Or.inl rfl)
    have : p.txVersion = some (ofLe w) := by
      rw [q1, t1]
      have := v2_field_lookup g unk hunk hnd [0x02] (fun kv hk => by simp [notTxVer, hk]) ofLe
      simp only [gstate0, Option.map_none] at this ⊢
      rw [this]
      simp [Spec.Bip370.GLOBAL_TX_VERSION] at hw
      simp [hw]
    rw [hw, this]
    simp [Spec.Bip370.u32, hwl]
  have hlock : Spec.Bip370.lockTime g ins = some (p.locktime.getD 0) := by
    have hc : (ins.filter fun m => (Spec.Bip370.get m Spec.Bip370.IN_REQUIRED_TIME_LOCKTIME).isSome
        || (Spec.Bip370.get m Spec.Bip370.IN_REQUIRED_HEIGHT_LOCKTIME).isSome) = [] := by
      rw [List.filter_eq_nil_iff]
      intro m hm
      obtain ⟨a, b⟩ := hreq m hm
      simp [a, b]
    have hlt : p.locktime = (lookup [0x03] g).map ofLe := by
      rw [q2, t2]
      have := v2_field_lookup g unk hunk hnd [0x03] (fun kv hk => by simp [notTxVer, hk]) ofLe
      simp only [gstate0, Option.map_none] at this ⊢
      exact this
    unfold Spec.Bip370.lockTime
    simp only [hc, List.isEmpty_nil, if_true]
    rw [Bip370.get_eq_lookup]
    simp only [Spec.Bip370.GLOBAL_FALLBACK_LOCKTIME]
    cases hw : lookup [0x03] g with
    | none => simp [hlt, hw]
    | some w =>
      have hwl : w.length = 4 := hlen ([0x03], w) (by
        rw [hunk]; exact List.mem_filter.mpr ⟨lookup_mem _ _ _ hw, rfl⟩) (Or.inr rfl)
      simp [hlt, hw, Spec.Bip370.u32, hwl]
  have hins : ins.map Spec.Bip370.input = p.inputs.map InScope.vin := by
    apply List.ext_getElem?
    intro j
    simp only [List.getElem?_map]
    by_cases hj : j < p.inputs.length
    · obtain ⟨kvs, s, a1, a2, a3⟩ := fi j hj
      rw [List.getElem?_append_left (by omega)] at a1
      rw [a1, a2]
      simp only [Option.map_some]
      rw [Bip370.input_eq_vin ko sha kvs s (by simpa [seedIn] using a3)]
    · rw [List.getElem?_eq_none (by omega), List.getElem?_eq_none (by omega)]; rfl
  have houts : outs.map Spec.Bip370.output = p.outputs.map OutScope.vout := by
    have hol : outs.length = p.outputs.length := by simp at hl; omega
    apply List.ext_getElem?
    intro j
    simp only [List.getElem?_map]
    by_cases hj : j < p.outputs.length
    · obtain ⟨kvs, s, a1, a2, a3⟩ := fo j hj
      rw [List.getElem?_append_right (by omega), show p.inputs.length + j - ins.length = j by omega] at a1
      rw [a1, a2]
      simp only [Option.map_some]
      rw [Bip370.output_eq_vout ko kvs s (by simpa [seedOut] using a3)]
    · rw [List.getElem?_eq_none (by omega), List.getElem?_eq_none (by omega)]; rfl
  unfold Spec.Bip370.unsignedTx Psbt.tx
  rw [hver', hlock, Bip370.allSome_eq_optAll, Bip370.allSome_eq_optAll, hins, houts]
  cases optAll (p.inputs.map InScope.vin) <;> cases optAll (p.outputs.map OutScope.vout) <;> rfl

end Embit
