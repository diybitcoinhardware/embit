import EmbitModel.Proofs.DescTop
/-
  C12: `to_public()` first / `branch()` first never changes a derived script.
  Scripts are a function of a small view of the descriptor (`scriptPubkey_eq_view`); two chains of key
  transformations that agree key by key give the same view.
-/
namespace Embit.Model.Descriptor
open Embit Embit.Miniscript Embit.Spec.Descriptor Embit.Model.Miniscript

variable {K : Type}

/-- two key expressions contribute the same bytes to every script -/
def KeyAgree (ops : KeyOps K) (h : Hashes) (k1 k2 : KeyExpr K) : Prop :=
  (∀ tap fr, fragPayload ops h tap fr k1 = fragPayload ops h tap fr k2) ∧
    (k1.obj?).map ops.sec = (k2.obj?).map ops.sec

theorem compile_agree {ops : KeyOps K} {h : Hashes} (tap : Bool) (f1 f2 g : KeyExpr K → Option (KeyExpr K))
    (e ep e1 e2 : DMs K) (h1 : e.mapKeys f1 = some ep) (h2 : ep.mapKeys f2 = some e1) (hg : e.mapKeys g = some e2)
    (hag : ∀ k kp k1 k2, k ∈ e.keys → f1 k = some kp → f2 kp = some k1 → g k = some k2 → KeyAgree ops h k1 k2) :
    compileMs ops h tap e1 = compileMs ops h tap e2 := by
  unfold compileMs
  congr 1
  have a1 : e1.toMs (fragPayload ops h tap) = e.toMs (fuse f1 (fuse f2 (fragPayload ops h tap))) := by
    have t2 := DMs.toMs_mapKeys f2 (fragPayload ops h tap) ep
    rw [h2] at t2
    have t1 := DMs.toMs_mapKeys f1 (fuse f2 (fragPayload ops h tap)) e
    rw [h1] at t1
    simp only [Option.bind_some] at t1 t2
    rw [t2, t1]
  have a2 : e2.toMs (fragPayload ops h tap) = e.toMs (fuse g (fragPayload ops h tap)) := by
    have t := DMs.toMs_mapKeys g (fragPayload ops h tap) e
    rw [hg] at t
    exact t
  rw [a1, a2]
  apply DMs.toMs_congr
  intro fr k hk
  obtain ⟨kp, hkp, hf1⟩ := mapOpt_mem (DMs.mapKeys_keys f1 e ep h1) k hk
  have hs2 := DMs.mapKeys_some_all f2 ep (by rw [h2]; rfl) kp hkp
  have hsg := DMs.mapKeys_some_all g e (by rw [hg]; rfl) k hk
  cases hf2 : f2 kp with
  | none => rw [hf2] at hs2; cases hs2
  | some k1 =>
    cases hgk : g k with
    | none => rw [hgk] at hsg; cases hsg
    | some k2 =>
      simp only [fuse, hf1, hf2, hgk, Option.bind_some]
      exact (hag k kp k1 k2 hk hf1 hf2 hgk).1 tap fr

theorem TapTree.mapKeys_leaf_mem (f : KeyExpr K → Option (KeyExpr K)) :
    ∀ (t t' : TapTree K), t.mapKeys f = some t' → ∀ ms ms', ms ∈ t.leaves → ms.mapKeys f = some ms' →
      ms' ∈ t'.leaves := by
  intro t
  induction t with
  | empty => intro _ _ ms _ hm; cases hm
  | leaf ms0 =>
    intro t' ht ms ms' hm hmm
    simp only [TapTree.leaves, List.mem_singleton] at hm
    subst hm
    simp only [TapTree.mapKeys, hmm] at ht
    split at ht
    · cases ht; simp [TapTree.leaves]
    · cases ht
  | node l r ihl ihr =>
    intro t' ht ms ms' hm hmm
    simp only [TapTree.mapKeys] at ht
    split at ht
    next l' r' hl hr =>
      cases ht
      simp only [TapTree.leaves, List.mem_append] at hm ⊢
      exact hm.imp (ihl l' hl ms ms' · hmm) (ihr r' hr ms ms' · hmm)
    next => cases ht

theorem tweak_agree {ops : KeyOps K} {h : Hashes} (f1 f2 g : KeyExpr K → Option (KeyExpr K))
    (t tp t1 t2 : TapTree K) (h1 : t.mapKeys f1 = some tp) (h2 : tp.mapKeys f2 = some t1)
    (hg : t.mapKeys g = some t2)
    (hag : ∀ k kp k1 k2, k ∈ t.keys → f1 k = some kp → f2 kp = some k1 → g k = some k2 → KeyAgree ops h k1 k2) :
    t1.tweak ops h = t2.tweak ops h := by
  by_cases he : t = .empty
  · subst he
    simp [TapTree.mapKeys] at h1 hg
    subst h1 hg
    simp [TapTree.mapKeys] at h2
    subst h2
    rfl
  · have hep : tp ≠ .empty := fun hh => he ((TapTree.mapKeys_empty_iff f1 t tp h1).mp hh)
    have he1 : t1 ≠ .empty := fun hh => hep ((TapTree.mapKeys_empty_iff f2 tp t1 h2).mp hh)
    have he2 : t2 ≠ .empty := fun hh => he ((TapTree.mapKeys_empty_iff g t t2 hg).mp hh)
    have tw : ∀ x : TapTree K, x ≠ .empty → x.tweak ops h = (tweakHelper ops h x).map (·.2) := by
      intro x hx
      cases x with
      | empty => exact absurd rfl hx
      | leaf _ => rfl
      | node _ _ => rfl
    rw [tw t1 he1, tw t2 he2, tweakHelper_root, tweakHelper_root, treeRoot_mapKeys h _ f2 tp t1 h2,
      treeRoot_mapKeys h _ f1 t tp h1, treeRoot_mapKeys h _ g t t2 hg]
    apply treeRoot_congr
    intro ms hms
    obtain ⟨msp, hmp, _⟩ := TapTree.mapKeys_leaves f1 t tp h1 ms hms
    obtain ⟨ms2, hm2, _⟩ := TapTree.mapKeys_leaves g t t2 hg ms hms
    have hleafp := TapTree.mapKeys_leaf_mem f1 t tp h1 ms msp hms hmp
    obtain ⟨ms1, hm1, _⟩ := TapTree.mapKeys_leaves f2 tp t1 h2 msp hleafp
    rw [hmp, hm2]
    simp only [Option.bind_some, hm1]
    exact compile_agree true f1 f2 g ms msp ms1 ms2 hmp hm1 hm2
      (fun k kp k1 k2 hk => hag k kp k1 k2 (TapTree.mem_keys_of_leaf hms hk))

theorem mem_desc_keys_of_tree {d : Desc K} {k0 k : KeyExpr K} (hkey : d.key = some k0)
    (hk : k ∈ d.taptree.keys) : k ∈ d.keys := by
  unfold Desc.keys
  simp only [hkey]
  cases ht : d.taptree with
  | empty => rw [ht] at hk; simp [TapTree.keys] at hk
  | leaf ms => rw [ht] at hk; simp [TapTree.truthy, hk]
  | node l r => rw [ht] at hk; simp [TapTree.truthy, hk]

theorem Desc.scripts_agree {ops : KeyOps K} {h : Hashes} {tweakAdd : Bytes → Bytes → Option Bytes}
    (laws : KeyLaws ops h tweakAdd) (f1 f2 g : KeyExpr K → Option (KeyExpr K)) (d dp d1 d2 : Desc K)
    (hs : d.Shaped) (h1 : d.mapKeys f1 = some dp) (h2 : dp.mapKeys f2 = some d1) (hg : d.mapKeys g = some d2)
    (hag : ∀ k kp k1 k2, k ∈ d.keys → f1 k = some kp → f2 kp = some k1 → g k = some k2 → KeyAgree ops h k1 k2) :
    d1.scriptPubkey ops h = d2.scriptPubkey ops h := by
  rw [scriptPubkey_eq_view laws d1, scriptPubkey_eq_view laws d2]
  cases hms : d.miniscript with
  | some ms =>
    have hk : d.key = none ∧ d.taptree = .empty := by
      cases hs with
      | inl h0 => rw [hms] at h0; cases h0
      | inr hh => exact hh
    obtain ⟨msp, hm1, _, rfl⟩ := Desc.mapKeys_ms hms h1
    obtain ⟨ms1, hm2, _, rfl⟩ := Desc.mapKeys_ms rfl h2
    obtain ⟨ms2, hmg, _, rfl⟩ := Desc.mapKeys_ms hms hg
    have hkeys : d.keys = ms.keys := by simp [Desc.keys, hk.1, hk.2, hms, TapTree.truthy]
    have := compile_agree (ops := ops) (h := h) d.taproot f1 f2 g ms msp ms1 ms2 hm1 hm2 hmg
      (fun k kp k1 k2 hkm => hag k kp k1 k2 (by rw [hkeys]; exact hkm))
    simp only [Option.map_some, this]
  | none =>
    obtain ⟨k, kp, tp, hkey, hf1, ht1, rfl⟩ := Desc.mapKeys_key hms h1
    obtain ⟨_, k1, t1, hk1, hf2, ht2, rfl⟩ := Desc.mapKeys_key rfl h2
    obtain ⟨_, k2, t2, hk2, hgk, htg, rfl⟩ := Desc.mapKeys_key hms hg
    cases hk1
    rw [hkey] at hk2
    cases hk2
    have hkmem : k ∈ d.keys := by
      unfold Desc.keys
      simp only [hkey]
      split <;> simp
    have hsec := (hag k kp k1 k2 hkmem hf1 hf2 hgk).2
    have htw := tweak_agree (ops := ops) (h := h) f1 f2 g d.taptree tp t1 t2 ht1 ht2 htg
      (fun k' kp' k1' k2' hk' => hag k' kp' k1' k2' (mem_desc_keys_of_tree hkey hk'))
    simp only [Option.map_none, Option.bind_some, hsec, htw]

theorem fragPayload_of_sec {ops : KeyOps K} {h : Hashes} (k1 k2 : KeyExpr K) (a b : K)
    (h1 : k1.key = .obj a) (h2 : k2.key = .obj b) (hsec : ops.sec a = ops.sec b) :
    KeyAgree ops h k1 k2 := by
  refine ⟨?_, ?_⟩
  · intro tap fr
    cases fr <;> simp [fragPayload, keyBytes, keyHashBytes, h1, h2, hsec]
  · simp [KeyExpr.obj?, h1, h2, hsec]

theorem KeyAgree.refl' {ops : KeyOps K} {h : Hashes} (k1 k2 : KeyExpr K) (hk : k1.key = k2.key) :
    KeyAgree ops h k1 k2 := by
  refine ⟨?_, ?_⟩
  · intro tap fr
    cases fr <;> simp [fragPayload, hk]
  · simp [KeyExpr.obj?, hk]

/-- `to_public()` then `derive(i, b)` against `derive(i, b)` -/
theorem toPublic_derive_agree {ops : KeyOps K} {h : Hashes} {tweakAdd : Bytes → Bytes → Option Bytes}
    (laws : KeyLaws ops h tweakAdd) (idx : Option Nat) (br : Option Nat) (k kp k1 k2 : KeyExpr K)
    (hp : k.toPublic ops = some kp) (h1 : kp.derive ops h idx br = some k1) (h2 : k.derive ops h idx br = some k2) :
    KeyAgree ops h k1 k2 := by
  rcases KeyExpr.toPublic_cases hp with rfl | ⟨key, p, hk, hpub, rfl⟩
  · rw [h1] at h2; cases h2; exact KeyAgree.refl' _ _ rfl
  · cases hdv : k.deriv with
    | none =>
      cases KeyExpr.derive_of_no_deriv h1 hdv
      cases KeyExpr.derive_of_no_deriv h2 hdv
      exact fragPayload_of_sec _ _ p key rfl hk (laws.sec_toPublic key p hpub)
    | some ix =>
      obtain ⟨der, _, c', hf, hkp, hc1, hk1⟩ := KeyExpr.derive_of_deriv h1 hdv
      obtain ⟨_, _, c, hf', hk', hc2, hk2⟩ := KeyExpr.derive_of_deriv h2 hdv
      cases hkp
      rw [hf] at hf'; cases hf'
      rw [hk] at hk'; cases hk'
      exact fragPayload_of_sec _ _ c' c hk1 hk2 (laws.derive_toPublic key p der c c' hpub hc2 hc1)

theorem fillSteps_branch (i : Nat) (b : Option Nat) (bn : Option Nat) : ∀ (ix : List Step) (arr der : List (Option Nat)),
    fillSteps none b ix = some arr → fillSteps (some i) b ix = some der → (∀ x ∈ der, x ≠ none) →
    fillSteps (some i) bn (arr.map stepOfFilled) = some der := by
  intro ix
  induction ix with
  | nil => intro arr der h1 h2 _; cases h1; cases h2; rfl
  | cons s r ih =>
    intro arr der h1 h2 hn
    -- every step puts one element in front of the filled rest; a set element that is kept is a number
    have step : ∀ {x : Option Nat} {a d : List (Option Nat)}, fillSteps none b r = some a →
        fillSteps (some i) b r = some d → der = x :: d →
        fillSteps (some i) bn ((x :: a).map stepOfFilled) = some (x :: d) := by
      intro x a d hr1 hr2 e
      have := ih a d hr1 hr2 (fun y hy => hn y (e ▸ List.mem_cons_of_mem _ hy))
      cases x with
      | none => exact absurd rfl (hn none (e ▸ List.mem_cons_self))
      | some n => simp [stepOfFilled, fillSteps, this]
    cases s with
    | idx n =>
      simp only [fillSteps, Option.map_eq_some_iff] at h1 h2
      obtain ⟨a, hr1, rfl⟩ := h1
      obtain ⟨d, hr2, rfl⟩ := h2
      exact step hr1 hr2 rfl
    | wild =>
      simp only [fillSteps, Option.map_eq_some_iff] at h1 h2
      obtain ⟨a, hr1, rfl⟩ := h1
      obtain ⟨d, hr2, rfl⟩ := h2
      exact step hr1 hr2 rfl
    | set l =>
      simp only [fillSteps] at h1 h2
      cases b with
      | none =>
        cases l with
        | nil => cases h1
        | cons x _ =>
          simp only [Option.map_eq_some_iff] at h1 h2
          obtain ⟨a, hr1, rfl⟩ := h1
          obtain ⟨d, hr2, rfl⟩ := h2
          exact step hr1 hr2 rfl
      | some bb =>
        simp only at h1 h2
        split at h1
        · cases h1
        · rw [if_neg (by assumption)] at h2
          simp only [Option.map_eq_some_iff] at h1 h2
          obtain ⟨a, hr1, rfl⟩ := h1
          obtain ⟨d, hr2, rfl⟩ := h2
          exact step hr1 hr2 rfl

/-- `branch(b)` then `derive(i, anything)` against `derive(i, b)` -/
theorem branch_derive_agree {ops : KeyOps K} {h : Hashes} {tweakAdd : Bytes → Bytes → Option Bytes}
    (laws : KeyLaws ops h tweakAdd) (i : Nat) (br bn : Option Nat) (k kb k1 k2 : KeyExpr K)
    (hb : k.branch br = some kb) (h1 : kb.derive ops h (some i) bn = some k1)
    (h2 : k.derive ops h (some i) br = some k2) :
    KeyAgree ops h k1 k2 := by
  unfold KeyExpr.branch at hb
  cases hdv : k.deriv with
  | none =>
    simp only [hdv, Option.some.injEq] at hb
    subst hb
    cases KeyExpr.derive_of_no_deriv h1 rfl
    cases KeyExpr.derive_of_no_deriv h2 hdv
    exact KeyAgree.refl' _ _ rfl
  | some ix =>
    simp only [hdv, Option.map_eq_some_iff] at hb
    obtain ⟨ix', hab, rfl⟩ := hb
    obtain ⟨der, key, c, hf2, hk, hc, hk2⟩ := KeyExpr.derive_of_deriv h2 hdv
    have hnn : ∀ x ∈ der, x ≠ none := by
      intro x hx hxn
      subst hxn
      rw [laws.derive_none key der hx] at hc
      cases hc
    -- the branched steps fill to the same path
    have hfill : fill ix' (some i) bn = some der := by
      unfold allowedBranch at hab
      split at hab
      next => cases hab
      next arr hfa =>
        unfold mkAllowed at hab
        split at hab
        · cases hab
        · split at hab
          · cases hab
          · cases hab
            unfold fill at hf2 hfa ⊢
            simp only at hf2 hfa ⊢
            split at hf2
            · cases hf2
            · rename_i hlt
              rw [if_neg hlt]
              exact fillSteps_branch i br bn ix arr der hfa hf2 hnn
    obtain ⟨der', _, c', hf1, hk', hc', hk1⟩ := KeyExpr.derive_of_deriv h1 rfl
    rw [hfill] at hf1; cases hf1
    rw [hk] at hk'; cases hk'
    rw [hc] at hc'; cases hc'
    exact KeyAgree.refl' _ _ (hk1.trans hk2.symm)

end Embit.Model.Descriptor
