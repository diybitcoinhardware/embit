import EmbitModel.Proofs.Bech32Detect
/- Everything up to `tripleCheck_eq` is printed by harness/gen_cross.py (data part of 59 symbols). The literals are
   verified below by kernel evaluation against the model (`table_eq`, `Tp_eq`, `reduce_eq`, `tripleCheck_eq`); nothing
   here is trusted.

   Setting: an error word in offset order (offset 0 = last symbol) whose symbol at offset 58 (the witness version) is 1
   and whose syndrome is `crossT` = BECH32 xor BECH32M. The other 58 symbols `r` then satisfy
   `synG r (table 58) = Tp`; dividing every table vector by `Tp` (`Gf2.elim Tp 2`) turns this into the homogeneous
   condition `synG r QLit = 0`. `QLit` is split around the three exceptional groups (offsets 16, 36, 45). -/
namespace Embit.Model.Bech32.Cross
open Embit Detect
set_option maxRecDepth 1000000

def crossT : Nat := bech32Const ^^^ bech32mConst

/-- number of symbols after (in offset order: before) the version symbol -/
def N : Nat := 58

/-- offsets and XOR values of the three further symbols of the unique pattern -/
def offX : Nat := 16
def offY : Nat := 36
def offZ : Nat := 45
def valX : Nat := 25
def valY : Nat := 31
def valZ : Nat := 22

/-- the pattern without the version symbol, offset order -/
def patLit : List Nat := [0, 0, 0, 0, 0, 0, 0, 0, 0, 0, 0, 0, 0, 0, 0, 0, 25, 0, 0, 0, 0, 0, 0, 0, 0, 0, 0, 0, 0, 0, 0, 0, 0, 0, 0, 0, 31, 0, 0, 0, 0, 0, 0, 0, 0, 22, 0, 0, 0, 0, 0, 0, 0, 0, 0, 0, 0, 0]

/-- `table N` -/
def tableLit : List (List Nat) := [
  [1, 2, 4, 8, 16],
  [32, 64, 128, 256, 512],
  [1024, 2048, 4096, 8192, 16384],
  [32768, 65536, 131072, 262144, 524288],
  [1048576, 2097152, 4194304, 8388608, 16777216],
  [33554432, 67108864, 134217728, 268435456, 536870912],
  [996825010, 642813549, 513874426, 1027748829, 705979059],
  [534243686, 1027569356, 721079480, 132234585, 223574683],
  [69525304, 139009913, 277265403, 554529535, 312394999],
  [583756141, 394458842, 764759229, 196754771, 368114319],
  [135469217, 270938434, 541876868, 311223336, 621669456],
  [482479578, 964959133, 597176883, 397730159, 771319518],
  [502406922, 963918644, 578319201, 384092130, 768159460],
  [1005602058, 661663252, 510679329, 1021318722, 734013860],
  [211140198, 422279660, 819124184, 866455225, 937039995],
  [709253975, 109844391, 218933870, 412996092, 825198545],
  [118769179, 213396799, 426039895, 811144615, 849783630],
  [1068636863, 804532343, 259547335, 477422990, 954822428],
  [579782315, 386509942, 748148933, 187635082, 349874964],
  [10936417, 21849282, 2026884, 2752264, 4710192],
  [349965344, 699177024, 64860288, 88072448, 150726144],
  [9648560, 19297097, 14436274, 28094061, 31316474],
  [308753920, 617507104, 461960768, 899009952, 1002127168],
  [181314671, 361351390, 697808277, 62876419, 100333350],
  [1008714664, 707503728, 105105897, 210188242, 420375213],
  [744469497, 179036923, 356771071, 672624087, 36601735],
  [420710916, 817303848, 862855760, 911786409, 1051043666],
  [26372775, 28603502, 33049820, 24427921, 7961355],
  [843928800, 915312064, 1057594240, 781693472, 254763360],
  [630627036, 465383601, 905896267, 997844630, 645393445],
  [1050130270, 791636917, 249230947, 497143270, 970145740],
  [104561291, 207803446, 415566917, 831133834, 865120532],
  [441813183, 883626327, 994222727, 638926894, 506078300],
  [305687157, 610596323, 449400774, 898023084, 1000175736],
  [19213007, 14307518, 27297109, 30476931, 20058150],
  [614816224, 457840576, 873507488, 975261792, 641860800],
  [418369758, 835421589, 856918787, 917967654, 1064182636],
  [1041838567, 774300622, 239953596, 479128689, 956955851],
  [401321387, 760470358, 171382693, 342764138, 684249588],
  [487415650, 949919716, 589937384, 383250672, 766461385],
  [605571082, 438613012, 877225985, 981922818, 655182852],
  [256765342, 471858965, 942399267, 574857062, 377961452],
  [707163109, 105662186, 210545908, 420338113, 815765378],
  [185684059, 347210911, 694421783, 39326215, 77898030],
  [132203816, 223489616, 406084009, 812128082, 851749805],
  [554859743, 313810327, 627580679, 441760558, 883520380],
  [140245331, 279172751, 558304318, 303962197, 606646403],
  [366883738, 691593789, 49669491, 99315407, 156433598],
  [550817520, 329858281, 634845650, 457004941, 889097786],
  [814595251, 856684879, 916182686, 1059294261, 785848387],
  [115459854, 230895420, 420895601, 817633259, 862759670],
  [16922655, 9728023, 19416071, 13937678, 27875356],
  [541524960, 311296736, 621314272, 446005696, 892011392],
  [586423987, 401094767, 760541406, 171525525, 342273795],
  [268297057, 494921698, 947646180, 585366760, 398941648],
  [1009232901, 709842954, 109745172, 218212353, 412307458],
  [726812249, 104082875, 208165727, 415537079, 831072871],
  [630712283, 465530559, 905641079, 997317831, 645078414]]

/-- target syndrome for the 58 symbols: `crossT` minus the contribution of the version symbol -/
def Tp : Nat := 359671580

/-- `tableLit` with every vector reduced by `Tp`, in pieces -/
def QA : List (List Nat) := [
  [1, 2, 359671576, 8, 16],
  [32, 64, 128, 256, 512],
  [1024, 2048, 4096, 8192, 16384],
  [32768, 65536, 131072, 262144, 524288],
  [1048576, 2097152, 4194304, 8388608, 16777216],
  [33554432, 67108864, 134217728, 268435456, 536870912],
  [996825010, 857778545, 513874426, 674370753, 705979059],
  [178769530, 676286928, 721079480, 132234585, 223574683],
  [69525304, 139009913, 277265403, 880629219, 133096427],
  [935022193, 394458842, 954559393, 196754771, 8445331],
  [135469217, 270938434, 893142424, 311223336, 621669456],
  [482479578, 754203777, 597176883, 46450291, 948519362],
  [502406922, 738466856, 578319201, 384092130, 951650808],
  [1005602058, 838863112, 510679329, 1021318722, 1051725496],
  [434477434, 207314672, 819124184, 866455225, 937039995],
  [1060535371, 335294651, 410815858, 233699040, 825198545]]
def eX : List Nat := [118769179, 432540195, 202702155, 623456955, 668372050]
def QB : List (List Nat) := [
  [717372835, 981735275, 436750299, 151306898, 765020160],
  [579782315, 41519978, 971505625, 187635082, 27954184],
  [10936417, 21849282, 359582360, 2752264, 4710192],
  [349965344, 699177024, 64860288, 88072448, 150726144],
  [9648560, 19297097, 14436274, 349997425, 31316474],
  [308753920, 617507104, 461960768, 899009952, 1002127168],
  [532579187, 16379842, 1021809289, 62876419, 277532730],
  [1008714664, 707503728, 105105897, 210188242, 209604017],
  [744469497, 179036923, 3392483, 1030179531, 392059035],
  [207858968, 817303848, 862855760, 911786409, 1051043666],
  [350375355, 348410738, 344484800, 24427921, 7961355],
  [843928800, 915312064, 1057594240, 781693472, 254763360],
  [820428224, 465383601, 905896267, 772391306, 856148793],
  [736596034, 979324073, 249230947, 147974906, 748886224],
  [104561291, 420672298, 229976921, 831133834, 652252680],
  [254128035, 568014411, 775062939, 862283570, 190448448],
  [122178921, 610596323, 263809242, 553032112, 1000175736],
  [341118419, 363493282, 349217353, 30476931, 339883834],
  [614816224, 457840576, 873507488, 975261792, 641860800]]
def eY : List Nat := [228587458, 616276617, 856918787, 600257594, 706610288]
def QC : List (List Nat) := [
  [728307451, 995542226, 456999328, 479128689, 956955851],
  [401321387, 941882442, 524759225, 342764138, 1035532008],
  [487415650, 770619640, 589937384, 383250672, 766461385],
  [605571082, 257200904, 877225985, 981922818, 847080216],
  [440257154, 158324745, 942399267, 926136442, 66526448],
  [1062622457, 105662186, 435981288, 420338113, 815765378],
  [185684059, 29500291, 1007955467, 388511003, 299140658],
  [132203816, 223489616, 406084009, 812128082, 666143921]]
def eZ : List Nat := [878861251, 130316939, 806893595, 254057522, 567891040]
def QD : List (List Nat) := [
  [140245331, 97776019, 876030754, 124665673, 606646403],
  [366883738, 1011402017, 49669491, 278612435, 472046498],
  [550817520, 329858281, 634845650, 239956113, 889097786],
  [814595251, 645914195, 602665346, 710126377, 785848387],
  [328327186, 414386208, 420895601, 817633259, 639405546],
  [343023363, 367286027, 341336859, 363105042, 349798144],
  [541524960, 311296736, 621314272, 446005696, 892011392],
  [586423987, 43523955, 941938626, 524903049, 342273795],
  [268297057, 494921698, 755747320, 585366760, 398941648],
  [693603097, 709842954, 335196936, 218212353, 412307458],
  [726812249, 104082875, 421035075, 229945515, 620301691],
  [630712283, 248465827, 545971051, 771881947, 855849618]]

def QLit : List (List Nat) := QA ++ eX :: (QB ++ eY :: (QC ++ eZ :: QD))

/-- all groups but the three exceptional ones -/
def others : List (List Nat) := QA ++ (QB ++ (QC ++ QD))

def LXY : List (List Nat) := eX :: eY :: others
def LXZ : List (List Nat) := eX :: eZ :: others
def LYZ : List (List Nat) := eY :: eZ :: others

theorem table_eq : table N = tableLit := by decide +kernel

theorem Tp_eq : crossT ^^^ polymodFrom 1 (List.replicate N 0) = Tp := by decide +kernel

/-- `QLit` is `tableLit` reduced by `Tp` (pivot: its lowest set bit) -/
theorem reduce_eq : tableLit.map (List.map (Gf2.elim Tp 2)) = QLit := by decide +kernel

theorem piece_lengths : QA.length = 16 ∧ QB.length = 19 ∧ QC.length = 8 ∧ QD.length = 12 := by
  decide +kernel

theorem others_length : others.length = 55 := by decide +kernel

theorem patLit_eq : patLit = List.replicate 16 0 ++ valX :: (List.replicate 19 0 ++ valY ::
    (List.replicate 8 0 ++ valZ :: List.replicate 12 0)) := by decide +kernel

/-- the three exceptional groups: the only non-zero combination that vanishes modulo `Tp` is the pattern
    (all 32³ symbol triples, evaluated by the kernel) -/
def tripleCheck : Bool :=
  (List.range 32).all fun a => (List.range 32).all fun b => (List.range 32).all fun c =>
    !(Gf2.comb (Gf2.bits5 a) eX ^^^ (Gf2.comb (Gf2.bits5 b) eY ^^^ Gf2.comb (Gf2.bits5 c) eZ) == 0)
      || ((a == 0 && b == 0 && c == 0) || (a == valX && b == valY && c == valZ))

theorem tripleCheck_eq : tripleCheck = true := by decide +kernel

/-! ### the rank conditions: any three symbols among two of the exceptional groups and the ordinary ones -/

theorem others_Table : Gf2.Table 5 others := ⟨by decide +kernel, by unfold Gf2.Small; decide +kernel⟩

theorem good_others : Gf2.Good 5 3 others := Gf2.goodP_sound (by decide) others_Table (by decide +kernel)

theorem y_Table : Gf2.Table 5 (eY :: others) := others_Table.cons (by decide) (by unfold Gf2.Small; decide)

theorem z_Table : Gf2.Table 5 (eZ :: others) := others_Table.cons (by decide) (by unfold Gf2.Small; decide)

theorem good_y : Gf2.Good 5 3 (eY :: others) :=
  Gf2.Good.cons_of_headP (by decide) y_Table (by decide +kernel) good_others

theorem good_z : Gf2.Good 5 3 (eZ :: others) :=
  Gf2.Good.cons_of_headP (by decide) z_Table (by decide +kernel) good_others

theorem good_lxy : Gf2.Good 5 3 LXY :=
  Gf2.Good.cons_of_headP (by decide) (y_Table.cons (by decide) (by unfold Gf2.Small; decide)) (by decide +kernel) good_y

theorem good_lxz : Gf2.Good 5 3 LXZ :=
  Gf2.Good.cons_of_headP (by decide) (z_Table.cons (by decide) (by unfold Gf2.Small; decide)) (by decide +kernel) good_z

theorem good_lyz : Gf2.Good 5 3 LYZ :=
  Gf2.Good.cons_of_headP (by decide) (z_Table.cons (by decide) (by unfold Gf2.Small; decide)) (by decide +kernel) good_z

end Embit.Model.Bech32.Cross
