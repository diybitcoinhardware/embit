import EmbitModel.Proofs.Bip32Neuter
import EmbitModel.Proofs.PathText
import EmbitModel.Spec.Bip32Path
/-
  Path-level statements for C09X: `derive` against the BIP32 fold with bookkeeping (`Spec/Bip32Path.lean`),
  refusal of unrepresentable paths, neutering along non-hardened paths (spec level and model level).
  No Mathlib import.
-/
namespace Embit.Keys
open Embit Embit.Spec.Bip32

variable {E : EcOps}

/-! ### folds of a partial step

  The four path functions of the specification are `List.foldlM` of their step in `Option`; what is proved about
  them below is proved about such folds. -/

theorem foldlM_map {α β ι : Type} (f : α → ι → Option α) (g : β → ι → Option β) (p : α → β) (l : List ι)
    (h : ∀ a, ∀ i ∈ l, (f a i).map p = g (p a) i) : ∀ a, (l.foldlM f a).map p = l.foldlM g (p a) := by
  induction l with
  | nil => intro a; rfl
  | cons i r ih =>
    intro a
    rw [List.foldlM_cons, List.foldlM_cons, ← h a i List.mem_cons_self]
    cases f a i with
    | none => rfl
    | some c => exact ih (fun a j hj => h a j (List.mem_cons_of_mem _ hj)) c

theorem foldlM_count {α ι : Type} (f : α → ι → Option α) (m : α → Nat)
    (h : ∀ a i c, f a i = some c → m c = m a + 1) (l : List ι) :
    ∀ a r, l.foldlM f a = some r → m r = m a + l.length := by
  induction l with
  | nil => intro a r hr; cases hr; rfl
  | cons i t ih =>
    intro a r hr
    rw [List.foldlM_cons] at hr
    cases hc : f a i with
    | none => rw [hc] at hr; cases hr
    | some c =>
      rw [hc] at hr
      rw [ih c r hr, h a i c hc, List.length_cons]
      omega

theorem derivePriv_eq (hmac : Bytes → Bytes → Bytes) (p : List Nat) :
    ∀ m, derivePriv E hmac m p = p.foldlM (CKDpriv E hmac) m := by
  induction p with
  | nil => intro m; rfl
  | cons i r ih => intro m; rw [derivePriv, List.foldlM_cons]; exact congrArg _ (funext ih)

theorem derivePub_eq (hmac : Bytes → Bytes → Bytes) (p : List Nat) :
    ∀ m, derivePub E hmac m p = p.foldlM (CKDpub E hmac) m := by
  induction p with
  | nil => intro m; rfl
  | cons i r ih => intro m; rw [derivePub, List.foldlM_cons]; exact congrArg _ (funext ih)

theorem deriveNodePrv_eq (hmac : Bytes → Bytes → Bytes) (h160 : Bytes → Bytes) (p : List Nat) :
    ∀ nd, deriveNodePrv E hmac h160 nd p = p.foldlM (stepPrv E hmac h160) nd := by
  induction p with
  | nil => intro nd; rfl
  | cons i r ih => intro nd; rw [deriveNodePrv, List.foldlM_cons]; exact congrArg _ (funext ih)

theorem deriveNodePub_eq (hmac : Bytes → Bytes → Bytes) (h160 : Bytes → Bytes) (p : List Nat) :
    ∀ nd, deriveNodePub E hmac h160 nd p = p.foldlM (stepPub E hmac h160) nd := by
  induction p with
  | nil => intro nd; rfl
  | cons i r ih => intro nd; rw [deriveNodePub, List.foldlM_cons]; exact congrArg _ (funext ih)

theorem deriveNodePrv_x (hmac : Bytes → Bytes → Bytes) (h160 : Bytes → Bytes) (p : List Nat) (nd : NodePrv) :
    (deriveNodePrv E hmac h160 nd p).map (·.x) = derivePriv E hmac nd.x p := by
  rw [deriveNodePrv_eq, derivePriv_eq]
  exact foldlM_map _ _ _ p (fun a i _ => by unfold stepPrv; cases CKDpriv E hmac a.x i <;> rfl) nd

theorem deriveNodePub_x (hmac : Bytes → Bytes → Bytes) (h160 : Bytes → Bytes) (p : List Nat) (nd : NodePub E) :
    (deriveNodePub E hmac h160 nd p).map (·.x) = derivePub E hmac nd.x p := by
  rw [deriveNodePub_eq, derivePub_eq]
  exact foldlM_map _ _ _ p (fun a i _ => by unfold stepPub; cases CKDpub E hmac a.x i <;> rfl) nd

theorem deriveNodePrv_depth (hmac : Bytes → Bytes → Bytes) (h160 : Bytes → Bytes) (p : List Nat)
    (nd r : NodePrv) (h : deriveNodePrv E hmac h160 nd p = some r) : r.depth = nd.depth + p.length := by
  rw [deriveNodePrv_eq] at h
  refine foldlM_count _ (·.depth) (fun a i c hc => ?_) p nd r h
  obtain ⟨x, _, rfl⟩ := Option.map_eq_some_iff.mp hc
  rfl

theorem deriveNodePub_depth (hmac : Bytes → Bytes → Bytes) (h160 : Bytes → Bytes) (p : List Nat)
    (nd r : NodePub E) (h : deriveNodePub E hmac h160 nd p = some r) : r.depth = nd.depth + p.length := by
  rw [deriveNodePub_eq] at h
  refine foldlM_count _ (·.depth) (fun a i c hc => ?_) p nd r h
  obtain ⟨x, _, rfl⟩ := Option.map_eq_some_iff.mp hc
  rfl

def PathInRange (p : List Int) : Prop := ∀ i ∈ p, 0 ≤ i ∧ i < 2 ^ 32

def PathSoft (p : List Int) : Prop := ∀ i ∈ p, 0 ≤ i ∧ i < 2 ^ 31

theorem toNat_lt_of (i : Int) (m : Nat) (h0 : 0 ≤ i) (h : i < (2:Int) ^ m) : i.toNat < 2 ^ m := by
  have h2 : ((2:Int) ^ m) = (((2:Nat) ^ m : Nat) : Int) := by norm_cast
  rw [h2] at h
  omega

theorem derive_spec_priv (L : EcLaws E) (env : Env) (hlen : ∀ key msg, (env.hmac512 key msg).length = 64)
    (hh160 : ∀ msg, 4 ≤ (env.hash160 msg).length) (p : List Int) :
    ∀ (k : HDKey E) (pk : PrivateKey), k.key = .priv pk → pk.compressed = true →
      seckeyValid E pk.secret = true → VersionSays env k.version tPrv → PathInRange p →
      k.depth + p.length ≤ 255 →
      k.derive env p =
        (deriveNodePrv E env.hmac512 env.hash160 ⟨⟨pk.secret, k.chainCode⟩, k.depth, k.fingerprint, k.childNumber⟩
            (p.map Int.toNat)).map
          (hdOfPrv k.version (if p = [] then pk.network else Generated.privDefaultNet)) := by
  induction p with
  | nil =>
    intro k pk hk hc _ _ _ _
    obtain ⟨key, cc, ver, d, fp, cn⟩ := k
    obtain ⟨s, c, net⟩ := pk
    simp only at hk hc
    subst hk; subst hc
    rfl
  | cons i r ih =>
    intro k pk hk hc hv hA hp hd
    have hi := hp i (by simp)
    have hi32 : i.toNat < 2 ^ 32 := toNat_lt_of i 32 hi.1 hi.2
    simp only [List.length_cons] at hd
    simp only [HDKey.derive, List.map_cons, deriveNodePrv]
    rw [if_neg (by omega), if_neg (by simp)]
    rw [child_priv_node L env hlen hh160 k pk hk hc hv (by omega) hA i.toNat hi32]
    cases hs : stepPrv E env.hmac512 env.hash160 ⟨⟨pk.secret, k.chainCode⟩, k.depth, k.fingerprint, k.childNumber⟩
        i.toNat with
    | none => rfl
    | some nd =>
      unfold stepPrv at hs
      obtain ⟨x, hr, rfl⟩ := Option.map_eq_some_iff.mp hs
      simp only [Option.map_some, Option.bind_some]
      rw [ih (hdOfPrv k.version Generated.privDefaultNet
            ⟨x, k.depth + 1, fingerprint E env.hash160 (point E pk.secret), i.toNat⟩)
          ⟨x.k, true, Generated.privDefaultNet⟩ rfl rfl (CKDpriv_valid L env.hmac512 _ _ _ hr) hA
          (fun j hj => hp j (List.mem_cons_of_mem _ hj)) (by simp only [hdOfPrv]; omega)]
      simp only [hdOfPrv, ite_self]

theorem derive_spec_pub (L : EcLaws E) (env : Env) (hlen : ∀ key msg, (env.hmac512 key msg).length = 64)
    (hh160 : ∀ msg, 4 ≤ (env.hash160 msg).length) (p : List Int) :
    ∀ (k : HDKey E) (pb : PublicKey E), k.key = .pub pb → pb.compressed = true →
      VersionSays env k.version tPub → PathInRange p → k.depth + p.length ≤ 255 →
      k.derive env p =
        (deriveNodePub E env.hmac512 env.hash160 ⟨⟨pb.point, k.chainCode⟩, k.depth, k.fingerprint, k.childNumber⟩
            (p.map Int.toNat)).map (hdOfPub k.version) := by
  induction p with
  | nil =>
    intro k pb hk hc _ _ _
    obtain ⟨key, cc, ver, d, fp, cn⟩ := k
    obtain ⟨P, c⟩ := pb
    simp only at hk hc
    subst hk; subst hc
    rfl
  | cons i r ih =>
    intro k pb hk hc hA hp hd
    have hi := hp i (by simp)
    have hi32 : i.toNat < 2 ^ 32 := toNat_lt_of i 32 hi.1 hi.2
    simp only [List.length_cons] at hd
    simp only [HDKey.derive, List.map_cons, deriveNodePub]
    rw [if_neg (by omega)]
    rw [child_pub_node L env hlen hh160 k pb hk hc (by omega) hA i.toNat hi32]
    cases hs : stepPub E env.hmac512 env.hash160 ⟨⟨pb.point, k.chainCode⟩, k.depth, k.fingerprint, k.childNumber⟩
        i.toNat with
    | none => rfl
    | some nd =>
      unfold stepPub at hs
      obtain ⟨x, hr, rfl⟩ := Option.map_eq_some_iff.mp hs
      simp only [Option.map_some, Option.bind_some]
      rw [ih (hdOfPub k.version _) ⟨x.K, true⟩ rfl rfl hA (fun j hj => hp j (List.mem_cons_of_mem _ hj))
          (by simp only [hdOfPub]; omega)]
      rfl

theorem derive_out_of_range (env : Env) (p : List Int) :
    ∀ k : HDKey E, (∃ i ∈ p, i < 0 ∨ 2 ^ 32 ≤ i) → k.derive env p = none := by
  induction p with
  | nil => intro k ⟨i, hi, _⟩; cases hi
  | cons j r ih =>
    intro k ⟨i, hi, hbad⟩
    simp only [HDKey.derive]
    split
    · rfl
    · rename_i hj
      cases hc : k.child env j.toNat with
      | none => rfl
      | some c =>
        rcases List.mem_cons.mp hi with rfl | hir
        · exfalso
          rcases hbad with hb | hb
          · omega
          · have hge : 2 ^ 32 ≤ i.toNat := by
              have h2 : ((2:Int) ^ 32) = (((2:Nat) ^ 32 : Nat) : Int) := by norm_cast
              rw [h2] at hb
              omega
            unfold HDKey.child at hc
            rw [if_pos (by omega)] at hc
            cases hc
        · exact ih c ⟨i, hir, hbad⟩

theorem derive_too_deep (env : Env) (p : List Int) :
    ∀ k : HDKey E, 255 < k.depth + p.length → p ≠ [] → k.derive env p = none := by
  induction p with
  | nil => intro k _ h; exact absurd rfl h
  | cons j r ih =>
    intro k hd _
    simp only [HDKey.derive]
    split
    · rfl
    · cases hc : k.child env j.toNat with
      | none => rfl
      | some c =>
        have hdep := (child_fields env k c j.toNat false hc).2.1
        by_cases h255 : 255 ≤ k.depth
        · rw [child_depth_overflow env k h255] at hc; cases hc
        · cases r with
          | nil => simp only [List.length_cons, List.length_nil] at hd; omega
          | cons a t =>
            apply ih c _ (by simp)
            simp only [List.length_cons] at hd ⊢
            omega

theorem N_derive (L : EcLaws E) (hmac : Bytes → Bytes → Bytes) (p : List Nat) (hp : ∀ i ∈ p, i < 2 ^ 31)
    (m : XPrv) : (derivePriv E hmac m p).map (N E) = derivePub E hmac (N E m) p := by
  rw [derivePriv_eq, derivePub_eq]
  exact foldlM_map _ _ _ p (fun a i hi => N_CKDpriv L hmac a i (hp i hi)) m

theorem neuter_stepPrv (L : EcLaws E) (hmac : Bytes → Bytes → Bytes) (h160 : Bytes → Bytes) (nd : NodePrv)
    (i : Nat) (hi : i < 2 ^ 31) :
    (stepPrv E hmac h160 nd i).map (NodePrv.neuter E) = stepPub E hmac h160 (nd.neuter E) i := by
  unfold stepPrv stepPub
  simp only [NodePrv.neuter]
  rw [← N_CKDpriv L hmac nd.x i hi]
  cases CKDpriv E hmac nd.x i with
  | none => rfl
  | some x => simp [N, NodePrv.neuter]

theorem neuter_deriveNode (L : EcLaws E) (hmac : Bytes → Bytes → Bytes) (h160 : Bytes → Bytes) (p : List Nat)
    (hp : ∀ i ∈ p, i < 2 ^ 31) (nd : NodePrv) :
    (deriveNodePrv E hmac h160 nd p).map (NodePrv.neuter E) = deriveNodePub E hmac h160 (nd.neuter E) p := by
  rw [deriveNodePrv_eq, deriveNodePub_eq]
  exact foldlM_map _ _ _ p (fun a i hi => neuter_stepPrv L hmac h160 a i (hp i hi)) nd

theorem child_priv_wf (L : EcLaws E) (env : Env) (hlen : ∀ key msg, (env.hmac512 key msg).length = 64)
    (hh160 : ∀ msg, 4 ≤ (env.hash160 msg).length)
    (k : HDKey E) (pk : PrivateKey) (hk : k.key = .priv pk) (hc : pk.compressed = true)
    (hv : seckeyValid E pk.secret = true) (i : Nat) (hi : i < 2 ^ 32) (c : HDKey E)
    (hch : k.child env i = some c) :
    ∃ pk', c.key = .priv pk' ∧ pk'.compressed = true ∧ seckeyValid E pk'.secret = true ∧
      c.chainCode.length = 32 ∧ c.fingerprint.length = 4 ∧ c.childNumber < 2 ^ 32 ∧ c.version = k.version := by
  rw [child_priv L env hlen k pk hk hc hv i hi] at hch
  cases hr : CKDpriv E env.hmac512 ⟨pk.secret, k.chainCode⟩ i with
  | none => simp [hr] at hch
  | some r =>
    simp only [hr, Option.bind_some] at hch
    have := init_fields env _ _ _ _ _ _ _ hch
    subst this
    exact ⟨_, rfl, rfl, CKDpriv_valid L env.hmac512 _ _ _ hr, CKDpriv_cc_length env.hmac512 hlen _ i r hr,
      fingerprint_length env.hash160 hh160 _, hi, rfl⟩

theorem derive_cons_bind (env : Env) (k : HDKey E) (i : Int) (r : List Int) (h0 : 0 ≤ i) :
    k.derive env (i :: r) = (k.child env i.toNat).bind (fun c => c.derive env r) := by
  simp only [HDKey.derive]
  rw [if_neg (by omega)]
  cases k.child env i.toNat <;> rfl

/-- derive-then-neuter equals neuter-then-derive along every non-hardened path, failure cases included -/
theorem neuter_commutes_path_gen (L : EcLaws E) (env : Env) (hlen : ∀ key msg, (env.hmac512 key msg).length = 64)
    (hh160 : ∀ msg, 4 ≤ (env.hash160 msg).length) (ver : Bytes) (hA : VersionSays env ver tPrv)
    (hB : ∀ pv, detectPubVersion ver = some pv → VersionSays env pv tPub) (p : List Int) :
    ∀ (k : HDKey E) (pk : PrivateKey), k.key = .priv pk → pk.compressed = true →
      seckeyValid E pk.secret = true → k.chainCode.length = 32 → k.fingerprint.length = 4 →
      k.childNumber < 2 ^ 32 → k.version = ver → PathSoft p →
      (k.derive env p).bind (fun c => c.toPublic env) = (k.toPublic env).bind (fun K => K.derive env p) := by
  induction p with
  | nil =>
    intro k pk _ _ _ _ _ _ _ _
    simp only [HDKey.derive, Option.bind_some]
    cases k.toPublic env <;> rfl
  | cons i r ih =>
    intro k pk hk hc hv hcc hfp hcn hver hp
    have hi := hp i (by simp)
    have hi31 : i.toNat < 2 ^ 31 := toNat_lt_of i 31 hi.1 hi.2
    have hi32 : i.toNat < 2 ^ 32 := by omega
    rw [derive_cons_bind env k i r hi.1, Option.bind_assoc]
    have hstep : ∀ c, k.child env i.toNat = some c →
        (c.derive env r).bind (fun c => c.toPublic env) = (c.toPublic env).bind (fun K => K.derive env r) := by
      intro c hch
      obtain ⟨pk', hk', hc', hv', hcc', hfp', hcn', hver'⟩ :=
        child_priv_wf L env hlen hh160 k pk hk hc hv i.toNat hi32 c hch
      exact ih c pk' hk' hc' hv' hcc' hfp' hcn' (by rw [hver', hver]) (fun j hj => hp j (by simp [hj]))
    have h1 : (k.child env i.toNat).bind (fun c => (c.derive env r).bind (fun c => c.toPublic env))
        = (k.child env i.toNat).bind (fun c => (c.toPublic env).bind (fun K => K.derive env r)) := by
      cases hch : k.child env i.toNat with
      | none => rfl
      | some c => simp only [Option.bind_some]; exact hstep c hch
    rw [h1, ← Option.bind_assoc]
    rw [neuter_commutes_gen L env hlen hh160 k pk hk hc hv hcc hfp hcn (by rw [hver]; exact hA)
      (by rw [hver]; exact hB) i.toNat hi31]
    rw [Option.bind_assoc]
    congr 1
    funext K
    exact (derive_cons_bind env K i r hi.1).symm

end Embit.Keys
