import EmbitModel.Proofs.MiniscriptTyping
import EmbitModel.Model.MiniscriptX
/-
  C13 helper lemmas, part 2: embit's `compile()` (model, byte level) against the specification's script
  template (element level, then serialised).
-/
namespace Embit.Miniscript
open Embit.Model.Miniscript Embit.Spec.Miniscript

/-! ### numbers: `Number.compile` = OP_n / minimal CScriptNum push -/

theorem minLEAux_eq_nil {f n : Nat} (h : n ≤ f) : minLEAux f n = [] ↔ n = 0 := by
  cases f with
  | zero => simp [minLEAux]; omega
  | succ f => unfold minLEAux; split <;> simp_all

theorem ofNat_ne_zero {n : Nat} (h0 : n ≠ 0) (h : n < 256) : (UInt8.ofNat n == 0) = false := by
  have : (UInt8.ofNat n).toNat = n := by simp [UInt8.toNat_ofNat']; omega
  rw [beq_eq_false_iff_ne]
  intro e
  rw [e] at this
  simp at this; omega

theorem rstrip0_leN (k : Nat) : ∀ n f, n < 256 ^ k → n ≤ f → rstrip0 (leN k n) = minLEAux f n := by
  induction k with
  | zero =>
    intro n f h _
    have : n = 0 := by simpa using h
    subst this
    cases f <;> simp [leN, rstrip0, minLEAux]
  | succ k ih =>
    intro n f h hf
    have h2 : n / 256 < 256 ^ k := by
      rw [Nat.div_lt_iff_lt_mul (by decide)]; rw [Nat.pow_succ] at h; exact h
    by_cases hn : n = 0
    · subst hn
      have := ih 0 0 (by simpa using h2) (Nat.le_refl 0)
      simp only [leN, rstrip0, Nat.zero_div, Nat.zero_mod, this]
      cases f <;> simp [minLEAux]
    · obtain ⟨f', rfl⟩ : ∃ f', f = f' + 1 := ⟨f - 1, by omega⟩
      have hf' : n / 256 ≤ f' := by
        have : n / 256 < n := Nat.div_lt_self (by omega) (by decide)
        omega
      have e := ih (n / 256) f' h2 hf'
      simp only [leN, rstrip0, e, minLEAux, hn, if_false]
      by_cases hq : n / 256 = 0
      · have hlt : n < 256 := by
          rcases Nat.lt_or_ge n 256 with h | h
          · exact h
          · have : 0 < n / 256 := Nat.div_pos h (by decide)
            omega
        have hm : n % 256 = n := Nat.mod_eq_of_lt hlt
        rw [hm, ofNat_ne_zero hn hlt]; simp
      · have : minLEAux f' (n / 256) ≠ [] := by
          intro c; exact hq ((minLEAux_eq_nil hf').mp c)
        cases hh : minLEAux f' (n / 256) with
        | nil => exact absurd hh this
        | cons a as => simp

theorem rstrip0_length_le (b : Bytes) : (rstrip0 b).length ≤ b.length := by
  induction b with
  | nil => simp [rstrip0]
  | cons x xs ih => simp only [rstrip0]; split <;> simp <;> omega

theorem numCompile_eq_pushNum (n : Nat) (h : n < 2 ^ 256) : numCompile n = pushNum n := by
  unfold numCompile pushNum
  by_cases h0 : n = 0
  · simp [h0]
  · by_cases h16 : n ≤ 16
    · simp [h0, h16]
    · simp only [h0, h16, if_false]
      have hk : n < 256 ^ 32 := by
        have : (256:Nat) ^ 32 = 2 ^ 256 := by decide
        omega
      have e := rstrip0_leN 32 n n hk (Nat.le_refl n)
      have hl : (minLEAux n n).length ≤ 32 := by
        rw [← e]; have := rstrip0_length_le (leN 32 n); simpa using this
      unfold scriptNum pushData
      rw [e]
      rcases hg : (minLEAux n n).getLast? with _ | l
      · simp only [hg]; rw [if_pos (by omega)]
      · simp only [hg]
        by_cases hs : l.toNat ≥ 128
        · simp only [hs, if_true]; rw [if_pos (by simp; omega)]
        · simp only [hs, if_false]; rw [if_pos (by omega)]

theorem pushCompact_eq_cons (d : Bytes) (h : d.length < 253) : pushCompact d = UInt8.ofNat d.length :: d := by
  unfold pushCompact Compact.enc
  rw [if_pos (by omega)]; rfl

theorem pushCompact_eq_pushData (d : Bytes) (h : d.length < 76) : pushCompact d = pushData d := by
  rw [pushCompact_eq_cons d (by omega)]
  unfold pushData
  rw [if_pos (by omega)]

@[simp] theorem serScript_nil : serScript [] = [] := rfl
@[simp] theorem serScript_append (a b : List Elem) : serScript (a ++ b) = serScript a ++ serScript b := by
  simp [serScript]
@[simp] theorem serScript_cons (e : Elem) (s : List Elem) : serScript (e :: s) = e.ser ++ serScript s := by
  simp [serScript]

/-! ### ordering the pushes orders the keys

  embit sorts the PUSHES (`sorted(k.compile() …)`, length byte first), the specification sorts the KEYS; the two
  agree when the order of any two pushes is the order of their keys (`pushOrderOk`). -/

theorem bytesLe_cons_same (c : UInt8) (a b : Bytes) : bytesLe (c :: a) (c :: b) = bytesLe a b := by
  simp [bytesLe, UInt8.lt_irrefl]

theorem mem_insertSorted {x y : Bytes} {l : List Bytes} : y ∈ insertSorted x l ↔ y = x ∨ y ∈ l := by
  induction l with
  | nil => simp [insertSorted]
  | cons z zs ih =>
    unfold insertSorted
    split
    · simp
    · simp [ih]; constructor
      · rintro (h | h | h) <;> simp [h]
      · rintro (h | h | h) <;> simp [h]

theorem mem_sortBytes {y : Bytes} {l : List Bytes} : y ∈ sortBytes l ↔ y ∈ l := by
  induction l with
  | nil => simp [sortBytes]
  | cons x xs ih => simp [sortBytes, mem_insertSorted, ih]

theorem insertSorted_map (f : Bytes → Bytes) (x : Bytes) (l : List Bytes)
    (h : ∀ y ∈ l, bytesLe (f x) (f y) = bytesLe x y) :
    insertSorted (f x) (l.map f) = (insertSorted x l).map f := by
  induction l with
  | nil => rfl
  | cons y ys ih =>
    simp only [List.map_cons, insertSorted, h y (by simp)]
    split
    · rfl
    · simp [ih (fun z hz => h z (by simp [hz]))]

/-- sorting commutes with a map that keeps the order of the elements of the list -/
theorem sortBytes_map (f : Bytes → Bytes) (l : List Bytes)
    (h : ∀ a ∈ l, ∀ b ∈ l, bytesLe (f a) (f b) = bytesLe a b) :
    sortBytes (l.map f) = (sortBytes l).map f := by
  induction l with
  | nil => rfl
  | cons x xs ih =>
    simp only [List.map_cons, sortBytes]
    rw [ih (fun a ha b hb => h a (by simp [ha]) b (by simp [hb]))]
    exact insertSorted_map f x (sortBytes xs)
      (fun y hy => h x (by simp) y (by simp [mem_sortBytes.mp hy]))

theorem sort_pushesW (keys : List Bytes) (h : pushOrderOk keys = true) :
    sortBytes (keys.map pushCompact) = (sortBytes keys).map pushCompact := by
  apply sortBytes_map
  intro a ha b hb
  simp only [pushOrderOk, List.all_eq_true, beq_iff_eq] at h
  exact h a ha b hb

theorem sameLen_length {keys : List Bytes} (hs : sameLen keys = true) {a b : Bytes} (ha : a ∈ keys) (hb : b ∈ keys) :
    a.length = b.length := by
  cases keys with
  | nil => cases ha
  | cons k ks =>
    simp only [sameLen, List.all_eq_true, beq_iff_eq] at hs
    have hk : ∀ x ∈ k :: ks, x.length = k.length := fun x hx => by
      rcases List.mem_cons.mp hx with rfl | hx
      · rfl
      · exact hs x hx
    rw [hk a ha, hk b hb]

/-- keys of one length below 253 have one length byte: the pushes are ordered as the keys are -/
theorem pushOrderOk_of_sameLen (keys : List Bytes) (hs : sameLen keys = true) (hl : ∀ a ∈ keys, a.length < 253) :
    pushOrderOk keys = true := by
  simp only [pushOrderOk, List.all_eq_true, beq_iff_eq]
  intro a ha b hb
  rw [pushCompact_eq_cons a (hl a ha), pushCompact_eq_cons b (hl b hb), sameLen_length hs ha hb, bytesLe_cons_same]

/-! ### the `v:` wrapper: byte-level folding = opcode-level folding -/

/-- the last script element is an opcode, or the number 0 or 1 -/
def vOk (s : List Elem) : Bool :=
  match s.getLast? with
  | some (.op _) => true
  | some (.num n) => decide (n ≤ 1)
  | _ => false

theorem eq_dropLast_append_of_getLast? {α : Type} (l : List α) (a : α) (h : l.getLast? = some a) :
    l = l.dropLast ++ [a] := by
  have hne : l ≠ [] := by intro c; subst c; simp at h
  have h2 := List.getLast?_eq_some_getLast hne
  rw [h2] at h
  have h3 : l.getLast hne = a := Option.some.inj h
  rw [← h3]
  exact (List.dropLast_concat_getLast hne).symm

theorem vOk_append (a b : List Elem) (h : vOk b = true) : vOk (a ++ b) = true := by
  unfold vOk at *
  rw [List.getLast?_append]
  cases hb : b.getLast? with
  | none => simp [hb] at h
  | some e => simpa [hb] using h

theorem verifyVersion_code (o : Op) :
    (match verifyVersion o with
      | some ov => (o.code == 0xac || o.code == 0xae || o.code == 0x9c || o.code == 0x87) = true ∧ ov.code = o.code + 1
      | none => (o.code == 0xac || o.code == 0xae || o.code == 0x9c || o.code == 0x87) = false) := by
  cases o <;> simp [verifyVersion, Op.code] <;> decide

theorem vCompile_ser (s : List Elem) (h : vOk s = true) : vCompile (serScript s) = serScript (addVerify s) := by
  unfold vOk at h
  cases hl : s.getLast? with
  | none => simp [hl] at h
  | some el =>
    have hs : s = s.dropLast ++ [el] := eq_dropLast_append_of_getLast? s el hl
    generalize s.dropLast = init at hs
    subst hs
    have hd : (init ++ [el]).dropLast = init := by simp
    cases el with
    | push d => simp [hl] at h
    | op o =>
      have hv := verifyVersion_code o
      unfold addVerify
      simp only [hl, hd]
      unfold vCompile
      have e1 : serScript (init ++ [Elem.op o]) = serScript init ++ [o.code] := by simp [Elem.ser]
      rw [e1]
      have e2 : (serScript init ++ [o.code]).getLast? = some o.code := by simp
      have e3 : (serScript init ++ [o.code]).dropLast = serScript init := by simp
      simp only [e2, e3]
      cases hvv : verifyVersion o with
      | none =>
        rw [hvv] at hv
        simp only [hv]
        simp [Elem.ser, Op.code]
      | some ov =>
        rw [hvv] at hv
        simp only [hv.1, if_true]
        simp [Elem.ser, hv.2]
    | num n =>
      simp [hl] at h
      unfold addVerify
      simp only [hl]
      unfold vCompile
      have hn : n = 0 ∨ n = 1 := by omega
      rcases hn with rfl | rfl
      · have e1 : serScript (init ++ [Elem.num 0]) = serScript init ++ [0x00] := by simp [Elem.ser, pushNum]
        have e2 : (serScript init ++ [(0x00 : UInt8)]).getLast? = some 0x00 := by simp
        rw [e1]; simp only [e2]
        simp [Elem.ser, Op.code, pushNum]
      · have e1 : serScript (init ++ [Elem.num 1]) = serScript init ++ [0x51] := by simp [Elem.ser, pushNum]
        have e2 : (serScript init ++ [(0x51 : UInt8)]).getLast? = some 0x51 := by simp
        rw [e1]; simp only [e2]
        simp [Elem.ser, Op.code, pushNum]

/-- an expression of base type B ends in an opcode (or in the `1` of `t:`) -/
theorem vOk_of_B : ∀ e, type e = .B → vOk (script (desugar e)) = true := by
  intro e
  induction e using Ms.ind with
  | key f a => cases f <;> simp [type, Gen.Ms.keyType, desugar, script, vOk]
  | time f n => cases f <;> simp [desugar, script, vOk]
  | hash f h => simp [desugar, script, vOk]
  | andor x y z _ _ _ => intro _; simp only [desugar, script]; exact vOk_append _ _ (by rfl)
  | bin f x y _ ihy =>
    cases f <;> simp only [type, binType, Gen.Ms.binStaticType, desugar, script]
    · intro h; exact vOk_append _ _ (ihy h)
    all_goals first
      | (intro _; exact vOk_append _ _ (by rfl))
      | simp
  | thresh k xs _ =>
    intro _
    simp only [desugar, script]
    split
    · rfl
    · exact vOk_append _ _ (by rfl)
  | multi f k keys =>
    intro _
    cases f <;> simp only [desugar, script]
    · exact vOk_append _ _ (by rfl)
    · exact vOk_append _ _ (by rfl)
    · split
      · rfl
      · exact vOk_append _ _ (by rfl)
    · split
      · rfl
      · exact vOk_append _ _ (by rfl)
  | wrap w x _ =>
    cases w <;> simp only [type, Gen.Ms.wrapType, desugar, script]
    all_goals first
      | (intro _; exact vOk_append _ _ (by rfl))
      | simp

theorem flatMap_append_byte (cs : List (List Elem)) (b : UInt8) (o : Op) (hb : o.code = b) :
    (cs.map serScript).flatMap (fun c => c ++ [b]) = serScript ((cs.map (fun s => s ++ [Elem.op o])).flatten) := by
  induction cs with
  | nil => rfl
  | cons c cs ih => simp [ih, Elem.ser, hb]

theorem addChain_eq (ss : List (List Elem)) :
    addChain ss = (ss.map (fun s => s ++ [Elem.op .ADD])).flatten := by
  induction ss with
  | nil => rfl
  | cons s ss ih => simp [addChain, ih]

theorem sigAddChain_ser (ks : List Bytes) (h : ∀ a ∈ ks, a.length < 76) :
    serScript (sigAddChain ks) = (ks.map pushCompact).flatMap (fun c => c ++ [0xba]) := by
  induction ks with
  | nil => rfl
  | cons k ks ih =>
    have hk := h k (by simp)
    simp [sigAddChain, Elem.ser, Op.code, pushCompact_eq_pushData k hk, ih (fun a ha => h a (by simp [ha]))]

theorem pushes_ser (ks : List Bytes) (h : ∀ a ∈ ks, a.length < 76) :
    serScript (ks.map Elem.push) = (ks.map pushCompact).flatten := by
  induction ks with
  | nil => rfl
  | cons k ks ih =>
    have hk := h k (by simp)
    simp [Elem.ser, pushCompact_eq_pushData k hk, ih (fun a ha => h a (by simp [ha]))]

theorem num_small (n : Nat) (h : n < 2 ^ 31) : numCompile n = pushNum n :=
  numCompile_eq_pushNum n (by
    have : (2:Nat) ^ 31 < 2 ^ 256 := by decide
    omega)

/-- `multi` / `sortedmulti` over the keys in the order they are pushed -/
theorem checkmultisig_ser (k : Nat) (keys : List Bytes) (hk : k < 2 ^ 256) (hn : keys.length < 2 ^ 256)
    (hlen : ∀ a ∈ keys, a.length < 76) :
    numCompile k ++ (keys.map pushCompact).flatten ++ numCompile keys.length ++ [0xae] =
      serScript (script (.multi k keys)) := by
  simp [script, Elem.ser, Op.code, numCompile_eq_pushNum k hk, numCompile_eq_pushNum _ hn, pushes_ser keys hlen]

/-- the body shared by `MultiA.inner_compile` and `SortedmultiA.inner_compile`, over the pushes in their order -/
def sigAddBytes (k : Nat) : List Bytes → Bytes
  | [] => []
  | c1 :: rest => c1 ++ [0xac] ++ rest.flatMap (fun c => c ++ [0xba]) ++ numCompile k ++ [0x9c]

theorem multiCompile_multi_a (k : Nat) (keys : List Bytes) :
    multiCompile .multi_a k keys = sigAddBytes k (keys.map pushCompact) := rfl

theorem multiCompile_sortedmulti_a (k : Nat) (keys : List Bytes) :
    multiCompile .sortedmulti_a k keys = sigAddBytes k (sortBytes (keys.map pushCompact)) := rfl

/-- `multi_a` / `sortedmulti_a` over the keys in the order they are pushed -/
theorem checksigadd_ser (k : Nat) (keys : List Bytes) (hk : k < 2 ^ 256) (hne : keys ≠ [])
    (hlen : ∀ a ∈ keys, a.length < 76) :
    sigAddBytes k (keys.map pushCompact) = serScript (script (.multi_a k keys)) := by
  cases keys with
  | nil => exact absurd rfl hne
  | cons k1 rest =>
    have hr : ∀ a ∈ rest, a.length < 76 := fun a h => hlen a (by simp [h])
    simp [sigAddBytes, script, Elem.ser, Op.code, numCompile_eq_pushNum k hk,
      pushCompact_eq_pushData k1 (hlen k1 (by simp)), sigAddChain_ser rest hr]

/-- COMPILE = TEMPLATE, for every expression whose `verify()` passes; `argsOkW`: pushes are direct pushes, the `k` of
    a `thresh` is in range, and the keys of a `sortedmulti*` are ordered as their pushes -/
theorem compile_eqW (ctx : Ctx) :
    ∀ e : Ms, e.argsOkW = true → verify ctx e = true → compile e = serScript (script (desugar e)) := by
  intro e
  induction e using Ms.ind₂
    (Q := fun xs => Ms.argsOkWL xs = true → verifyL ctx xs = true →
      compileL xs = (scriptL (desugarL xs)).map serScript) with
  | key f a =>
    intro ha _
    simp only [Ms.argsOkW, decide_eq_true_eq] at ha
    cases f <;>
      simp [compile, keyCompile, desugar, script, Elem.ser, Op.code, pushCompact_eq_pushData a ha]
  | time f n =>
    intro _ hv
    simp only [verify, Bool.not_eq_true', Bool.or_eq_false_iff, decide_eq_false_iff_not] at hv
    have hn : n < 2 ^ 31 := by
      have : (2:Nat) ^ 31 = 0x80000000 := by decide
      omega
    cases f <;> simp [compile, desugar, script, Elem.ser, Op.code, timeOp, num_small n hn]
  | hash f h =>
    intro ha _
    simp only [Ms.argsOkW, decide_eq_true_eq] at ha
    have h32 : numCompile 32 = pushNum 32 := num_small 32 (by decide)
    cases f <;>
      simp [compile, desugar, script, Elem.ser, Op.code, Model.Miniscript.hashOp, Spec.Miniscript.hashOp,
        pushCompact_eq_pushData h ha, h32]
  | andor x y z ihx ihy ihz =>
    intro ha hv
    simp only [Ms.argsOkW, verify, Bool.and_eq_true] at ha hv
    simp [compile, desugar, script, Elem.ser, Op.code, ihx ha.1.1 hv.1.1.1, ihy ha.1.2 hv.1.1.2, ihz ha.2 hv.1.2]
  | bin f x y ihx ihy =>
    intro ha hv
    simp only [Ms.argsOkW, verify, Bool.and_eq_true] at ha hv
    have h0 : numCompile 0 = pushNum 0 := num_small 0 (by decide)
    cases f <;>
      simp [compile, binCompile, desugar, script, Elem.ser, Op.code, ihx ha.1 hv.1.1, ihy ha.2 hv.1.2, h0]
  | thresh k xs ih =>
    intro ha hv
    simp only [Ms.argsOkW, verify, Bool.and_eq_true, decide_eq_true_eq] at ha hv
    have hk := numCompile_eq_pushNum k ha.1
    simp only [compile, desugar, script, ih ha.2 hv.1]
    cases hs : scriptL (desugarL xs) with
    | nil =>
      -- no sub-expression: `verify` is false
      have : tpL ctx xs = [] := by
        have : xs = [] := by
          cases xs with
          | nil => rfl
          | cons a as => simp [desugarL, scriptL] at hs
        subst this; rfl
      simp [threshVerify, this] at hv
    | cons s1 rest =>
      simp only [List.map_cons, threshCompile]
      rw [flatMap_append_byte rest 0x93 .ADD rfl, addChain_eq]
      simp [Elem.ser, Op.code, hk]
  | multi f k keys =>
    intro ha hv
    simp only [Ms.argsOkW, Bool.and_eq_true, List.all_eq_true, decide_eq_true_eq] at ha
    have hlen := ha.1
    have hkn : k < 2 ^ 256 ∧ keys.length < 2 ^ 256 ∧ keys ≠ [] := by
      have : (999 : Nat) < 2 ^ 256 := by decide
      cases f <;> simp [verify, multiVerify, Gen.Ms.multiMaxKeys] at hv <;>
        (refine ⟨by omega, by omega, ?_⟩; intro c; subst c; simp at hv)
    have hlen' : ∀ a ∈ sortBytes keys, a.length < 76 := fun a h => hlen a (mem_sortBytes.mp h)
    have hne' : sortBytes keys ≠ [] := fun c =>
      hkn.2.2 (List.length_eq_zero_iff.mp (by rw [← sortBytes_length keys, c]; rfl))
    cases f
    · exact checkmultisig_ser k keys hkn.1 hkn.2.1 hlen
    · simp only [compile, multiCompile, desugar]
      rw [sort_pushesW keys ha.2, ← sortBytes_length keys]
      exact checkmultisig_ser k _ hkn.1 (by rw [sortBytes_length]; exact hkn.2.1) hlen'
    · exact checksigadd_ser k keys hkn.1 hkn.2.2 hlen
    · simp only [compile, multiCompile_sortedmulti_a, desugar, sort_pushesW keys ha.2]
      exact checksigadd_ser k _ hkn.1 hne' hlen'
  | wrap w x ih =>
    intro ha hv
    simp only [Ms.argsOkW, verify, Bool.and_eq_true] at ha hv
    have hx := ih ha hv.1
    have h0 : numCompile 0 = pushNum 0 := num_small 0 (by decide)
    have h1 : numCompile 1 = pushNum 1 := num_small 1 (by decide)
    cases w
    case v =>
      have hB : type x = .B := by simpa [wrapVerify] using hv.2
      simp only [compile, wrapCompile, desugar, script, hx]
      exact vCompile_ser _ (vOk_of_B x hB)
    all_goals simp [compile, wrapCompile, desugar, script, Elem.ser, Op.code, hx, h0, h1]
  | nil => rfl
  | cons x xs ihx ihxs =>
    rename_i ha hv
    simp only [Ms.argsOkWL, verifyL, Bool.and_eq_true] at ha hv
    simp only [compileL, desugarL, scriptL, List.map_cons, ihx ha.1 hv.1, ihxs ha.2 hv.2]

/-- the one-length condition of `argsOk` on `sortedmulti*` keys implies the exact one -/
theorem argsOkW_of_argsOk : ∀ e : Ms, e.argsOk = true → e.argsOkW = true := by
  intro e
  induction e using Ms.ind₂ (Q := fun xs => Ms.argsOkL xs = true → Ms.argsOkWL xs = true) with
  | key _ _ => exact id
  | time _ _ => exact id
  | hash _ _ => exact id
  | andor x y z ihx ihy ihz =>
    simp only [Ms.argsOk, Ms.argsOkW, Bool.and_eq_true]
    exact fun h => ⟨⟨ihx h.1.1, ihy h.1.2⟩, ihz h.2⟩
  | bin f x y ihx ihy =>
    simp only [Ms.argsOk, Ms.argsOkW, Bool.and_eq_true]
    exact fun h => ⟨ihx h.1, ihy h.2⟩
  | thresh k xs ih =>
    simp only [Ms.argsOk, Ms.argsOkW, Bool.and_eq_true]
    exact fun h => ⟨h.1, ih h.2⟩
  | multi f k keys =>
    intro h
    simp only [Ms.argsOk, Bool.and_eq_true, List.all_eq_true, decide_eq_true_eq] at h
    have ho : sameLen keys = true → pushOrderOk keys = true :=
      fun hs => pushOrderOk_of_sameLen keys hs fun a ha => by have := h.1 a ha; omega
    cases f <;> simp_all [Ms.argsOkW]
  | wrap w x ih => exact ih
  | nil => rfl
  | cons x xs ihx ihxs =>
    rename_i h
    simp only [Ms.argsOkL, Ms.argsOkWL, Bool.and_eq_true] at h ⊢
    exact ⟨ihx h.1, ihxs h.2⟩

theorem compile_eq (ctx : Ctx) (e : Ms) (ha : e.argsOk = true) (hv : verify ctx e = true) :
    compile e = serScript (script (desugar e)) :=
  compile_eqW ctx e (argsOkW_of_argsOk e ha) hv

end Embit.Miniscript
