import EmbitModel.Spec.Wire
import EmbitModel.Proofs.Codec
/-
  Helper lemmas for C03: each field codec is inverted by its reader, and each reader is sound
  (accepts only encodings of well-formed values).
-/
namespace Embit
open Model Spec.Wire

theorem scriptSer_eq (d : Bytes) : scriptSer d = varStr d := rfl

theorem scriptRead_ser (d r : Bytes) (h : d.length < 2^64) :
    scriptRead (scriptSer d ++ r) = some (d, r) := by
  simp [scriptRead, scriptSer, List.append_assoc, Compact.read_enc _ _ h, takeN_append]

theorem scriptRead_sound {b d r : Bytes} (h : scriptRead b = some (d, r)) :
    b = scriptSer d ++ r ∧ d.length < 2^64 := by
  unfold scriptRead at h
  split at h
  · rename_i l r1 hl
    obtain ⟨hb, hlt⟩ := Compact.read_sound hl
    obtain ⟨hr, hlen⟩ := takeN_sound h
    subst hlen
    refine ⟨?_, hlt⟩
    simp [scriptSer, hb, hr, List.append_assoc]
  · simp at h

theorem witnessRead_ser (w : List Bytes) (r : Bytes) (hn : w.length < 2^64)
    (hi : ∀ d ∈ w, d.length < 2^64) :
    witnessRead (witnessSer w ++ r) = some (w, r) := by
  simp only [witnessRead, witnessSer, List.append_assoc, Compact.read_enc _ _ hn]
  exact readMany_enc scriptRead scriptSer w r (fun d hd r => scriptRead_ser d r (hi d hd))

theorem witnessRead_sound {b r : Bytes} {w : List Bytes} (h : witnessRead b = some (w, r)) :
    b = witnessSer w ++ r ∧ w.length < 2^64 ∧ ∀ d ∈ w, d.length < 2^64 := by
  unfold witnessRead at h
  split at h
  · rename_i n r1 hn
    obtain ⟨hb, hlt⟩ := Compact.read_sound hn
    obtain ⟨hr, hlen, hall⟩ :=
      readMany_sound scriptRead scriptSer (fun d => d.length < 2^64)
        (fun b x r hx => scriptRead_sound hx) _ _ _ _ h
    subst hlen
    refine ⟨?_, hlt, hall⟩
    simp [witnessSer, hb, hr, List.append_assoc]
  · simp at h

theorem witnessRead_exact :
    ExactRead witnessRead witnessSer (fun w => w.length < 2^64 ∧ ∀ d ∈ w, d.length < 2^64) :=
  ⟨fun w r h => witnessRead_ser w r h.1 h.2, witnessRead_sound⟩

theorem TxIn.ser_eq (i : TxIn) : TxIn.ser i = encIn i := by
  simp [TxIn.ser, encIn, outpoint, scriptSer, varStr, List.append_assoc]

theorem TxOut.ser_eq (o : TxOut) : TxOut.ser o = encOut o := rfl

theorem witnessSer_eq (w : List Bytes) : witnessSer w = encWitness w := rfl

theorem TxIn.read_ser (i : TxIn) (r : Bytes) (h : WFIn i) :
    TxIn.read (TxIn.ser i ++ r) = some ({ i with witness := [] }, r) := by
  have h32 : (i.txid.reverse).length = 32 := by simp [h.txid]
  have t1 := takeN_append i.txid.reverse
    (leN 4 i.vout ++ (scriptSer i.scriptSig ++ (leN 4 i.sequence ++ r)))
  rw [h32] at t1
  have t2 := readLe_leN 4 i.vout (scriptSer i.scriptSig ++ (leN 4 i.sequence ++ r))
    (by have := h.vout; omega)
  have t3 := scriptRead_ser i.scriptSig (leN 4 i.sequence ++ r) h.script
  have t4 := readLe_leN 4 i.sequence r (by have := h.sequence; omega)
  simp only [TxIn.read, TxIn.ser, List.append_assoc, t1, t2, t3, t4, List.reverse_reverse]

theorem TxIn.read_sound {b r : Bytes} {i : TxIn} (h : TxIn.read b = some (i, r)) :
    b = TxIn.ser i ++ r ∧ WFIn i ∧ i.witness = [] := by
  unfold TxIn.read at h
  split at h
  · simp at h
  · rename_i t r1 h1
    split at h
    · simp at h
    · rename_i vout r2 h2
      split at h
      · simp at h
      · rename_i ss r3 h3
        split at h
        · simp at h
        · rename_i sq r4 h4
          simp at h
          obtain ⟨hi, hr⟩ := h; subst hi; subst hr
          obtain ⟨e1, l1⟩ := takeN_sound h1
          obtain ⟨e2, l2⟩ := readLe_sound h2
          obtain ⟨e3, l3⟩ := scriptRead_sound h3
          obtain ⟨e4, l4⟩ := readLe_sound h4
          refine ⟨?_, ⟨by simp [l1], by simpa using l2, l3, by simpa using l4, by simp, by simp⟩, rfl⟩
          simp [TxIn.ser, e1, e2, e3, e4, List.append_assoc]

theorem TxOut.read_ser (o : TxOut) (r : Bytes) (h : WFOut o) :
    TxOut.read (TxOut.ser o ++ r) = some (o, r) := by
  have t1 := readLe_leN 8 o.value (scriptSer o.spk ++ r) (by have := h.value; omega)
  have t2 := scriptRead_ser o.spk r h.script
  simp only [TxOut.read, TxOut.ser, List.append_assoc, t1, t2]

theorem TxOut.read_sound {b r : Bytes} {o : TxOut} (h : TxOut.read b = some (o, r)) :
    b = TxOut.ser o ++ r ∧ WFOut o := by
  unfold TxOut.read at h
  split at h
  · simp at h
  · rename_i v r1 h1
    split at h
    · simp at h
    · rename_i s r2 h2
      simp at h
      obtain ⟨ho, hr⟩ := h; subst ho; subst hr
      obtain ⟨e1, l1⟩ := readLe_sound h1
      obtain ⟨e2, l2⟩ := scriptRead_sound h2
      refine ⟨?_, ⟨by simpa using l1, l2⟩⟩
      simp [TxOut.ser, e1, e2, List.append_assoc]

theorem TxOut.exact : ExactRead TxOut.read TxOut.ser WFOut := ⟨TxOut.read_ser, TxOut.read_sound⟩

theorem readIns_sound {n : Nat} {b r : Bytes} {vin : List TxIn} (h : readMany TxIn.read n b = some (vin, r)) :
    b = vin.flatMap TxIn.ser ++ r ∧ vin.length = n ∧ ∀ i ∈ vin, WFIn i ∧ i.witness = [] :=
  readMany_sound TxIn.read TxIn.ser _ (fun _ _ _ hx => TxIn.read_sound hx) _ _ _ _ h

theorem readOuts_sound {n : Nat} {b r : Bytes} {vout : List TxOut} (h : readMany TxOut.read n b = some (vout, r)) :
    b = vout.flatMap TxOut.ser ++ r ∧ vout.length = n ∧ ∀ o ∈ vout, WFOut o :=
  readMany_sound TxOut.read TxOut.ser _ (fun _ _ _ hx => TxOut.read_sound hx) _ _ _ _ h

/-- The witness part of a transaction is read after the body and put back into the inputs (outputs) by `f`, a
    zip with the field update `set`. What the written form and well-formedness need of the result, for any such `f`:
    `ser` does not see the field, `serW ∘ get` sees only the field. -/
theorem reattach_props {α ω : Type} (f : List α → List ω → List α) (set : α → ω → α) (get : α → ω)
    (hnil : f [] [] = []) (hcons : ∀ a as w ws, f (a :: as) (w :: ws) = set a w :: f as ws)
    (ser : α → Bytes) (serW : ω → Bytes) (P P' : α → Prop) (Q : ω → Prop)
    (hget : ∀ a w, get (set a w) = w) (hser : ∀ a w, ser (set a w) = ser a)
    (hP : ∀ a w, P a → Q w → P' (set a w)) :
    ∀ (xs : List α) (ws : List ω), ws.length = xs.length → (∀ a ∈ xs, P a) → (∀ w ∈ ws, Q w) →
      (f xs ws).length = xs.length ∧ (f xs ws).flatMap ser = xs.flatMap ser
      ∧ (f xs ws).flatMap (fun a => serW (get a)) = ws.flatMap serW ∧ ∀ a ∈ f xs ws, P' a
  | [], [], _, _, _ => by simp [hnil]
  | [], _ :: _, hl, _, _ => by simp at hl
  | _ :: _, [], hl, _, _ => by simp at hl
  | a :: as, w :: ws, hl, hv, hw => by
    obtain ⟨h1, h2, h3, h4⟩ := reattach_props f set get hnil hcons ser serW P P' Q hget hser hP as ws
      (by simpa using hl) (fun j hj => hv j (by simp [hj])) (fun x hx => hw x (by simp [hx]))
    rw [hcons]
    refine ⟨by simp [h1], by simp [h2, hser], by simp [h3, hget], ?_⟩
    intro j hj
    rcases List.mem_cons.mp hj with rfl | hj
    · exact hP a w (hv a (by simp)) (hw w (by simp))
    · exact h4 j hj

theorem Compact.enc_append_ne_zero_cons {n : Nat} (hn : 0 < n) (a b : Bytes) : Compact.enc n ++ a ≠ 0 :: b := by
  unfold Compact.enc
  split
  · intro h
    have := congrArg UInt8.toNat (List.cons.inj h).1
    simp [UInt8.toNat_ofNat'] at this
    omega
  · split
    · simp
    · split <;> simp

/-- `is_segwit` of an input is exactly "witness stack non-empty" (no size hypothesis needed) -/
theorem TxIn.isSegwit_iff (i : TxIn) : TxIn.isSegwit i = !i.witness.isEmpty := by
  unfold TxIn.isSegwit witnessSer
  cases hw : i.witness with
  | nil => simp [Compact.enc]
  | cons d ds =>
    simpa using Compact.enc_append_ne_zero_cons (Nat.succ_pos ds.length) ((d :: ds).flatMap scriptSer) []

theorem Tx.isSegwit_eq (t : Tx) : Tx.isSegwit t = hasWitness t := by
  unfold Tx.isSegwit hasWitness
  congr 1
  funext i
  exact TxIn.isSegwit_iff i

theorem Tx.ser_eq_encode (t : Tx) : Tx.ser t = encode t := by
  have hin : t.vin.flatMap TxIn.ser = t.vin.flatMap encIn := by
    have : TxIn.ser = encIn := funext TxIn.ser_eq
    rw [this]
  unfold Tx.ser encode
  rw [Tx.isSegwit_eq]
  cases hasWitness t <;>
    simp [encodeLegacy, encodeWitness, hin, List.append_assoc] <;> rfl

end Embit
