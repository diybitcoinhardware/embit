import EmbitModel.Proofs.Bech32Detect
import EmbitModel.Proofs.Bech32Codec
/-
  Error detection lifted from symbol words to bech32 strings.
-/
namespace Embit.Model.Bech32.Detect
open Embit Gf2

/-- number of positions at which two strings differ (compared up to the shorter length) -/
def charHamming : List Char → List Char → Nat
  | a :: as, b :: bs => (if a = b then 0 else 1) + charHamming as bs
  | _, _ => 0

theorem charHamming_map (f : Char → Char) (a b : List Char) :
    charHamming (a.map f) (b.map f) ≤ charHamming a b := by
  induction a generalizing b with
  | nil => simp [charHamming]
  | cons x xs ih =>
    cases b with
    | nil => simp [charHamming]
    | cons y ys =>
      simp only [List.map_cons, charHamming]
      have := ih ys
      by_cases e : x = y
      · simp [e]; exact this
      · by_cases e2 : f x = f y <;> simp [e, e2] <;> omega

theorem charHamming_prefix (p a b : List Char) : charHamming (p ++ a) (p ++ b) = charHamming a b := by
  induction p with
  | nil => rfl
  | cons x xs ih => simp [charHamming, ih]

theorem chr_inj (a b : Nat) (ha : a < 32) (hb : b < 32) (h : chr a = chr b) : a = b := by
  have h1 := (chr_props a ha).1
  have h2 := (chr_props b hb).1
  rw [h] at h1
  rw [h1] at h2
  exact Option.some.inj h2

theorem hamming_le_chars (u v : List Nat) (hu : ∀ x ∈ u, x < 32) (hv : ∀ x ∈ v, x < 32) :
    hamming u v ≤ charHamming (u.map chr) (v.map chr) := by
  unfold hamming
  induction u generalizing v with
  | nil => simp [xorW, weight]
  | cons x xs ih =>
    cases v with
    | nil => simp [xorW, weight]
    | cons y ys =>
      simp only [xorW, weight, List.map_cons, charHamming]
      have := ih ys (fun z hz => hu z (by simp [hz])) (fun z hz => hv z (by simp [hz]))
      by_cases e : x = y
      · subst e; simp; exact this
      · have hne : chr x ≠ chr y := fun h => e (chr_inj x y (hu x (by simp)) (hv y (by simp)) h)
        have hx : x ^^^ y ≠ 0 := fun h => e (eq_of_xor_eq_zero h)
        simp [hne, hx]; omega

theorem decoded_pair (s s' : List Char) (e e' : Encoding) (h : List Char) (d d' : List Nat) (k : Nat)
    (hd : bech32Decode s = some (e, h, d)) (hd' : bech32Decode s' = some (e', h, d'))
    (hlen : s.length = s'.length) (hham : charHamming s s' ≤ k) :
    ∃ vals vals', lower s = h ++ '1' :: vals.map chr ∧ lower s' = h ++ '1' :: vals'.map chr
      ∧ (∀ v ∈ vals, v < 32) ∧ (∀ v ∈ vals', v < 32) ∧ vals.length = vals'.length
      ∧ s.length = h.length + 1 + vals.length ∧ s.length ≤ 90
      ∧ polymodFrom 1 (hrpExpand h ++ vals) = e.const ∧ polymodFrom 1 (hrpExpand h ++ vals') = e'.const
      ∧ d = vals.take (vals.length - 6) ∧ d' = vals'.take (vals'.length - 6) ∧ hamming vals vals' ≤ k := by
  obtain ⟨_, _, h6, _, vals, h1, h2, _, h4, h5⟩ := (bech32Decode_eq_some_iff s e h d).mp hd
  obtain ⟨_, _, _, _, vals', h1', h2', _, h4', h5'⟩ := (bech32Decode_eq_some_iff s' e' h d').mp hd'
  have hl : s.length = h.length + 1 + vals.length := by
    have := congrArg List.length h1; simp at this; omega
  have hl' : s'.length = h.length + 1 + vals'.length := by
    have := congrArg List.length h1'; simp at this; omega
  have hc : charHamming (vals.map chr) (vals'.map chr) ≤ k := by
    have a := charHamming_map Char.toLower s s'
    have b := charHamming_prefix (h ++ ['1']) (vals.map chr) (vals'.map chr)
    simp only [List.append_assoc, List.singleton_append, ← h1, ← h1', lower] at b
    omega
  rw [verifyChecksum_eq_some] at h4 h4'
  exact ⟨vals, vals', h1, h1', h2, h2', by omega, hl, h6, h4, h4', h5, h5',
    Nat.le_trans (hamming_le_chars vals vals' h2 h2') hc⟩

/-- two strings of the same length that `bech32_decode` accepts with the same checksum variant and the same
    human-readable part, and that differ in at most four characters, are the same string up to case -/
theorem detect_strings (hchk : topCheck 3 (table 89) = true) (s s' : List Char) (e : Encoding) (h : List Char)
    (d d' : List Nat) (hd : bech32Decode s = some (e, h, d)) (hd' : bech32Decode s' = some (e, h, d'))
    (hlen : s.length = s'.length) (hham : charHamming s s' ≤ 4) : lower s = lower s' := by
  obtain ⟨vals, vals', h1, h1', h2, h2', hvl, hl, h90, h4, h4', _, _, hh⟩ :=
    decoded_pair s s' e e h d d' 4 hd hd' hlen hham
  rw [h1, h1', detect_words 89 hchk 1 (hrpExpand h) [] vals vals' hvl (by omega) h2 h2' hh
    (by rw [List.append_nil, List.append_nil, h4, h4'])]

end Embit.Model.Bech32.Detect
