import EmbitModel.Proofs.Blech32
import EmbitModel.Model.Liquid
/-
  C18: confidential (blech32) address round trip for witness-version-0 scripts, and the witness that embit's decoder
  ignores the witness version.
-/
namespace Embit
open Model Model.Blech32 Embit.Blech32

theorem lowerC_charAt (d : Nat) : lowerC (charAt d) = charAt d := by
  by_cases h : d < 32
  · exact (charAt_table d h).2.1
  · have : charAt d = 0 := by
      unfold charAt
      have hl : charset.length = 32 := by decide
      simp [List.getD, List.getElem?_eq_none (show charset.length ≤ d by omega)]
    rw [this]; decide

theorem bech32Encode_lower (hrp data : List Nat) (hh : HrpOk hrp) :
    (bech32Encode hrp data).map lowerC = bech32Encode hrp data := by
  apply map_id_of_forall
  intro x hx
  simp only [bech32Encode, List.mem_append, List.mem_map, List.mem_singleton] at hx
  rcases hx with (hx | hx) | ⟨d, _, rfl⟩
  · have := (hh.2 x hx).2.2
    unfold lowerC; rw [if_neg this]
  · subst hx; decide
  · exact lowerC_charAt d

theorem optAll_toByte (b : Bytes) : optAll ((b.map UInt8.toNat).map toByte?) = some b := by
  induction b with
  | nil => rfl
  | cons x xs ih =>
    have hx : toByte? x.toNat = some x := by
      have := x.toNat_lt
      simp [toByte?, this]
    simp only [List.map_cons, optAll, hx]
    simp only [List.map_map] at ih ⊢
    rw [ih]

/-- MAIN: a confidential segwit address of a witness-version-0 script decodes to exactly the script and the
    blinding key -/
theorem confAddr_roundtrip (validSec : Bytes → Bool) (hrp : List Nat) (prog pub : Bytes) (addr : List Nat)
    (hh : HrpOk hrp) (hpub : pub.length = 33) (hvalid : validSec pub = true) (hprog : prog.length < 256)
    (he : confAddress hrp (0x00 :: UInt8.ofNat prog.length :: prog) pub = some addr) :
    confAddrDecode validSec hrp addr = some (0x00 :: UInt8.ofNat prog.length :: prog, pub) := by
  unfold confAddress at he
  simp only [] at he
  split at he
  · simp at he
  · have hb : ∀ b ∈ (pub ++ prog).map UInt8.toNat, b < 256 := by
      intro b hb
      simp only [List.mem_map] at hb
      obtain ⟨x, _, rfl⟩ := hb
      exact x.toNat_lt
    simp only [UInt8.toNat_ofNat, Nat.lt_irrefl, if_false, List.drop_succ_cons, List.drop_zero] at he
    obtain ⟨conv, hc, hdec, henc⟩ := decode_encode hrp 0 ((pub ++ prog).map UInt8.toNat) hh (by decide) hb
    have he' : Blech32.encode hrp 0 ((pub ++ prog).map UInt8.toNat) = some addr := by
      simpa using he
    rw [henc] at he'
    obtain rfl := Option.some.inj he'
    unfold confAddrDecode
    simp only [bech32Encode_lower hrp _ hh, hdec, optAll_toByte]
    have ht : (pub ++ prog).take 33 = pub := by simp [← hpub]
    have hd : (pub ++ prog).drop 33 = prog := by simp [← hpub]
    simp [ht, hd, hvalid, hprog]

/-- the decoder ignores the witness version: whatever version was encoded, the script starts with `0x00` -/
theorem confAddrDecode_version_ignored (validSec : Bytes → Bool) (hrp addr : List Nat) (sc pub : Bytes)
    (h : confAddrDecode validSec hrp addr = some (sc, pub)) : sc.head? = some 0x00 := by
  unfold confAddrDecode at h
  simp only [] at h
  split at h
  · split at h
    · simp at h
    · split at h
      · simp at h
      · split at h
        · simp at h
        · simp at h; rw [← h.1]; rfl
  · simp at h

end Embit
