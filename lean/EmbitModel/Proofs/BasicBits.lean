/-
  Facts about `^^^`, `<<<` and `&&&` on `Nat` that several areas use. No imports.
-/
namespace Embit

theorem eq_of_xor_eq_zero {a b : Nat} (h : a ^^^ b = 0) : a = b := by
  have : (a ^^^ b) ^^^ b = 0 ^^^ b := by rw [h]
  rwa [Nat.xor_assoc, Nat.xor_self, Nat.xor_zero, Nat.zero_xor] at this

theorem shl_xor_eq_add (a b i : Nat) (hb : b < 2 ^ i) : (a <<< i) ^^^ b = a * 2 ^ i + b := by
  have : (a <<< i) ^^^ b = (a <<< i) ||| b := by
    apply Nat.eq_of_testBit_eq
    intro j
    simp only [Nat.testBit_xor, Nat.testBit_or, Nat.testBit_shiftLeft]
    by_cases h : i ≤ j
    · have : b.testBit j = false :=
        Nat.testBit_lt_two_pow (Nat.lt_of_lt_of_le hb (Nat.pow_le_pow_right (by decide) h))
      simp [this]
    · simp [h]
  rw [this, ← Nat.shiftLeft_add_eq_or_of_lt hb, Nat.shiftLeft_eq]

end Embit
