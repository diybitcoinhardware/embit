import EmbitModel.Proofs.Contract
/-
  Contract theorems for the primitives where the two sides take different routes through the curve
  (py negates / converts keys by re-parsing the compressed encoding; ECDSA signing attempts), relative to `EcLaws`.
-/
namespace Embit
open Embit.Model Embit.Model.Der Embit.Model.PySecp

variable (E : EcOps)

theorem pubLoad_xy (L : EcLaws E) (pub : Bytes) (P : E.Pt) (h : pubLoad E pub = some P) :
    ∃ x y, E.xy P = some (x, y) ∧ x < E.p ∧ y < E.p := by
  unfold pubLoad at h
  simp only [] at h
  split at h
  · rename_i hxy
    exact ⟨_, _, L.xy_ofXY _ _ _ hxy.1 hxy.2 h, hxy.1, hxy.2⟩
  · cases h

/-- `ECPubKey.set` on `pre ‖ x`: range test, `lift_x`, negation when the parity byte is odd -/
theorem setCompressed_beN (x : Nat) (hx : x < 2 ^ 256) (pre : UInt8) :
    setCompressed E pre (beN 32 x) =
      if x ≥ E.p then none else (E.liftX x).bind fun R0 => some (if pre.toNat % 2 = 1 then E.neg R0 else R0) := by
  unfold setCompressed
  simp only [ofBe_beN32 x hx]
  by_cases hxp : x < E.p
  · rw [if_pos hxp, if_neg (by omega)]
    cases E.liftX x <;> rfl
  · rw [if_neg hxp, if_pos (by omega)]

theorem lift_bit {E : EcOps} (L : EcLaws E) (P : E.Pt) (x y : Nat) (hxy : E.xy P = some (x, y)) (b : Nat) :
    ((E.liftX x).bind fun R0 => some (if b % 2 = 1 then E.neg R0 else R0))
      = some (if b % 2 = y % 2 then P else E.neg P) := by
  by_cases hy : y % 2 = 0
  · rw [L.liftX_even P x y hxy hy]
    simp only [Option.bind_some, Option.some.injEq, hy]
    by_cases hb : b % 2 = 1
    · rw [if_pos hb, if_neg (by omega)]
    · rw [if_neg hb, if_pos (by omega)]
  · obtain ⟨hneg, hpar⟩ := L.neg_parity P x y hxy
    rw [L.liftX_even (E.neg P) x (E.p - y) hneg (hpar.mpr (by omega))]
    simp only [Option.bind_some, Option.some.injEq]
    by_cases hb : b % 2 = 1
    · rw [if_pos hb, if_pos (by omega), L.neg_neg]
    · rw [if_neg hb, if_neg (by omega)]

theorem setCompressed_of_point (L : EcLaws E) (hp : E.p ≤ 2 ^ 256) (P : E.Pt) (x y : Nat)
    (hxy : E.xy P = some (x, y)) (pre : UInt8) :
    setCompressed E pre (beN 32 x) = some (if pre.toNat % 2 = y % 2 then P else E.neg P) := by
  have hxp := (L.xy_range P x y hxy).2.1
  rw [setCompressed_beN E x (by omega), if_neg (by omega), lift_bit L P x y hxy]

theorem serialize_compressed (L : EcLaws E) (pub : Bytes) (hl : pub.length = 64) (P : E.Pt)
    (h : pubLoad E pub = some P) (x y : Nat) (hxy : E.xy P = some (x, y)) :
    ecPubkeySerialize E pub EC_COMPRESSED = some (UInt8.ofNat (2 + y % 2) :: beN 32 x) := by
  unfold ecPubkeySerialize
  simp [hl, h, hxy, EC_COMPRESSED, EC_UNCOMPRESSED]

theorem serialize_none (pub : Bytes) (hl : pub.length = 64) (h : pubLoad E pub = none) (flag : Nat) :
    ecPubkeySerialize E pub flag = none := by
  unfold ecPubkeySerialize
  simp only [hl, ne_eq, not_true_eq_false, if_false, h]
  split <;> rfl

theorem parse_compressed (pre : UInt8) (body : Bytes) (hb : body.length = 32) (hpre : pre = 0x02 ∨ pre = 0x03) :
    ecPubkeyParse E (pre :: body) = (setCompressed E pre body).bind (pubStore E) := by
  unfold ecPubkeyParse
  have e2 : (pre :: body).length = 33 := by simp [hb]
  have e3 : ¬ (pre ≠ 0x02 ∧ pre ≠ 0x03) := by rcases hpre with h | h <;> simp [h]
  simp only [if_false, e2, if_true, e3]
  cases setCompressed E pre body <;> rfl

theorem eq_pubkey_negate (L : EcLaws E) (hp : E.p ≤ 2 ^ 256) (pub : Bytes) :
    ecPubkeyNegate E pub = Spec.Libsecp.ec_pubkey_negate E pub := by
  unfold ecPubkeyNegate Spec.Libsecp.ec_pubkey_negate
  by_cases hl : pub.length = 64
  · rw [← pubLoad_eq E pub hl]
    simp only [hl, ne_eq, not_true_eq_false, if_false]
    cases hP : pubLoad E pub with
    | none => rw [serialize_none E pub hl hP]; rfl
    | some P =>
      obtain ⟨x, y, hxy, _, _⟩ := pubLoad_xy E L pub P hP
      rw [serialize_compressed E L pub hl P hP x y hxy]
      simp only [Option.bind_some, ← pubStore_eq]
      have hcase : (2 + y % 2 = 2 ∧ y % 2 = 0) ∨ (2 + y % 2 = 3 ∧ y % 2 = 1) := by omega
      rcases hcase with ⟨h1, h2⟩ | ⟨h1, h2⟩
      · rw [h1]
        have e : UInt8.ofNat (5 - (UInt8.ofNat 2).toNat) = 0x03 := by decide
        have hpar : ¬ (0x03 : UInt8).toNat % 2 = y % 2 := by
          have : (0x03 : UInt8).toNat % 2 = 1 := by decide
          omega
        rw [e, parse_compressed E _ _ (by simp) (Or.inr rfl), setCompressed_of_point E L hp P x y hxy, if_neg hpar]
        rfl
      · rw [h1]
        have e : UInt8.ofNat (5 - (UInt8.ofNat 3).toNat) = 0x02 := by decide
        have hpar : ¬ (0x02 : UInt8).toNat % 2 = y % 2 := by
          have : (0x02 : UInt8).toNat % 2 = 0 := by decide
          omega
        rw [e, parse_compressed E _ _ (by simp) (Or.inl rfl), setCompressed_of_point E L hp P x y hxy, if_neg hpar]
        rfl
  · simp [hl, pubkeyOf_none E pub hl]

theorem eq_xonly (L : EcLaws E) (hp : E.p ≤ 2 ^ 256) (pub : Bytes) :
    xonlyPubkeyFromPubkey E pub = Spec.Libsecp.xonly_pubkey_from_pubkey E pub := by
  unfold xonlyPubkeyFromPubkey Spec.Libsecp.xonly_pubkey_from_pubkey
  by_cases hl : pub.length = 64
  · rw [← pubLoad_eq E pub hl]
    simp only [hl, ne_eq, not_true_eq_false, if_false]
    cases hP : pubLoad E pub with
    | none => rw [serialize_none E pub hl hP]; rfl
    | some P =>
      obtain ⟨x, y, hxy, _, _⟩ := pubLoad_xy E L pub P hP
      rw [serialize_compressed E L pub hl P hP x y hxy]
      have ht : (beN 32 x).take 32 = beN 32 x := List.take_of_length_le (by simp)
      simp only [Option.bind_some, hxy, ht]
      rw [parse_compressed E _ _ (by simp) (Or.inl rfl), ← pubStore_eq, setCompressed_of_point E L hp P x y hxy]
      have h2 : (0x02 : UInt8).toNat % 2 = 0 := by decide
      by_cases hy : y % 2 = 1
      · rw [if_neg (by omega)]
        simp only [Option.bind_some, hy, if_true]
        cases pubStore E (E.neg P) <;> simp
      · have hy0 : y % 2 = 0 := by omega
        rw [if_pos (by omega)]
        simp only [Option.bind_some, hy, if_false]
        cases pubStore E P <;> simp [hy0]
  · simp [hl, pubkeyOf_none E pub hl]

theorem eq_keypair_create (L : EcLaws E) (hp : E.p ≤ 2 ^ 256) (secret : Bytes) :
    keypairCreate E secret = Spec.Libsecp.keypair_create E secret := by
  unfold keypairCreate Spec.Libsecp.keypair_create
  rw [← eq_pubkey_create]
  cases hc : ecPubkeyCreate E secret with
  | none => rfl
  | some pub =>
    simp only [Option.map_some]
    -- the created structure is a valid key, so the x-only conversion cannot fail
    unfold ecPubkeyCreate at hc
    split at hc
    · cases hc
    · simp only [] at hc
      split at hc
      · unfold pubStore at hc
        split at hc
        · cases hc
        · rename_i x y hxy
          simp only [Option.some.injEq] at hc
          subst hc
          obtain ⟨_, hxp, _, hyp⟩ := L.xy_range _ _ _ hxy
          rw [eq_xonly E L hp]
          unfold Spec.Libsecp.xonly_pubkey_from_pubkey
          have hlen : (leN 32 x ++ leN 32 y).length = 64 := by simp
          rw [← pubLoad_eq E _ hlen, pubLoad_store E x y hxp hyp hp, L.ofXY_xy _ _ _ hxy]
          simp only [Option.bind_some, hxy]
          by_cases hy : y % 2 = 1
          · simp only [hy, if_true]
            rw [← pubStore_eq]; unfold pubStore
            rw [L.xy_neg _ _ _ hxy]
            rfl
          · simp only [hy, if_false]
            rw [← pubStore_eq]; unfold pubStore
            rw [hxy]
            rfl
      · cases hc

theorem contract_verify_true_range (r s : Nat) (msg pub : Bytes) (hr : r < 2 ^ 256) (hs : s < 2 ^ 256)
    (h : Spec.Libsecp.ecdsa_verify E (Spec.Libsecp.sigStruct r s) msg pub = some true) :
    r ≠ 0 ∧ s ≠ 0 ∧ s ≤ E.n / 2 := by
  unfold Spec.Libsecp.ecdsa_verify Spec.Libsecp.sigOf Spec.Libsecp.sigStruct at h
  split at h
  · cases h
  · simp only [List.length_append, leN_length, Nat.reduceAdd, if_true, Option.bind_some] at h
    rw [take32_leN, drop32_leN, ofLe_leN32 r hr, ofLe_leN32 s hs] at h
    cases hq : Spec.Libsecp.pubkeyOf E pub with
    | none => rw [hq] at h; cases h
    | some Q =>
      rw [hq] at h
      simp only [Option.map_some, Option.some.injEq, Bool.and_eq_true] at h
      obtain ⟨hlow, hv⟩ := h
      unfold Spec.Ecdsa.isLowS at hlow
      unfold Spec.Ecdsa.verify at hv
      split at hv
      · cases hv
      · rename_i hrange
        simp only [decide_eq_true_eq] at hlow
        refine ⟨by omega, by omega, by omega⟩

/-! ### ECDSA signing: the attempt loop of libsecp256k1 vs "first valid candidate, then sign, else raise" -/

variable (H : HashOps)

open Spec.Rfc6979 in
theorem signAttempts_of_find (d z : Nat) (kv : Bytes × Bytes) :
    ∀ (is : List Nat),
      (∀ k, (is.map fun i => (candidate H.hmac256 kv i).1).find? (fun c => 1 ≤ c ∧ c < E.n) = some k →
        ∀ r s, Spec.Ecdsa.signWith E d z k = some (r, s) →
          Spec.Libsecp.signAttempts E H d z kv is = some (k, r, s)) ∧
      ((is.map fun i => (candidate H.hmac256 kv i).1).find? (fun c => 1 ≤ c ∧ c < E.n) = none →
        Spec.Libsecp.signAttempts E H d z kv is = none) := by
  intro is
  induction is with
  | nil => simp [Spec.Libsecp.signAttempts]
  | cons i rest ih =>
    simp only [List.map_cons, List.find?_cons, Spec.Libsecp.signAttempts]
    by_cases hv : 1 ≤ (candidate H.hmac256 kv i).1 ∧ (candidate H.hmac256 kv i).1 < E.n
    · simp only [hv, and_self, decide_true, if_true, Option.some.injEq]
      constructor
      · intro k hk r s hs
        subst hk
        rw [hs]
      · intro h; cases h
    · simp only [hv, if_false]
      exact ih

/-- the contract's attempt loop returns the first valid RFC 6979 candidate (py's `deterministic_k`) and the pair
    SEC 1 signing makes from it, as long as that pair exists (`hgood`: otherwise the loop would go on) -/
theorem signCore_of_nonce (fuel : Nat) (msg secret : Bytes) (extra : Option Bytes) (hm : msg.length = 32)
    (hgood : ∀ k, deterministicK H fuel E.n (ofBe secret) (ofBe msg) extra = some k →
      (Spec.Ecdsa.signWith E (ofBe secret) (ofBe msg) k).isSome) :
    Spec.Libsecp.signCore E H fuel (ofBe secret) msg extra
      = (deterministicK H fuel E.n (ofBe secret) (ofBe msg) extra).bind fun k =>
          (Spec.Ecdsa.signWith E (ofBe secret) (ofBe msg) k).map fun rs => (k, rs) := by
  have hraw := deterministicK_eq_raw H fuel E.n (ofBe secret) (ofBe msg) extra
  have hmsg : beN 32 (ofBe msg) = msg := by rw [← hm]; exact beN_ofBe msg
  unfold Spec.Rfc6979.nonceRaw Spec.Rfc6979.firstValid Spec.Rfc6979.int2octets at hraw
  rw [hmsg] at hraw
  obtain ⟨hfound, hnone⟩ := signAttempts_of_find E H (ofBe secret) (ofBe msg)
    (Spec.Rfc6979.init H.hmac256 (beN 32 (ofBe secret) ++ msg ++ extra.getD [])) (List.range fuel)
  unfold Spec.Libsecp.signCore
  cases hk : deterministicK H fuel E.n (ofBe secret) (ofBe msg) extra with
  | none => rw [hk] at hraw; exact hnone hraw.symm
  | some k =>
    rw [hk] at hraw
    cases hsw : Spec.Ecdsa.signWith E (ofBe secret) (ofBe msg) k with
    | none => have hg := hgood k hk; rw [hsw] at hg; cases hg
    | some rs => rw [Option.bind_some, hsw]; exact hfound k hraw.symm rs.1 rs.2 hsw

theorem signWith_some {E : EcOps} (d z k r s : Nat) (h : Spec.Ecdsa.signWith E d z k = some (r, s)) :
    ∃ xR yR, E.xy (E.mul k E.g) = some (xR, yR) ∧ r = xR % E.n ∧
      s = (E.invN k * (z + r * d)) % E.n ∧ r ≠ 0 ∧ s ≠ 0 := by
  unfold Spec.Ecdsa.signWith at h
  split at h
  · cases h
  · rename_i xR yR hxy
    simp only at h
    split at h
    · cases h
    · rename_i hnz
      simp only [Option.some.injEq, Prod.mk.injEq] at h
      obtain ⟨rfl, rfl⟩ := h
      exact ⟨xR, yR, hxy, rfl, rfl, fun h => hnz (Or.inl h), fun h => hnz (Or.inr h)⟩

theorem normalizeS_range {E : EcOps} (s : Nat) (hs0 : s ≠ 0) (hsn : s < E.n) :
    Spec.Ecdsa.normalizeS E s ≠ 0 ∧ Spec.Ecdsa.normalizeS E s < E.n ∧ Spec.Ecdsa.normalizeS E s ≤ E.n / 2 := by
  unfold Spec.Ecdsa.normalizeS Spec.Ecdsa.isLowS
  split <;> simp_all <;> omega

/-- `sign_ecdsa` of key.py is SEC 1 signing followed by the low-S normalisation -/
theorem signRS_of_signWith (hodd : E.n % 2 = 1) (d z k r s : Nat) (h : Spec.Ecdsa.signWith E d z k = some (r, s)) :
    signRS E d z k = some (r, Spec.Ecdsa.normalizeS E s) := by
  obtain ⟨xR, yR, hxy, rfl, rfl, _, _⟩ := signWith_some d z k r s h
  unfold signRS
  simp only [hxy, Spec.Ecdsa.normalizeS, Spec.Ecdsa.isLowS, decide_eq_true_eq, Nat.mul_comm d]
  rw [normalize_eq E.n _ hodd]

theorem eq_ecdsa_sign_partial (hn : E.n < 2 ^ 256) (hodd : E.n % 2 = 1) (fuel : Nat)
    (msg secret : Bytes) (extra : Option Bytes)
    (hgood : ∀ k, deterministicK H fuel E.n (ofBe secret) (ofBe msg) extra = some k →
      (Spec.Ecdsa.signWith E (ofBe secret) (ofBe msg) k).isSome) :
    ecdsaSign E H fuel msg secret extra = Spec.Libsecp.ecdsa_sign E H fuel msg secret extra := by
  unfold ecdsaSign Spec.Libsecp.ecdsa_sign
  by_cases hm : msg.length = 32
  swap
  · simp [hm]
  simp only [badExtra_iff]
  by_cases hx : badExtra extra = true
  · simp only [hm, ne_eq, not_true_eq_false, if_false, hx, if_true]
    split <;> rfl
  by_cases hs : secret.length = 32
  swap
  · simp [hm, hs, hx, seckey_none_of_len E secret hs]
  simp only [hm, hs, ne_eq, not_true_eq_false, if_false, hx, seckey_eq E secret hs]
  by_cases hv : seckeyValid E (ofBe secret) = true
  swap
  · simp [hv]
  simp only [hv, Bool.not_true, Bool.false_eq_true, if_false, if_true, Option.bind_some]
  rw [signCore_of_nonce E H fuel msg secret extra hm hgood]
  cases hk : deterministicK H fuel E.n (ofBe secret) (ofBe msg) extra with
  | none => rfl
  | some k =>
    cases hsw : Spec.Ecdsa.signWith E (ofBe secret) (ofBe msg) k with
    | none => have hg := hgood k hk; rw [hsw] at hg; cases hg
    | some rs =>
      obtain ⟨r, s0⟩ := rs
      -- the model computes the same `r`, normalises `s0` the same way, and its DER round trip is the identity
      obtain ⟨_, _, _, hr, hs0, hr0, hs00⟩ := signWith_some _ _ k r s0 hsw
      have hnpos : 0 < E.n := by omega
      have hrlt : r < E.n := by rw [hr]; exact Nat.mod_lt _ hnpos
      obtain ⟨h1, h2, h3⟩ := normalizeS_range (E := E) s0 hs00 (by rw [hs0]; exact Nat.mod_lt _ hnpos)
      simp only [Option.bind_some, Option.map_some, hsw, signRS_of_signWith E hodd _ _ k r s0 hsw,
        ecdsaSignatureParseDer]
      rw [parse_serRS E.n true r _ (by omega)
        ((rangeOk_iff E.n true r _).mpr ⟨by omega, hrlt, by omega, h2, fun _ => h3⟩)]
      rfl

/-! ### a toy curve and toy hashes for witness theorems (ℤ/11, `x(P) = P` except `x(5) = 11 ≡ 0`) -/

def toyE : EcOps where
  Pt := Nat
  add := fun a b => (a + b) % 11
  neg := fun a => (11 - a % 11) % 11
  mul := fun k P => (k * P) % 11
  g := 1
  n := 11
  p := 13
  xy := fun P => if P % 11 = 0 then none else some (if P % 11 = 5 then 11 else P % 11, P % 11)
  ofXY := fun x y => if 0 < y ∧ y < 11 ∧ (x = y ∨ (y = 5 ∧ x = 11)) ∧ (y = 5 → x = 11) then some y else none
  liftX := fun x => if 0 < x ∧ x < 11 ∧ x % 2 = 0 then some x else none
  invN := fun a => a ^ 9 % 11

def toyHs : HashOps where
  sha256 := id
  hmac256 := fun k m => beN 32 ((ofBe k + ofBe m + 3) % 7 + 1)

end Embit
