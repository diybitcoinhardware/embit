import EmbitModel.Proofs.PyCurveMul
import EmbitModel.Proofs.PyCurveJacobi
/-
  `on_curve`, `is_x_coord`, `lift_x` and the two branches of `ECPubKey.set` against the curve `W C`:
  membership is decided, the root selected is the even one, exactly the squares are accepted.
  `Smooth C` (odd `p`, non-zero discriminant — decidable facts) makes every point of the curve nonsingular, i.e. an
  element of Mathlib's group.
-/
namespace Embit.Model.PyCurve
open WeierstrassCurve WeierstrassCurve.Jacobian NumberTheorySymbols

variable (C : Curve) [Fact C.p.Prime]

/-- odd characteristic and non-zero discriminant `-16(4a³ + 27b²)` -/
structure Smooth : Prop where
  odd : C.p ≠ 2
  disc : (4 * C.a ^ 3 + 27 * C.b ^ 2) % (C.p : ℤ) ≠ 0

theorem two_ne_zero' (hs : Smooth C) : (2 : ZMod C.p) ≠ 0 := by
  have hp : C.p.Prime := Fact.out
  intro h
  have h2 : ((2 : ℕ) : ZMod C.p) = 0 := Nat.cast_ofNat.trans h
  rw [ZMod.natCast_eq_zero_iff] at h2
  exact hs.odd ((Nat.prime_dvd_prime_iff_eq hp Nat.prime_two).mp h2)

theorem isElliptic (hs : Smooth C) : WeierstrassCurve.IsElliptic (W C) := by
  constructor
  apply Ne.isUnit
  have hΔ : (W C).Δ = -16 * (4 * (C.a : ZMod C.p) ^ 3 + 27 * (C.b : ZMod C.p) ^ 2) := by
    simp only [WeierstrassCurve.Δ, WeierstrassCurve.b₂, WeierstrassCurve.b₄, WeierstrassCurve.b₆,
      WeierstrassCurve.b₈, W, Wab]
    ring
  rw [hΔ]
  have h2 := two_ne_zero' C hs
  have h16 : (-16 : ZMod C.p) ≠ 0 := by
    have : (-16 : ZMod C.p) = -(2 ^ 4) := by norm_num
    rw [this]
    exact neg_ne_zero.mpr (pow_ne_zero 4 h2)
  refine mul_ne_zero h16 ?_
  intro h
  apply hs.disc
  have : (((4 * C.a ^ 3 + 27 * C.b ^ 2 : ℤ)) : ZMod C.p) = 0 := by push_cast; exact h
  rw [ZMod.intCast_zmod_eq_zero_iff_dvd] at this
  exact Int.emod_eq_zero_of_dvd this

theorem nonsingular_of_eqn (hs : Smooth C) {P : Fin 3 → ZMod C.p} (hz : P 2 ≠ 0) (h : (W C).Equation P) :
    (W C).Nonsingular P := by
  have := isElliptic C hs
  rw [nonsingular_of_Z_ne_zero hz]
  rw [equation_of_Z_ne_zero hz] at h
  exact Affine.equation_iff_nonsingular.mp h

/-- **`on_curve` decides membership**: finite (`z1 != 0` as integers) and on the projective curve -/
theorem onCurve_iff (x y z : ℤ) :
    onCurve C (x, y, z) = true ↔ z ≠ 0 ∧
      (y : ZMod C.p) ^ 2 = (x : ZMod C.p) ^ 3 + (C.a : ZMod C.p) * x * (z : ZMod C.p) ^ 4 + (C.b : ZMod C.p) * (z : ZMod C.p) ^ 6 := by
  simp only [onCurve, Bool.and_eq_true, bne_iff_ne, ne_eq, beq_iff_eq]
  apply and_congr Iff.rfl
  rw [← Int.dvd_iff_emod_eq_zero, ← ZMod.intCast_zmod_eq_zero_iff_dvd]
  push_cast [powMod_cast]
  constructor <;> intro h <;> linear_combination (-1 : ZMod C.p) * h

theorem valid_of_onCurve (hs : Smooth C) {P : JPt} (hr : Red C P) (h : onCurve C P = true) : Valid C P := by
  obtain ⟨x, y, z⟩ := P
  obtain ⟨hz, he⟩ := (onCurve_iff C x y z).mp h
  refine ⟨hr, Or.inr ?_⟩
  apply nonsingular_of_eqn C hs (toF_z_ne C hr hz)
  exact (eqn_short _ _ _ _ _).mpr he

theorem onCurve_of_valid {P : JPt} (hv : Valid C P) (hz : P.2.2 ≠ 0) : onCurve C P = true := by
  obtain ⟨x, y, z⟩ := P
  exact (onCurve_iff C x y z).mpr ⟨hz, hv.eqn C hz⟩

theorem valid_affine_iff (hs : Smooth C) (x y : ℤ) (hx : 0 ≤ x ∧ x < C.p) (hy : 0 ≤ y ∧ y < C.p) :
    Valid C (x, y, 1) ↔ onCurve C (x, y, 1) = true :=
  ⟨fun hv => onCurve_of_valid C hv one_ne_zero,
   valid_of_onCurve C hs ⟨hx, hy, ⟨show (0 : ℤ) ≤ 1 by norm_num, show (1 : ℤ) < C.p by exact_mod_cast p_gt_one C⟩⟩⟩

omit [Fact C.p.Prime] in
theorem Valid.nat_lt {x y : ℕ} (hv : Valid C ((x : ℤ), (y : ℤ), 1)) : x < C.p ∧ y < C.p :=
  ⟨Int.ofNat_lt.mp hv.red.1.2, Int.ofNat_lt.mp hv.red.2.1.2⟩

theorem valid_nat_iff (hs : Smooth C) (x y : ℕ) :
    Valid C ((x : ℤ), (y : ℤ), 1) ↔ (x < C.p ∧ y < C.p) ∧ onCurve C ((x : ℤ), (y : ℤ), 1) = true :=
  ⟨fun hv => ⟨hv.nat_lt C, onCurve_of_valid C hv one_ne_zero⟩, fun ⟨⟨hx, hy⟩, hc⟩ =>
    (valid_affine_iff C hs x y ⟨by positivity, by exact_mod_cast hx⟩ ⟨by positivity, by exact_mod_cast hy⟩).mpr hc⟩

theorem Valid.affine_eqn {x y : ℤ} (hv : Valid C (x, y, 1)) :
    (y : ZMod C.p) ^ 2 = (x : ZMod C.p) ^ 3 + (C.a : ZMod C.p) * x + (C.b : ZMod C.p) := by
  have := hv.eqn C one_ne_zero
  simpa using this

theorem valid_affine_of_eqn (hs : Smooth C) {x y : ℤ} (hx : 0 ≤ x ∧ x < C.p) (hy : 0 ≤ y ∧ y < C.p)
    (h : (y : ZMod C.p) ^ 2 = (x : ZMod C.p) ^ 3 + (C.a : ZMod C.p) * x + (C.b : ZMod C.p)) : Valid C (x, y, 1) := by
  apply (valid_affine_iff C hs x y hx hy).mpr
  apply (onCurve_iff C x y 1).mpr
  exact ⟨one_ne_zero, by simpa using h⟩

theorem rhs_cast (x : ℤ) : (((powMod x 3 C.p + C.a * x + C.b : ℤ)) : ZMod C.p) =
    (x : ZMod C.p) ^ 3 + (C.a : ZMod C.p) * x + (C.b : ZMod C.p) := by
  push_cast [powMod_cast]; ring

theorem isXCoord_eq (hodd : C.p % 2 = 1) (x : ℤ) :
    isXCoord C x = some (decide (IsSquare ((x : ZMod C.p) ^ 3 + (C.a : ZMod C.p) * x + (C.b : ZMod C.p)))) := by
  unfold isXCoord
  simp only
  rw [jacobiSymbol_eq _ _ (p_pos C) hodd]
  simp only [Option.some.injEq]
  have h := ZMod.nonsquare_iff_jacobiSym_eq_neg_one (a := powMod x 3 C.p + C.a * x + C.b) (p := C.p)
  rw [rhs_cast] at h
  by_cases hsq : IsSquare ((x : ZMod C.p) ^ 3 + (C.a : ZMod C.p) * x + (C.b : ZMod C.p))
  · have : J(powMod x 3 C.p + C.a * x + C.b | C.p) ≠ -1 := fun hh => (h.mp hh) hsq
    simp [hsq, this]
  · have : J(powMod x 3 C.p + C.a * x + C.b | C.p) = -1 := h.mpr hsq
    simp [hsq, this]

section lift
variable (hs : Smooth C) (h3 : C.p % 4 = 3)
include hs h3

omit [Fact C.p.Prime] hs h3 in
theorem liftX_eq_some_iff (x : ℤ) (P : JPt) : liftX C x = some (some P) ↔
    ∃ y0, modsqrt (powMod x 3 C.p + C.a * x + C.b) C.p = some (some y0) ∧
      P = (x, if y0 % 2 = 1 then (C.p : ℤ) - y0 else y0, 1) := by
  unfold liftX
  simp only
  generalize modsqrt (powMod x 3 C.p + C.a * x + C.b) C.p = r
  rcases r with _ | _ | y0
  · simp
  · simp
  · simpa using eq_comm

theorem liftX_sound (x : ℤ) (hx : 0 ≤ x ∧ x < C.p) (P : JPt) (h : liftX C x = some (some P)) :
    ∃ y : ℤ, P = (x, y, 1) ∧ y % 2 = 0 ∧ Valid C P := by
  obtain ⟨y0, hm, rfl⟩ := (liftX_eq_some_iff C x P).mp h
  obtain ⟨y00, y0p, hy0⟩ := modsqrt_sound C.p _ y0 hm
  rw [rhs_cast] at hy0
  have hpodd : (C.p : ℤ) % 2 = 1 := by omega
  refine ⟨_, rfl, ?_⟩
  split
  · exact ⟨by omega, valid_affine_of_eqn C hs hx ⟨by omega, by omega⟩ (by rw [← hy0]; push_cast; simp)⟩
  · exact ⟨by omega, valid_affine_of_eqn C hs hx ⟨y00, y0p⟩ hy0⟩

omit hs in
theorem liftX_complete (x y : ℤ) (hv : Valid C (x, y, 1)) (hy : y % 2 = 0) : liftX C x = some (some (x, y, 1)) := by
  have he := hv.affine_eqn C
  have hyr : 0 ≤ y ∧ y < C.p := hv.red.2.1
  have hsq : IsSquare (((powMod x 3 C.p + C.a * x + C.b : ℤ)) : ZMod C.p) := by
    rw [rhs_cast, ← he]; exact ⟨(y : ZMod C.p), by ring⟩
  obtain ⟨y0, hm⟩ := modsqrt_complete C.p h3 _ hsq
  obtain ⟨y00, y0p, hy0⟩ := modsqrt_sound C.p _ y0 hm
  rw [rhs_cast, ← he] at hy0
  refine (liftX_eq_some_iff C x _).mpr ⟨y0, hm, ?_⟩
  have hpodd : (C.p : ℤ) % 2 = 1 := by omega
  -- `y₀² = y²`: `y₀` is `y`, or `p − y` (odd, so flipped back) unless `y = 0`
  have hfac : ((y0 : ZMod C.p) - y) * ((y0 : ZMod C.p) + y) = 0 := by linear_combination hy0
  rcases mul_eq_zero.mp hfac with h | h
  · obtain rfl : y0 = y := eq_of_cast_eq y00 y0p hyr.1 hyr.2 (sub_eq_zero.mp h)
    rw [if_neg (by omega)]
  · by_cases hy0' : y = 0
    · subst hy0'
      obtain rfl : y0 = 0 := eq_of_cast_eq y00 y0p le_rfl (by omega) (by simpa using h)
      simp
    · obtain rfl : y0 = (C.p : ℤ) - y := by
        apply eq_of_cast_eq y00 y0p (by omega) (by omega)
        push_cast
        simp only [CharP.cast_eq_zero, zero_sub]
        exact eq_neg_of_add_eq_zero_left h
      rw [if_pos (by omega)]
      simp

omit hs in
theorem liftX_nonsquare (x : ℤ)
    (hn : ¬ IsSquare ((x : ZMod C.p) ^ 3 + (C.a : ZMod C.p) * x + (C.b : ZMod C.p))) : liftX C x = some none := by
  unfold liftX
  simp only
  rw [modsqrt_nonsquare C.p h3 _ (by rw [rhs_cast]; exact hn)]

theorem liftX_square (x : ℤ) (hx : 0 ≤ x ∧ x < C.p)
    (hsq : IsSquare ((x : ZMod C.p) ^ 3 + (C.a : ZMod C.p) * x + (C.b : ZMod C.p))) :
    ∃ y : ℤ, liftX C x = some (some (x, y, 1)) ∧ y % 2 = 0 ∧ Valid C (x, y, 1) := by
  obtain ⟨y0, hm⟩ := modsqrt_complete C.p h3 (powMod x 3 C.p + C.a * x + C.b) (by rw [rhs_cast]; exact hsq)
  have hP := (liftX_eq_some_iff C x _).mpr ⟨y0, hm, rfl⟩
  obtain ⟨y, hy, he, hv⟩ := liftX_sound C hs h3 x hx _ hP
  rw [hy] at hP hv
  exact ⟨y, hP, he, hv⟩

end lift

theorem setUncompressed_iff (hs : Smooth C) (x y : ℕ) (P : JPt) :
    setUncompressed C x y = some P ↔ P = ((x : ℤ), (y : ℤ), 1) ∧ x < C.p ∧ y < C.p ∧ Valid C P := by
  unfold setUncompressed
  constructor
  · intro h
    split at h
    · rename_i hc
      simp only [Option.some.injEq] at h
      subst h
      exact ⟨rfl, hc.1, hc.2.1, (valid_nat_iff C hs x y).mpr ⟨⟨hc.1, hc.2.1⟩, hc.2.2⟩⟩
    · cases h
  · rintro ⟨rfl, hx, hy, hv⟩
    rw [if_pos ⟨hx, hy, onCurve_of_valid C hv one_ne_zero⟩]

/-- the compressed branch: never raises; accepts exactly the `x < p` with `x³ + a x + b` a square and stores the
    point with the demanded parity of `y` -/
theorem setCompressed_spec (hs : Smooth C) (h3 : C.p % 4 = 3) (odd : Bool) (x : ℕ) :
    (x < C.p ∧ IsSquare (((x : ℤ) : ZMod C.p) ^ 3 + (C.a : ZMod C.p) * ((x : ℤ) : ZMod C.p) + (C.b : ZMod C.p)) →
      ∃ y : ℤ, liftX C x = some (some ((x : ℤ), y, 1)) ∧ y % 2 = 0 ∧ Valid C ((x : ℤ), y, 1) ∧
        setCompressed C odd x = some (some (if odd then negate C ((x : ℤ), y, 1) else ((x : ℤ), y, 1)))) ∧
    (¬ (x < C.p ∧ IsSquare (((x : ℤ) : ZMod C.p) ^ 3 + (C.a : ZMod C.p) * ((x : ℤ) : ZMod C.p) + (C.b : ZMod C.p))) →
      setCompressed C odd x = some none) := by
  have hodd : C.p % 2 = 1 := by omega
  constructor
  · rintro ⟨hx, hsq⟩
    obtain ⟨y, hl, hy, hv⟩ := liftX_square C hs h3 x ⟨by positivity, by exact_mod_cast hx⟩ hsq
    refine ⟨y, hl, hy, hv, ?_⟩
    unfold setCompressed
    rw [if_pos hx, isXCoord_eq C hodd]
    simp only [hsq, decide_true, hl]
  · intro hn
    unfold setCompressed
    by_cases hx : x < C.p
    · rw [if_pos hx, isXCoord_eq C hodd]
      have : ¬ IsSquare (((x : ℤ) : ZMod C.p) ^ 3 + (C.a : ZMod C.p) * ((x : ℤ) : ZMod C.p) + (C.b : ZMod C.p)) :=
        fun h => hn ⟨hx, h⟩
      simp only [this, decide_false]
    · rw [if_neg hx]

end Embit.Model.PyCurve
