import EmbitModel.Proofs.Address
import EmbitModel.Model.Blech32
/-
  C17: bech32 / blech32 / address decoding. All loops of these decoders run once over the text (or over a list that
  is a piece of it); the only nested loop is `while bits >= tobits` inside `convertbits`, which appends one element
  per iteration — so its iterations are counted by the output, and the output is bounded by the bits that went in.
    * `convertbits`: |out|·tobits ≤ |data|·frombits + tobits (both models), Blech32 fuel `bits + 1` never used up;
    * `bech32_decode`: hrp + data + 7 (13) characters = the text; Bitcoin: text ≤ 90;
    * `address_to_scriptpubkey`: a script of at most 34 bytes.
-/
namespace Embit.Model.Cost
open Embit

/-- the inner loop moves `tobits` bits per appended element -/
theorem cbEmit_size (acc tobits maxv : Nat) : ∀ (bits : Nat) (ret : List Nat) (bits' : Nat) (ret' : List Nat),
    Bech32.cbEmit acc tobits maxv bits ret = (bits', ret') →
    ret'.length * tobits + bits' = ret.length * tobits + bits := by
  intro bits
  induction bits using Nat.strongRecOn with
  | _ bits ih =>
    intro ret bits' ret' h
    rw [Bech32.cbEmit] at h
    by_cases hc : bits ≥ tobits ∧ tobits > 0
    · simp only [hc, and_self, dite_true] at h
      have := ih (bits - tobits) (by omega) _ _ _ h
      simp [Nat.add_mul] at this
      omega
    · simp only [hc, dite_false] at h
      simp at h
      obtain ⟨rfl, rfl⟩ := h
      rfl

theorem cbLoop_size (frombits tobits maxv maxAcc : Nat) : ∀ (data : List Nat) (acc bits : Nat) (ret : List Nat)
    (acc' bits' : Nat) (ret' : List Nat),
    Bech32.cbLoop frombits tobits maxv maxAcc data acc bits ret = some (acc', bits', ret') →
    ret'.length * tobits + bits' = ret.length * tobits + bits + data.length * frombits := by
  intro data
  induction data with
  | nil => intro acc bits ret acc' bits' ret' h; simp [Bech32.cbLoop] at h; obtain ⟨_, rfl, rfl⟩ := h; simp
  | cons v rest ih =>
    intro acc bits ret acc' bits' ret' h
    simp only [Bech32.cbLoop] at h
    split at h
    · simp at h
    · generalize he : Bech32.cbEmit (((acc <<< frombits) ||| v) &&& maxAcc) tobits maxv (bits + frombits) ret = q at h
      obtain ⟨b1, r1⟩ := q
      simp only [] at h
      have e1 := cbEmit_size _ _ _ _ _ _ _ he
      have e2 := ih _ _ _ _ _ _ h
      simp [Nat.add_mul]
      omega

theorem convertbits_size (data : List Nat) (frombits tobits : Nat) (pad : Bool) (out : List Nat)
    (h : Bech32.convertbits data frombits tobits pad = some out) :
    out.length * tobits ≤ data.length * frombits + tobits := by
  unfold Bech32.convertbits at h
  simp only [] at h
  split at h
  · simp at h
  · rename_i acc bits ret hl
    have e := cbLoop_size _ _ _ _ _ _ _ _ _ _ _ hl
    simp at e
    split at h
    · split at h
      · simp at h; subst h; simp [Nat.add_mul]; omega
      · simp at h; subst h; omega
    · split at h
      · simp at h
      · simp at h; subst h; omega

theorem bech32Decode_size (bech : List Char) (enc : Bech32.Encoding) (hrp : List Char) (data : List Nat)
    (h : Bech32.bech32Decode bech = some (enc, hrp, data)) :
    hrp.length + data.length + 7 = bech.length ∧ bech.length ≤ 90 := by
  obtain ⟨_, _, h90, _, vals, h1, _, h6, _, rfl⟩ := (Bech32.bech32Decode_eq_some_iff bech enc hrp data).mp h
  have := congrArg List.length h1
  simp only [Bech32.lower_length, List.length_append, List.length_cons, List.length_map] at this
  rw [List.length_take]
  omega

theorem segwitDecode_size (hrp addr : List Char) (ver : Nat) (prog : List Nat)
    (h : Bech32.decode hrp addr = some (ver, prog)) : prog.length ≤ 40 ∧ addr.length ≤ 90 ∧ prog.length ≤ addr.length := by
  obtain ⟨_, _, h40, _, data, hbd, hcb⟩ := (Bech32.decode_eq_some_iff hrp addr ver prog).mp h
  obtain ⟨s1, s2⟩ := bech32Decode_size _ _ _ _ hbd
  have hsz := convertbits_size _ _ _ _ _ hcb
  rw [List.length_cons] at s1
  exact ⟨h40, s2, by omega⟩

theorem toScript_size (dsha : Bytes → Bytes) (nets : List Network) (addr : List Char) (spk : Bytes)
    (h : Address.toScript dsha nets addr = some (some spk)) : spk.length ≤ 34 := by
  rcases Address.toScript_yields dsha nets addr spk h with ⟨data, _, h21, hm⟩ | hb
  · obtain ⟨net, _, ⟨_, rfl⟩ | ⟨_, rfl⟩⟩ := Address.matchPrefix_yields data nets spk hm <;> simp <;> omega
  · obtain ⟨_, ver, prog, _, hv, rfl⟩ := Address.bech32Branch_yields nets addr spk hb
    simp only [List.length_cons, List.length_map]
    rcases hv with ⟨_, hl | hl⟩ | ⟨_, hl⟩ <;> omega

theorem cbWhile_fuel (tobits maxv acc : Nat) (ht : 1 ≤ tobits) : ∀ (f1 f2 bits : Nat) (ret : List Nat),
    bits < f1 → bits < f2 → Blech32.cbWhile tobits maxv acc f1 bits ret = Blech32.cbWhile tobits maxv acc f2 bits ret := by
  intro f1 f2 bits ret h1 h2
  rw [Bech32.cbWhile_eq_cbEmit _ _ _ ht _ _ _ h1, Bech32.cbWhile_eq_cbEmit _ _ _ ht _ _ _ h2]

theorem blechConvertBits_size (data : List Nat) (frombits tobits : Nat) (pad : Bool) (out : List Nat)
    (h : Blech32.convertBits data frombits tobits pad = some out) :
    out.length * tobits ≤ data.length * frombits + tobits := by
  cases tobits with
  | zero => exact Nat.zero_le _
  | succ t =>
    rw [Bech32.blech_convertBits_eq _ _ _ (Nat.succ_pos t)] at h
    exact convertbits_size _ _ _ _ _ h

theorem rfind_lt (c : Nat) : ∀ (l : List Nat) (i : Nat), Blech32.rfind c l = some i → i < l.length := by
  intro l
  induction l with
  | nil => intro i h; simp [Blech32.rfind] at h
  | cons x xs ih =>
    intro i h
    simp only [Blech32.rfind] at h
    split at h
    · rename_i j hj
      simp at h; subst h
      have := ih _ hj
      simp; omega
    · split at h
      · simp at h; subst h; simp
      · simp at h

theorem blechDecode_size (bech hrp data : List Nat) (h : Blech32.bech32Decode bech = some (hrp, data)) :
    hrp.length + data.length + 1 ≤ bech.length := by
  unfold Blech32.bech32Decode at h
  rw [Option.ite_none_left_eq_some] at h
  replace h := h.2
  dsimp only at h
  cases hp : Blech32.rfind 49 (bech.map Blech32.lowerC) with
  | none => rw [hp] at h; exact absurd h (by simp)
  | some pos =>
    have := rfind_lt _ _ _ hp
    simp only [hp, Option.ite_none_left_eq_some, Option.some.injEq, Prod.mk.injEq] at h
    obtain ⟨_, _, _, rfl, rfl⟩ := h
    simp only [List.length_map, List.length_take, List.length_drop] at this ⊢
    omega

end Embit.Model.Cost
