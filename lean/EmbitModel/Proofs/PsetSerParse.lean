import EmbitModel.Proofs.PsetTop
import EmbitModel.Proofs.PsbtSerParse
import EmbitModel.Proofs.ScopeRoundtrip
/-
  C18 (deepening): serialise-then-parse of PSET scopes and of whole version-2 PSET objects.
  `LInScope.addPairs` over the pairs `LInputScope.write_to` emits (from the seed `read_from` starts with) gives the
  scope back — up to the ORDER of the liquid-field table `lf`, which the model keeps in reading order while Python
  keeps the fields as attributes (no order): `norm` puts the table into the order `write_to` uses.
  The bitcoin part of a scope is delegated to the C04X lemmas through `addPairs_base` (a key that is neither a
  utxo key nor a liquid key is handled by the bitcoin `read_value`).
-/
set_option linter.unusedSimpArgs false
set_option linter.unusedVariables false
namespace Embit
open Model Spec.LWire

def Model.InScope.typed (b : InScope) : InScope := { b with unknown := [] }
def Model.OutScope.typed (b : OutScope) : OutScope := { b with unknown := [] }

/-- well-formed Liquid input scope: what `LInputScope.read_from` (KEEP_ALL) can return. The utxos live in the Liquid
    fields (`TX_CLS = LTransaction`), every typed bitcoin key is free of the two proprietary tags (Python's substring
    test would send it to the liquid branch otherwise), unknown keys are bitcoin-unknown or liquid-unknown. -/
structure LInWF (ko : KeyOps) (s : LInScope) : Prop where
  baseNwu : s.base.nonWitnessUtxo = none
  baseWu : s.base.witnessUtxo = none
  typed : InWF ko s.base.typed
  typedNL : ∀ kv ∈ s.base.typed.pairs (some 2), isLiquidKey kv.1 = false
  unknown : ∀ kv ∈ s.base.unknown, KVWF kv ∧
    ((isLiquidKey kv.1 = false ∧ unkKeyIn kv.1 = true) ∨ (isLiquidKey kv.1 = true ∧ LInField.ofKey kv.1 = none))
  unknownNodup : (s.base.unknown.map Prod.fst).Nodup
  nwu : OptP (fun t => WF t ∧ Fits (LTx.ser t)) s.nonWitnessUtxo
  wu : OptP (fun o => WFOut o ∧ o.witness = {} ∧ Fits (LTxOut.ser o)) s.witnessUtxo
  lf : ∀ e ∈ s.lf, lenOK e.1.len e.2 = true ∧ Fits e.2
  /-- (fix `d53`) the scope keeps no peg-in flag / issuance of a global transaction beside its fields -/
  txparts : s.isPegin = false ∧ s.txIssuance = none
  /-- (fix `c18-kf1`) a commitment field of the scope starts with 08 / 09 (`_set_commitment`) -/
  lfPfx : ∀ e ∈ s.lf, e.1.pfxOK e.2 = true

/-- the liquid table in the order `write_to` uses -/
def Model.LInScope.normLf (lf : List (LInField × Bytes)) : List (LInField × Bytes) :=
  LInField.order.filterMap (fun f => (lget lf f).map (fun v => (f, v)))

def Model.LInScope.norm (s : LInScope) : LInScope := { s with lf := LInScope.normLf s.lf }

/-- the scope `read_from` starts with -/
def Model.LInScope.seedOf (version : Option Nat) (s : LInScope) : LInScope :=
  if version = some 2 then {} else { base := { txid := s.base.txid, vout := s.base.vout, sequence := s.base.sequence } }

theorem LInScope.addPairs_append (ko : KeyOps) (a b : List KV) (s : LInScope) :
    LInScope.addPairs ko s (a ++ b) = (LInScope.addPairs ko s a).bind (fun s' => LInScope.addPairs ko s' b) := by
  simp only [LInScope.addPairs_eq_foldlM, List.foldlM_append]; rfl

theorem LInScope.bind_step {ko : KeyOps} {s s' : LInScope} {a b : List KV} {r : Option LInScope}
    (h1 : LInScope.addPairs ko s a = some s') (h2 : LInScope.addPairs ko s' b = r) :
    LInScope.addPairs ko s (a ++ b) = r := by
  rw [LInScope.addPairs_append, h1]; exact h2

theorem LTx.parse_ser (t : LTx) (h : WF t) : LTx.parse (LTx.ser t) = some t := by
  have := LTx.read_ser t [] h
  simp only [List.append_nil] at this
  simp [LTx.parse, parseAll, this]

theorem LTxOut.parse_ser (o : LTxOut) (h : WFOut o) (hw : o.witness = {}) : LTxOut.parse (LTxOut.ser o) = some o := by
  have := LTxOut.read_ser o [] h
  simp only [List.append_nil] at this
  have e : ({ o with witness := {} } : LTxOut) = o := by cases o; simp at hw; simp [hw]
  simp [LTxOut.parse, parseAll, this, e]

theorem lin_step_nwu (ko : KeyOps) (s : LInScope) (o : Option LTx) (hs : s.nonWitnessUtxo = none)
    (ho : OptP (fun t => WF t ∧ Fits (LTx.ser t)) o) :
    LInScope.addPairs ko s (optKV [0x00] (o.map LTx.ser)) = some { s with nonWitnessUtxo := o } := by
  cases o with
  | none => cases s; simp at hs; subst hs; rfl
  | some t =>
    have := LTx.parse_ser t ho.1
    have hl : isLiquidKey [0x00] = false := by decide
    simp [optKV, LInScope.addPairs, LInScope.addPair, hs, this, hl]

theorem lin_step_wu (ko : KeyOps) (s : LInScope) (o : Option LTxOut) (hs : s.witnessUtxo = none)
    (ho : OptP (fun o => WFOut o ∧ o.witness = {} ∧ Fits (LTxOut.ser o)) o) :
    LInScope.addPairs ko s (optKV [0x01] (o.map LTxOut.ser)) = some { s with witnessUtxo := o } := by
  cases o with
  | none => cases s; simp at hs; subst hs; rfl
  | some t =>
    have := LTxOut.parse_ser t ho.1 ho.2.1
    have hl : isLiquidKey [0x01] = false := by decide
    simp [optKV, LInScope.addPairs, LInScope.addPair, hs, this, hl]

theorem LInScope.addPair_base (ko : KeyOps) (s : LInScope) (k v : Bytes) (hk : baseKey k = true) :
    LInScope.addPair ko s k v
      = (InScope.addPair ko (fun _ => []) 0 s.base k v).map (fun b => { s with base := b }) := by
  unfold baseKey at hk
  simp only [Bool.and_eq_true, Bool.not_eq_true'] at hk
  obtain ⟨hl, hk0⟩ := hk
  cases k with
  | nil => simp at hk0
  | cons k0 kr =>
    simp only [Bool.and_eq_true, bne_iff_ne, ne_eq] at hk0
    simp only [LInScope.addPair, hl, Bool.not_false, if_true, hk0.1, hk0.2, if_false]
    cases InScope.addPair ko (fun _ => []) 0 s.base (k0 :: kr) v <;> rfl

theorem LInScope.addPairs_base (ko : KeyOps) (kvs : List KV) (s : LInScope) (h : ∀ kv ∈ kvs, baseKey kv.1 = true) :
    LInScope.addPairs ko s kvs
      = (InScope.addPairs ko (fun _ => []) 0 s.base kvs).map (fun b => { s with base := b }) := by
  simp only [LInScope.addPairs_eq_foldlM, InScope.addPairs_eq_foldlM]
  exact foldlM_map (f := fun b kv => InScope.addPair ko (fun _ => []) 0 b kv.1 kv.2)
    (f' := fun s kv => LInScope.addPair ko s kv.1 kv.2) (fun b => { s with base := b }) (Q := fun kv => baseKey kv.1 = true)
    (fun b kv hk => LInScope.addPair_base ko { s with base := b } kv.1 kv.2 hk) kvs s.base h

theorem unkKeyIn_baseKey (k : Bytes) (hl : isLiquidKey k = false) (hu : unkKeyIn k = true) : baseKey k = true := by
  cases k with
  | nil => simp [unkKeyIn] at hu
  | cons k0 kr =>
    simp only [unkKeyIn, typedIn, Bool.and_eq_true, Bool.not_eq_true', Bool.or_eq_false_iff, beq_eq_false_iff_ne,
      ne_eq] at hu
    simp only [baseKey, hl, Bool.not_false, Bool.true_and, Bool.and_eq_true, bne_iff_ne, ne_eq]
    obtain ⟨ht, _⟩ := hu
    simp_all

theorem LInScope.addPair_unknown (ko : KeyOps) (s : LInScope) (k v : Bytes)
    (hcls : (isLiquidKey k = false ∧ unkKeyIn k = true) ∨ (isLiquidKey k = true ∧ LInField.ofKey k = none))
    (hl : lookup k s.base.unknown = none) :
    LInScope.addPair ko s k v = some { s with base := { s.base with unknown := s.base.unknown ++ [(k, v)] } } := by
  rcases hcls with ⟨hliq, hu⟩ | ⟨hliq, hof⟩
  · rw [LInScope.addPair_base ko s k v (unkKeyIn_baseKey k hliq hu),
      InScope.addPair_unknown ko (fun _ => []) s.base k v hu hl]
    rfl
  · simp [LInScope.addPair, hliq, hof, hl]

theorem lin_step_unknown (ko : KeyOps) : ∀ (l : List KV) (s : LInScope),
    (∀ kv ∈ l, (isLiquidKey kv.1 = false ∧ unkKeyIn kv.1 = true) ∨ (isLiquidKey kv.1 = true ∧ LInField.ofKey kv.1 = none)) →
    ((s.base.unknown ++ l).map Prod.fst).Nodup →
    LInScope.addPairs ko s l = some { s with base := { s.base with unknown := s.base.unknown ++ l } } := by
  intro l s hv hn
  rw [LInScope.addPairs_eq_foldlM]
  have := foldlM_entries (step := fun s kv => LInScope.addPair ko s kv.1 kv.2) (f := id)
    (get := (·.base.unknown)) (set := fun s l => { s with base := { s.base with unknown := l } }) (fun _ _ => rfl)
    (fun _ _ _ => rfl) (fun _ => rfl) (fun s e he hn => LInScope.addPair_unknown ko s e.1 e.2 he hn) l s hv hn
  rwa [List.map_id] at this

theorem lin_step_lf (ko : KeyOps) (src : List (LInField × Bytes)) (hsrc : ∀ e ∈ src, lenOK e.1.len e.2 = true)
    (hpfx : ∀ e ∈ src, e.1.pfxOK e.2 = true) :
    ∀ (l : List LInField), l.Nodup → ∀ (s : LInScope), (∀ f ∈ l, lget s.lf f = none) →
    LInScope.addPairs ko s (l.filterMap (fun f => (lget src f).map (fun v => (f.key, v))))
      = some { s with lf := s.lf ++ l.filterMap (fun f => (lget src f).map (fun v => (f, v))) } := by
  intro l
  induction l with
  | nil => intro _ s _; simp [LInScope.addPairs]
  | cons f r ih =>
    intro hnd s hdis
    simp only [List.nodup_cons] at hnd
    cases hv : lget src f with
    | none =>
      simp only [List.filterMap_cons, hv, Option.map_none]
      exact ih hnd.2 s (fun g hg => hdis g (by simp [hg]))
    | some v =>
      simp only [List.filterMap_cons, hv, Option.map_some]
      have h1 := (LInScope.Step.field (ko := ko) f (hdis f (by simp)) (hsrc (f, v) (lget_mem src f v hv))
        (hpfx (f, v) (lget_mem src f v hv))).addPair
      simp only [LInScope.addPairs, h1]
      rw [ih hnd.2 { s with lf := s.lf ++ [(f, v)] } (fun g hg => by
        have hne : g ≠ f := fun e => hnd.1 (e ▸ hg)
        rw [lget_append_ne _ _ _ _ (fun e => hne e.symm)]
        exact hdis g (by simp [hg]))]
      simp [List.append_assoc]

theorem optKV_mem {k : Bytes} {o : Option Bytes} {kv : KV} (h : kv ∈ optKV k o) : kv.1 = k := by
  cases o with
  | none => simp [optKV] at h
  | some v => simp [optKV] at h; rw [h]

theorem InScope.pairs_sub_v2 (s : InScope) (ver : Option Nat) : ∀ kv ∈ s.pairs ver, kv ∈ s.pairs (some 2) := by
  intro kv hkv
  by_cases hv : ver = some 2
  · rw [hv] at hkv; exact hkv
  · rw [InScope.pairs_eq] at hkv ⊢
    simp only [hv, if_false, List.append_nil, if_true, List.mem_append] at hkv ⊢
    grind

theorem InScope.typed_pairs_head (b : InScope) (hn : b.nonWitnessUtxo = none) (hw : b.witnessUtxo = none)
    (ver : Option Nat) : ∀ kv ∈ b.typed.pairs ver, ∃ k0 kr, kv.1 = k0 :: kr ∧ k0 ≠ 0x00 ∧ k0 ≠ 0x01 := by
  intro kv hkv
  rw [InScope.pairs_eq] at hkv
  simp only [InScope.typed, hn, hw, Option.map_none, List.mem_append] at hkv
  rcases hkv with (((((((((((((((h | h) | h) | h) | h) | h) | h) | h) | h) | h) | h) | h) | h) | h) | h) | h)
  · simp [optKV] at h
  · simp [optKV] at h
  · obtain ⟨e, _, rfl⟩ := List.mem_map.mp h; exact ⟨_, _, rfl, by decide, by decide⟩
  · exact ⟨_, _, optKV_mem h, by decide, by decide⟩
  · exact ⟨_, _, optKV_mem h, by decide, by decide⟩
  · exact ⟨_, _, optKV_mem h, by decide, by decide⟩
  · obtain ⟨e, _, rfl⟩ := List.mem_map.mp h; exact ⟨_, _, rfl, by decide, by decide⟩
  · exact ⟨_, _, optKV_mem h, by decide, by decide⟩
  · exact ⟨_, _, optKV_mem h, by decide, by decide⟩
  · split at h
    · simp only [List.mem_append] at h
      rcases h with (h | h) | h
      · exact ⟨_, _, optKV_mem h, by decide, by decide⟩
      · exact ⟨_, _, optKV_mem h, by decide, by decide⟩
      · exact ⟨_, _, optKV_mem h, by decide, by decide⟩
    · simp at h
  · obtain ⟨e, _, rfl⟩ := List.mem_map.mp h; exact ⟨_, _, rfl, by decide, by decide⟩
  · obtain ⟨e, _, rfl⟩ := List.mem_map.mp h; exact ⟨_, _, rfl, by decide, by decide⟩
  · obtain ⟨e, _, rfl⟩ := List.mem_map.mp h; exact ⟨_, _, rfl, by decide, by decide⟩
  · exact ⟨_, _, optKV_mem h, by decide, by decide⟩
  · exact ⟨_, _, optKV_mem h, by decide, by decide⟩
  · simp at h

theorem InScope.pairs_typed (b : InScope) (ver : Option Nat) : b.pairs ver = b.typed.pairs ver ++ b.unknown := by
  simp [InScope.pairs, InScope.typed]

theorem InScope.typed_restore (b : InScope) : ({ b.typed with unknown := [] ++ b.unknown } : InScope) = b := by
  cases b; rfl

theorem LInScope.addPairs_pairs (ko : KeyOps) (version : Option Nat) (s : LInScope) (h : LInWF ko s) :
    LInScope.addPairs ko (LInScope.seedOf version s) (s.pairs version) = some s.norm := by
  have hseed : (LInScope.seedOf version s).nonWitnessUtxo = none ∧ (LInScope.seedOf version s).witnessUtxo = none
      ∧ (LInScope.seedOf version s).lf = [] ∧ (LInScope.seedOf version s).base = InScope.seedOf version s.base.typed := by
    unfold LInScope.seedOf InScope.seedOf
    split <;> simp [InScope.typed]
  obtain ⟨sd1, sd2, sd3, sd4⟩ := hseed
  have hbk : ∀ kv ∈ s.base.typed.pairs version, baseKey kv.1 = true := by
    intro kv hkv
    obtain ⟨k0, kr, e, h0, h1⟩ := InScope.typed_pairs_head s.base h.baseNwu h.baseWu version kv hkv
    have hl := h.typedNL kv (InScope.pairs_sub_v2 _ version kv hkv)
    rw [e] at hl
    simp [baseKey, hl, e, h0, h1]
  have step1 := lin_step_nwu ko (LInScope.seedOf version s) s.nonWitnessUtxo sd1 h.nwu
  have step2 := lin_step_wu ko { LInScope.seedOf version s with nonWitnessUtxo := s.nonWitnessUtxo } s.witnessUtxo sd2 h.wu
  have step3 : LInScope.addPairs ko
      { LInScope.seedOf version s with nonWitnessUtxo := s.nonWitnessUtxo, witnessUtxo := s.witnessUtxo }
      (s.base.typed.pairs version)
      = some { LInScope.seedOf version s with nonWitnessUtxo := s.nonWitnessUtxo, witnessUtxo := s.witnessUtxo,
                                              base := s.base.typed } := by
    rw [LInScope.addPairs_base ko _ _ hbk]
    simp only [sd4]
    rw [InScope.addPairs_pairs ko (fun _ => []) version s.base.typed h.typed]
    rfl
  have step4 := lin_step_unknown ko s.base.unknown
    { LInScope.seedOf version s with nonWitnessUtxo := s.nonWitnessUtxo, witnessUtxo := s.witnessUtxo,
                                     base := s.base.typed }
    (fun kv hkv => (h.unknown kv hkv).2) (by simpa [InScope.typed] using h.unknownNodup)
  have step5 := lin_step_lf ko s.lf (fun e he => (h.lf e he).1) h.lfPfx LInField.order LInField.order_nodup
    { LInScope.seedOf version s with nonWitnessUtxo := s.nonWitnessUtxo, witnessUtxo := s.witnessUtxo,
                                     base := { s.base.typed with unknown := s.base.typed.unknown ++ s.base.unknown } }
    (fun f _ => by simp [sd3, lget])
  have hpairs : s.pairs version = optKV [0x00] (s.nonWitnessUtxo.map LTx.ser)
      ++ (optKV [0x01] (s.witnessUtxo.map LTxOut.ser)
      ++ (s.base.typed.pairs version ++ (s.base.unknown
      ++ LInField.order.filterMap (fun f => (lget s.lf f).map (fun v => (f.key, v)))))) := by
    rw [LInScope.pairs, InScope.pairs_typed]
    simp only [LInScope.lpairs, List.append_assoc]
  rw [hpairs]
  refine LInScope.bind_step step1 (LInScope.bind_step step2 (LInScope.bind_step step3 (LInScope.bind_step step4 ?_)))
  rw [step5]
  have sd5 : (LInScope.seedOf version s).isPegin = s.isPegin ∧ (LInScope.seedOf version s).txIssuance = s.txIssuance := by
    rw [h.txparts.1, h.txparts.2]; unfold LInScope.seedOf; split <;> exact ⟨rfl, rfl⟩
  simp only [LInScope.norm, LInScope.normLf, sd3, List.nil_append, InScope.typed, sd5.1, sd5.2]

/-- well-formed Liquid output scope of a version-2 PSET: no raw commitment in the place of the value -/
structure LOutWF (ko : KeyOps) (s : LOutScope) : Prop where
  valueConf : s.valueConf = none
  typed : OutWF ko s.base.typed
  typedNL : ∀ kv ∈ s.base.typed.pairs (some 2), isLiquidKey kv.1 = false
  unknown : ∀ kv ∈ s.base.unknown, KVWF kv ∧
    ((isLiquidKey kv.1 = false ∧ unkKeyOut kv.1 = true) ∨ (isLiquidKey kv.1 = true ∧ LOutField.ofKey kv.1 = none))
  unknownNodup : (s.base.unknown.map Prod.fst).Nodup
  lf : ∀ e ∈ s.lf, lenOK e.1.len e.2 = true ∧ Fits e.2
  /-- (fix `d53`) the scope keeps no nonce of a global transaction beside its fields -/
  txNonce : s.txNonce = none

def Model.LOutScope.normLf (lf : List (LOutField × Bytes)) : List (LOutField × Bytes) :=
  LOutField.order.filterMap (fun f => (lget lf f).map (fun v => (f, v)))

def Model.LOutScope.norm (s : LOutScope) : LOutScope := { s with lf := LOutScope.normLf s.lf }

theorem LOutScope.addPairs_append (ko : KeyOps) (a b : List KV) (s : LOutScope) :
    LOutScope.addPairs ko s (a ++ b) = (LOutScope.addPairs ko s a).bind (fun s' => LOutScope.addPairs ko s' b) := by
  simp only [LOutScope.addPairs_eq_foldlM, List.foldlM_append]; rfl

theorem LOutScope.bind_step {ko : KeyOps} {s s' : LOutScope} {a b : List KV} {r : Option LOutScope}
    (h1 : LOutScope.addPairs ko s a = some s') (h2 : LOutScope.addPairs ko s' b = r) :
    LOutScope.addPairs ko s (a ++ b) = r := by
  rw [LOutScope.addPairs_append, h1]; exact h2

theorem LOutScope.addPair_base (ko : KeyOps) (s : LOutScope) (k v : Bytes) (hk : isLiquidKey k = false)
    (hc : k = [0x03] → s.valueConf = none) :
    LOutScope.addPair ko s k v = (OutScope.addPair ko s.base k v).map (fun b => { s with base := b }) := by
  have : (decide (k = [0x03]) && s.valueConf.isSome) = false := by
    by_cases e : k = [0x03]
    · simp [hc e]
    · simp [e]
  simp only [LOutScope.addPair, hk, Bool.not_false, if_true, this, Bool.false_eq_true, if_false]
  cases OutScope.addPair ko s.base k v <;> rfl

theorem LOutScope.addPairs_base (ko : KeyOps) (kvs : List KV) (s : LOutScope)
    (h : ∀ kv ∈ kvs, isLiquidKey kv.1 = false ∧ (kv.1 = [0x03] → s.valueConf = none)) :
    LOutScope.addPairs ko s kvs = (OutScope.addPairs ko s.base kvs).map (fun b => { s with base := b }) := by
  simp only [LOutScope.addPairs_eq_foldlM, OutScope.addPairs_eq_foldlM]
  exact foldlM_map (f := fun b kv => OutScope.addPair ko b kv.1 kv.2)
    (f' := fun s kv => LOutScope.addPair ko s kv.1 kv.2) (fun b => { s with base := b })
    (Q := fun kv => isLiquidKey kv.1 = false ∧ (kv.1 = [0x03] → s.valueConf = none))
    (fun b kv hk => LOutScope.addPair_base ko { s with base := b } kv.1 kv.2 hk.1 hk.2) kvs s.base h

theorem LOutScope.addPair_unknown (ko : KeyOps) (s : LOutScope) (k v : Bytes)
    (hcls : (isLiquidKey k = false ∧ unkKeyOut k = true) ∨ (isLiquidKey k = true ∧ LOutField.ofKey k = none))
    (hl : lookup k s.base.unknown = none) :
    LOutScope.addPair ko s k v = some { s with base := { s.base with unknown := s.base.unknown ++ [(k, v)] } } := by
  rcases hcls with ⟨hliq, hu⟩ | ⟨hliq, hof⟩
  · have h3 : k ≠ [0x03] := by rintro rfl; revert hu; decide
    rw [LOutScope.addPair_base ko s k v hliq (fun e => absurd e h3), OutScope.addPair_unknown ko s.base k v hu hl]
    rfl
  · exact (LOutScope.Step.unknown hliq hof hl).addPair

theorem lout_step_unknown (ko : KeyOps) : ∀ (l : List KV) (s : LOutScope),
    (∀ kv ∈ l, (isLiquidKey kv.1 = false ∧ unkKeyOut kv.1 = true) ∨ (isLiquidKey kv.1 = true ∧ LOutField.ofKey kv.1 = none)) →
    ((s.base.unknown ++ l).map Prod.fst).Nodup →
    LOutScope.addPairs ko s l = some { s with base := { s.base with unknown := s.base.unknown ++ l } } := by
  intro l s hv hn
  rw [LOutScope.addPairs_eq_foldlM]
  have := foldlM_entries (step := fun s kv => LOutScope.addPair ko s kv.1 kv.2) (f := id)
    (get := (·.base.unknown)) (set := fun s l => { s with base := { s.base with unknown := l } }) (fun _ _ => rfl)
    (fun _ _ _ => rfl) (fun _ => rfl) (fun s e he hn => LOutScope.addPair_unknown ko s e.1 e.2 he hn) l s hv hn
  rwa [List.map_id] at this

theorem lout_step_lf (ko : KeyOps) (b : Bool) (src : List (LOutField × Bytes)) (hsrc : ∀ e ∈ src, lenOK e.1.len e.2 = true) :
    ∀ (l : List LOutField), l.Nodup → ∀ (s : LOutScope), (∀ f ∈ l, lget s.lf f = none) →
    LOutScope.addPairs ko s (l.filterMap (fun f => (lget src f).map (fun v => (f.key b, v))))
      = some { s with lf := s.lf ++ l.filterMap (fun f => (lget src f).map (fun v => (f, v))) } := by
  intro l
  induction l with
  | nil => intro _ s _; simp [LOutScope.addPairs]
  | cons f r ih =>
    intro hnd s hdis
    simp only [List.nodup_cons] at hnd
    cases hv : lget src f with
    | none =>
      simp only [List.filterMap_cons, hv, Option.map_none]
      exact ih hnd.2 s (fun g hg => hdis g (by simp [hg]))
    | some v =>
      simp only [List.filterMap_cons, hv, Option.map_some]
      have h1 := (LOutScope.Step.field (ko := ko) f b (hdis f (by simp)) (hsrc (f, v) (lget_mem src f v hv))).addPair
      simp only [LOutScope.addPairs, h1]
      rw [ih hnd.2 { s with lf := s.lf ++ [(f, v)] } (fun g hg => by
        have hne : g ≠ f := fun e => hnd.1 (e ▸ hg)
        rw [lget_append_ne _ _ _ _ (fun e => hne e.symm)]
        exact hdis g (by simp [hg]))]
      simp [List.append_assoc]

theorem OutScope.pairs_typed (b : OutScope) (ver : Option Nat) : b.pairs ver = b.typed.pairs ver ++ b.unknown := by
  simp [OutScope.pairs, OutScope.typed]

theorem OutScope.pairs_sub_v2 (s : OutScope) (ver : Option Nat) : ∀ kv ∈ s.pairs ver, kv ∈ s.pairs (some 2) := by
  intro kv hkv
  by_cases hv : ver = some 2
  · rw [hv] at hkv; exact hkv
  · rw [OutScope.pairs_eq] at hkv ⊢
    simp only [hv, if_false, List.append_nil, if_true, List.mem_append] at hkv ⊢
    grind

theorem OutScope.typed_pairs_v0 (b : OutScope) (ver : Option Nat) (hv : ver ≠ some 2) :
    ∀ kv ∈ b.typed.pairs ver, kv.1 ≠ [0x03] := by
  intro kv hkv
  rw [OutScope.pairs_eq] at hkv
  simp only [OutScope.typed, hv, if_false, List.append_nil, List.mem_append] at hkv
  rcases hkv with (((h | h) | h) | h) | h
  · rw [optKV_mem h]; decide
  · rw [optKV_mem h]; decide
  · obtain ⟨e, he, rfl⟩ := List.mem_map.mp h; simp
  · rw [optKV_mem h]; decide
  · obtain ⟨e, he, rfl⟩ := List.mem_map.mp h; simp

/-- folding `read_value` over what an output scope writes — the typed bitcoin pairs, the unknown pairs, then the table
    fields `l` under the spelling `b` — from a seed that holds the bitcoin seed and none of the fields `l` -/
theorem LOutScope.addPairs_written (ko : KeyOps) (ver : Option Nat) (b : Bool) (l : List LOutField) (hl : l.Nodup)
    (s sd : LOutScope) (typed : OutWF ko s.base.typed)
    (typedNL : ∀ kv ∈ s.base.typed.pairs (some 2), isLiquidKey kv.1 = false)
    (unknown : ∀ kv ∈ s.base.unknown, KVWF kv ∧
      ((isLiquidKey kv.1 = false ∧ unkKeyOut kv.1 = true) ∨ (isLiquidKey kv.1 = true ∧ LOutField.ofKey kv.1 = none)))
    (unknownNodup : (s.base.unknown.map Prod.fst).Nodup)
    (lf : ∀ e ∈ s.lf, lenOK e.1.len e.2 = true ∧ Fits e.2)
    (hbase : sd.base = OutScope.seedOf ver s.base.typed)
    (hconf : ver = some 2 → sd.valueConf = none) (hdis : ∀ f ∈ l, lget sd.lf f = none) :
    LOutScope.addPairs ko sd (s.base.typed.pairs ver ++ (s.base.unknown
        ++ l.filterMap (fun f => (lget s.lf f).map (fun v => (f.key b, v)))))
      = some { sd with base := s.base, lf := sd.lf ++ l.filterMap (fun f => (lget s.lf f).map (fun v => (f, v))) } := by
  have step3 : LOutScope.addPairs ko sd (s.base.typed.pairs ver) = some { sd with base := s.base.typed } := by
    rw [LOutScope.addPairs_base ko _ _ (fun kv hkv => ⟨typedNL kv (OutScope.pairs_sub_v2 _ ver kv hkv), fun e =>
      hconf (Classical.byContradiction fun hv => OutScope.typed_pairs_v0 s.base ver hv kv hkv e)⟩),
      hbase, OutScope.addPairs_pairs ko ver s.base.typed typed]
    rfl
  have step4 := lout_step_unknown ko s.base.unknown { sd with base := s.base.typed }
    (fun kv hkv => (unknown kv hkv).2) (by simpa [OutScope.typed] using unknownNodup)
  have step5 := lout_step_lf ko b s.lf (fun e he => (lf e he).1) l hl
    { sd with base := { s.base.typed with unknown := s.base.typed.unknown ++ s.base.unknown } } hdis
  refine LOutScope.bind_step step3 (LOutScope.bind_step step4 ?_)
  rw [step5]
  simp only [OutScope.typed, List.nil_append]

theorem LOutScope.addPairs_pairs (ko : KeyOps) (s : LOutScope) (h : LOutWF ko s) :
    LOutScope.addPairs ko {} (s.pairsL (some 2)) = some s.norm := by
  have hpairs : s.pairsL (some 2) = s.base.typed.pairs (some 2) ++ (s.base.unknown
      ++ LOutField.order.filterMap (fun f => (lget s.lf f).map (fun v => (f.key true, v)))) := by
    rw [LOutScope.pairsL, OutScope.pairs_typed]
    simp [LOutScope.lpairs, List.append_assoc]
  rw [hpairs, LOutScope.addPairs_written ko (some 2) true LOutField.order LOutField.order_nodup s {} h.typed h.typedNL
    h.unknown h.unknownNodup h.lf rfl (fun _ => rfl) (fun f _ => rfl)]
  have hc := h.valueConf
  have hn := h.txNonce
  cases s with
  | mk base vc lf tn =>
    simp only at hc hn
    subst hc
    subst hn
    rfl

theorem LInField.key_fits (f : LInField) : f.key ≠ [] ∧ Fits f.key := by cases f <;> decide
theorem LOutField.key_fits (f : LOutField) (b : Bool) : f.key b ≠ [] ∧ Fits (f.key b) := by cases f <;> cases b <;> decide

theorem LInScope.pairs_wf (ko : KeyOps) (version : Option Nat) (s : LInScope) (h : LInWF ko s) :
    ∀ kv ∈ s.pairs version, KVWF kv := by
  have b1 : ∀ k0 : UInt8, ([k0] : Bytes) ≠ [] ∧ Fits [k0] := fun k0 => ⟨by simp, by simp [Fits]⟩
  intro kv hkv
  rw [LInScope.pairs, InScope.pairs_typed] at hkv
  simp only [List.mem_append] at hkv
  rcases hkv with (((hkv | hkv) | (hkv | hkv)) | hkv)
  · exact optKV_wf _ _ (b1 _) (OptP_map h.nwu (fun t ht => ht.2)) kv hkv
  · exact optKV_wf _ _ (b1 _) (OptP_map h.wu (fun t ht => ht.2.2)) kv hkv
  · exact InScope.pairs_wf ko version _ h.typed kv hkv
  · exact (h.unknown kv hkv).1
  · simp only [LInScope.lpairs, List.mem_filterMap] at hkv
    obtain ⟨f, _, hf⟩ := hkv
    cases hv : lget s.lf f with
    | none => simp [hv] at hf
    | some v =>
      simp [hv] at hf; subst hf
      exact ⟨(LInField.key_fits f).1, (LInField.key_fits f).2, (h.lf (f, v) (lget_mem _ _ _ hv)).2⟩

theorem LOutScope.pairsL_wf (ko : KeyOps) (ver : Option Nat) (s : LOutScope) (typed : OutWF ko s.base.typed)
    (unknown : ∀ kv ∈ s.base.unknown, KVWF kv ∧
      ((isLiquidKey kv.1 = false ∧ unkKeyOut kv.1 = true) ∨ (isLiquidKey kv.1 = true ∧ LOutField.ofKey kv.1 = none)))
    (lf : ∀ e ∈ s.lf, lenOK e.1.len e.2 = true ∧ Fits e.2) :
    ∀ kv ∈ s.pairsL ver, KVWF kv := by
  intro kv hkv
  rw [LOutScope.pairsL, OutScope.pairs_typed] at hkv
  simp only [List.mem_append] at hkv
  rcases hkv with ((hkv | hkv) | hkv)
  · exact OutScope.pairs_wf ko ver _ typed kv hkv
  · exact (unknown kv hkv).1
  · simp only [LOutScope.lpairs, List.mem_filterMap] at hkv
    obtain ⟨f, _, hf⟩ := hkv
    split at hf
    · simp at hf
    · cases hv : lget s.lf f with
      | none => simp [hv] at hf
      | some v =>
        simp [hv] at hf; subst hf
        exact ⟨(LOutField.key_fits f _).1, (LOutField.key_fits f _).2, (lf (f, v) (lget_mem _ _ _ hv)).2⟩

theorem readLIns_write (ko : KeyOps) (tx : Option LTx) (ver : Option Nat) (ins : List LInScope) (i : Nat) (r : Bytes)
    (hwf : ∀ s ∈ ins, ∀ kv ∈ s.pairs ver, KVWF kv)
    (hfold : ∀ (j : Nat) (s : LInScope), ins[j]? = some s →
      LInScope.addPairs ko (lseedIn tx (i + j)) (s.pairs ver) = some s.norm) :
    readLIns ko tx ins.length i (ins.flatMap (fun s => writeKVs (s.pairs ver)) ++ r)
      = some (ins.map LInScope.norm, r) := by
  rw [readLIns_eq]
  exact readScopes_write (fun i kvs => LInScope.addPairs ko (lseedIn tx i) kvs) (fun s => s.pairs ver) LInScope.norm
    ins i r hwf hfold

theorem readLOuts_write (ko : KeyOps) (tx : Option LTx) (ver : Option Nat) (outs : List LOutScope) (i : Nat) (r : Bytes)
    (hwf : ∀ s ∈ outs, ∀ kv ∈ s.pairsL ver, KVWF kv)
    (hfold : ∀ (j : Nat) (s : LOutScope), outs[j]? = some s →
      LOutScope.addPairs ko (lseedOut tx (i + j)) (s.pairsL ver) = some s.norm) :
    readLOuts ko tx outs.length i (outs.flatMap (fun s => writeKVs (s.pairsL ver)) ++ r)
      = some (outs.map LOutScope.norm, r) := by
  rw [readLOuts_eq]
  exact readScopes_write (fun i kvs => LOutScope.addPairs ko (lseedOut tx i) kvs) (fun s => s.pairsL ver)
    LOutScope.norm outs i r hwf hfold

theorem lglobalFold_unknown_seg : ∀ (l : List KV) (tx : Option LTx) (ver : Option Nat) (unk rest : List KV),
    (∀ kv ∈ l, notTxVer kv = true) → ((unk ++ l).map Prod.fst).Nodup →
    lglobalFold tx ver unk (l ++ rest) = lglobalFold tx ver (unk ++ l) rest := by
  intro l
  induction l with
  | nil => intro tx ver unk rest _ _; simp
  | cons kv l ih =>
    intro tx ver unk rest hk hn
    obtain ⟨k, v⟩ := kv
    obtain ⟨hp, hn'⟩ := nodup_snoc_split _ _ _ _ hn
    have := hk (k, v) (by simp)
    simp only [notTxVer, Bool.and_eq_true, Bool.not_eq_true', beq_eq_false_iff_ne, ne_eq] at this
    simp only [List.cons_append, lglobalFold, this.1, this.2, if_false, hp, Option.isSome_none, Bool.false_eq_true]
    rw [ih _ _ _ _ (fun x hx => hk x (by simp [hx])) hn']
    simp [List.append_assoc]

theorem lglobalFold_ver_step (tx : Option LTx) (o : Option Nat) (ho : OptP (· < 2^32) o) (unk rest : List KV) :
    lglobalFold tx none unk (optKV [0xfb] (o.map (leN 4)) ++ rest) = lglobalFold tx o unk rest := by
  cases o with
  | none => simp [optKV]
  | some n =>
    have := ofLe_leN 4 n (by simp at ho; omega)
    simp [optKV, lglobalFold, this]

/-- the global scope as `write_to` emits it after the transaction pair: pairs that stay in the unknown map, the
    version, more such pairs -/
theorem lglobalFold_written (tx : Option LTx) (ver : Option Nat) (hver : OptP (· < 2^32) ver) (pre unk : List KV)
    (hpre : ∀ kv ∈ pre, notTxVer kv = true) (hunk : ∀ kv ∈ unk, notTxVer kv = true)
    (hn : ((pre ++ unk).map Prod.fst).Nodup) :
    lglobalFold tx none [] (pre ++ optKV [0xfb] (ver.map (leN 4)) ++ unk) = some (tx, ver, pre ++ unk) := by
  have hn1 : (([] ++ pre).map Prod.fst).Nodup := by
    rw [List.map_append] at hn
    simpa using (List.nodup_append.mp hn).1
  rw [List.append_assoc, lglobalFold_unknown_seg _ _ _ _ _ hpre hn1, lglobalFold_ver_step _ _ hver]
  have := lglobalFold_unknown_seg unk tx ver ([] ++ pre) [] hunk (by simpa using hn)
  simp only [List.append_nil, List.nil_append] at this ⊢
  rw [this]; rfl

/-- the global fields of a PSET as a PSBT object without scopes' content: the global scope of `PSET.write_to` (version 2)
    is the one of `PSBT.write_to` -/
def Model.LPset.shadow (p : LPset) : Psbt :=
  { version := p.version, txVersion := p.txVersion, locktime := p.locktime, xpubs := p.xpubs, unknown := p.unknown,
    inputs := p.inputs.map (fun _ => {}), outputs := p.outputs.map (fun _ => {}) }

/-- well-formed version-2 PSET object: what `PSET.parse` (KEEP_ALL) can return for a PSETv2 — the global fields as in
    `PsbtWF` (C04X), every scope well-formed -/
structure LPsetWF (ko : KeyOps) (p : LPset) : Prop where
  version : p.version = some 2
  global : PsbtWF ko p.shadow
  ins : ∀ s ∈ p.inputs, LInWF ko s
  outs : ∀ s ∈ p.outputs, LOutWF ko s

def Model.LPset.norm (p : LPset) : LPset :=
  { p with inputs := p.inputs.map LInScope.norm, outputs := p.outputs.map LOutScope.norm }

theorem LPset.parse_of_parts (ko : KeyOps) (g : List KV) (rest : Bytes)
    (tx : Option LTx) (ver : Option Nat) (unk : List KV) (gs : GState) (ins : List LInScope) (outs : List LOutScope)
    (r2 : Bytes)
    (hg : ∀ kv ∈ g, KVWF kv)
    (hgf : lglobalFold none none [] g = some (tx, ver, unk))
    (hc1 : (tx.isSome && ver == some 2) = false) (hc2 : (tx.isNone && !(ver == some 2)) = false)
    (hpu : parseUnknowns ko (ver == some 2) (lgstate0 tx) unk = some gs)
    (hins : readLIns ko tx (gs.nin.getD 0) 0 rest = some (ins, r2))
    (houts : readLOuts ko tx (gs.nout.getD 0) 0 r2 = some (outs, [])) :
    LPset.parse ko (psetMagic ++ (writeKVs g ++ rest))
      = some { version := ver, txVersion := gs.txVersion, locktime := gs.locktime, xpubs := gs.xpubs,
               unknown := gs.unknown, inputs := ins, outputs := outs } := by
  have h1 : takeN 5 (psetMagic ++ (writeKVs g ++ rest)) = some (psetMagic, writeKVs g ++ rest) :=
    takeN_append psetMagic _
  have h2 := readKVs_write g rest hg
  have hpu' : parseUnknowns ko (ver == some 2)
      { txVersion := tx.map (·.version), locktime := tx.map (·.locktime), nin := tx.map (·.vin.length),
        nout := tx.map (·.vout.length), xpubs := [], unknown := [] } unk = some gs := hpu
  unfold LPset.parse
  simp only [h1, h2, hgf, hc1, hc2, hpu', hins, houts]
  simp

/-- serialise-then-parse, PSETv2: a well-formed object serialises, and parsing the bytes gives the object back (with
    the liquid tables in `write_to` order) -/
theorem LPset.parse_ser_v2 (ko : KeyOps) (p : LPset) (h : LPsetWF ko p) :
    ∃ b, LPset.ser p = some b ∧ LPset.parse ko b = some p.norm := by
  have hv := h.version
  have hq := h.global
  have hisv2 : (p.version == some 2) = true := by simp [hv]
  have hver : OptP (· < 2^32) p.version := hq.version
  have hl1 : p.shadow.inputs.length = p.inputs.length := by simp [LPset.shadow]
  have hl2 : p.shadow.outputs.length = p.outputs.length := by simp [LPset.shadow]
  obtain ⟨hwf, gw1, gw2, gw3, hpu⟩ := globalWritten ko true p.xpubs p.shadow.v2Pairs p.unknown (lgstate0 none)
    { txVersion := p.txVersion, locktime := p.locktime, nin := some p.inputs.length, nout := some p.outputs.length,
      xpubs := p.xpubs, unknown := [] }
    hq.xpubs hq.xpubsNodup (v2Pairs_props ko p.shadow hq).1 (v2Pairs_props ko p.shadow hq).2 nofun
    (fun kv hkv => by simpa [LPset.shadow, hisv2] using hq.unknown kv hkv) hq.unknownNodup
    (by
      have := pu_bind_step (pu_bind_step
        (pu_step_txver ko { lgstate0 none with xpubs := [] ++ p.xpubs } p.txVersion hq.txVersion rfl)
        (pu_step_locktime ko _ p.locktime hq.locktime rfl))
        (pu_step_counts ko _ p.inputs.length p.outputs.length (by rw [← hl1]; exact hq.nin) (by rw [← hl2]; exact hq.nout))
      simpa [Psbt.v2Pairs, LPset.shadow, lgstate0] using this) p.version hver
  have hgf := lglobalFold_written none p.version hver _ p.unknown gw1 gw2 gw3
  have hins := readLIns_write ko none (some 2) p.inputs 0
    (p.outputs.flatMap (fun s => writeKVs (s.pairsL (some 2))) ++ [])
    (fun s hs => LInScope.pairs_wf ko (some 2) s (h.ins s hs))
    (fun j s hj => LInScope.addPairs_pairs ko (some 2) s (h.ins s (List.mem_of_getElem? hj)))
  have houts := readLOuts_write ko none (some 2) p.outputs 0 []
    (fun s hs => LOutScope.pairsL_wf ko (some 2) s (h.outs s hs).typed (h.outs s hs).unknown (h.outs s hs).lf)
    (fun j s hj => LOutScope.addPairs_pairs ko s (h.outs s (List.mem_of_getElem? hj)))
  have hparse := LPset.parse_of_parts ko _ _ none p.version _ _ (p.inputs.map LInScope.norm) (p.outputs.map LOutScope.norm)
    _ hwf hgf (by simp) (by simp [hv]) (by simpa [hisv2] using hpu) (by simpa using hins) (by simpa using houts)
  refine ⟨_, ?_, hparse⟩
  have hgp : p.globalPairs = some (p.xpubs.map (fun e => (0x01 :: e.1, Deriv.ser e.2)) ++ p.shadow.v2Pairs
      ++ optKV [0xfb] (p.version.map (leN 4)) ++ p.unknown) := by
    simp only [LPset.globalPairs, hisv2, Bool.not_true, Bool.false_eq_true, if_false, if_true, Option.map_some,
      List.nil_append]
    simp [Psbt.v2Pairs, LPset.shadow]
  have hop : ∀ s ∈ p.outputs, s.pairs p.version = some (s.pairsL p.version) := by
    intro s hs
    simp [LOutScope.pairs_eq, (h.outs s hs).valueConf]
  rw [LPset.ser_of_globalPairs p _ hgp hop, hv]
  simp [List.append_assoc]

theorem lget_filterMap {φ : Type} [DecidableEq φ] (lf : List (φ × Bytes)) : ∀ (l : List φ), l.Nodup → ∀ f,
    lget (l.filterMap (fun g => (lget lf g).map (fun v => (g, v)))) f = if f ∈ l then lget lf f else none := by
  intro l
  induction l with
  | nil => intro _ f; simp [lget]
  | cons g r ih =>
    intro hnd f
    simp only [List.nodup_cons] at hnd
    cases hv : lget lf g with
    | none =>
      simp only [List.filterMap_cons, hv, Option.map_none, ih hnd.2 f, List.mem_cons]
      by_cases e : f = g
      · subst e; simp [hnd.1, hv]
      · simp [e]
    | some v =>
      simp only [List.filterMap_cons, hv, Option.map_some, lget, List.mem_cons]
      by_cases e : g = f
      · subst e; simp [hv]
      · have e' : ¬ f = g := fun h => e h.symm
        simp [e, e', ih hnd.2 f]

theorem LInScope.lget_normLf (lf : List (LInField × Bytes)) (f : LInField) : lget (LInScope.normLf lf) f = lget lf f := by
  rw [LInScope.normLf, lget_filterMap lf _ LInField.order_nodup f]; simp [LInField.mem_order]

theorem LOutScope.lget_normLf (lf : List (LOutField × Bytes)) (f : LOutField) : lget (LOutScope.normLf lf) f = lget lf f := by
  rw [LOutScope.normLf, lget_filterMap lf _ LOutField.order_nodup f]; simp [LOutField.mem_order]

theorem LInScope.normLf_idem (lf : List (LInField × Bytes)) :
    LInScope.normLf (LInScope.normLf lf) = LInScope.normLf lf := by
  show LInField.order.filterMap (fun f => (lget (LInScope.normLf lf) f).map (fun v => (f, v))) = _
  simp only [LInScope.lget_normLf]
  rfl

theorem LOutScope.normLf_idem (lf : List (LOutField × Bytes)) :
    LOutScope.normLf (LOutScope.normLf lf) = LOutScope.normLf lf := by
  show LOutField.order.filterMap (fun f => (lget (LOutScope.normLf lf) f).map (fun v => (f, v))) = _
  simp only [LOutScope.lget_normLf]
  rfl

theorem LInScope.norm_norm (s : LInScope) : s.norm.norm = s.norm := by
  simp only [LInScope.norm, LInScope.normLf_idem]

theorem LOutScope.norm_norm (s : LOutScope) : s.norm.norm = s.norm := by
  simp only [LOutScope.norm, LOutScope.normLf_idem]

theorem LInScope.pairs_norm (s : LInScope) (ver : Option Nat) : s.norm.pairs ver = s.pairs ver := by
  simp only [LInScope.pairs, LInScope.lpairs, LInScope.norm, LInScope.lget_normLf]

theorem LOutScope.pairsL_norm (s : LOutScope) (ver : Option Nat) : s.norm.pairsL ver = s.pairsL ver := by
  simp only [LOutScope.pairsL, LOutScope.lpairs, LOutScope.norm, LOutScope.lget_normLf]

theorem mem_of_mem_filterMap_lget {φ : Type} [DecidableEq φ] (lf : List (φ × Bytes)) (l : List φ) :
    ∀ e ∈ l.filterMap (fun f => (lget lf f).map (fun v => (f, v))), e ∈ lf := by
  intro e he
  obtain ⟨f, _, hf⟩ := List.mem_filterMap.mp he
  cases hv : lget lf f with
  | none => simp [hv] at hf
  | some v => simp [hv] at hf; subst hf; exact lget_mem _ _ _ hv

theorem LInWF.norm {ko : KeyOps} {s : LInScope} (h : LInWF ko s) : LInWF ko s.norm :=
  { h with lf := fun e he => h.lf e (mem_of_mem_filterMap_lget _ _ e he),
           lfPfx := fun e he => h.lfPfx e (mem_of_mem_filterMap_lget _ _ e he) }

theorem LOutWF.norm {ko : KeyOps} {s : LOutScope} (h : LOutWF ko s) : LOutWF ko s.norm :=
  { h with lf := fun e he => h.lf e (mem_of_mem_filterMap_lget _ _ e he) }

theorem LPset.norm_norm (p : LPset) : p.norm.norm = p.norm := by
  simp only [LPset.norm, List.map_map]
  congr 1
  · apply List.map_congr_left; intro s _; exact LInScope.norm_norm s
  · apply List.map_congr_left; intro s _; exact LOutScope.norm_norm s

theorem LPsetWF.norm {ko : KeyOps} {p : LPset} (h : LPsetWF ko p) : LPsetWF ko p.norm := by
  refine ⟨h.version, ?_, ?_, ?_⟩
  · have : p.norm.shadow = p.shadow := by simp [LPset.shadow, LPset.norm, List.map_map]
    rw [this]; exact h.global
  · intro s hs
    simp only [LPset.norm, List.mem_map] at hs
    obtain ⟨s0, h0, rfl⟩ := hs
    exact (h.ins s0 h0).norm
  · intro s hs
    simp only [LPset.norm, List.mem_map] at hs
    obtain ⟨s0, h0, rfl⟩ := hs
    exact (h.outs s0 h0).norm

theorem LPset.parse_ser_norm (ko : KeyOps) (p : LPset) (h : LPsetWF ko p) :
    ∃ b, LPset.ser p.norm = some b ∧ LPset.parse ko b = some p.norm := by
  obtain ⟨b, h1, h2⟩ := LPset.parse_ser_v2 ko p.norm h.norm
  rw [LPset.norm_norm] at h2
  exact ⟨b, h1, h2⟩

theorem LOutScope.pairs_norm (s : LOutScope) (ver : Option Nat) : s.norm.pairs ver = s.pairs ver := by
  rw [LOutScope.pairs_eq, LOutScope.pairs_eq, LOutScope.pairsL_norm]
  rfl

theorem LPset.ser_norm (p : LPset) (hv : p.version = some 2) : LPset.ser p.norm = LPset.ser p := by
  have hisv2 : (p.version == some 2) = true := by simp [hv]
  have hg : p.norm.globalPairs = p.globalPairs := by
    simp [LPset.globalPairs, LPset.norm, hisv2]
  have ho : p.norm.outputs.map (fun s => s.pairs p.norm.version) = p.outputs.map (fun s => s.pairs p.version) := by
    simp [LPset.norm, List.map_map, Function.comp_def, LOutScope.pairs_norm]
  have hi : p.norm.inputs.flatMap (fun s => writeKVs (s.pairs p.norm.version))
      = p.inputs.flatMap (fun s => writeKVs (s.pairs p.version)) := by
    simp [LPset.norm, List.flatMap_map, LInScope.pairs_norm]
  simp only [LPset.ser, hg, ho, hi]

end Embit
