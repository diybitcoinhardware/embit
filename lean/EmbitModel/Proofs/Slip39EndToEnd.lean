import EmbitModel.Proofs.Slip39Recover
import EmbitModel.Proofs.Slip39Feistel
import EmbitModel.Proofs.Slip39Text
import EmbitModel.Proofs.Slip39Logic
import EmbitModel.Proofs.BasicList
/-
  What `generate_shares` (encrypt, split, print) returns: the structure of its output, and that the n mnemonics are
  pairwise distinct. Recovery from any k of them is in `Slip39TwoLevel.lean`.
-/
namespace Embit.Model.Slip39

/-- the share `generate_shares` builds from one entry of the split data -/
def shareOf (numBits id e k n : Nat) (d : Nat × Bytes) : Share :=
  { shareBitLength := numBits, id := id, exponent := e, groupIndex := d.1, groupThreshold := k, groupCount := n,
    memberIndex := 0, memberThreshold := 1, value := ofBe d.2 }

theorem splitSecret_shape (P : Prims) (hH : ∀ key msg, 4 ≤ (P.hmac key msg).length) (secret : Bytes) (k n : Nat)
    (tape : List Nat) (data : List (Nat × Bytes)) (hs : splitSecret P secret k n tape = some data) :
    data.map (·.1) = List.range n ∧ 1 ≤ k ∧ k ≤ n ∧ n ≤ 16 ∧ (secret.length = 16 ∨ secret.length = 32) ∧
    (∀ d ∈ data, d.2.length = secret.length) ∧ (k = 1 → ∀ d ∈ data, d.2 = secret) := by
  by_cases hk : 2 ≤ k
  · obtain ⟨r, B, _, _, _, _, _, hx, hkn, hn, hsz, hshare⟩ := splitSecret_onpoly P hH secret k n tape data hs hk
    exact ⟨hx, by omega, hkn, hn, hsz, fun d hd => (hshare d hd).1, fun h => by omega⟩
  · rw [splitSecret_def] at hs
    split at hs
    · rename_i hv
      rw [if_pos (by omega), Option.some.injEq] at hs
      subst hs
      refine ⟨by simp [List.map_map, Function.comp_def], hv.1, hv.2.1, hv.2.2.1, hv.2.2.2, ?_, ?_⟩
      · intro d hd; obtain ⟨i, _, rfl⟩ := List.mem_map.mp hd; rfl
      · intro _ d hd; obtain ⟨i, _, rfl⟩ := List.mem_map.mp hd; rfl
    · simp at hs

theorem mapM_new_mnemonic (sh : Nat × Bytes → Share) (l : List (Nat × Bytes)) (r : List (List Nat))
    (h : l.mapM (fun d => (Share.new? (sh d)).map Share.mnemonic) = some r) :
    r = l.map (fun d => (sh d).mnemonic) ∧ ∀ d ∈ l, (sh d).initOk = true := by
  induction l generalizing r with
  | nil => simp at h; subst h; simp
  | cons a l ih =>
    obtain ⟨b, r', hb, hl, rfl⟩ := mapM_cons_some h
    obtain ⟨e, hi⟩ := ih r' hl
    simp only [Share.new?] at hb
    by_cases ha : (sh a).initOk = true
    · simp only [ha, if_true, Option.map_some, Option.some.injEq] at hb
      subst hb
      exact ⟨by rw [e]; rfl, by
        intro d hd
        rcases List.mem_cons.mp hd with h | h
        · rw [h]; exact ha
        · exact hi d h⟩
    · simp [ha] at hb

theorem mapM_map_some {α β γ : Type} (f : β → Option γ) (g : α → β) (h : α → γ) (l : List α)
    (hh : ∀ a ∈ l, f (g a) = some (h a)) : (l.map g).mapM f = some (l.map h) := by
  induction l with
  | nil => rfl
  | cons a l ih =>
    rw [List.map_cons, List.mapM_cons, hh a List.mem_cons_self, ih (fun a' h' => hh a' (List.mem_cons_of_mem _ h'))]
    rfl

theorem preimage_list {α β : Type} (f : α → β) (data : List α) (sub : List β) (h : ∀ m ∈ sub, m ∈ data.map f) :
    ∃ T : List α, (∀ t ∈ T, t ∈ data) ∧ sub = T.map f := by
  induction sub with
  | nil => exact ⟨[], by simp, rfl⟩
  | cons m sub ih =>
    obtain ⟨T, hT, e⟩ := ih (fun m' h' => h m' (List.mem_cons_of_mem _ h'))
    obtain ⟨d, hd, rfl⟩ := List.mem_map.mp (h m List.mem_cons_self)
    exact ⟨d :: T, by
      intro t ht
      rcases List.mem_cons.mp ht with h | h
      · rw [h]; exact hd
      · exact hT t h, by rw [e]; rfl⟩

theorem generateShares_structure (P : Prims) (secret : Bytes) (k n : Nat) (pass : Bytes) (e : Nat) (tape : List Nat)
    (ms : List (List Nat)) (h : generateShares P secret k n pass e tape = some ms) :
    ∃ id tape1 enc data,
      tape = id :: tape1 ∧ (secret.length = 16 ∨ secret.length = 32) ∧ encrypt P secret id e pass = some enc ∧
      splitSecret P enc k n tape1 = some data ∧
      ms = data.map (fun d => (shareOf (secret.length * 8) id e k n d).mnemonic) ∧
      ∀ d ∈ data, (shareOf (secret.length * 8) id e k n d).initOk = true := by
  unfold generateShares at h
  simp only at h
  split at h; · simp at h
  rename_i hbits
  split at h; · simp at h
  rename_i id tape1
  split at h; · simp at h
  rename_i enc henc
  split at h; · simp at h
  rename_i data hdata
  obtain ⟨e1, e2⟩ := mapM_new_mnemonic (shareOf (secret.length * 8) id e k n) data ms h
  exact ⟨id, tape1, enc, data, rfl, by omega, henc, hdata, e1, e2⟩

theorem filter_fst_singleton (T : List (Nat × Bytes)) (hnd : (T.map (·.1)).Nodup) (t : Nat × Bytes) (ht : t ∈ T) :
    T.filter (fun x => x.1 == t.1) = [t] := by
  induction T with
  | nil => simp at ht
  | cons a T ih =>
    simp only [List.map_cons, List.nodup_cons] at hnd
    rcases List.mem_cons.mp ht with rfl | ht'
    · have : T.filter (fun x => x.1 == t.1) = [] :=
        List.filter_eq_nil_iff.mpr fun x hx hxt => hnd.1 (List.mem_map.mpr ⟨x, hx, by simpa using hxt⟩)
      simp [this]
    · have hne : (a.1 == t.1) = false := by
        rw [beq_eq_false_iff_ne]; intro h; exact hnd.1 (h ▸ List.mem_map_of_mem ht')
      rw [List.filter_cons, hne]
      exact ih hnd.2 ht'

/-- groups whose members all have member threshold 1 contribute their FIRST share, no check -/
theorem gather_mt1 (P : Prims) (gs : List (Nat × List Share))
    (h : ∀ g ∈ gs, ∀ s ∈ g.2, s.memberThreshold = 1) :
    gatherGroups P gs = some (gs.filterMap fun g => g.2.head?.map fun s => (g.1, s.bytes)) := by
  induction gs with
  | nil => rfl
  | cons g gs ih =>
    obtain ⟨i, grp⟩ := g
    have ih' := ih (fun g' h' => h g' (List.mem_cons_of_mem _ h'))
    cases grp with
    | nil => simp only [gatherGroups, recoverGroup, ih', List.filterMap_cons, List.head?_nil, Option.map_none]
    | cons g0 rest =>
      have h0 : g0.memberThreshold = 1 := h (i, g0 :: rest) List.mem_cons_self g0 List.mem_cons_self
      have hall : ((g0 :: rest).all fun s => s.memberThreshold == 1) = true := by
        rw [List.all_eq_true]
        intro s hs
        rw [h (i, g0 :: rest) List.mem_cons_self s hs]
        rfl
      simp only [gatherGroups, recoverGroup, h0, hall, Bool.not_true, Bool.false_eq_true, if_false, if_true, ih',
        List.filterMap_cons, List.head?_cons, Option.map_some]

theorem decrypt_encrypt (P : Prims) (hF : ∀ pw s it n, (P.pbkdf2 pw s it n).length = n) (x : Bytes) (id e : Nat)
    (pass : Bytes) (hx : x.length % 2 = 0) (hne : x ≠ []) (hid : id < 65536) (y : Bytes)
    (hy : encrypt P x id e pass = some y) : y.length = x.length ∧ decrypt P y id e pass = some x := by
  obtain ⟨y', h1, h2, h3⟩ := crypt_reverse P hF pass x id e [0, 1, 2, 3] hx hne hid
  unfold encrypt at hy
  rw [h1] at hy
  simp only [Option.some.injEq] at hy
  subst hy
  exact ⟨h2, h3⟩

/-- `generate_shares` yields exactly n pairwise distinct mnemonics (for every 1 ≤ k ≤ n ≤ 16) -/
theorem generate_distinct (P : Prims) (hH : ∀ key msg, 4 ≤ (P.hmac key msg).length)
    (secret : Bytes) (k n : Nat) (pass : Bytes) (e : Nat) (tape : List Nat) (ms : List (List Nat))
    (hgen : generateShares P secret k n pass e tape = some ms)
    (hid : ∀ id rest, tape = id :: rest → id < 2 ^ 15) (he : e < 32) :
    ms.length = n ∧ ms.Nodup := by
  obtain ⟨id, tape1, enc, data, rfl, hsz, henc, hdata, rfl, hinit⟩ :=
    generateShares_structure P secret k n pass e _ ms hgen
  have hid' : id < 2 ^ 15 := hid id tape1 rfl
  obtain ⟨hx, hk1, hkn, hn, _, hlen, hone⟩ := splitSecret_shape P hH enc k n tape1 data hdata
  have hxnd : (data.map (·.1)).Nodup := by rw [hx]; exact List.nodup_range
  have hinj : ∀ a ∈ data, ∀ b ∈ data, a.1 = b.1 → a = b := List.inj_on_of_nodup_map hxnd
  refine ⟨by rw [List.length_map, ← List.length_map (f := (·.1)), hx, List.length_range], ?_⟩
  apply List.Nodup.map_on _ (List.Nodup.of_map _ hxnd)
  intro a ha b hb hab
  have wf : ∀ t ∈ data, (shareOf (secret.length * 8) id e k n t).WF := fun t ht =>
    ⟨hinit t ht, hid', he, by simp only [shareOf]; omega, by simp only [shareOf]; omega⟩
  have h1 := share_text_roundtrip _ (wf a ha)
  have h2 := share_text_roundtrip _ (wf b hb)
  rw [hab, h2] at h1
  simp only [Option.some.injEq] at h1
  have : a.1 = b.1 := by
    have := congrArg Share.groupIndex h1
    simpa [shareOf] using this.symm
  exact hinj a ha b hb this

end Embit.Model.Slip39
