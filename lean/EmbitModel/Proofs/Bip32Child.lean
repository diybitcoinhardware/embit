import EmbitModel.Proofs.HdInit
import EmbitModel.Spec.Bip32Path
/-
  HDKey.child against BIP32's CKDpriv / CKDpub; neutering; depth overflow.
-/
namespace Embit.Keys
open Embit Embit.Spec.Bip32

variable {E : EcOps}

theorem serP_eq (P : E.Pt) : serP E P = pubkeySerialize E P true := by
  simp only [serP, pubkeySerialize, if_true, ser256]
  cases h : E.yOdd P
  · have := (yOdd_false P).mp h; simp [this]
  · have := (yOdd_eq P).mp h; simp [this]

theorem hardenedIndex_eq : hardenedIndex = 2 ^ 31 := by decide

theorem normIndex_false (i : Nat) : normIndex i false = i := by simp [normIndex]

theorem sec_priv (pk : PrivateKey) (hc : pk.compressed = true) (hv : seckeyValid E pk.secret = true) :
    pk.sec E = some (serP E (point E pk.secret)) := by
  simp [PrivateKey.sec, PrivateKey.getPublicKey, pubkeyCreate, hv, PublicKey.sec, hc, serP_eq, point]

theorem split_len (I : Bytes) (h : I.length = 64) : (I.take 32).length = 32 ∧ (I.drop 32).length = 32 := by
  simp [h]

/-- the private step is BIP32's `k_i = parse256(I_L) + k_par (mod n)` with its two invalid cases -/
theorem childPriv_eq (L : EcLaws E) (pk : PrivateKey) (hv : seckeyValid E pk.secret = true) (il : Nat) :
    childPriv E pk il =
      if il ≥ E.n ∨ (il + pk.secret) % E.n = 0 then none
      else some ⟨(il + pk.secret) % E.n, true, Generated.privDefaultNet⟩ := by
  unfold childPriv privkeyAdd
  by_cases hlt : il < E.n
  · simp only [hv, hlt, decide_true, Bool.and_self, if_true]
    rw [Nat.add_comm pk.secret]
    by_cases hz : (il + pk.secret) % E.n = 0
    · simp [hz]
    · have hs : seckeyValid E ((il + pk.secret) % E.n) = true := by
        rw [seckeyValid_iff]
        exact ⟨Nat.pos_of_ne_zero hz, Nat.mod_lt _ L.n_pos⟩
      rw [if_neg hz, if_neg (by omega)]
      exact privInit_beN L _ hs true Generated.privDefaultNet
  · simp only [hv, hlt, decide_false, Bool.and_false, Bool.false_eq_true, if_false]
    rw [if_pos (Or.inl (by omega))]

/-- the public step is BIP32's `K_i = point(parse256(I_L)) + K_par` with its two invalid cases -/
theorem childPub_eq (L : EcLaws E) (pb : PublicKey E) (il : Nat) :
    childPub E pb il =
      if il ≥ E.n ∨ E.isInf (E.add (point E il) pb.point) = true then none
      else some ⟨E.add (point E il) pb.point, true⟩ := by
  unfold childPub pubkeyAdd
  rw [L.add_comm pb.point]
  by_cases hlt : il < E.n
  · simp only [hlt, if_true]
    cases hz : E.isInf (E.add (point E il) pb.point)
    · rw [if_neg (by simp), if_neg (by simp; omega)]
    · rw [if_pos (by simp), if_pos (Or.inr rfl)]
  · simp only [hlt, if_false]
    rw [if_pos (Or.inl (by omega))]

theorem CKDpriv_cc_length (hmac : Bytes → Bytes → Bytes) (hlen : ∀ key msg, (hmac key msg).length = 64)
    (x : XPrv) (i : Nat) (r : XPrv) (h : CKDpriv E hmac x i = some r) : r.c.length = 32 := by
  unfold CKDpriv at h
  have hI : (if i ≥ 2 ^ 31 then hmac x.c (0x00 :: (ser256 x.k ++ ser32 i))
      else hmac x.c (serP E (point E x.k) ++ ser32 i)).length = 64 := by
    split <;> apply hlen
  generalize (if i ≥ 2 ^ 31 then hmac x.c (0x00 :: (ser256 x.k ++ ser32 i))
      else hmac x.c (serP E (point E x.k) ++ ser32 i)) = I at h hI
  simp only at h
  by_cases hc : parse256 (split I).1 ≥ E.n ∨ (parse256 (split I).1 + x.k) % E.n = 0
  · rw [if_pos hc] at h; cases h
  · rw [if_neg hc] at h
    rw [← Option.some.inj h]
    simp [hI]

theorem CKDpriv_valid (L : EcLaws E) (hmac : Bytes → Bytes → Bytes) (x : XPrv) (i : Nat) (r : XPrv)
    (h : CKDpriv E hmac x i = some r) : seckeyValid E r.k = true := by
  unfold CKDpriv at h
  generalize (if i ≥ 2 ^ 31 then hmac x.c (0x00 :: (ser256 x.k ++ ser32 i))
      else hmac x.c (serP E (point E x.k) ++ ser32 i)) = I at h
  simp only at h
  by_cases hc : parse256 (split I).1 ≥ E.n ∨ (parse256 (split I).1 + x.k) % E.n = 0
  · rw [if_pos hc] at h; cases h
  · rw [if_neg hc] at h
    have := Option.some.inj h
    subst this
    rw [seckeyValid_iff]
    exact ⟨Nat.pos_of_ne_zero (fun hz => hc (Or.inr hz)), Nat.mod_lt _ L.n_pos⟩

theorem CKDpub_cc_length (hmac : Bytes → Bytes → Bytes) (hlen : ∀ key msg, (hmac key msg).length = 64)
    (x : XPub E) (i : Nat) (r : XPub E) (h : CKDpub E hmac x i = some r) : r.c.length = 32 := by
  unfold CKDpub at h
  split at h
  · cases h
  · simp only at h
    split at h
    · cases h
    · have := Option.some.inj h
      subst this
      simp [hlen]

theorem fingerprint_length (h160 : Bytes → Bytes) (hh160 : ∀ msg, 4 ≤ (h160 msg).length) (P : E.Pt) :
    (fingerprint E h160 P).length = 4 := by
  have := hh160 (serP E P)
  simp [fingerprint]; omega

/-- BIP32: `N(CKDpriv((k_par, c_par), i)) = CKDpub(N(k_par, c_par), i)` for non-hardened `i`, invalid cases
    included (a consequence of the group laws alone) -/
theorem N_CKDpriv (L : EcLaws E) (hmac : Bytes → Bytes → Bytes) (m : XPrv) (i : Nat) (hi : i < 2 ^ 31) :
    (CKDpriv E hmac m i).map (N E) = CKDpub E hmac (N E m) i := by
  unfold CKDpriv CKDpub N
  have hnh : ¬ i ≥ 2 ^ 31 := by omega
  simp only [hnh, if_false]
  generalize hmac m.c (serP E (point E m.k) ++ ser32 i) = I
  simp only [parse256, point]
  have hsum : E.add (E.mulG (ofBe (I.take 32))) (E.mulG m.k) = E.mulG ((ofBe (I.take 32) + m.k) % E.n) := by
    rw [L.mulG_add, L.mulG_mod]
  have hinf : E.isInf (E.add (E.mulG (ofBe (I.take 32))) (E.mulG m.k)) = true
      ↔ (ofBe (I.take 32) + m.k) % E.n = 0 := by
    rw [L.mulG_add]; exact L.mulG_inf _
  by_cases hge : ofBe (I.take 32) ≥ E.n
  · simp [hge]
  · by_cases hz : (ofBe (I.take 32) + m.k) % E.n = 0
    · have := hinf.mpr hz
      simp [hz, this]
    · have hni : ¬ E.isInf (E.add (E.mulG (ofBe (I.take 32))) (E.mulG m.k)) = true := fun h => hz (hinf.mp h)
      rw [if_neg (by simp [hge, hz]), if_neg (by simp [hge, hni])]
      simp only [Option.map_some, hsum]

theorem child_priv (L : EcLaws E) (env : Env) (hlen : ∀ key msg, (env.hmac512 key msg).length = 64)
    (k : HDKey E) (pk : PrivateKey) (hk : k.key = .priv pk) (hc : pk.compressed = true)
    (hv : seckeyValid E pk.secret = true) (i : Nat) (hi : i < 2 ^ 32) :
    k.child env i false =
      (CKDpriv E env.hmac512 ⟨pk.secret, k.chainCode⟩ i).bind fun r =>
        HDKey.init env (.priv ⟨r.k, true, Generated.privDefaultNet⟩) r.c (some k.version) (k.depth + 1)
          (fingerprint E env.hash160 (point E pk.secret)) i := by
  unfold HDKey.child
  rw [if_neg (by omega)]
  simp only [normIndex_false, Bool.false_or, hk, KeyObj.isPrivate, HDKey.sec, KeyObj.sec, sec_priv pk hc hv]
  rw [if_neg (by simp)]
  simp only [childData, hk, KeyObj.serialize, PrivateKey.serialize, childKey, childPriv_eq L pk hv]
  unfold CKDpriv
  have hdata : (if decide (i ≥ hardenedIndex) = true then (0x00:UInt8) :: (beN 32 pk.secret ++ beN 4 i)
      else serP E (point E pk.secret) ++ beN 4 i) =
      (if i ≥ 2 ^ 31 then (0x00:UInt8) :: (ser256 pk.secret ++ ser32 i) else serP E (point E pk.secret) ++ ser32 i) := by
    rw [hardenedIndex_eq]; simp
  rw [hdata]
  have hI : (if i ≥ 2 ^ 31 then env.hmac512 k.chainCode ((0x00:UInt8) :: (ser256 pk.secret ++ ser32 i))
      else env.hmac512 k.chainCode (serP E (point E pk.secret) ++ ser32 i)) =
      env.hmac512 k.chainCode (if i ≥ 2 ^ 31 then (0x00:UInt8) :: (ser256 pk.secret ++ ser32 i)
        else serP E (point E pk.secret) ++ ser32 i) := by
    split <;> rfl
  simp only [hI]
  have hl := hlen k.chainCode (if i ≥ 2 ^ 31 then (0x00:UInt8) :: (ser256 pk.secret ++ ser32 i)
        else serP E (point E pk.secret) ++ ser32 i)
  generalize env.hmac512 k.chainCode (if i ≥ 2 ^ 31 then (0x00:UInt8) :: (ser256 pk.secret ++ ser32 i)
        else serP E (point E pk.secret) ++ ser32 i) = I at hl ⊢
  rw [if_neg (by simp [hl])]
  simp only [fingerprint, parse256]
  by_cases hcond : ofBe (List.take 32 I) ≥ E.n ∨ (ofBe (List.take 32 I) + pk.secret) % E.n = 0 <;> simp [hcond]

/-- public parent, for every index below 2^32 (hardened indices are refused, as CKDpub fails) -/
theorem child_pub (L : EcLaws E) (env : Env) (hlen : ∀ key msg, (env.hmac512 key msg).length = 64)
    (k : HDKey E) (pb : PublicKey E) (hk : k.key = .pub pb) (hc : pb.compressed = true)
    (i : Nat) (hi : i < 2 ^ 32) :
    k.child env i false =
      (CKDpub E env.hmac512 ⟨pb.point, k.chainCode⟩ i).bind fun r =>
        HDKey.init env (.pub ⟨r.K, true⟩) r.c (some k.version) (k.depth + 1)
          (fingerprint E env.hash160 pb.point) i := by
  unfold HDKey.child CKDpub
  rw [if_neg (by omega)]
  simp only [normIndex_false, Bool.false_or, hk, KeyObj.isPrivate, HDKey.sec, KeyObj.sec]
  by_cases hh : i ≥ hardenedIndex
  · have h2 : i ≥ 2 ^ 31 := by rw [← hardenedIndex_eq]; exact hh
    rw [if_pos (by simp [hh]), if_pos h2]
    rfl
  · have h2 : ¬ i ≥ 2 ^ 31 := by rw [← hardenedIndex_eq]; exact hh
    rw [if_neg (by simp [hh]), if_neg h2]
    simp only [childData, hh, decide_false, Bool.false_eq_true, if_false, childKey, childPub_eq L pb]
    have hsec : pb.sec = serP E pb.point := by simp [PublicKey.sec, hc, serP_eq]
    simp only [hsec, ser32]
    have hl := hlen k.chainCode (serP E pb.point ++ beN 4 i)
    generalize env.hmac512 k.chainCode (serP E pb.point ++ beN 4 i) = I at hl ⊢
    rw [if_neg (by simp [hl])]
    simp only [fingerprint, parse256]
    by_cases hcond : ofBe (List.take 32 I) ≥ E.n ∨ E.isInf (E.add (point E (ofBe (List.take 32 I))) pb.point) = true
      <;> simp [hcond]

theorem child_hardened_flag (env : Env) (k : HDKey E) (i : Nat) (hi : i < 2 ^ 32) :
    k.child env i true = k.child env (normIndex i true) false := by
  have hH := hardenedIndex_eq
  have hn : normIndex i true ≥ hardenedIndex := by
    unfold normIndex; simp only [true_and]; split <;> omega
  have hn2 : ¬ normIndex i true > 0xFFFFFFFF := by
    unfold normIndex; simp only [true_and]; split <;> omega
  have hi2 : ¬ i > 0xFFFFFFFF := by omega
  unfold HDKey.child
  rw [if_neg hi2, if_neg hn2]
  simp only [normIndex_false, Bool.true_or, Bool.false_or, hn, decide_true]

theorem child_pub_hardened (env : Env) (k : HDKey E) (hk : k.key.isPrivate = false) (i : Nat) (h : Bool)
    (hh : h = true ∨ i ≥ 2 ^ 31) : k.child env i h = none := by
  unfold HDKey.child
  split
  · rfl
  · rw [if_pos]
    refine ⟨?_, hk⟩
    rcases hh with hh | hh
    · simp [hh]
    · have hH := hardenedIndex_eq
      have : normIndex i h ≥ hardenedIndex := by
        unfold normIndex; split <;> omega
      simp [this]

/-- at depth 255 no child can be constructed: `bytes([256])` raises in the constructor's `to_base58()` -/
theorem child_depth_overflow (env : Env) (k : HDKey E) (hd : 255 ≤ k.depth) (i : Nat) (h : Bool) :
    k.child env i h = none := by
  unfold HDKey.child
  split
  · rfl
  · split
    · rfl
    · split
      · rfl
      · split
        · rfl
        · split
          · rfl
          · exact init_depth_overflow env _ _ _ _ _ _ (by omega)

/-- the HDKey object embit builds for a derived private node: compressed key; `net` is the network attribute of
    the PrivateKey object (`child` always builds `PrivateKey(secret)` with the default network) -/
def hdOfPrv (ver : Bytes) (net : Nat) (nd : NodePrv) : HDKey E :=
  { key := .priv ⟨nd.x.k, true, net⟩, chainCode := nd.x.c, version := ver, depth := nd.depth,
    fingerprint := nd.parentFp, childNumber := nd.childNum }

def hdOfPub (ver : Bytes) (nd : NodePub E) : HDKey E :=
  { key := .pub ⟨nd.x.K, true⟩, chainCode := nd.x.c, version := ver, depth := nd.depth,
    fingerprint := nd.parentFp, childNumber := nd.childNum }

/-- with version bytes that fix the text kind the constructor never fails below depth 255: one step of `child` is
    one step of the spec fold on nodes -/
theorem child_priv_node (L : EcLaws E) (env : Env) (hlen : ∀ key msg, (env.hmac512 key msg).length = 64)
    (hh160 : ∀ msg, 4 ≤ (env.hash160 msg).length)
    (k : HDKey E) (pk : PrivateKey) (hk : k.key = .priv pk) (hc : pk.compressed = true)
    (hv : seckeyValid E pk.secret = true) (hd : k.depth < 255) (hA : VersionSays env k.version tPrv)
    (i : Nat) (hi : i < 2 ^ 32) :
    k.child env i =
      (stepPrv E env.hmac512 env.hash160 ⟨⟨pk.secret, k.chainCode⟩, k.depth, k.fingerprint, k.childNumber⟩ i).map
        (hdOfPrv k.version Generated.privDefaultNet) := by
  rw [child_priv L env hlen k pk hk hc hv i hi]
  unfold stepPrv
  cases hr : CKDpriv E env.hmac512 ⟨pk.secret, k.chainCode⟩ i with
  | none => rfl
  | some r =>
    simp only [Option.bind_some, Option.map_some]
    have hrc : r.c.length = 32 := CKDpriv_cc_length env.hmac512 hlen _ i r hr
    have hfl := fingerprint_length (E := E) env.hash160 hh160 (point E pk.secret)
    exact init_some env _ _ _ _ _ _ (by simp [KeyObj.Canon]) hrc hfl (by omega) hi
      (by simpa [kindText, KeyObj.isPrivate] using hA)

theorem child_pub_node (L : EcLaws E) (env : Env) (hlen : ∀ key msg, (env.hmac512 key msg).length = 64)
    (hh160 : ∀ msg, 4 ≤ (env.hash160 msg).length)
    (k : HDKey E) (pb : PublicKey E) (hk : k.key = .pub pb) (hc : pb.compressed = true)
    (hd : k.depth < 255) (hA : VersionSays env k.version tPub) (i : Nat) (hi : i < 2 ^ 32) :
    k.child env i =
      (stepPub E env.hmac512 env.hash160 ⟨⟨pb.point, k.chainCode⟩, k.depth, k.fingerprint, k.childNumber⟩ i).map
        (hdOfPub k.version) := by
  rw [child_pub L env hlen k pb hk hc i hi]
  unfold stepPub
  cases hr : CKDpub E env.hmac512 ⟨pb.point, k.chainCode⟩ i with
  | none => rfl
  | some r =>
    simp only [Option.bind_some, Option.map_some]
    have hrc : r.c.length = 32 := CKDpub_cc_length env.hmac512 hlen _ i r hr
    have hfl := fingerprint_length (E := E) env.hash160 hh160 pb.point
    exact init_some env _ _ _ _ _ _ (by simp [KeyObj.Canon]) hrc hfl (by omega) hi
      (by simpa [kindText, KeyObj.isPrivate] using hA)

end Embit.Keys
