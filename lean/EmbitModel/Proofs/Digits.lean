/-
  Positional notation: little-endian digit lists in base `B ≥ 2` (canonical: no most-significant zeros) and
  fixed-width big-endian digit lists. Shared by base58 (58 / 256), bech32 `convertbits` (2^k) and, through
  `DigitsBridge.lean`, the bit strings, ten-bit words and big-endian bytes of BIP39 / SLIP39.
-/
namespace Embit.Digits

def toLE (B : Nat) (n : Nat) : List Nat :=
  if _h : n = 0 ∨ B < 2 then [] else n % B :: toLE B (n / B)
termination_by n
decreasing_by
  have : n / B < n := Nat.div_lt_self (by omega) (by omega)
  exact this

def ofLE (B : Nat) : List Nat → Nat
  | [] => 0
  | d :: ds => d + B * ofLE B ds

def Canon (B : Nat) (ds : List Nat) : Prop := (∀ d ∈ ds, d < B) ∧ ds.getLast? ≠ some 0

theorem toLE_zero (B : Nat) : toLE B 0 = [] := by unfold toLE; simp

theorem toLE_pos {B n : Nat} (hB : 2 ≤ B) (hn : n ≠ 0) : toLE B n = n % B :: toLE B (n / B) := by
  rw [toLE]; simp [hn]; omega

theorem ofLE_toLE {B : Nat} (hB : 2 ≤ B) (n : Nat) : ofLE B (toLE B n) = n := by
  induction n using Nat.strongRecOn with
  | _ n ih =>
    by_cases hn : n = 0
    · subst hn; simp [toLE_zero, ofLE]
    · rw [toLE_pos hB hn]
      have : n / B < n := Nat.div_lt_self (by omega) (by omega)
      simp only [ofLE, ih _ this]
      exact Nat.mod_add_div n B

theorem Canon.tail {B d : Nat} {rest : List Nat} (hc : Canon B (d :: rest)) (hr : rest ≠ []) : Canon B rest := by
  refine ⟨fun x hx => hc.1 x (List.mem_cons_of_mem _ hx), ?_⟩
  have := hc.2
  cases rest with
  | nil => exact absurd rfl hr
  | cons e rest' => simpa [List.getLast?_cons_cons] using this

theorem canon_nil (B : Nat) : Canon B [] := ⟨by simp, by simp⟩

theorem ofLE_pos_of_canon {B : Nat} {ds : List Nat} (hc : Canon B ds) (hne : ds ≠ []) : ofLE B ds ≠ 0 := by
  induction ds with
  | nil => exact absurd rfl hne
  | cons d rest ih =>
    by_cases hr : rest = []
    · subst hr
      have := hc.2
      simp at this
      simp [ofLE, this]
    · have := ih (hc.tail hr) hr
      simp only [ofLE]
      have hB : B ≠ 0 := by
        intro h0
        have := hc.1 d (List.mem_cons_self)
        omega
      have : B * ofLE B rest ≠ 0 := Nat.mul_ne_zero hB this
      omega

theorem toLE_ofLE {B : Nat} (hB : 2 ≤ B) {ds : List Nat} (hc : Canon B ds) : toLE B (ofLE B ds) = ds := by
  induction ds with
  | nil => simp [ofLE, toLE_zero]
  | cons d rest ih =>
    have hd : d < B := hc.1 d List.mem_cons_self
    have hne : ofLE B (d :: rest) ≠ 0 := ofLE_pos_of_canon hc (by simp)
    have hrest : toLE B (ofLE B rest) = rest := by
      by_cases hr : rest = []
      · subst hr; simp [ofLE, toLE_zero]
      · exact ih (hc.tail hr)
    rw [toLE_pos hB hne]
    simp only [ofLE] at hne ⊢
    have h1 : (d + B * ofLE B rest) % B = d := by
      rw [Nat.add_mul_mod_self_left]; exact Nat.mod_eq_of_lt hd
    have h2 : (d + B * ofLE B rest) / B = ofLE B rest := by
      rw [Nat.add_mul_div_left _ _ (by omega : 0 < B), Nat.div_eq_of_lt hd]; simp
    rw [h1, h2, hrest]

theorem toLE_canon {B : Nat} (hB : 2 ≤ B) (n : Nat) : Canon B (toLE B n) := by
  induction n using Nat.strongRecOn with
  | _ n ih =>
    by_cases hn : n = 0
    · subst hn; rw [toLE_zero]; exact canon_nil B
    · rw [toLE_pos hB hn]
      have hlt : n / B < n := Nat.div_lt_self (by omega) (by omega)
      have ih' := ih _ hlt
      refine ⟨?_, ?_⟩
      · intro d hd
        simp only [List.mem_cons] at hd
        rcases hd with rfl | hd
        · exact Nat.mod_lt _ (by omega)
        · exact ih'.1 d hd
      · by_cases hq : n / B = 0
        · have e : toLE B (n / B) = [] := by rw [hq, toLE_zero]
          simp only [e, List.getLast?_singleton, ne_eq, Option.some.injEq]
          intro hm
          have := Nat.mod_add_div n B
          rw [hq, hm] at this; omega
        · have e : toLE B (n / B) = (n / B) % B :: toLE B (n / B / B) := toLE_pos hB hq
          have h2 := ih'.2
          rw [e] at h2 ⊢
          simpa [List.getLast?_cons_cons] using h2

def ofBE (B : Nat) (ds : List Nat) : Nat := ds.foldl (fun a d => a * B + d) 0

theorem foldl_ofBE (B : Nat) (a : Nat) (ds : List Nat) :
    ds.foldl (fun a d => a * B + d) a = a * B ^ ds.length + ofBE B ds := by
  induction ds generalizing a with
  | nil => simp [ofBE]
  | cons d rest ih =>
    simp only [List.foldl_cons, List.length_cons, ofBE]
    rw [ih, ih (0 * B + d)]
    simp [Nat.pow_succ, Nat.add_mul, Nat.mul_assoc, Nat.add_assoc, Nat.mul_comm B]

theorem ofBE_reverse (B : Nat) (ds : List Nat) : ofBE B ds.reverse = ofLE B ds := by
  induction ds with
  | nil => rfl
  | cons d rest ih =>
    simp only [List.reverse_cons, ofBE, List.foldl_append, List.foldl_cons, List.foldl_nil, ofLE]
    have := ih; unfold ofBE at this; rw [this]; rw [Nat.mul_comm, Nat.add_comm]

theorem canon_reverse {B : Nat} {ds : List Nat} (hlt : ∀ d ∈ ds, d < B) (h : ∀ x ∈ ds.head?, x ≠ 0) :
    Canon B ds.reverse :=
  ⟨by simpa using hlt, by rw [List.getLast?_reverse]; exact fun h0 => h 0 h0 rfl⟩

theorem ofBE_toLE {B : Nat} (hB : 2 ≤ B) (n : Nat) : ofBE B (toLE B n).reverse = n := by
  rw [ofBE_reverse, ofLE_toLE hB]

theorem toLE_ofBE {B : Nat} (hB : 2 ≤ B) {ds : List Nat} (hlt : ∀ d ∈ ds, d < B) (h : ∀ x ∈ ds.head?, x ≠ 0) :
    (toLE B (ofBE B ds)).reverse = ds := by
  have := toLE_ofLE hB (canon_reverse hlt h)
  rw [← ofBE_reverse, List.reverse_reverse] at this
  rw [this, List.reverse_reverse]

theorem toLE_reverse_head {B : Nat} (hB : 2 ≤ B) (n : Nat) : ∀ x ∈ (toLE B n).reverse.head?, x ≠ 0 := by
  intro x hx h0
  rw [List.head?_reverse] at hx
  exact (toLE_canon hB n).2 (h0 ▸ hx)

theorem ofBE_zeros_append (B z : Nat) (t : List Nat) : ofBE B (List.replicate z 0 ++ t) = ofBE B t := by
  induction z with
  | zero => rfl
  | succ z ih => simpa [List.replicate_succ, ofBE] using ih

/-- the `k` least significant base-`B` digits of `n`, most significant first -/
def fixedBE (B : Nat) : Nat → Nat → List Nat
  | 0, _ => []
  | k+1, n => fixedBE B k (n / B) ++ [n % B]

@[simp] theorem fixedBE_length (B k n : Nat) : (fixedBE B k n).length = k := by
  induction k generalizing n with
  | zero => rfl
  | succ k ih => simp [fixedBE, ih]

theorem fixedBE_lt {B : Nat} (hB : 0 < B) (k n : Nat) : ∀ d ∈ fixedBE B k n, d < B := by
  induction k generalizing n with
  | zero => simp [fixedBE]
  | succ k ih =>
    intro d hd
    simp only [fixedBE, List.mem_append, List.mem_singleton] at hd
    rcases hd with hd | rfl
    · exact ih _ d hd
    · exact Nat.mod_lt _ hB

theorem ofBE_append (B : Nat) (xs ys : List Nat) : ofBE B (xs ++ ys) = ofBE B xs * B ^ ys.length + ofBE B ys := by
  unfold ofBE; rw [List.foldl_append, foldl_ofBE]; rfl

theorem ofBE_fixedBE (B : Nat) (k n : Nat) : ofBE B (fixedBE B k n) = n % B ^ k := by
  induction k generalizing n with
  | zero => simp [fixedBE, ofBE, Nat.mod_one]
  | succ k ih =>
    simp only [fixedBE, ofBE_append, ih, List.length_singleton, Nat.pow_one]
    have : ofBE B [n % B] = n % B := by simp [ofBE]
    rw [this, Nat.pow_succ, Nat.mul_comm (B ^ k) B, Nat.mod_mul, Nat.add_comm, Nat.mul_comm]

theorem fixedBE_ofBE_rev {B : Nat} (hB : 0 < B) (rs : List Nat) (h : ∀ d ∈ rs, d < B) :
    fixedBE B rs.length (ofBE B rs.reverse) = rs.reverse := by
  induction rs with
  | nil => rfl
  | cons d rest ih =>
    have hd : d < B := h d (by simp)
    have hr : ∀ x ∈ rest, x < B := fun x hx => h x (by simp [hx])
    rw [List.reverse_cons, List.length_cons, fixedBE, ofBE_append]
    have : ofBE B [d] = d := by simp [ofBE]
    rw [this, List.length_singleton, Nat.pow_one]
    have h1 : (ofBE B rest.reverse * B + d) / B = ofBE B rest.reverse := by
      rw [Nat.mul_comm, Nat.mul_add_div hB, Nat.div_eq_of_lt hd]; simp
    have h2 : (ofBE B rest.reverse * B + d) % B = d := by
      rw [Nat.mul_comm, Nat.mul_add_mod]; exact Nat.mod_eq_of_lt hd
    rw [h1, h2, ih hr]

theorem fixedBE_ofBE {B : Nat} (hB : 0 < B) (ds : List Nat) (h : ∀ d ∈ ds, d < B) :
    fixedBE B ds.length (ofBE B ds) = ds := by
  have := fixedBE_ofBE_rev hB ds.reverse (by simpa using h)
  simpa using this

theorem ofBE_lt {B : Nat} (hB : 0 < B) (ds : List Nat) (h : ∀ d ∈ ds, d < B) : ofBE B ds < B ^ ds.length := by
  have := ofBE_fixedBE B ds.length (ofBE B ds)
  rw [fixedBE_ofBE hB ds h] at this
  rw [this]
  exact Nat.mod_lt _ (Nat.pow_pos hB)

theorem fixedBE_succ (B k n : Nat) : fixedBE B (k + 1) n = fixedBE B k (n / B) ++ [n % B] := rfl

theorem fixedBE_add (B a b n : Nat) : fixedBE B (a + b) n = fixedBE B a (n / B ^ b) ++ fixedBE B b n := by
  induction b generalizing n with
  | zero => simp [fixedBE]
  | succ b ih =>
    rw [← Nat.add_assoc, fixedBE_succ, fixedBE_succ, ih, List.append_assoc, Nat.div_div_eq_div_mul, Nat.pow_succ,
      Nat.mul_comm]

theorem fixedBE_mod (B k n : Nat) : fixedBE B k (n % B ^ k) = fixedBE B k n := by
  induction k generalizing n with
  | zero => rfl
  | succ k ih =>
    rw [fixedBE_succ, fixedBE_succ, Nat.pow_succ, Nat.mod_mul_left_mod, Nat.mod_mul_left_div_self, ih]

/-- a number written as high part · B^b + low part -/
theorem fixedBE_mul_add {B : Nat} (a b x y : Nat) (hy : y < B ^ b) :
    fixedBE B (a + b) (x * B ^ b + y) = fixedBE B a x ++ fixedBE B b y := by
  have hB : 0 < B ^ b := by omega
  rw [fixedBE_add, Nat.add_comm, Nat.add_mul_div_right _ _ hB, Nat.div_eq_of_lt hy, Nat.zero_add,
    ← fixedBE_mod B b (y + _), Nat.add_mul_mod_self_right, fixedBE_mod]

theorem fixedBE_take (B n a N : Nat) (h : a ≤ n) : (fixedBE B n N).take a = fixedBE B a (N / B ^ (n - a)) := by
  obtain ⟨b, rfl⟩ := Nat.exists_eq_add_of_le h
  rw [fixedBE_add, Nat.add_sub_cancel_left, List.take_left' (fixedBE_length _ _ _)]

theorem fixedBE_drop (B n a N : Nat) (h : a ≤ n) : (fixedBE B n N).drop a = fixedBE B (n - a) N := by
  obtain ⟨b, rfl⟩ := Nat.exists_eq_add_of_le h
  rw [fixedBE_add, Nat.add_sub_cancel_left, List.drop_left' (fixedBE_length _ _ _)]

/-- the `w` digits at offset `off`: a quotient -/
theorem fixedBE_slice (B n off w N : Nat) (h : off + w ≤ n) :
    ((fixedBE B n N).drop off).take w = fixedBE B w (N / B ^ (n - off - w)) := by
  rw [fixedBE_drop _ _ _ _ (by omega), fixedBE_take _ _ _ _ (by omega)]

theorem fixedBE_succ_front (B k n : Nat) : fixedBE B (k + 1) n = n / B ^ k % B :: fixedBE B k n := by
  rw [Nat.add_comm, fixedBE_add]; rfl

/-- digit `i` from the front is `N / B ^ (n - 1 - i) % B` -/
theorem fixedBE_eq_map_range (B n N : Nat) :
    fixedBE B n N = (List.range n).map fun i => N / B ^ (n - 1 - i) % B := by
  induction n with
  | zero => rfl
  | succ n ih =>
    rw [fixedBE_succ_front, ih, List.range_succ_eq_map, List.map_cons, List.map_map]
    exact congrArg _ (List.map_congr_left fun i _ => by
      rw [Function.comp, Nat.add_sub_cancel, Nat.succ_eq_add_one, Nat.sub_add_eq, Nat.sub_right_comm])

/-- regrouping: every base-`B^k` digit written out as `k` base-`B` digits -/
theorem fixedBE_flatMap (B k n N : Nat) : (fixedBE (B ^ k) n N).flatMap (fixedBE B k) = fixedBE B (k * n) N := by
  induction n generalizing N with
  | zero => rfl
  | succ n ih =>
    rw [fixedBE_succ, List.flatMap_append, ih, List.flatMap_cons, List.flatMap_nil, List.append_nil, fixedBE_mod,
      Nat.mul_succ, fixedBE_add]

/-- every digit list is `fixedBE` of the number it spells: the normal form all the laws above speak about -/
theorem eq_fixedBE {B : Nat} (hB : 0 < B) (ds : List Nat) (h : ∀ d ∈ ds, d < B) :
    ds = fixedBE B ds.length (ofBE B ds) := (fixedBE_ofBE hB ds h).symm

theorem ofBE_slice {B : Nat} (hB : 0 < B) (ds : List Nat) (h : ∀ d ∈ ds, d < B) (off w : Nat)
    (hl : off + w ≤ ds.length) :
    ofBE B ((ds.drop off).take w) = ofBE B ds / B ^ (ds.length - off - w) % B ^ w := by
  conv => lhs; rw [eq_fixedBE hB ds h]
  rw [fixedBE_slice _ _ _ _ _ hl, ofBE_fixedBE]

end Embit.Digits
