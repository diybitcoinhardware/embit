import EmbitModel.Model.HeapShared
/-
  Invariant of the shared-state model: in a safe environment no live object holds a global cell, every constant table a
  live object sees is a cell no method writes, and the cells whose contents can enter a result keep their import-time
  contents.
-/
namespace Embit.HeapShared

def Inv (env : Env) (st : State) : Prop :=
  ∀ o ∈ st.objs, ∀ f ∈ o, (∀ g, f ≠ .shared g) ∧ (∀ g, f = .table g → g ∈ env.readCells)

theorem inv_init (env : Env) (g0 : Nat → List Val) : Inv env (init g0) := by
  intro o ho
  simp [init] at ho

theorem mkField_inv (k : FieldSrc) (h : k.safe = true) (a : Option (List Val)) :
    (∀ g, mkField k a ≠ .shared g) ∧ (∀ g, mkField k a = .table g → k.tableCell = some g) := by
  cases k with
  | fresh => simp [mkField]
  | global g' => simp [FieldSrc.safe] at h
  | globalOr g' => simp [FieldSrc.safe] at h
  | globalAlways g' => simp [FieldSrc.safe] at h
  | constTable g' =>
    refine ⟨by simp [mkField], fun g hg => ?_⟩
    simp only [mkField, Field.table.injEq] at hg
    simp [FieldSrc.tableCell, hg]

theorem mkFields_inv (ks : List FieldSrc) (h : ks.all FieldSrc.safe = true) (args : List (Option (List Val))) :
    ∀ f ∈ mkFields ks args, (∀ g, f ≠ .shared g) ∧ (∀ g, f = .table g → g ∈ ks.filterMap FieldSrc.tableCell) := by
  induction ks generalizing args with
  | nil => intro f hf; simp [mkFields] at hf
  | cons k ks ih =>
    simp only [List.all_cons, Bool.and_eq_true] at h
    intro f hf
    simp only [mkFields, List.mem_cons] at hf
    rcases hf with rfl | hf
    · have := mkField_inv k h.1 (args.head?.getD none)
      refine ⟨this.1, fun g hg => ?_⟩
      have hk := this.2 g hg
      simp [hk]
    · have := ih h.2 _ f hf
      refine ⟨this.1, fun g hg => ?_⟩
      have hm := this.2 g hg
      simp only [List.filterMap_cons]
      split
      · exact hm
      · exact List.mem_cons_of_mem _ hm

theorem safe_makers {env : Env} (hs : env.safe = true) {c : Nat} {d : Maker} (hd : env.makers[c]? = some d) :
    d.fields.all FieldSrc.safe = true := by
  simp only [Env.safe, Bool.and_eq_true, List.all_eq_true] at hs
  exact List.all_eq_true.mpr (hs.1 d (List.mem_of_getElem? hd))

theorem tableCell_mem_readCells {env : Env} {c : Nat} {d : Maker} (hd : env.makers[c]? = some d) {g : Nat}
    (hg : g ∈ d.fields.filterMap FieldSrc.tableCell) : g ∈ env.readCells := by
  unfold Env.readCells
  apply List.mem_append_right
  exact List.mem_flatMap.mpr ⟨d, List.mem_of_getElem? hd, hg⟩

theorem reads_mem_readCells {env : Env} {m g : Nat} (hg : g ∈ readsOf env m) : g ∈ env.readCells := by
  unfold readsOf at hg
  split at hg
  · rename_i d hd
    unfold Env.readCells
    apply List.mem_append_left
    exact List.mem_flatMap.mpr ⟨d, List.mem_of_getElem? hd, hg⟩
  · simp at hg

theorem safe_writes {env : Env} (hs : env.safe = true) (m : Nat) : ∀ g ∈ writesOf env m, g ∉ env.readCells := by
  simp only [Env.safe, Bool.and_eq_true, List.all_eq_true] at hs
  unfold writesOf
  split
  · rename_i d hd
    intro g hg hr
    have := hs.2 d (List.mem_of_getElem? hd) g hg
    simp [hr] at this
  · intro g hg; simp at hg

theorem writeAll_objs (st : State) (gs : List Nat) : (writeAll st gs).objs = st.objs := by
  induction gs generalizing st with
  | nil => rfl
  | cons g gs ih => simp [writeAll, ih, setGlob]

theorem writeAll_glob (st : State) (gs : List Nat) (g : Nat) (hg : g ∉ gs) : (writeAll st gs).glob g = st.glob g := by
  induction gs generalizing st with
  | nil => rfl
  | cons g' gs ih =>
    simp only [List.mem_cons, not_or] at hg
    simp only [writeAll]
    rw [ih _ hg.2]
    simp [setGlob, hg.1]

theorem step_inv {env : Env} (hs : env.safe = true) (st : State) (hn : Inv env st) (op : Op) :
    Inv env (step env st op) ∧ ∀ g ∈ env.readCells, (step env st op).glob g = st.glob g := by
  cases op with
  | make c args =>
    simp only [step]
    split
    · exact ⟨hn, fun _ _ => rfl⟩
    · rename_i d hd
      refine ⟨?_, fun _ _ => rfl⟩
      intro o ho
      simp only [List.mem_append, List.mem_singleton] at ho
      rcases ho with ho | rfl
      · exact hn o ho
      · intro f hf
        have := mkFields_inv _ (safe_makers hs hd) args f hf
        exact ⟨this.1, fun g hg => tableCell_mem_readCells hd (this.2 g hg)⟩
  | mutate i fld v =>
    simp only [step]
    split
    · exact ⟨hn, fun _ _ => rfl⟩
    · rename_i o ho
      have hoM : o ∈ st.objs := List.mem_of_getElem? ho
      split
      · exact ⟨hn, fun _ _ => rfl⟩
      · rename_i c hc
        refine ⟨?_, fun _ _ => rfl⟩
        intro o' ho'
        rcases List.mem_or_eq_of_mem_set ho' with h | rfl
        · exact hn o' h
        · intro f hf
          rcases List.mem_or_eq_of_mem_set hf with h | rfl
          · exact hn o hoM f h
          · simp
      · rename_i g hg
        exact absurd rfl ((hn o hoM _ (List.mem_of_getElem? hg)).1 g)
      · exact ⟨hn, fun _ _ => rfl⟩
  | call i m a =>
    simp only [step]
    refine ⟨?_, fun g hg => writeAll_glob _ _ _ (fun hw => safe_writes hs m g hw hg)⟩
    intro o ho
    rw [writeAll_objs] at ho
    exact hn o ho

theorem run_inv {env : Env} (hs : env.safe = true) (h : List Op) (st : State) (hn : Inv env st) :
    Inv env (run env st h) ∧ ∀ g ∈ env.readCells, (run env st h).glob g = st.glob g := by
  induction h generalizing st with
  | nil => exact ⟨hn, fun _ _ => rfl⟩
  | cons op ops ih =>
    have h1 := step_inv hs st hn op
    have h2 := ih (step env st op) h1.1
    exact ⟨h2.1, fun g hg => (h2.2 g hg).trans (h1.2 g hg)⟩

theorem run_append (env : Env) (st : State) (h1 h2 : List Op) :
    run env st (h1 ++ h2) = run env (run env st h1) h2 := by
  induction h1 generalizing st with
  | nil => rfl
  | cons op ops ih => simp [run, ih]

/-- an object without global cells reads the same in two states that hold the same object and agree on the read cells -/
theorem obs_congr {env : Env} (st st' : State) (j : Nat) (hn : Inv env st) (ho : st'.objs[j]? = st.objs[j]?)
    (hg : ∀ g ∈ env.readCells, st'.glob g = st.glob g) : obs st' j = obs st j := by
  unfold obs
  rw [ho]
  cases h : st.objs[j]? with
  | none => rfl
  | some o =>
    apply List.map_congr_left
    intro f hf
    have hi := hn o (List.mem_of_getElem? h) f hf
    cases f with
    | own c => rfl
    | shared g => exact absurd rfl (hi.1 g)
    | table g => simp [fieldObs, hg g (hi.2 g rfl)]

/-- in a safe environment no operation changes what can be seen of an object it does not work on -/
theorem step_frame {env : Env} (hs : env.safe = true) (st : State) (hn : Inv env st) (op : Op) (j : Nat)
    (hj : j < st.objs.length) (hne : ∀ i fld v, op = .mutate i fld v → i ≠ j) :
    obs (step env st op) j = obs st j := by
  have hg := (step_inv hs st hn op).2
  apply obs_congr _ _ _ hn _ hg
  cases op with
  | make c args =>
    simp only [step]
    split
    · rfl
    · simp [List.getElem?_append_left hj]
  | mutate i fld v =>
    have hij : i ≠ j := hne i fld v rfl
    simp only [step]
    split
    · rfl
    · split
      · rfl
      · simp [List.getElem?_set_ne hij]
      · rfl
      · rfl
  | call i m a => simp [step, writeAll_objs]

end Embit.HeapShared
