import EmbitModel.Proofs.Bech32Checksum
import EmbitModel.Proofs.ConvertBits
import EmbitModel.Proofs.CharCase
import EmbitModel.Proofs.BasicList
/-
  bech32 string codec: what `bech32_decode` and the segwit `decode` accept, characterised exactly; from that
  `bech32_decode ∘ bech32_encode = id`, segwit `decode ∘ encode = id`, and the individual rejection rules.
-/
namespace Embit.Model.Bech32
open Embit Digits

theorem mapM_eq_some_iff {α β : Type} (f : α → Option β) (g : β → α) (P : β → Prop)
    (hf : ∀ x y, f x = some y ↔ P y ∧ x = g y) (l : List α) (r : List β) :
    l.mapM f = some r ↔ (∀ y ∈ r, P y) ∧ l = r.map g := by
  induction l generalizing r with
  | nil => cases r <;> simp
  | cons x xs ih =>
    cases r with
    | nil => simp [List.mapM_cons, Option.bind_eq_some_iff]
    | cons y ys =>
      simp [List.mapM_cons, Option.bind_eq_some_iff, hf, ih]
      exact ⟨fun ⟨⟨a, b⟩, c, d⟩ => ⟨⟨a, c⟩, b, d⟩, fun ⟨⟨a, c⟩, b, d⟩ => ⟨⟨a, b⟩, c, d⟩⟩

theorem charset_eq_spec : Spec.Bech32.charset = charset := by decide +kernel

theorem charset_length : charset.length = 32 := by rw [← charset_eq_spec]; rfl

theorem charVal_charOf : ∀ d, d < 32 → ∃ c, charOf d = some c ∧ charVal c = some d ∧ c ≠ '1'
    ∧ 33 ≤ c.toNat ∧ c.toNat ≤ 126 ∧ c.toLower = c := by decide +kernel

/-- the character of a 5-bit value (total version used in statements) -/
def chr (d : Nat) : Char := charset.getD d 'q'

theorem charOf_eq (d : Nat) (h : d < 32) : charOf d = some (chr d) := by
  have hl : d < charset.length := by rw [charset_length]; exact h
  simp [charOf, chr, List.getD_eq_getElem?_getD, hl]

theorem chr_props (d : Nat) (h : d < 32) :
    charVal (chr d) = some d ∧ chr d ≠ '1' ∧ 33 ≤ (chr d).toNat ∧ (chr d).toNat ≤ 126 ∧ (chr d).toLower = chr d := by
  obtain ⟨c, h1, h2⟩ := charVal_charOf d h
  rw [charOf_eq d h] at h1
  simp at h1; subst h1; exact h2

theorem charVal_eq_some_iff (c : Char) (d : Nat) : charVal c = some d ↔ d < 32 ∧ c = chr d := by
  constructor
  · intro h
    unfold charVal at h
    rw [List.idxOf?_eq_some_iff] at h
    obtain ⟨hlt, he, _⟩ := h
    refine ⟨by rw [charset_length] at hlt; exact hlt, ?_⟩
    simp [chr, List.getD_eq_getElem?_getD, hlt, he]
  · rintro ⟨h, rfl⟩; exact (chr_props d h).1

theorem mapM_charVal_eq_some (cs : List Char) (vals : List Nat) :
    cs.mapM charVal = some vals ↔ (∀ v ∈ vals, v < 32) ∧ cs = vals.map chr :=
  mapM_eq_some_iff charVal chr (· < 32) charVal_eq_some_iff cs vals

theorem one_not_mem_map_chr (vals : List Nat) (hv : ∀ v ∈ vals, v < 32) : '1' ∉ vals.map chr := by
  intro h
  obtain ⟨v, hm, e⟩ := List.mem_map.mp h
  exact (chr_props v (hv v hm)).2.1 e

theorem printable_text {hrp : List Char} {vals : List Nat} (hh : Printable hrp) (hv : ∀ v ∈ vals, v < 32) :
    Printable (hrp ++ '1' :: vals.map chr) := by
  intro c hc
  simp only [List.mem_append, List.mem_cons, List.mem_map] at hc
  rcases hc with hc | rfl | ⟨v, hm, rfl⟩
  · exact hh c hc
  · decide
  · exact ⟨(chr_props v (hv v hm)).2.2.1, (chr_props v (hv v hm)).2.2.2.1⟩

theorem lower_text {hrp : List Char} {vals : List Nat} (hl : ∀ c ∈ hrp, c.toLower = c) (hv : ∀ v ∈ vals, v < 32) :
    lower (hrp ++ '1' :: vals.map chr) = hrp ++ '1' :: vals.map chr := by
  rw [lower, map_eq_self_iff]
  intro c hc
  simp only [List.mem_append, List.mem_cons, List.mem_map] at hc
  rcases hc with hc | rfl | ⟨v, hm, rfl⟩
  · exact hl c hc
  · decide
  · exact (chr_props v (hv v hm)).2.2.2.2

theorem idxOf_append_not_mem (a b : List Char) (c : Char) (h : c ∉ a) :
    (a ++ c :: b).idxOf? c = some a.length := by
  induction a with
  | nil => simp [List.idxOf?_cons]
  | cons x xs ih =>
    have hx : x ≠ c := fun e => h (by simp [e])
    have hxs : c ∉ xs := fun e => h (by simp [e])
    simp [List.idxOf?_cons, hx, ih hxs]

theorem rfind1_spec (a b : List Char) (h : '1' ∉ b) : rfind1 (a ++ '1' :: b) = some a.length := by
  unfold rfind1
  have : (a ++ '1' :: b).reverse = b.reverse ++ '1' :: a.reverse := by simp
  rw [this, idxOf_append_not_mem _ _ _ (by simpa using h)]
  simp

theorem rfind1_some {s : List Char} {pos : Nat} (h : rfind1 s = some pos) :
    pos < s.length ∧ s = s.take pos ++ '1' :: s.drop (pos + 1) := by
  unfold rfind1 at h
  cases hj : s.reverse.idxOf? '1' with
  | none => simp [hj] at h
  | some j =>
    simp [hj] at h
    rw [List.idxOf?_eq_some_iff] at hj
    obtain ⟨hlt, he, _⟩ := hj
    simp at hlt
    have hp : pos < s.length := by omega
    refine ⟨hp, ?_⟩
    have hget : s[pos] = '1' := by
      rw [List.getElem_reverse] at he
      have : s.length - 1 - j = pos := by omega
      simpa [this] using he
    conv => lhs; rw [← List.take_append_drop pos s]
    congr 1
    rw [List.drop_eq_getElem_cons hp, hget]

theorem guard_iff (s : List Char) :
    (s.any (fun x => x.toNat < 33 || x.toNat > 126) || (lower s != s && upper s != s)) = false
      ↔ Printable s ∧ ¬ (lower s ≠ s ∧ upper s ≠ s) := by
  simp only [Bool.or_eq_false_iff, List.any_eq_false, Bool.or_eq_true, decide_eq_true_eq, Bool.and_eq_false_iff,
    Printable, bne_eq_false_iff_eq, ne_eq, Decidable.not_and_iff_not_or_not, Decidable.not_not]
  exact and_congr_left' (forall₂_congr fun c _ => by omega)

/-- `bech32_decode` characterised: the string is printable and not of mixed case, at most 90 characters, and its
    lower-casing is a non-empty human-readable part, `1`, and at least six characters of the set whose values
    verify; the data returned are those values without the last six -/
theorem bech32Decode_eq_some_iff (s : List Char) (e : Encoding) (h : List Char) (d : List Nat) :
    bech32Decode s = some (e, h, d) ↔
      Printable s ∧ ¬ (lower s ≠ s ∧ upper s ≠ s) ∧ s.length ≤ 90 ∧ 1 ≤ h.length ∧
      ∃ vals, lower s = h ++ '1' :: vals.map chr ∧ (∀ v ∈ vals, v < 32) ∧ 6 ≤ vals.length
        ∧ verifyChecksum h vals = some e ∧ d = vals.take (vals.length - 6) := by
  unfold bech32Decode
  by_cases hg : Printable s ∧ ¬ (lower s ≠ s ∧ upper s ≠ s)
  · rw [if_neg (by rw [Bool.not_eq_true]; exact (guard_iff s).mpr hg)]
    simp only [hg.1, hg.2, not_false_eq_true, true_and, ← lower_length s]
    generalize lower s = b
    constructor
    · intro hd
      cases hr : rfind1 b with
      | none => simp [hr] at hd
      | some pos =>
        obtain ⟨hp, hsplit⟩ := rfind1_some hr
        simp only [hr] at hd
        split at hd
        · simp at hd
        · rename_i hc
          simp only [Bool.or_eq_true, decide_eq_true_eq, not_or, Nat.not_lt] at hc
          cases hm : (b.drop (pos + 1)).mapM charVal with
          | none => simp [hm] at hd
          | some vals =>
            obtain ⟨hvals, hchars⟩ := (mapM_charVal_eq_some _ _).mp hm
            have hl : vals.length = b.length - (pos + 1) := by
              have := congrArg List.length hchars; simpa using this.symm
            cases hv : verifyChecksum (b.take pos) vals with
            | none => simp [hm, hv] at hd
            | some e' =>
              simp only [hm, hv, Option.some.injEq, Prod.mk.injEq] at hd
              obtain ⟨rfl, rfl, rfl⟩ := hd
              refine ⟨by omega, by simp [List.length_take]; omega, vals, ?_, hvals, by omega, hv, rfl⟩
              rw [← hchars]; exact hsplit
    · rintro ⟨h90, h1, vals, rfl, hvals, h6, hv, rfl⟩
      rw [rfind1_spec h _ (one_not_mem_map_chr vals hvals)]
      have hcond : (decide (h.length < 1) || decide (h.length + 7 > (h ++ '1' :: vals.map chr).length)
          || decide ((h ++ '1' :: vals.map chr).length > 90)) = false := by
        have hlen : (h ++ '1' :: vals.map chr).length = h.length + 1 + vals.length := by simp; omega
        rw [hlen] at h90 ⊢
        simp only [Bool.or_eq_false_iff, decide_eq_false_iff_not]; omega
      have hdrop : (h ++ '1' :: vals.map chr).drop (h.length + 1) = vals.map chr := by
        rw [show h ++ '1' :: vals.map chr = (h ++ ['1']) ++ vals.map chr by simp, List.drop_left' (by simp)]
      simp only [hcond, Bool.false_eq_true, if_false, hdrop, List.take_left' rfl,
        (mapM_charVal_eq_some _ _).mpr ⟨hvals, rfl⟩, hv]
  · rw [if_pos (by rw [← Bool.not_eq_false]; exact mt (guard_iff s).mp hg)]
    constructor
    · intro hd; simp at hd
    · rintro ⟨h1, h2, _⟩; exact absurd ⟨h1, h2⟩ hg

theorem bech32Decode_guard (s : List Char) (h : bech32Decode s ≠ none) :
    Printable s ∧ ¬ (lower s ≠ s ∧ upper s ≠ s) := by
  obtain ⟨⟨e, hrp, d⟩, hd⟩ := Option.ne_none_iff_exists'.mp h
  have := (bech32Decode_eq_some_iff s e hrp d).mp hd
  exact ⟨this.1, this.2.1⟩

theorem bech32Decode_mixed_case (s : List Char) (h1 : lower s ≠ s) (h2 : upper s ≠ s) : bech32Decode s = none :=
  Decidable.byContradiction fun h => (bech32Decode_guard s h).2 ⟨h1, h2⟩

theorem bech32Decode_lower (s : List Char) (hm : ¬ (lower s ≠ s ∧ upper s ≠ s)) :
    bech32Decode s = bech32Decode (lower s) := by
  have key : ∀ r, bech32Decode s = some r ↔ bech32Decode (lower s) = some r := by
    rintro ⟨e, h, d⟩
    rw [bech32Decode_eq_some_iff, bech32Decode_eq_some_iff, lower_lower, lower_length, printable_lower_iff]
    exact and_congr_right fun _ => and_congr_left' ⟨fun _ hh => hh.1 rfl, fun _ => hm⟩
  cases h : bech32Decode (lower s) with
  | some r => exact (key r).mpr h
  | none =>
    cases h' : bech32Decode s with
    | none => rfl
    | some r => rw [(key r).mp h'] at h; exact absurd h (by simp)

/-- a human-readable part embit's decoder returns unchanged: non-empty, printable ASCII, no upper case -/
structure HrpOk (hrp : List Char) : Prop where
  nonempty : hrp ≠ []
  range : ∀ c ∈ hrp, 33 ≤ c.toNat ∧ c.toNat ≤ 126
  lower : ∀ c ∈ hrp, c.toLower = c

theorem createChecksum_length (e : Encoding) (hrp : List Char) (data : List Nat) :
    (createChecksum e hrp data).length = 6 := by rw [createChecksum_eq, fixedBE_length]

theorem createChecksum_lt (e : Encoding) (hrp : List Char) (data : List Nat) :
    ∀ x ∈ createChecksum e hrp data, x < 32 := by
  rw [createChecksum_eq]; exact fixedBE_lt (by decide) 6 _

theorem data_checksum_lt (e : Encoding) (hrp : List Char) {data : List Nat} (hd : ∀ d ∈ data, d < 32) :
    ∀ x ∈ data ++ createChecksum e hrp data, x < 32 :=
  List.forall_mem_append.mpr ⟨hd, createChecksum_lt e hrp data⟩

theorem bech32Encode_eq (e : Encoding) (hrp : List Char) (data : List Nat) (hd : ∀ d ∈ data, d < 32) :
    bech32Encode e hrp data = some (hrp ++ ['1'] ++ (data ++ createChecksum e hrp data).map chr) := by
  unfold bech32Encode
  simp only [mapM_some_map charOf chr _ fun x hx => charOf_eq x (data_checksum_lt e hrp hd x hx)]

theorem bech32Decode_encode (e : Encoding) (hrp : List Char) (data : List Nat) (hh : HrpOk hrp)
    (hd : ∀ d ∈ data, d < 32) (hlen : hrp.length + 1 + data.length + 6 ≤ 90) :
    bech32Decode (hrp ++ ['1'] ++ (data ++ createChecksum e hrp data).map chr) = some (e, hrp, data) := by
  have hfull := data_checksum_lt e hrp hd
  have hlow := lower_text hh.lower hfull
  rw [List.append_assoc, List.singleton_append, bech32Decode_eq_some_iff]
  refine ⟨printable_text hh.range hfull, fun hm => hm.1 hlow, ?_, List.length_pos_iff.mpr hh.nonempty,
    _, hlow, hfull, ?_, ?_, ?_⟩
  · simp [createChecksum_length]; omega
  · simp [createChecksum_length]
  · rw [verifyChecksum_eq_some, ← List.append_assoc]; exact polymod_createChecksum e hrp data
  · simp [createChecksum_length]

/-- a (hrp, witness version, program) triple that BIP173/BIP350 allow and that fits in 90 characters -/
structure SegwitOk (hrp : List Char) (ver : Nat) (prog : List Nat) : Prop where
  hrpOk : HrpOk hrp
  verOk : ver ≤ 16
  bytes : ∀ v ∈ prog, v < 256
  lenLo : 2 ≤ prog.length
  lenHi : prog.length ≤ 40
  v0 : ver = 0 → prog.length = 20 ∨ prog.length = 32
  total : hrp.length + 1 + (1 + (8 * prog.length + 4) / 5) + 6 ≤ 90

def encOf (ver : Nat) : Encoding := if ver = 0 then .bech32 else .bech32m

def segwitText (hrp : List Char) (ver : Nat) (conv : List Nat) : List Char :=
  hrp ++ ['1'] ++ ((ver :: conv) ++ createChecksum (encOf ver) hrp (ver :: conv)).map chr

theorem segwitText_eq (hrp : List Char) (ver : Nat) (conv : List Nat) :
    segwitText hrp ver conv
      = hrp ++ '1' :: ((ver :: conv) ++ createChecksum (encOf ver) hrp (ver :: conv)).map chr := by
  simp [segwitText]

theorem segwitVals_lt (hrp : List Char) {ver : Nat} {conv : List Nat} (hv : ver < 32) (hc : ∀ x ∈ conv, x < 32) :
    ∀ x ∈ (ver :: conv) ++ createChecksum (encOf ver) hrp (ver :: conv), x < 32 :=
  data_checksum_lt _ hrp (List.forall_mem_cons.mpr ⟨hv, hc⟩)

theorem segwitText_lower (hrp : List Char) (ver : Nat) (conv : List Nat) (hh : HrpOk hrp) (hv : ver < 32)
    (hc : ∀ x ∈ conv, x < 32) : lower (segwitText hrp ver conv) = segwitText hrp ver conv := by
  rw [segwitText_eq]; exact lower_text hh.lower (segwitVals_lt hrp hv hc)

/-- the segwit `decode` characterised: the BIP173/BIP350 program rules hold, and `bech32_decode` returned the
    checksum variant of the witness version, the expected human-readable part, and the version followed by symbols
    that regroup strictly to the program -/
theorem decode_eq_some_iff (hrp s : List Char) (ver : Nat) (prog : List Nat) :
    decode hrp s = some (ver, prog) ↔
      ver ≤ 16 ∧ 2 ≤ prog.length ∧ prog.length ≤ 40 ∧ (ver = 0 → prog.length = 20 ∨ prog.length = 32)
      ∧ ∃ data, bech32Decode s = some (encOf ver, hrp, ver :: data) ∧ convertbits data 5 8 false = some prog := by
  unfold decode
  cases hd : bech32Decode s with
  | none => simp
  | some r =>
    obtain ⟨e, hg, data⟩ := r
    cases data with
    | nil => simp [convertbits, cbLoop]
    | cons d0 rest =>
      cases hc : convertbits rest 5 8 false with
      | none =>
        simp only [List.drop_succ_cons, List.drop_zero, hc, ite_self, reduceCtorEq, false_iff]
        rintro ⟨_, _, _, _, data, h1, h2⟩
        simp only [Option.some.injEq, Prod.mk.injEq, List.cons.injEq] at h1
        rw [← h1.2.2.2, hc] at h2; exact absurd h2 (by simp)
      | some dec =>
        simp only [List.drop_succ_cons, List.drop_zero, hc, Option.ite_none_left_eq_some, Option.some.injEq,
          Prod.mk.injEq, List.cons.injEq, Bool.or_eq_true, Bool.and_eq_true, decide_eq_true_eq, ne_eq,
          Decidable.not_not, not_or, not_and, Nat.not_lt]
        constructor
        · rintro ⟨rfl, ⟨hlo, hhi⟩, h16, h0, henc, rfl, rfl⟩
          refine ⟨h16, hlo, hhi, fun hz => ?_, rest, ⟨?_, rfl, rfl, rfl⟩, hc⟩
          · exact Decidable.or_iff_not_imp_left.mpr fun hn => h0 ⟨hz, hn⟩
          · unfold encOf; split
            · exact henc.1 ‹_›
            · exact henc.2 ‹_›
        · rintro ⟨h16, hlo, hhi, h0, data, ⟨rfl, rfl, rfl, rfl⟩, hcb⟩
          obtain rfl := Option.some.inj (hc.symm.trans hcb)
          exact ⟨rfl, ⟨hlo, hhi⟩, h16, fun ⟨hz, hn⟩ => (h0 hz).resolve_left hn,
            ⟨fun hz => if_pos hz, fun hz => if_neg hz⟩, rfl, rfl⟩

theorem decode_segwitText (hrp : List Char) (ver : Nat) (prog conv : List Nat) (h : SegwitOk hrp ver prog)
    (hc : ∀ x ∈ conv, x < 32) (hl1 : 5 * conv.length < 8 * prog.length + 5)
    (hback : convertbits conv 5 8 false = some prog) :
    decode hrp (segwitText hrp ver conv) = some (ver, prog) := by
  have hdata : ∀ d ∈ ver :: conv, d < 32 := List.forall_mem_cons.mpr ⟨by have := h.verOk; omega, hc⟩
  have hlen : hrp.length + 1 + (ver :: conv).length + 6 ≤ 90 := by have := h.total; simp; omega
  exact (decode_eq_some_iff _ _ _ _).mpr ⟨h.verOk, h.lenLo, h.lenHi, h.v0, conv,
    bech32Decode_encode (encOf ver) hrp (ver :: conv) h.hrpOk hdata hlen, hback⟩

theorem encode_segwit (hrp : List Char) (ver : Nat) (prog : List Nat) (h : SegwitOk hrp ver prog) :
    ∃ conv, convertbits prog 8 5 true = some conv ∧ encode hrp ver prog = some (segwitText hrp ver conv)
      ∧ decode hrp (segwitText hrp ver conv) = some (ver, prog) := by
  obtain ⟨conv, h1, h2, h3, _, h5⟩ := convertbits_8_5_8 prog h.bytes
  have hd := decode_segwitText hrp ver prog conv h h2 h3 h5
  refine ⟨conv, h1, ?_, hd⟩
  have hdata : ∀ d ∈ ver :: conv, d < 32 := List.forall_mem_cons.mpr ⟨by have := h.verOk; omega, h2⟩
  unfold encode
  simp only [h1, List.singleton_append]
  rw [show (if ver = 0 then Encoding.bech32 else Encoding.bech32m) = encOf ver from rfl,
    bech32Encode_eq (encOf ver) hrp (ver :: conv) hdata]
  show (if decode hrp (segwitText hrp ver conv) = none then none else some (segwitText hrp ver conv)) = _
  rw [hd]; rfl

theorem decode_mixed_case (hrp s : List Char) (h1 : lower s ≠ s) (h2 : upper s ≠ s) : decode hrp s = none := by
  unfold decode; rw [bech32Decode_mixed_case s h1 h2]

theorem decode_wrong_variant (hrp s : List Char) (e : Encoding) (hg : List Char) (d0 : Nat) (rest : List Nat)
    (hd : bech32Decode s = some (e, hg, d0 :: rest)) (hw : e ≠ encOf d0) : decode hrp s = none := by
  apply Option.eq_none_iff_forall_ne_some.mpr
  rintro ⟨ver, prog⟩ h
  obtain ⟨_, _, _, _, data, h2, _⟩ := (decode_eq_some_iff hrp s ver prog).mp h
  rw [hd] at h2
  simp only [Option.some.injEq, Prod.mk.injEq, List.cons.injEq] at h2
  obtain ⟨h3, _, h4, _⟩ := h2
  exact hw (h4 ▸ h3)

end Embit.Model.Bech32
