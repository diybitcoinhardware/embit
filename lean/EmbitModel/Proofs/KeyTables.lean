import EmbitModel.Proofs.Base58Prefix
import EmbitModel.Proofs.Bip32Neuter
/-
  Facts about the generated NETWORKS tables used by the table-level theorems (all by `decide` on the table that
  harness/facts.py re-extracts from the loaded module on every run).
-/
namespace Embit.Keys
open Embit

variable {E : EcOps}

/-- `to_public()` maps every `?prv` version of every network to the `?pub` version of the same network and letter -/
theorem detect_table :
    (Generated.keyNets.all fun net => net.prvPub.all fun e => detectPubVersion e.1 == e.2) = true := by decide

def isPubVersion (pv : Bytes) : Bool :=
  Generated.keyNets.any fun n => n.versions.any fun v => v.2.1 == pv && !v.2.2

/-- every private SLIP-132 version of the table has a public counterpart that is itself a public version of the table -/
def detectTableOk : Bool :=
  Generated.keyNets.all fun net => net.versions.all fun e =>
    !e.2.2 || (match detectPubVersion e.2.1 with
               | some pv => isPubVersion pv
               | none => false)

theorem detectTable_ok : detectTableOk = true := by decide

theorem ten_versions_per_network :
    (Generated.keyNets.all fun net => net.versions.length == 10 && (net.versions.filter (·.2.2)).length == 5) = true := by
  decide

theorem table_pub_says (env : Env) (dsha : Bytes → Bytes) (hd : ∀ b, 4 ≤ (dsha b).length)
    (henc : env.b58enc = B58.encodeCheck dsha) (net : Generated.KeyNet) (hn : net ∈ Generated.keyNets)
    (e : String × Bytes × Bool) (he : e ∈ net.versions) (hprv : e.2.2 = true) :
    VersionSays env e.2.1 tPrv ∧ ∀ pv, detectPubVersion e.2.1 = some pv → VersionSays env pv tPub := by
  refine ⟨by simpa [kindText, hprv] using B58.table_versionSays env dsha hd henc net hn e he, ?_⟩
  intro pv hpv
  have := List.all_eq_true.mp (List.all_eq_true.mp detectTable_ok net hn) e he
  simp only [hprv, Bool.not_true, Bool.false_or, hpv] at this
  obtain ⟨n', hn', hv⟩ := List.any_eq_true.mp this
  obtain ⟨v, hv, hvv⟩ := List.any_eq_true.mp hv
  simp only [Bool.and_eq_true, beq_iff_eq, Bool.not_eq_eq_eq_not, Bool.not_true] at hvv
  have := B58.table_versionSays env dsha hd henc n' hn' v hv
  rw [hvv.1, hvv.2] at this
  simpa [kindText] using this

end Embit.Keys
