import EmbitModel.Proofs.PyCurveOps
import EmbitModel.Proofs.EcBridge
import EmbitModel.Model.PyCurveOps
/-
  The executable, Mathlib-free record `lawfulOps C n g` (Model/PyCurveOps.lean — the record the native driver
  evaluates) is ISOMORPHIC to `pyEcOps C n g` (Proofs/PyCurveOps.lean — the record the laws are proved of): the
  decidable carrier predicate `okPt` (reduced + `on_curve`) is the Mathlib predicate `Valid` on canonical values, the
  run-time re-check inside `norm` never fails on valid tuples (the fallback branch is dead code), and the identity on
  the underlying values commutes with every field of `EcOps`. `EcLaws` / `InfUnique` are transported backwards along
  such an embedding (`EcEmb`).
-/
namespace Embit

structure EcEmb (E E' : EcOps) where
  f : E.Pt → E'.Pt
  inj : Function.Injective f
  add : ∀ P Q, f (E.add P Q) = E'.add (f P) (f Q)
  neg : ∀ P, f (E.neg P) = E'.neg (f P)
  mul : ∀ k P, f (E.mul k P) = E'.mul k (f P)
  g : f E.g = E'.g
  n : E.n = E'.n
  p : E.p = E'.p
  xy : ∀ P, E'.xy (f P) = E.xy P
  ofXY : ∀ x y, (E.ofXY x y).map f = E'.ofXY x y
  liftX : ∀ x, (E.liftX x).map f = E'.liftX x
  invN : ∀ a, E.invN a = E'.invN a

namespace EcEmb
variable {E E' : EcOps}

theorem map_eq_some (φ : EcEmb E E') {o : Option E.Pt} {P : E.Pt} (h : o.map φ.f = some (φ.f P)) : o = some P := by
  cases o with
  | none => cases h
  | some Q =>
    simp only [Option.map_some, Option.some.injEq] at h
    rw [φ.inj h]

theorem laws (φ : EcEmb E E') (L : EcLaws E') : EcLaws E where
  n_gt_one := by rw [φ.n]; exact L.n_gt_one
  mul_add := fun a b => φ.inj (by rw [φ.add, φ.mul, φ.mul, φ.mul, φ.g]; exact L.mul_add a b)
  mul_mul := fun a b => φ.inj (by rw [φ.mul, φ.mul, φ.mul, φ.g]; exact L.mul_mul a b)
  mul_mod := fun a => φ.inj (by rw [φ.mul, φ.mul, φ.g, φ.n]; exact L.mul_mod a)
  neg_mul := fun a ha => φ.inj (by
    rw [φ.neg, φ.mul, φ.mul, φ.g, φ.n]; exact L.neg_mul a (by rw [← φ.n]; exact ha))
  inv_mul := fun a h0 h1 => by rw [φ.invN, φ.n]; exact L.inv_mul a h0 (by rw [← φ.n]; exact h1)
  xy_range := fun P x y h => by rw [φ.p]; exact L.xy_range (φ.f P) x y (by rw [φ.xy]; exact h)
  p_odd := by rw [φ.p]; exact L.p_odd
  xy_neg := fun P x y h => by
    rw [← φ.xy, φ.neg, φ.p]; exact L.xy_neg (φ.f P) x y (by rw [φ.xy]; exact h)
  ofXY_xy := fun P x y h => by
    have h' := L.ofXY_xy (φ.f P) x y (by rw [φ.xy]; exact h)
    rw [← φ.ofXY] at h'
    exact φ.map_eq_some h'
  neg_neg := fun P => φ.inj (by rw [φ.neg, φ.neg]; exact L.neg_neg _)
  xy_neg_none := fun P h => by rw [← φ.xy, φ.neg]; exact L.xy_neg_none _ (by rw [φ.xy]; exact h)
  mul_inj := fun a b ha hb h =>
    L.mul_inj a b (by rw [← φ.n]; exact ha) (by rw [← φ.n]; exact hb) (by rw [← φ.g, ← φ.mul, ← φ.mul, h])
  xy_ofXY := fun P x y hx hy h => by
    rw [← φ.xy]
    apply L.xy_ofXY _ x y (by rw [← φ.p]; exact hx) (by rw [← φ.p]; exact hy)
    rw [← φ.ofXY, h]; rfl
  generated := fun P => by
    obtain ⟨a, ha, h⟩ := L.generated (φ.f P)
    refine ⟨a, by rw [φ.n]; exact ha, φ.inj ?_⟩
    rw [h, φ.mul, φ.g]
  liftX_sound := fun x P h => by
    obtain ⟨y, hy, he⟩ := L.liftX_sound x (φ.f P) (by rw [← φ.liftX, h]; rfl)
    exact ⟨y, by rw [← φ.xy]; exact hy, he⟩
  liftX_even := fun P x y h hy => by
    have h' := L.liftX_even (φ.f P) x y (by rw [φ.xy]; exact h) hy
    rw [← φ.liftX] at h'
    exact φ.map_eq_some h'

theorem infUnique (φ : EcEmb E E') (h : Model.SignWith.InfUnique E') : Model.SignWith.InfUnique E := fun a ha => by
  have := h a (by rw [← φ.g, ← φ.mul, φ.xy]; exact ha)
  rwa [φ.n]

end EcEmb

namespace Model.PyCurve

variable (C : Curve) [Fact C.p.Prime]

theorem okPt_iff (hs : Smooth C) (q : Option (ℕ × ℕ)) : okPt C q = true ↔ Valid C (toJ q) := by
  cases q with
  | none => exact ⟨fun _ => valid_inf C (p_gt_one C), fun _ => rfl⟩
  | some xy =>
    simp only [okPt, toJ, Bool.and_eq_true, decide_eq_true_eq]
    exact (valid_nat_iff C hs xy.1 xy.2).symm

def toA (hs : Smooth C) (P : CPt C) : APt C := ⟨P.1, (okPt_iff C hs P.1).mp P.2⟩

def ofA (hs : Smooth C) (P : APt C) : CPt C := ⟨P.1, (okPt_iff C hs P.1).mpr P.2⟩

theorem toA_ofA (hs : Smooth C) (P : APt C) : toA C hs (ofA C hs P) = P := rfl
theorem ofA_toA (hs : Smooth C) (P : CPt C) : ofA C hs (toA C hs P) = P := rfl

theorem toA_injective (hs : Smooth C) : Function.Injective (toA C hs) := fun P Q h =>
  Subtype.ext (congrArg (fun R : APt C => R.1) h)

theorem toA_surjective (hs : Smooth C) : Function.Surjective (toA C hs) := fun P => ⟨ofA C hs P, rfl⟩

theorem norm_val (hs : Smooth C) {J : JPt} (hv : Valid C J) : (norm C J).1 = (affineXY C J).getD none := by
  have hok : okPt C ((affineXY C J).getD none) = true := (okPt_iff C hs _).mpr (valid_affineXY C hv)
  unfold norm
  simp only [hok, dite_true]

theorem toA_norm (hs : Smooth C) {J : JPt} (hv : Valid C J) : toA C hs (norm C J) = ofJ C J :=
  Subtype.ext (by rw [ofJ_val C hv]; exact norm_val C hs hv)

/-- what the compressed branch of `ECPubKey.set` stores is a valid tuple -/
theorem valid_setCompressed (hs : Smooth C) (h3 : C.p % 4 = 3) (x : ℕ) (J : JPt)
    (h : setCompressed C false x = some (some J)) : Valid C J := by
  obtain ⟨h1, h2⟩ := setCompressed_spec C hs h3 false x
  by_cases hcnd : x < C.p ∧ IsSquare (((x : ℤ) : ZMod C.p) ^ 3 + (C.a : ZMod C.p) * ((x : ℤ) : ZMod C.p) + (C.b : ZMod C.p))
  · obtain ⟨y, _, _, hv, hset⟩ := h1 hcnd
    rw [hset] at h
    simp only [Bool.false_eq_true, if_false, Option.some.injEq] at h
    rw [← h]; exact hv
  · rw [h2 hcnd] at h
    cases h

/-- **the lawful record embeds into (is isomorphic to, `toA_surjective`) the record of key.py's arithmetic over
    `Valid` points**: the same values, every operation commutes -/
def lawfulEmb (hs : Smooth C) (h3 : C.p % 4 = 3) (n : ℕ) (g : CPt C) :
    EcEmb (lawfulOps C n g) (pyEcOps C n (toA C hs g)) where
  f := toA C hs
  inj := toA_injective C hs
  add := fun P Q => toA_norm C hs (pt_add C (toA C hs P).2 (toA C hs Q).2).2
  neg := fun P => toA_norm C hs (valid_negate C (toA C hs P).2)
  mul := fun k P => by
    -- unfolding the record first: the unifier would otherwise unfold `norm`, `affine`, `mul` before the projection
    simp only [lawfulOps]
    exact toA_norm C hs (valid_mul C _ (by simpa using (show Valid C (toJ P.1) from (toA C hs P).2)))
  g := rfl
  n := rfl
  p := rfl
  xy := fun P => xy_val C (toA C hs P)
  ofXY := fun x y => by
    show ((setUncompressed C x y).map (norm C)).map (toA C hs) = (setUncompressed C x y).map (ofJ C)
    cases hJ : setUncompressed C x y with
    | none => rfl
    | some J =>
      obtain ⟨_, _, _, hv⟩ := (setUncompressed_iff C hs x y J).mp hJ
      simp only [Option.map_some, Option.some.injEq]
      exact toA_norm C hs hv
  liftX := fun x => by
    show (cLiftX C x).map (toA C hs) = eLiftX C x
    unfold cLiftX eLiftX
    rcases hJ : setCompressed C false x with _ | _ | J
    · rfl
    · rfl
    · simp only [Option.map_some, Option.some.injEq]
      exact toA_norm C hs (valid_setCompressed C hs h3 x J hJ)
  invN := fun _ => rfl

end Model.PyCurve
end Embit
