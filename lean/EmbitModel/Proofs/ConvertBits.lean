import EmbitModel.Model.Bech32
import EmbitModel.Model.Blech32
import EmbitModel.Proofs.Digits
import EmbitModel.Proofs.BasicBytes
/-
  `convertbits` characterised arithmetically: reading the input as one big-endian number `N` of
  `T = frombits·len` bits, the accumulator loop emits the base-`2^tobits` digits of `N >> (T mod tobits)`.
  Quotients and remainders by `tobits` are kept as variables `q`, `r` with `T = tobits·q + r`, `r < tobits`.
  The Liquid copy of the function (`Model.Blech32`) is the same function.
-/
namespace Embit.Model.Bech32
open Embit Digits

theorem bytes_lt (b : Bytes) : ∀ v ∈ b.map UInt8.toNat, v < 256 := by
  intro v hv
  obtain ⟨x, _, rfl⟩ := List.mem_map.mp hv
  exact x.toNat_lt

theorem map_toNat_ofNat {l : List Nat} (h : ∀ v ∈ l, v < 256) : (l.map UInt8.ofNat).map UInt8.toNat = l := by
  rw [List.map_map]
  refine (List.map_congr_left fun v hv => ?_).trans (List.map_id l)
  have := h v hv
  simp [UInt8.toNat_ofNat']; omega

theorem mod_div_mod (N m b t : Nat) (h : b + t ≤ m) : (N % 2 ^ m) / 2 ^ b % 2 ^ t = N / 2 ^ b % 2 ^ t := by
  have e : 2 ^ m = 2 ^ b * 2 ^ (m - b) := by rw [← Nat.pow_add]; congr 1; omega
  rw [e, Nat.mod_mul_right_div_self]
  exact Nat.mod_mod_of_dvd _ (Nat.pow_dvd_pow 2 (by omega))

theorem mod_mul_add_mod (N M c v : Nat) : (N % M * c + v) % M = (N * c + v) % M := by
  rw [Nat.add_mod, Nat.mul_mod, Nat.mod_mod, ← Nat.mul_mod, ← Nat.add_mod]

theorem mask_eq (n : Nat) : (1 <<< n) - 1 = 2 ^ n - 1 := by rw [Nat.one_shiftLeft]

theorem divmod_unique {to q r q' r' : Nat} (hr : r < to) (hr' : r' < to) (h : to * q + r = to * q' + r') :
    q = q' ∧ r = r' := by
  have h1 := congrArg (· % to) h
  have h2 := congrArg (· / to) h
  simp only [Nat.mul_add_mod, Nat.mod_eq_of_lt hr, Nat.mod_eq_of_lt hr', Nat.mul_add_div (by omega : 0 < to),
    Nat.div_eq_of_lt hr, Nat.div_eq_of_lt hr', Nat.add_zero] at h1 h2
  exact ⟨h2, h1⟩

/-- the inner `while` loop run `j` times: from `r + to·j` pending bits down to `r < to`, one digit a round -/
theorem cbEmit_spec (N m to r : Nat) (hr : r < to) : ∀ (j q : Nat), r + to * j ≤ m →
    cbEmit (N % 2 ^ m) to (2 ^ to - 1) (r + to * j) (fixedBE (2 ^ to) q (N / 2 ^ (r + to * j)))
      = (r, fixedBE (2 ^ to) (q + j) (N / 2 ^ r)) := by
  intro j
  induction j with
  | zero => intro q _; rw [cbEmit, dif_neg (by omega)]; rfl
  | succ j ih =>
    intro q hm
    have hj : r + to * (j + 1) = r + to * j + to := by rw [Nat.mul_succ, Nat.add_assoc]
    rw [cbEmit, dif_pos ⟨by omega, by omega⟩, hj, Nat.add_sub_cancel]
    have hstep : fixedBE (2 ^ to) q (N / 2 ^ (r + to * j + to)) ++ [((N % 2 ^ m) >>> (r + to * j)) &&& (2 ^ to - 1)]
        = fixedBE (2 ^ to) (q + 1) (N / 2 ^ (r + to * j)) := by
      rw [fixedBE_succ, Nat.div_div_eq_div_mul, ← Nat.pow_add, Nat.and_two_pow_sub_one_eq_mod,
        Nat.shiftRight_eq_div_pow, mod_div_mod N m _ to (by omega)]
    rw [hstep, ih (q + 1) (by omega), Nat.add_right_comm]
    rfl

/-- the outer loop, from a state that holds the number `N` of `to·q + r` bits, of which `r` are pending -/
theorem cbLoop_spec (from_ to : Nat) (data : List Nat) (hd : ∀ v ∈ data, v < 2 ^ from_)
    (N q r q' r' : Nat) (hr : r < to) (hr' : r' < to) (hT : to * q + r + from_ * data.length = to * q' + r') :
    cbLoop from_ to (2 ^ to - 1) (2 ^ (from_ + to - 1) - 1) data (N % 2 ^ (from_ + to - 1)) r
        (fixedBE (2 ^ to) q (N / 2 ^ r))
      = some ((data.foldl (fun a d => a * 2 ^ from_ + d) N) % 2 ^ (from_ + to - 1), r',
              fixedBE (2 ^ to) q' ((data.foldl (fun a d => a * 2 ^ from_ + d) N) / 2 ^ r')) := by
  induction data generalizing N q r with
  | nil =>
    obtain ⟨rfl, rfl⟩ := divmod_unique hr hr' (by simpa using hT)
    rfl
  | cons v rest ih =>
    have hv : v < 2 ^ from_ := hd v (by simp)
    have h0 : v >>> from_ = 0 := by rw [Nat.shiftRight_eq_div_pow]; exact Nat.div_eq_of_lt hv
    have hacc : ((N % 2 ^ (from_ + to - 1)) <<< from_ ||| v) &&& (2 ^ (from_ + to - 1) - 1)
        = (N * 2 ^ from_ + v) % 2 ^ (from_ + to - 1) := by
      rw [← Nat.shiftLeft_add_eq_or_of_lt hv, Nat.and_two_pow_sub_one_eq_mod, Nat.shiftLeft_eq,
        mod_mul_add_mod]
    -- the `from_` new bits leave the digits already emitted as they are
    have hret : N / 2 ^ r = (N * 2 ^ from_ + v) / 2 ^ (r + from_) := by
      rw [Nat.pow_add, Nat.mul_comm (2 ^ r), ← Nat.div_div_eq_div_mul, Nat.mul_comm N,
        Nat.mul_add_div (Nat.two_pow_pos _), Nat.div_eq_of_lt hv, Nat.add_zero]
    -- `r + from_` pending bits are `j` whole digits and `r₁` bits
    have hj := Nat.mod_add_div (r + from_) to
    have hr1 : (r + from_) % to < to := Nat.mod_lt _ (by omega)
    generalize (r + from_) % to = r1 at hj hr1
    generalize (r + from_) / to = j at hj
    rw [cbLoop, if_neg (by simp [h0])]
    dsimp only
    rw [hacc, hret, ← hj, cbEmit_spec _ _ to r1 hr1 j q (by omega)]
    exact ih (fun x hx => hd x (by simp [hx])) _ (q + j) r1 hr1
      (by rw [List.length_cons, Nat.mul_succ] at hT; rw [Nat.mul_add]; omega)

theorem cbLoop_none (from_ to maxv maxAcc : Nat) (data : List Nat) (h : ∃ v ∈ data, ¬ v < 2 ^ from_)
    (acc bits : Nat) (ret : List Nat) : cbLoop from_ to maxv maxAcc data acc bits ret = none := by
  induction data generalizing acc bits ret with
  | nil => simp at h
  | cons v rest ih =>
    rw [cbLoop]
    by_cases hv : v < 2 ^ from_
    · have h0 : v >>> from_ = 0 := by rw [Nat.shiftRight_eq_div_pow]; exact Nat.div_eq_of_lt hv
      simp only [h0, ne_eq, not_true_eq_false, if_false]
      apply ih
      obtain ⟨x, hx, hx2⟩ := h
      simp at hx
      rcases hx with rfl | hx
      · exact absurd hv hx2
      · exact ⟨x, hx, hx2⟩
    · have h0 : v >>> from_ ≠ 0 := by
        rw [Nat.shiftRight_eq_div_pow]
        intro e
        rcases Nat.div_eq_zero_iff.mp e with e | e
        · exact absurd e (Nat.ne_of_gt (Nat.two_pow_pos _))
        · exact hv e
      simp [h0]

abbrev valOf (from_ : Nat) (data : List Nat) : Nat := ofBE (2 ^ from_) data

/-- the symbol `(acc << s) & maxv` that both endings of `convertbits` look at -/
theorem pad_digit (N from_ to s : Nat) (hf : 0 < from_) :
    ((N % 2 ^ (from_ + to - 1)) <<< s) &&& (2 ^ to - 1) = (N * 2 ^ s) % 2 ^ to := by
  have hdvd : 2 ^ to ∣ 2 ^ (from_ + to - 1) := Nat.pow_dvd_pow 2 (by omega)
  rw [Nat.and_two_pow_sub_one_eq_mod, Nat.shiftLeft_eq, ← Nat.mod_mod_of_dvd (_ * _) hdvd,
    ← Nat.mod_mod_of_dvd (N * _) hdvd, Nat.mod_mul_mod]

theorem cbLoop_all (from_ to : Nat) (hto : 0 < to) (data : List Nat) (hd : ∀ v ∈ data, v < 2 ^ from_)
    (m bits : Nat) (hm : from_ * data.length = to * m + bits) (hb : bits < to) :
    cbLoop from_ to (2 ^ to - 1) (2 ^ (from_ + to - 1) - 1) data 0 0 []
      = some (valOf from_ data % 2 ^ (from_ + to - 1), bits, fixedBE (2 ^ to) m (valOf from_ data / 2 ^ bits)) := by
  have h := cbLoop_spec from_ to data hd 0 0 0 m bits hto hb (by omega)
  rwa [Nat.zero_mod] at h

theorem convertbits_strict (from_ to : Nat) (hf : 0 < from_) (hto : 0 < to) (data : List Nat)
    (hd : ∀ v ∈ data, v < 2 ^ from_) (m bits : Nat) (hm : from_ * data.length = to * m + bits) (hb : bits < to) :
    convertbits data from_ to false =
      if bits ≥ from_ ∨ valOf from_ data % 2 ^ bits ≠ 0 then none
      else some (fixedBE (2 ^ to) m (valOf from_ data / 2 ^ bits)) := by
  -- the padding bits are zero iff the symbol shifted up to a whole digit is
  have hz : (valOf from_ data * 2 ^ (to - bits)) % 2 ^ to = 0 ↔ valOf from_ data % 2 ^ bits = 0 := by
    have e : 2 ^ to = 2 ^ bits * 2 ^ (to - bits) := by rw [← Nat.pow_add]; congr 1; omega
    rw [e, Nat.mul_mod_mul_right, Nat.mul_eq_zero, or_iff_left (Nat.ne_of_gt (Nat.two_pow_pos _))]
  unfold convertbits
  simp only [cbLoop_all from_ to hto data hd m bits hm hb, Bool.false_eq_true, if_false, mask_eq,
    pad_digit _ _ _ _ hf, Bool.or_eq_true, decide_eq_true_eq, ne_eq, hz]

theorem convertbits_pad (from_ to : Nat) (hf : 0 < from_) (hto : 0 < to) (data : List Nat)
    (hd : ∀ v ∈ data, v < 2 ^ from_) (k p : Nat) (hk : to * k = from_ * data.length + p) (hp : p < to) :
    convertbits data from_ to true = some (fixedBE (2 ^ to) k (valOf from_ data * 2 ^ p)) := by
  unfold convertbits
  by_cases hp0 : p = 0
  · subst hp0
    simp only [mask_eq, cbLoop_all from_ to hto data hd k 0 (by omega) hto, if_true, ne_eq, not_true_eq_false, if_false,
      Nat.pow_zero, Nat.mul_one, Nat.div_one]
  · obtain ⟨j, rfl⟩ : ∃ j, k = j + 1 := ⟨k - 1, by cases k with | zero => omega | succ _ => rfl⟩
    have hdiv : valOf from_ data * 2 ^ p / 2 ^ to = valOf from_ data / 2 ^ (to - p) := by
      have e : 2 ^ to = 2 ^ (to - p) * 2 ^ p := by rw [← Nat.pow_add]; congr 1; omega
      rw [e, Nat.mul_div_mul_right _ _ (Nat.two_pow_pos _)]
    simp only [cbLoop_all from_ to hto data hd j (to - p) (by rw [Nat.mul_succ] at hk; omega) (by omega), if_true,
      ne_eq, show ¬ to - p = 0 by omega, not_false_eq_true, mask_eq, pad_digit _ _ _ _ hf,
      show to - (to - p) = p by omega, fixedBE_succ, hdiv]

theorem convertbits_8_5 (b : List Nat) (hb : ∀ v ∈ b, v < 256) :
    convertbits b 8 5 true = some (fixedBE 32 ((8 * b.length + 4) / 5)
      (ofBE 256 b * 2 ^ (5 * ((8 * b.length + 4) / 5) - 8 * b.length))) :=
  convertbits_pad 8 5 (by decide) (by decide) b hb _ _ (by omega) (by omega)

theorem convertbits_8_5_8 (b : List Nat) (hb : ∀ v ∈ b, v < 256) :
    ∃ c, convertbits b 8 5 true = some c ∧ (∀ x ∈ c, x < 32) ∧ 5 * c.length < 8 * b.length + 5 ∧
      8 * b.length ≤ 5 * c.length ∧ convertbits c 5 8 false = some b := by
  obtain ⟨k, p, hk, hp⟩ : ∃ k p, 5 * k = 8 * b.length + p ∧ p < 5 :=
    ⟨(8 * b.length + 4) / 5, 5 * ((8 * b.length + 4) / 5) - 8 * b.length, by omega, by omega⟩
  refine ⟨_, convertbits_pad 8 5 (by decide) (by decide) b hb k p hk hp, fixedBE_lt (by decide) k _,
    by rw [fixedBE_length]; omega, by rw [fixedBE_length]; omega, ?_⟩
  -- the 5-bit list has the value `N·2^p` and `5k = 8·len + p` bits
  have hN : ofBE (2 ^ 8) b < 2 ^ (8 * b.length) := by
    rw [Nat.pow_mul]; exact ofBE_lt (by decide) b hb
  have hval : valOf 5 (fixedBE (2 ^ 5) k (ofBE (2 ^ 8) b * 2 ^ p)) = ofBE (2 ^ 8) b * 2 ^ p := by
    rw [valOf, ofBE_fixedBE, ← Nat.pow_mul, hk, Nat.pow_add]
    exact Nat.mod_eq_of_lt (Nat.mul_lt_mul_of_pos_right hN (Nat.two_pow_pos p))
  rw [convertbits_strict 5 8 (by decide) (by decide) _ (fixedBE_lt (by decide) k _) b.length p
      (by rw [fixedBE_length]; exact hk) (by omega), hval,
    if_neg (by rw [Nat.mul_mod_left]; omega), Nat.mul_div_cancel _ (Nat.two_pow_pos p)]
  exact congrArg some (fixedBE_ofBE (by decide) b hb)

theorem cbWhile_eq_cbEmit (to maxv acc : Nat) (hto : 0 < to) : ∀ (fuel bits : Nat) (ret : List Nat), bits < fuel →
    Blech32.cbWhile to maxv acc fuel bits ret = cbEmit acc to maxv bits ret := by
  intro fuel
  induction fuel with
  | zero => intro bits ret h; omega
  | succ fuel ih =>
    intro bits ret h
    rw [Blech32.cbWhile, cbEmit]
    by_cases hb : bits ≥ to
    · rw [if_pos hb, dif_pos ⟨hb, hto⟩]; exact ih _ _ (by omega)
    · rw [if_neg hb, dif_neg (fun h => hb h.1)]

theorem blech_cbLoop_eq (from_ to maxv maxAcc : Nat) (hto : 0 < to) (data : List Nat) (acc bits : Nat)
    (ret : List Nat) :
    Blech32.cbLoop from_ to maxv maxAcc data acc bits ret = cbLoop from_ to maxv maxAcc data acc bits ret := by
  induction data generalizing acc bits ret with
  | nil => rfl
  | cons v rest ih =>
    rw [Blech32.cbLoop, cbLoop]
    split
    · rfl
    · dsimp only
      rw [cbWhile_eq_cbEmit to maxv _ hto _ _ _ (Nat.lt_succ_self _)]
      exact ih _ _ _

/-- `convertbits` of `liquid/blech32.py` is `convertbits` of `bech32.py` (for `tobits = 0` the Python loop does not
    end and the two models stop it differently) -/
theorem blech_convertBits_eq (data : List Nat) (from_ to : Nat) (hto : 0 < to) (pad : Bool) :
    Blech32.convertBits data from_ to pad = convertbits data from_ to pad := by
  unfold Blech32.convertBits convertbits
  simp only [blech_cbLoop_eq _ _ _ _ hto]
  rfl
end Embit.Model.Bech32
