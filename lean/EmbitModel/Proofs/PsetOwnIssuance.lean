import EmbitModel.Proofs.PsetTop
import EmbitModel.Proofs.ScopeRoundtrip
/-
  C18 (`fixes/c18-kf1.diff`): `LInputScope.read_value` validates the issuance fields a transaction holds verbatim
  (`pset 01` / `pset 0b`: 33 bytes, prefix 08 / 09; `pset 0c` / `pset 0d`: 32 bytes). Hence the issuance an input scope of
  ANY parsed PSET builds from fields of its own (`LInputScope.asset_issuance`) is one an Elements transaction can hold
  (`WFIssuance`): it is written and read back unchanged.
-/
set_option linter.unusedSimpArgs false
set_option linter.unusedVariables false
namespace Embit
open Model Spec.LWire

/-- every liquid field of the table passed the checks of `read_value` -/
def LfOK (lf : List (LInField × Bytes)) : Prop :=
  ∀ e ∈ lf, lenOK e.1.len e.2 = true ∧ e.1.pfxOK e.2 = true

theorem LInScope.addPair_lf (ko : KeyOps) (s s' : LInScope) (k v : Bytes) (h : LInScope.addPair ko s k v = some s') :
    s'.lf = s.lf ∨ ∃ f, s'.lf = s.lf ++ [(f, v)] ∧ lenOK f.len v = true ∧ f.pfxOK v = true := by
  cases LInScope.addPair_step h with
  | field f _ hl hp => exact .inr ⟨f, rfl, hl, hp⟩
  | _ => exact .inl rfl

theorem LInScope.addPair_lfOK (ko : KeyOps) (s s' : LInScope) (k v : Bytes) (hw : LfOK s.lf)
    (h : LInScope.addPair ko s k v = some s') : LfOK s'.lf := by
  rcases LInScope.addPair_lf ko s s' k v h with e | ⟨f, e, h1, h2⟩
  · rw [e]; exact hw
  · rw [e]; exact forall_snoc (P := fun e : LInField × Bytes => lenOK e.1.len e.2 = true ∧ e.1.pfxOK e.2 = true) hw ⟨h1, h2⟩

theorem LInScope.addPairs_lfOK (ko : KeyOps) (kvs : List KV) (s s' : LInScope) (hw : LfOK s.lf)
    (h : LInScope.addPairs ko s kvs = some s') : LfOK s'.lf :=
  LInScope.addPairs_invariant (P := fun x => LfOK x.lf) (Q := fun _ => True)
    (fun _ hi ha => LInScope.addPair_lfOK ko _ _ _ _ hi ha) (fun _ _ => trivial) hw h

theorem lseedIn_lf (tx : Option LTx) (j : Nat) : (lseedIn tx j).lf = [] := by
  unfold lseedIn
  repeat' split
  all_goals rfl

theorem LPset.parse_lfOK (ko : KeyOps) (b : Bytes) (p : LPset) (h : LPset.parse ko b = some p) :
    ∀ s ∈ p.inputs, LfOK s.lf := by
  obtain ⟨g, kin, kout, tx, unk, gs, eb, wg, ws, hgf, hpu, hver, e1, e2, e3, e4, l1, l2, l3, l4, fi, fo⟩ :=
    LPset.parse_decomp ko b p h
  intro s hs
  obtain ⟨j, hj⟩ := List.mem_iff_getElem?.mp hs
  have hjl : j < p.inputs.length := (List.getElem?_eq_some_iff.mp hj).1
  obtain ⟨kvs, s', a1, a2, a3⟩ := fi j hjl
  rw [hj] at a2; simp at a2; subst a2
  exact LInScope.addPairs_lfOK ko kvs _ s (by rw [lseedIn_lf]; intro e he; cases he) a3

theorem lfOK_len {lf : List (LInField × Bytes)} (h : LfOK lf) (f : LInField) (v : Bytes) (n : Nat)
    (hv : lget lf f = some v) (hn : f.len = some n) : v.length = n := by
  have := (h (f, v) (lget_mem lf f v hv)).1
  simpa [hn, lenOK] using this

theorem lfOK_commit {lf : List (LInField × Bytes)} (h : LfOK lf) (f : LInField) (v : Bytes)
    (hf : f = .issueCommitment ∨ f = .tokenCommitment) (hv : lget lf f = some v) : WFCommit (.conf v) := by
  have h1 := (h (f, v) (lget_mem lf f v hv)).1
  have h2 := (h (f, v) (lget_mem lf f v hv)).2
  rcases hf with rfl | rfl
  · simp [LInField.len, lenOK, LInField.pfxOK] at h1 h2
    refine ⟨h1, ?_, ?_⟩ <;> rcases h2 with e | e <;> simp [e]
  · simp [LInField.len, lenOK, LInField.pfxOK] at h1 h2
    refine ⟨h1, ?_, ?_⟩ <;> rcases h2 with e | e <;> simp [e]

theorem LInScope.assetIssuance_wf (s : LInScope) (hw : LfOK s.lf) (a : Issuance) (ha : s.assetIssuance = some a) :
    WFIssuance a := by
  unfold LInScope.assetIssuance at ha
  simp only [] at ha
  split at ha
  · simp only [Option.some.injEq] at ha
    subst ha
    refine ⟨?_, ?_, ?_, ?_⟩
    · simp only []
      split
      · rename_i ht
        cases hv : lget s.lf .issueNonce with
        | none => simp [hv, truthyB] at ht
        | some v => simpa using lfOK_len hw .issueNonce v 32 hv rfl
      · simp
    · simp only []
      split
      · rename_i ht
        cases hv : lget s.lf .issueEntropy with
        | none => simp [hv, truthyB] at ht
        | some v => simpa using lfOK_len hw .issueEntropy v 32 hv rfl
      · simp
    · simp only []
      split
      · rename_i ht
        cases hv : lget s.lf .issueCommitment with
        | none => simp [hv, truthyB] at ht
        | some v => simpa using lfOK_commit hw .issueCommitment v (Or.inl rfl) hv
      · cases hv : lget s.lf .issueValue with
        | none => simp [LInScope.geti, hv, WFCommit]
        | some v =>
          simp only [LInScope.geti, hv, Option.map_some, WFCommit]
          exact ofLe_lt64 (lfOK_len hw .issueValue v 8 hv rfl)
    · simp only []
      split
      · rename_i ht
        cases hv : lget s.lf .tokenCommitment with
        | none => simp [hv, truthyB] at ht
        | some v => simpa using lfOK_commit hw .tokenCommitment v (Or.inr rfl) hv
      · cases hv : lget s.lf .tokenValue with
        | none => simp [LInScope.geti, hv, WFCommit]
        | some v =>
          simp only [LInScope.geti, hv, Option.map_some, WFCommit]
          exact ofLe_lt64 (lfOK_len hw .tokenValue v 8 hv rfl)
  · simp at ha

end Embit
