import EmbitModel.Proofs.LiquidTxRoundtrip
import EmbitModel.Proofs.PsbtKV
import EmbitModel.Model.Pset
/-
  C17 for the Liquid parsers: every element reader of `Model/LiquidTx.lean` takes at least one byte off the input
  (so the counted loops of `LTransaction.read_from` cannot run more often than there are bytes), a parsed
  transaction has at most as many inputs + outputs as bytes, a parsed PSET at most as many scopes as bytes.
-/
namespace Embit.Model.Cost
open Embit Model Embit.Spec.LWire

/-- a parser that consumes at least one byte whenever it succeeds (same as `Props.C17.Consuming`) -/
def Consuming {α : Type} (p : Parser α) : Prop := ∀ b x r, p b = some (x, r) → r.length < b.length

theorem ltxin_consuming : Consuming LTxIn.read := by
  intro b x r h
  obtain ⟨e, hw, _⟩ := LTxIn.read_sound h
  rw [e]; simp [LTxIn.ser, hw.txid]; omega

theorem ltxout_consuming : Consuming LTxOut.read := by
  intro b x r h
  obtain ⟨e, _, _⟩ := LTxOut.read_sound h
  have := Compact.enc_length_pos x.spk.length
  rw [e]; simp [LTxOut.ser, scriptSer]; omega

theorem linwitness_consuming : Consuming LInWitness.read := by
  intro b x r h
  obtain ⟨e, _⟩ := LInWitness.read_sound h
  have := Compact.enc_length_pos x.amountProof.length
  rw [e]; simp [LInWitness.ser, proofSer, scriptSer]; omega

theorem loutwitness_consuming : Consuming LOutWitness.read := by
  intro b x r h
  obtain ⟨e, _⟩ := LOutWitness.read_sound h
  have := Compact.enc_length_pos x.surjProof.length
  rw [e]; simp [LOutWitness.ser, proofSer, scriptSer]; omega

theorem flatMap_length_ge {α : Type} (f : α → Bytes) (l : List α) (h : ∀ x ∈ l, 1 ≤ (f x).length) :
    l.length ≤ (l.flatMap f).length := by
  induction l with
  | nil => simp
  | cons x xs ih =>
    have := ih (fun i hi => h i (by simp [hi])); have := h x (by simp)
    simp only [List.flatMap_cons, List.length_append, List.length_cons]; omega

theorem ltx_size_le_input (b : Bytes) (t : LTx) (r : Bytes) (h : LTx.read b = some (t, r)) :
    t.vin.length + t.vout.length ≤ b.length := by
  obtain ⟨e, hwf⟩ := LTx.read_sound h
  have a := flatMap_length_ge LTxIn.ser t.vin (by
    intro i hi; simp [LTxIn.ser, (hwf.ins i hi).txid]; omega)
  have c := flatMap_length_ge LTxOut.ser t.vout (by
    intro o ho
    have := Compact.enc_length_pos o.spk.length
    simp [LTxOut.ser, scriptSer]; omega)
  rw [e]
  simp only [LTx.ser, List.length_append]
  omega

theorem readLIns_le (ko : KeyOps) (tx : Option LTx) : ∀ (n i : Nat) (b : Bytes) (ss : List LInScope) (r : Bytes),
    readLIns ko tx n i b = some (ss, r) → ss.length + r.length ≤ b.length := by
  intro n
  induction n with
  | zero => intro i b ss r h; simp [readLIns] at h; obtain ⟨rfl, rfl⟩ := h; simp
  | succ n ih =>
    intro i b ss r h
    simp only [readLIns] at h
    split at h
    · simp at h
    · rename_i kvs r1 hk
      obtain ⟨e, _⟩ := readKVs_sound hk
      have := writeKVs_length kvs
      split at h
      · simp at h
      · split at h
        · simp at h
        · rename_i ss' r2 hr
          simp at h; obtain ⟨rfl, rfl⟩ := h
          have := ih _ _ _ _ hr
          rw [e]; simp; omega

theorem readLOuts_le (ko : KeyOps) (tx : Option LTx) : ∀ (n i : Nat) (b : Bytes) (ss : List LOutScope) (r : Bytes),
    readLOuts ko tx n i b = some (ss, r) → ss.length + r.length ≤ b.length := by
  intro n
  induction n with
  | zero => intro i b ss r h; simp [readLOuts] at h; obtain ⟨rfl, rfl⟩ := h; simp
  | succ n ih =>
    intro i b ss r h
    simp only [readLOuts] at h
    split at h
    · simp at h
    · rename_i kvs r1 hk
      obtain ⟨e, _⟩ := readKVs_sound hk
      have := writeKVs_length kvs
      split at h
      · simp at h
      · split at h
        · simp at h
        · rename_i ss' r2 hr
          simp at h; obtain ⟨rfl, rfl⟩ := h
          have := ih _ _ _ _ hr
          rw [e]; simp; omega

/-- **PSET (also version 2, where the counts are attacker-chosen fields)**: an accepted PSET has at most as many
    input + output scopes as the byte string has bytes -/
theorem pset_scopes_le_input (ko : KeyOps) (b : Bytes) (p : LPset) (h : LPset.parse ko b = some p) :
    p.inputs.length + p.outputs.length ≤ b.length := by
  unfold LPset.parse at h
  -- one `split` per stage of the parser; a stage that fails contradicts `h`
  repeat' split at h
  all_goals try (simp at h; done)
  simp only [] at h
  repeat' split at h
  all_goals try (simp at h; done)
  obtain ⟨e0, _⟩ := takeN_sound ‹takeN 5 b = some _›
  obtain ⟨eg, _⟩ := readKVs_sound ‹readKVs _ = some _›
  have a := readLIns_le _ _ _ _ _ _ _ ‹readLIns _ _ _ _ _ = some _›
  have c := readLOuts_le _ _ _ _ _ _ _ ‹readLOuts _ _ _ _ _ = some _›
  obtain rfl := Option.some.inj h
  simp only [e0, eg, List.length_append]
  omega

end Embit.Model.Cost
