import EmbitModel.Proofs.Slip39EndToEnd
import EmbitModel.Proofs.Slip39Layout
import EmbitModel.Spec.Slip39Groups
/-
  `generate_shares` SUCCEEDS for valid parameters (audit item A11 / I-16.1): the exact number of `randint` draws the
  model consumes, the exact condition on the tape, and what `recover` does with header-identical shares at
  threshold 1 (there is no digest share there; the first non-empty group's first share is decrypted).
-/
namespace Embit.Model.Slip39

/-- number of `randint(0, 255)` draws of `split_secret(secret, k, n)` for a secret of `L` bytes: none for k = 1,
    otherwise `L − 4` for `r` and `L` for each of the `k − 2` random shares -/
def splitDraws (L k : Nat) : Nat := if k = 1 then 0 else (L - 4) + (k - 2) * L

/-- number of draws of `generate_shares`: the identifier first, then those of `split_secret` -/
def generateDraws (L k : Nat) : Nat := 1 + splitDraws L k

theorem drawBytes_some (n : Nat) (tape : List Nat) (hlen : n ≤ tape.length) (hb : ∀ t ∈ tape.take n, t < 256) :
    drawBytes n tape = some ((tape.take n).map UInt8.ofNat, tape.drop n) := by
  induction n generalizing tape with
  | zero => simp [drawBytes]
  | succ n ih =>
    cases tape with
    | nil => simp at hlen
    | cons t tape =>
      have ht : t < 256 := hb t (by simp)
      have := ih tape (by simpa using hlen) (fun x hx => hb x (by simp [hx]))
      simp only [drawBytes, ht, if_true, this, List.take_succ_cons, List.map_cons, List.drop_succ_cons]

theorem drawBytes_inv (n : Nat) (tape : List Nat) (bs : Bytes) (rest : List Nat)
    (h : drawBytes n tape = some (bs, rest)) :
    n ≤ tape.length ∧ (∀ t ∈ tape.take n, t < 256) ∧ rest = tape.drop n := by
  induction n generalizing tape bs rest with
  | zero => simp [drawBytes] at h; simp [h.2]
  | succ n ih =>
    cases tape with
    | nil => simp [drawBytes] at h
    | cons t tape =>
      simp only [drawBytes] at h
      split at h
      · rename_i ht
        split at h
        · rename_i bs' rest' hd
          simp only [Option.some.injEq, Prod.mk.injEq] at h
          obtain ⟨h1, h2, h3⟩ := ih _ _ _ hd
          refine ⟨by simpa using h1, ?_, by rw [← h.2, h3]; rfl⟩
          intro x hx
          simp only [List.take_succ_cons, List.mem_cons] at hx
          rcases hx with e | e
          · rw [e]; exact ht
          · exact h2 x e
        · simp at h
      · simp at h

theorem take_add_mem {α : Type} (a b : Nat) (l : List α) (x : α) :
    x ∈ l.take (a + b) ↔ x ∈ l.take a ∨ x ∈ (l.drop a).take b := by
  rw [List.take_add, List.mem_append]

theorem drawShares_some (L c i : Nat) (tape : List Nat) (hlen : c * L ≤ tape.length)
    (hb : ∀ t ∈ tape.take (c * L), t < 256) :
    ∃ l, drawShares L c i tape = some (l, tape.drop (c * L)) := by
  induction c generalizing i tape with
  | zero => exact ⟨[], by simp [drawShares]⟩
  | succ c ih =>
    have e : (c + 1) * L = L + c * L := by rw [Nat.succ_mul, Nat.add_comm]
    rw [e] at hlen hb ⊢
    have h1 := drawBytes_some L tape (by omega) (fun t ht => hb t ((take_add_mem _ _ _ _).mpr (Or.inl ht)))
    obtain ⟨l, hl⟩ := ih (i + 1) (tape.drop L) (by rw [List.length_drop]; omega)
      (fun t ht => hb t ((take_add_mem _ _ _ _).mpr (Or.inr ht)))
    refine ⟨(i, (tape.take L).map UInt8.ofNat) :: l, ?_⟩
    simp only [drawShares, h1, hl, List.drop_drop]

theorem drawShares_inv (L c i : Nat) (tape : List Nat) (l : List (Nat × Bytes)) (rest : List Nat)
    (h : drawShares L c i tape = some (l, rest)) :
    c * L ≤ tape.length ∧ (∀ t ∈ tape.take (c * L), t < 256) ∧ rest = tape.drop (c * L) := by
  induction c generalizing i tape l rest with
  | zero => simp [drawShares] at h; simp [h.2]
  | succ c ih =>
    have e : (c + 1) * L = L + c * L := by rw [Nat.succ_mul, Nat.add_comm]
    rw [e]
    simp only [drawShares] at h
    split at h
    · simp at h
    · rename_i bs rest1 hbs
      split at h
      · simp at h
      · rename_i l' rest' hd
        simp only [Option.some.injEq, Prod.mk.injEq] at h
        obtain ⟨a1, a2, a3⟩ := drawBytes_inv _ _ _ _ hbs
        obtain ⟨b1, b2, b3⟩ := ih _ _ _ _ hd
        subst a3
        rw [List.length_drop] at b1
        refine ⟨by omega, ?_, by rw [← h.2, b3, List.drop_drop, Nat.add_comm]⟩
        intro t ht
        rcases (take_add_mem _ _ _ _).mp ht with e' | e'
        · exact a2 t e'
        · exact b2 t e'

theorem splitSecret_isSome_iff (P : Prims) (secret : Bytes) (k n : Nat) (tape : List Nat) :
    (splitSecret P secret k n tape).isSome ↔
      (1 ≤ k ∧ k ≤ n ∧ n ≤ 16 ∧ (secret.length = 16 ∨ secret.length = 32) ∧
       splitDraws secret.length k ≤ tape.length ∧ ∀ t ∈ tape.take (splitDraws secret.length k), t < 256) := by
  rw [splitSecret_def]
  by_cases hv : 1 ≤ k ∧ k ≤ n ∧ n ≤ 16 ∧ (secret.length = 16 ∨ secret.length = 32)
  · obtain ⟨h1, h2, h3, h4⟩ := hv
    rw [if_pos ⟨h1, h2, h3, h4⟩]
    by_cases hk1 : k = 1
    · subst hk1; simp [splitDraws, h2, h3, h4]
    · rw [if_neg hk1]
      simp only [splitDraws, hk1, if_false]
      constructor
      · intro h
        obtain ⟨x, hx⟩ := Option.isSome_iff_exists.mp h
        obtain ⟨⟨r, tape1⟩, hr, hx⟩ := Option.bind_eq_some_iff.mp hx
        obtain ⟨⟨base, rest⟩, hb, _⟩ := Option.map_eq_some_iff.mp hx
        obtain ⟨a1, a2, a3⟩ := drawBytes_inv _ _ _ _ hr
        obtain ⟨b1, b2, b3⟩ := drawShares_inv _ _ _ _ _ _ hb
        subst a3
        rw [List.length_drop] at b1
        refine ⟨h1, h2, h3, h4, by omega, fun t ht => ?_⟩
        rcases (take_add_mem _ _ _ _).mp ht with e' | e'
        · exact a2 t e'
        · exact b2 t e'
      · rintro ⟨_, _, _, _, h5, h6⟩
        have d1 := drawBytes_some (secret.length - 4) tape (by omega)
          (fun t ht => h6 t ((take_add_mem _ _ _ _).mpr (Or.inl ht)))
        obtain ⟨l, d2⟩ := drawShares_some secret.length (k - 2) 0 (tape.drop (secret.length - 4))
          (by rw [List.length_drop]; omega) (fun t ht => h6 t ((take_add_mem _ _ _ _).mpr (Or.inr ht)))
        simp only [d1, d2, Option.bind_some, Option.map_some, Option.isSome_some]
  · rw [if_neg hv]
    simp only [Option.isSome_none, Bool.false_eq_true, false_iff]
    exact fun h => hv ⟨h.1, h.2.1, h.2.2.1, h.2.2.2.1⟩

theorem encrypt_some_id (P : Prims) (x : Bytes) (id e : Nat) (pass y : Bytes)
    (h : encrypt P x id e pass = some y) : id < 65536 := by
  unfold encrypt crypt at h
  split at h; · simp at h
  simp only at h
  split at h; · simp at h
  omega

theorem shareOf_initOk (P : Prims) (hH : ∀ key msg, 4 ≤ (P.hmac key msg).length) (enc : Bytes) (k n : Nat)
    (tape : List Nat) (data : List (Nat × Bytes)) (hs : splitSecret P enc k n tape = some data) (L id e : Nat)
    (hL : enc.length = L) : ∀ d ∈ data, (shareOf (L * 8) id e k n d).initOk = true := by
  obtain ⟨hx, hk1, hkn, hn, _, hlen, _⟩ := splitSecret_shape P hH enc k n tape data hs
  intro d hd
  have hd1 : d.1 < n := by
    have : d.1 ∈ data.map (·.1) := List.mem_map_of_mem hd
    rwa [hx, List.mem_range] at this
  have hv : ofBe d.2 < 256 ^ (L * 8 / 8) := by
    have := ofBe_lt d.2
    rw [hlen d hd, hL] at this
    rwa [Nat.mul_div_cancel _ (by decide : 0 < 8)]
  simp only [Share.initOk_iff, shareOf]
  exact ⟨by omega, hk1, hkn, by omega, hn, by omega, by omega, by omega, hv⟩

/-- **`generate_shares` succeeds EXACTLY on valid parameters and a sufficient tape**: secret of 16 or 32 bytes,
    1 ≤ k ≤ n ≤ 16, first draw (the identifier) below 65 536 (`id.to_bytes(2, "big")`), followed by at least
    `splitDraws` further draws, each below 256 (`bytes(...)`).  No condition on the exponent, the passphrase or the
    values of the primitives. -/
theorem generateShares_isSome_iff (P : Prims) (hF : ∀ pw s it n, (P.pbkdf2 pw s it n).length = n)
    (hH : ∀ key msg, 4 ≤ (P.hmac key msg).length)
    (secret : Bytes) (k n : Nat) (pass : Bytes) (e : Nat) (tape : List Nat) :
    (generateShares P secret k n pass e tape).isSome ↔
      ((secret.length = 16 ∨ secret.length = 32) ∧ 1 ≤ k ∧ k ≤ n ∧ n ≤ 16 ∧
       ∃ id rest, tape = id :: rest ∧ id < 65536 ∧ splitDraws secret.length k ≤ rest.length ∧
         ∀ t ∈ rest.take (splitDraws secret.length k), t < 256) := by
  constructor
  · intro h
    obtain ⟨ms, hms⟩ := Option.isSome_iff_exists.mp h
    obtain ⟨id, tape1, enc, data, rfl, hsz, henc, hdata, _, _⟩ := generateShares_structure P secret k n pass e tape ms hms
    have hid := encrypt_some_id P secret id e pass enc henc
    have hsne : secret ≠ [] := by intro h; rw [h] at hsz; simp at hsz
    obtain ⟨henclen, _⟩ := decrypt_encrypt P hF secret id e pass (by omega) hsne hid enc henc
    have := (splitSecret_isSome_iff P enc k n tape1).mp (by rw [hdata]; rfl)
    rw [henclen] at this
    obtain ⟨a1, a2, a3, _, a5, a6⟩ := this
    exact ⟨hsz, a1, a2, a3, id, tape1, rfl, hid, a5, a6⟩
  · rintro ⟨hsz, h1, h2, h3, id, rest, rfl, hid, h5, h6⟩
    have hsne : secret ≠ [] := by intro h; rw [h] at hsz; simp at hsz
    obtain ⟨enc, henc, henclen, _⟩ := crypt_reverse P hF pass secret id e [0, 1, 2, 3] (by omega) hsne hid
    have hsp : (splitSecret P enc k n rest).isSome :=
      (splitSecret_isSome_iff P enc k n rest).mpr ⟨h1, h2, h3, by omega, by rw [henclen]; exact h5, by rw [henclen]; exact h6⟩
    obtain ⟨data, hdata⟩ := Option.isSome_iff_exists.mp hsp
    have hinit := shareOf_initOk P hH enc k n rest data hdata secret.length id e henclen
    unfold generateShares
    show (if secret.length * 8 ≠ 128 ∧ secret.length * 8 ≠ 256 then none else _ : Option (List (List Nat))).isSome = true
    rw [if_neg (by omega)]
    simp only
    have henc' : encrypt P secret id e pass = some enc := henc
    rw [henc']
    simp only [hdata]
    have := mapM_some_map (fun d => (Share.new? (shareOf (secret.length * 8) id e k n d)).map Share.mnemonic)
      (fun d => (shareOf (secret.length * 8) id e k n d).mnemonic) data
      (fun d hd => by simp only [Share.new?, hinit d hd, if_true, Option.map_some])
    simp only [shareOf] at this
    rw [this]
    rfl

theorem head_filterMap_range' {β : Type} (f : Nat → Option β) (a : Nat) (b : β) (hfa : f a = some b) (c s : Nat)
    (hs : s ≤ a) (ha : a < s + c) (hlt : ∀ i, s ≤ i → i < a → f i = none) :
    ((List.range' s c).filterMap f).head? = some b := by
  induction c generalizing s with
  | zero => omega
  | succ c ih =>
    rw [List.range'_succ, List.filterMap_cons]
    by_cases e : s = a
    · subst e; rw [hfa]; rfl
    · rw [hlt s (Nat.le_refl _) (by omega)]
      exact ih (s + 1) (by omega) (by omega) (fun i h1 h2 => hlt i (by omega) h2)

/-- **threshold 1 (group threshold 1, all member thresholds 1): `recover` performs no digest check**; it decrypts
    the value of the first given share among those with the smallest group index — whatever the other shares hold -/
theorem recover_threshold_one (P : Prims) (ss : ShareSet) (pass : Bytes) (hgt : ss.groupThreshold = 1)
    (hmt : ∀ s ∈ ss.shares, s.memberThreshold = 1) (hgi : ∀ s ∈ ss.shares, s.groupIndex < ss.groupCount)
    (s0 : Share) (hmin : ∀ s ∈ ss.shares, s0.groupIndex ≤ s.groupIndex)
    (hfirst : (ss.shares.filter fun s => s.groupIndex == s0.groupIndex).head? = some s0) :
    ss.recover P pass = decrypt P s0.bytes ss.id ss.exponent pass := by
  have hs0 : s0 ∈ ss.shares := by
    have : s0 ∈ ss.shares.filter fun s => s.groupIndex == s0.groupIndex := List.mem_of_mem_head? hfirst
    exact (List.mem_filter.mp this).1
  unfold ShareSet.recover
  have hany : (ss.shares.any fun s => decide (s.groupIndex ≥ ss.groupCount)) = false := by
    rw [List.any_eq_false]
    intro s hs
    have := hgi s hs
    simp only [ge_iff_le, decide_eq_true_eq]; omega
  rw [hany]
  simp only [Bool.false_eq_true, if_false]
  rw [gather_mt1 P _ (by
    intro g hg s hs
    obtain ⟨i, _, rfl⟩ := List.mem_map.mp hg
    exact hmt s (List.mem_filter.mp hs).1)]
  simp only [hgt, if_true, List.filterMap_map]
  have hhead := head_filterMap_range'
    ((fun g : Nat × List Share => g.2.head?.map fun s => (g.1, s.bytes)) ∘ fun i =>
      (i, ss.shares.filter fun s => s.groupIndex == i)) s0.groupIndex (s0.groupIndex, s0.bytes)
    (by simp only [Function.comp, hfirst, Option.map_some]) ss.groupCount 0 (Nat.zero_le _)
    (by have := hgi s0 hs0; omega)
    (by
      intro i _ hi
      have : (ss.shares.filter fun s => s.groupIndex == i) = [] := by
        rw [List.filter_eq_nil_iff]
        intro s hs hsi
        simp only [beq_iff_eq] at hsi
        have := hmin s hs
        omega
      simp only [Function.comp, this, List.head?_nil, Option.map_none])
  rw [← List.range_eq_range'] at hhead
  generalize List.filterMap _ (List.range ss.groupCount) = sd at hhead
  cases sd with
  | nil => simp at hhead
  | cons d sd' =>
    simp only [List.head?_cons, Option.some.injEq] at hhead
    subst hhead
    rfl

theorem forall_mem_pair {α : Type} {p : α → Prop} {a b : α} (ha : p a) (hb : p b) : ∀ x ∈ [a, b], p x := by
  intro x hx
  simp only [List.mem_cons, List.not_mem_nil, or_false] at hx
  rcases hx with rfl | rfl <;> assumption

/-- two header-identical shares at threshold 1 are accepted by `ShareSet(...)`, and `recover` returns the decryption
    of ONE of them — the one with the smaller group index, the first one when the group indices are equal -/
theorem recover_pair_threshold_one (P : Prims) (s1 s2 : Share) (pass : Bytes)
    (hid : s2.id = s1.id) (he : s2.exponent = s1.exponent)
    (hgt1 : s1.groupThreshold = 1) (hgt2 : s2.groupThreshold = 1) (hgc : s2.groupCount = s1.groupCount)
    (hsbl : s2.shareBitLength = s1.shareBitLength) (hm1 : s1.memberThreshold = 1) (hm2 : s2.memberThreshold = 1)
    (hg1 : s1.groupIndex < s1.groupCount) (hg2 : s2.groupIndex < s1.groupCount)
    (hx : (s1.groupIndex, s1.memberIndex) ≠ (s2.groupIndex, s2.memberIndex)) :
    (ShareSet.new? [s1, s2]).bind (fun ss => ss.recover P pass) =
      decrypt P (if s2.groupIndex < s1.groupIndex then s2 else s1).bytes s1.id s1.exponent pass := by
  have hnew : ShareSet.new? [s1, s2] = some ⟨[s1, s2], s1.id, s1.exponent, s1.groupThreshold, s1.groupCount,
      s1.shareBitLength⟩ := by
    exact ShareSet.new?_eq_some _ (by simp) _ _ _ _ _
      (forall_mem_pair ⟨rfl, rfl, rfl, rfl, rfl⟩ ⟨hid, he, by rw [hgt1, hgt2], hgc, hsbl⟩) (by omega) (by simp [hx])
  rw [hnew]
  simp only [Option.bind_some]
  have hmt := forall_mem_pair (p := fun s : Share => s.memberThreshold = 1) hm1 hm2
  have hgi := forall_mem_pair (p := fun s : Share => s.groupIndex < s1.groupCount) hg1 hg2
  by_cases hlt : s2.groupIndex < s1.groupIndex
  · rw [if_pos hlt]
    refine recover_threshold_one P _ pass hgt1 hmt hgi s2 (forall_mem_pair (Nat.le_of_lt hlt) (Nat.le_refl _)) ?_
    have : (s1.groupIndex == s2.groupIndex) = false := by rw [beq_eq_false_iff_ne]; omega
    simp [this]
  · rw [if_neg hlt]
    refine recover_threshold_one P _ pass hgt1 hmt hgi s1 (forall_mem_pair (Nat.le_refl _) (Nat.le_of_not_lt hlt)) ?_
    simp [List.filter_cons]

theorem pair_same_index_refused (s1 s2 : Share) (hg : s2.groupIndex = s1.groupIndex)
    (hm : s2.memberIndex = s1.memberIndex) : ShareSet.new? [s1, s2] = none := by
  have hnd : nodupB [(s1.groupIndex, s1.memberIndex), (s2.groupIndex, s2.memberIndex)] = false := by
    rw [hg, hm]; simp [nodupB]
  have hc : consistent s1 [s1, s2] = false := by
    simp only [consistent, List.map_cons, List.map_nil, hnd, Bool.and_false]
  unfold ShareSet.new?
  simp [hc]

theorem splitSecret_one (P : Prims) (secret : Bytes) (k n : Nat) (tape : List Nat) (data : List (Nat × Bytes))
    (hk : k = 1) (hs : splitSecret P secret k n tape = some data) :
    data = (List.range n).map fun i => (i, secret) := by
  subst hk
  rw [splitSecret_def] at hs
  split at hs
  · rw [if_pos rfl, Option.some.injEq] at hs
    exact hs.symm
  · simp at hs

theorem generate_one_nth (P : Prims) (hF : ∀ pw s it n, (P.pbkdf2 pw s it n).length = n)
    (secret : Bytes) (n : Nat) (pass : Bytes) (e id : Nat) (tape : List Nat) (ms : List (List Nat))
    (hgen : generateShares P secret 1 n pass e (id :: tape) = some ms) (hid : id < 2 ^ 15) (he : e < 32)
    (i : Nat) (hi : i < n) :
    ∃ enc, encrypt P secret id e pass = some enc ∧ decrypt P enc id e pass = some secret ∧
      enc.length = secret.length ∧ (secret.length = 16 ∨ secret.length = 32) ∧
      ms[i]? = some (shareOf (secret.length * 8) id e 1 n (i, enc)).mnemonic ∧
      Share.parse (shareOf (secret.length * 8) id e 1 n (i, enc)).mnemonic =
        some (shareOf (secret.length * 8) id e 1 n (i, enc)) ∧
      (shareOf (secret.length * 8) id e 1 n (i, enc)).bytes = enc := by
  obtain ⟨id', tape1, enc, data, htape, hsz, henc, hdata, rfl, hinit⟩ :=
    generateShares_structure P secret 1 n pass e _ ms hgen
  obtain ⟨h1, h2⟩ := List.cons.inj htape
  subst h1 h2
  have hsne : secret ≠ [] := by intro h; rw [h] at hsz; simp at hsz
  obtain ⟨henclen, hdec⟩ := decrypt_encrypt P hF secret id e pass (by omega) hsne (by omega) enc henc
  have hd := splitSecret_one P enc 1 n tape data rfl hdata
  subst hd
  refine ⟨enc, henc, hdec, henclen, hsz, ?_, ?_, ?_⟩
  · simp [List.getElem?_map, List.getElem?_range hi]
  · apply share_text_roundtrip
    exact ⟨hinit (i, enc) (List.mem_map.mpr ⟨i, List.mem_range.mpr hi, rfl⟩), hid, he,
      by simp only [shareOf]; omega, by simp only [shareOf]; omega⟩
  · simp only [Share.bytes, shareOf]
    have : secret.length * 8 / 8 = enc.length := by rw [henclen]; omega
    rw [this, beN_ofBe]

/-- for the standard such a pair is NOT a valid set: it holds more shares than the thresholds ask for (two groups
    where the group threshold is 1, or two members where the member threshold is 1) -/
theorem pair_threshold_one_invalid (s1 s2 : Share)
    (hgt1 : s1.groupThreshold = 1) (hm1 : s1.memberThreshold = 1) (hgc16 : s1.groupCount ≤ 16)
    (hg1 : s1.groupIndex < s1.groupCount) (hg2 : s2.groupIndex < s1.groupCount) :
    Spec.Slip39.validSet ([s1, s2].map Share.toFields) = false := by
  cases h : Spec.Slip39.validSet ([s1, s2].map Share.toFields) with
  | false => rfl
  | true =>
    exfalso
    simp only [List.map_cons, List.map_nil, Spec.Slip39.validSet, Bool.and_eq_true] at h
    obtain ⟨⟨_, hlen⟩, hall⟩ := h
    have mem1 : s1.groupIndex ∈ Spec.Slip39.groupIndices [s1.toFields, s2.toFields] := by
      simp only [Spec.Slip39.groupIndices, List.mem_filter, List.mem_range, List.any_cons, List.any_nil, Bool.or_false,
        Bool.or_eq_true, beq_iff_eq]
      exact ⟨by omega, Or.inl rfl⟩
    have mem2 : s2.groupIndex ∈ Spec.Slip39.groupIndices [s1.toFields, s2.toFields] := by
      simp only [Spec.Slip39.groupIndices, List.mem_filter, List.mem_range, List.any_cons, List.any_nil, Bool.or_false,
        Bool.or_eq_true, beq_iff_eq]
      exact ⟨by omega, Or.inr rfl⟩
    have hgt : s1.toFields.Gt = 1 := hgt1
    rw [hgt] at hlen
    generalize Spec.Slip39.groupIndices [s1.toFields, s2.toFields] = G at hlen hall mem1 mem2
    match G, hlen with
    | [g], _ =>
      simp only [List.mem_singleton] at mem1 mem2
      simp only [List.all_cons, List.all_nil, Bool.and_true] at hall
      have e1 : (s1.toFields.GI == g) = true := by rw [beq_iff_eq]; exact mem1
      have e2 : (s2.toFields.GI == g) = true := by rw [beq_iff_eq]; exact mem2
      have ht : s1.toFields.t = 1 := hm1
      simp [Spec.Slip39.membersOf, e1, e2, Spec.Slip39.validGroup, ht] at hall

theorem combine_invalid_none (P : Spec.Slip39.Prims) (fs : List Spec.Slip39.ShareFields) (pass : Bytes)
    (h : Spec.Slip39.validSet fs = false) : Spec.Slip39.combineShares P fs pass = none := by
  unfold Spec.Slip39.combineShares
  cases fs with
  | nil => rfl
  | cons f fs => simp only [h, Bool.not_false, if_true]

end Embit.Model.Slip39
