import EmbitModel.Model.ViewCost2
import EmbitModel.Proofs.ViewCost
/-
  Amortised facts for the nested loop of `seek_to_scope`: a loop that ENDS with `done` at `pf` has walked over what it
  counted (`k·(iters - 1) + d ≤ pf - pos`), so the iterations of successive loops add up to the length of the stream.
-/
set_option linter.unusedSimpArgs false
set_option linter.unusedVariables false
namespace Embit.Model.ViewCost
open Embit Embit.Model

variable {σ α : Type}

theorem loop_done_progress (body : σ → Nat → Out σ α × Nat) (k d : Nat)
    (hc : ∀ s pos s' p' c, body s pos = (.cont s' p', c) → pos + k ≤ p')
    (hd : ∀ s pos a p' c, body s pos = (.done a p', c) → pos + d ≤ p') :
    ∀ (n : Nat) (s : σ) (pos : Nat) (a : α) (pf : Nat), (loop body n s pos).out = .done a pf →
      k * (loop body n s pos).iters + pos + d ≤ pf + k := by
  intro n
  induction n with
  | zero => intro s pos a pf h; simp [loop] at h
  | succ n ih =>
    intro s pos a pf
    unfold loop
    split
    · rename_i s' p' c h
      intro ho
      have h1 := hc s pos s' p' c h
      have h2 := ih s' p' a pf ho
      simp only
      rw [Nat.mul_add, Nat.mul_one]
      omega
    · rename_i a' p' c h
      intro ho
      have h1 := hd s pos a' p' c h
      simp only at ho ⊢
      injection ho with _ hp
      omega
    · intro ho; simp at ho

theorem loop_done_inv (body : σ → Nat → Out σ α × Nat) (P : Nat → Prop)
    (hd : ∀ s pos a p' c, body s pos = (.done a p', c) → P p') :
    ∀ (n : Nat) (s : σ) (pos : Nat) (a : α) (pf : Nat), (loop body n s pos).out = .done a pf → P pf := by
  intro n
  induction n with
  | zero => intro s pos a pf h; simp [loop] at h
  | succ n ih =>
    intro s pos a pf
    unfold loop
    split
    · rename_i s' p' c h
      intro ho
      exact ih s' p' a pf ho
    · rename_i a' p' c h
      intro ho
      have h1 := hd s pos a' p' c h
      simp only at ho
      injection ho with _ hp
      exact hp ▸ h1
    · intro ho; simp at ho

/-- `_skip_scope` returns only after it READ a separator: one byte further, inside the buffer -/
theorem skipScopeBody_done (buf : Bytes) (s : Unit) (pos : Nat) (a : Unit) (p' c : Nat)
    (h : skipScopeBody buf s pos = (.done a p', c)) : pos + 1 ≤ p' ∧ p' ≤ buf.length := by
  unfold skipScopeBody at h
  split at h
  · simp at h
  · rename_i klen p1 h1
    split at h
    · rename_i hk
      -- the string skipped is the empty key: its one byte is the length prefix that was read
      simp only [Prod.mk.injEq, Out.done.injEq, true_and] at h
      obtain ⟨rfl, _⟩ := h
      unfold skipStringAt at h1
      split at h1
      · rename_i l q hq
        have := compactAt_end hq
        have := Compact.enc_length_pos l
        simp only [Option.some.injEq, Prod.mk.injEq] at h1
        omega
      · simp at h1
    · split at h <;> simp at h

end Embit.Model.ViewCost
