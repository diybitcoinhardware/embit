import EmbitModel.Proofs.EcLaws
import EmbitModel.Proofs.DerInt
import EmbitModel.Model.PySecp
/-
  BIP340 correctness of the model (`key.py: sign_schnorr / verify_schnorr`) relative to `EcLaws`.
-/
namespace Embit
open Embit.Model Embit.Model.PySecp

variable {E : EcOps}

theorem even_point (L : EcLaws E) (a : Nat) (ha : a ≤ E.n) (x y : Nat) (h : E.xy (E.mul a E.g) = some (x, y)) :
    ∃ y', E.xy (E.mul (evenScalar E.n a y) E.g) = some (x, y') ∧ y' % 2 = 0 := by
  unfold evenScalar
  by_cases hy : y % 2 = 0
  · exact ⟨y, by simp [hy, h], hy⟩
  · refine ⟨E.p - y, ?_, ?_⟩
    · simp only [hy, if_false]
      rw [← L.neg_mul a ha]; exact L.xy_neg _ _ _ h
    · exact (L.neg_parity _ _ _ h).2.mpr (by omega)

theorem schnorr_scalar (n k e sec : Nat) (he : e ≤ n) : ((k + e * sec) % n + (n - e) * sec) % n = k % n := by
  have : (k + e * sec) % n + (n - e) * sec ≡ k + e * sec + (n - e) * sec [MOD n] :=
    Nat.ModEq.add_right _ (Nat.mod_modEq _ _)
  rw [this]
  have e2 : k + e * sec + (n - e) * sec = k + n * sec := by
    rw [Nat.add_assoc, ← Nat.add_mul, Nat.add_sub_cancel' he]
  rw [e2, Nat.add_mul_mod_self_left]

theorem verify_signSchnorr (L : EcLaws E) (H : HashOps) (hp : E.p ≤ 2 ^ 256) (hn : E.n ≤ 2 ^ 256)
    (key msg : Bytes) (aux : Option Bytes) (sig : Bytes) (h : signSchnorr E H key msg aux = some sig) :
    ∃ px py, E.xy (E.mul (ofBe key) E.g) = some (px, py) ∧
      verifySchnorr E H (beN 32 px) sig msg = some true := by
  unfold signSchnorr at h
  split at h; · cases h
  rename_i hkl
  split at h; · cases h
  rename_i hml
  split at h; · cases h
  simp only [] at h
  split at h; · cases h
  rename_i hsec
  split at h; · cases h
  rename_i px py hP
  refine ⟨px, py, hP, ?_⟩
  split at h; · cases h
  rename_i hkp
  split at h; · cases h
  rename_i rx ry hR
  simp only [Option.some.injEq] at h
  have hnpos := L.n_pos
  have hsec' : 0 < ofBe key ∧ ofBe key < E.n := by omega
  obtain ⟨hpx0, hpxp, _, _⟩ := L.xy_range _ _ _ hP
  obtain ⟨hrx0, hrxp, _, _⟩ := L.xy_range _ _ _ hR
  -- the (possibly negated) secret and nonce
  set sec := evenScalar E.n (ofBe key) py with hsecdef
  set kp := ofBe (H.tagged "BIP0340/nonce" (schnorrT H sec aux ++ beN 32 px ++ msg)) % E.n with hkpdef
  have hkplt : kp < E.n := Nat.mod_lt _ hnpos
  set k := evenScalar E.n kp ry with hkdef
  obtain ⟨py', hP', hpy'⟩ := even_point L (ofBe key) (by omega) px py hP
  obtain ⟨ry', hR', hry'⟩ := even_point L kp (by omega) rx ry hR
  rw [← hsecdef] at hP'
  rw [← hkdef] at hR'
  set e := ofBe (H.tagged "BIP0340/challenge" (beN 32 rx ++ beN 32 px ++ msg)) % E.n with hedef
  have helt : e < E.n := Nat.mod_lt _ hnpos
  subst h
  unfold verifySchnorr
  have l1 : (beN 32 px).length = 32 := by simp
  have l2 : (beN 32 rx ++ beN 32 ((k + e * sec) % E.n)).length = 64 := by simp
  have hml' : msg.length = 32 := by simpa using hml
  simp only [l1, l2, hml', ne_eq, not_true_eq_false, if_false]
  rw [List.take_left' (by simp), List.drop_left' (by simp)]
  rw [ofBe_beN32 px (by omega), ofBe_beN32 rx (by omega),
      ofBe_beN32 ((k + e * sec) % E.n) (by have := Nat.mod_lt (k + e * sec) hnpos; omega)]
  have c1 : ¬ (px = 0 ∨ px ≥ E.p) := by omega
  simp only [c1, if_false]
  rw [L.liftX_even _ _ _ hP' hpy']
  have c2 : ¬ rx ≥ E.p := by omega
  have c3 : ¬ (k + e * sec) % E.n ≥ E.n := by have := Nat.mod_lt (k + e * sec) hnpos; omega
  simp only [c2, c3, if_false]
  rw [← hedef, L.lin_comb, schnorr_scalar E.n k e sec (by omega), L.mul_mod, hR']
  simp [hry']

end Embit
