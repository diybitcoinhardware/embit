import EmbitModel.Model.ViewCost
/-
  Iteration and step bounds of the loop combinator of `Model/ViewCost.lean`, and the progress facts of the loop bodies.
-/
set_option linter.unusedSimpArgs false
set_option linter.unusedVariables false
namespace Embit.Model.ViewCost
open Embit Embit.Model

variable {σ α : Type}

theorem loop_iters_le (body : σ → Nat → Out σ α × Nat) : ∀ (n : Nat) (s : σ) (pos : Nat),
    (loop body n s pos).iters ≤ n := by
  intro n
  induction n with
  | zero => intro s pos; simp [loop]
  | succ n ih =>
    intro s pos
    unfold loop
    split
    · rename_i s' p' c h; have := ih s' p'; simp only; omega
    · simp only; omega
    · simp only; omega

theorem loop_exhausted (body : σ → Nat → Out σ α × Nat) : ∀ (n : Nat) (s : σ) (pos : Nat) (s' : σ) (p' : Nat),
    (loop body n s pos).out = .cont s' p' → (loop body n s pos).iters = n := by
  intro n
  induction n with
  | zero => intro s pos s' p' _; simp [loop]
  | succ n ih =>
    intro s pos s' p'
    unfold loop
    split
    · rename_i s1 p1 c h; intro ho; have := ih s1 p1 s' p' ho; simp only; omega
    · intro ho; simp at ho
    · intro ho; simp at ho

theorem loop_steps_le (body : σ → Nat → Out σ α × Nat) (K : Nat) (hK : ∀ s p, (body s p).2 ≤ K) :
    ∀ (n : Nat) (s : σ) (pos : Nat), (loop body n s pos).steps ≤ (K + 1) * (loop body n s pos).iters := by
  intro n
  induction n with
  | zero => intro s pos; simp [loop]
  | succ n ih =>
    intro s pos
    have hk := hK s pos
    unfold loop
    split
    · rename_i s' p' c h
      have := ih s' p'
      rw [h] at hk
      simp only at hk ⊢
      rw [Nat.mul_add]
      omega
    · rename_i a p' c h; rw [h] at hk; simp only at hk ⊢; omega
    · rename_i c h; rw [h] at hk; simp only at hk ⊢; omega

/-- PROGRESS ⇒ few iterations. If an iteration can go on only after it really found `a` bytes in the buffer of length
    `L` (`pos + a ≤ L`) and then stands at least `k ≥ a` bytes further, the loop does at most `(L - pos + 2k - a)/k`
    iterations WHATEVER its counter says. -/
theorem loop_iters_progress (body : σ → Nat → Out σ α × Nat) (L a k : Nat) (hak : a ≤ k)
    (hp : ∀ s pos s' p' c, body s pos = (.cont s' p', c) → pos + a ≤ L ∧ pos + k ≤ p') :
    ∀ (n : Nat) (s : σ) (pos : Nat),
      (L < pos + a → (loop body n s pos).iters ≤ 1) ∧
      (pos + a ≤ L → k * (loop body n s pos).iters + pos + a ≤ L + 2 * k) := by
  intro n
  induction n with
  | zero => intro s pos; simp [loop]; omega
  | succ n ih =>
    intro s pos
    unfold loop
    split
    · rename_i s' p' c h
      obtain ⟨h1, h2⟩ := hp s pos s' p' c h
      obtain ⟨i1, i2⟩ := ih s' p'
      simp only
      refine ⟨fun hl => by omega, fun _ => ?_⟩
      rw [Nat.mul_add, Nat.mul_one]
      by_cases hc : L < p' + a
      · have := i1 hc
        have : k * (loop body n s' p').iters ≤ k * 1 := Nat.mul_le_mul_left k this
        omega
      · have := i2 (by omega)
        omega
    · simp only; refine ⟨fun _ => by omega, fun _ => by omega⟩
    · simp only; refine ⟨fun _ => by omega, fun _ => by omega⟩

theorem loop_iters_bound (body : σ → Nat → Out σ α × Nat) (L a k : Nat) (hak : a ≤ k) (hk : 0 < k)
    (hp : ∀ s pos s' p' c, body s pos = (.cont s' p', c) → pos + a ≤ L ∧ pos + k ≤ p')
    (n : Nat) (s : σ) (pos : Nat) :
    k * (loop body n s pos).iters + a ≤ (L - pos) + 2 * k := by
  obtain ⟨h1, h2⟩ := loop_iters_progress body L a k hak hp n s pos
  by_cases hc : L < pos + a
  · have := h1 hc
    have : k * (loop body n s pos).iters ≤ k * 1 := Nat.mul_le_mul_left k this
    omega
  · have := h2 (by omega); omega

theorem loop_linear (body : σ → Nat → Out σ α × Nat) (L a k K : Nat) (hak : a ≤ k) (hk : 0 < k)
    (hp : ∀ s pos s' p' c, body s pos = (.cont s' p', c) → pos + a ≤ L ∧ pos + k ≤ p')
    (hK : ∀ s p, (body s p).2 ≤ K) (n : Nat) (s : σ) (pos : Nat) :
    (loop body n s pos).iters ≤ n ∧ k * (loop body n s pos).iters + a ≤ (L - pos) + 2 * k
    ∧ (loop body n s pos).steps ≤ (K + 1) * (loop body n s pos).iters :=
  ⟨loop_iters_le body n s pos, loop_iters_bound body L a k hak hk hp n s pos, loop_steps_le body K hK n s pos⟩

theorem readAt_length (buf : Bytes) (pos n : Nat) : (readAt buf pos n).length = min n (buf.length - pos) := by
  simp [readAt]

theorem compactAt_end {buf : Bytes} {pos v p : Nat} (h : compactAt buf pos = some (v, p)) :
    p = pos + (Compact.enc v).length ∧ p ≤ buf.length := by
  unfold compactAt at h
  split at h
  · rename_i v' r hr
    obtain ⟨e, _⟩ := Compact.read_sound hr
    have hl := congrArg List.length e
    have := Compact.enc_length_pos v'
    simp only [Option.some.injEq, Prod.mk.injEq] at h
    obtain ⟨rfl, rfl⟩ := h
    simp only [List.length_drop, List.length_append] at hl
    exact ⟨rfl, by omega⟩
  · simp at h

theorem compactAt_progress {buf : Bytes} {pos v p : Nat} (h : compactAt buf pos = some (v, p)) :
    pos + 1 ≤ buf.length ∧ pos + 1 ≤ p := by
  have := compactAt_end h
  have := Compact.enc_length_pos v
  omega

theorem skipStringAt_progress {buf : Bytes} {pos l p : Nat} (h : skipStringAt buf pos = some (l, p)) :
    pos + 1 ≤ buf.length ∧ pos + 1 ≤ p := by
  unfold skipStringAt at h
  split at h
  · rename_i v q hq
    obtain ⟨h1, h2⟩ := compactAt_progress hq
    simp at h; omega
  · simp at h

theorem skipOutputBody_progress (buf : Bytes) (s : Unit) (pos : Nat) (s' : Unit) (p' c : Nat)
    (h : skipOutputBody buf s pos = (.cont s' p', c)) : pos + 9 ≤ buf.length ∧ pos + 9 ≤ p' := by
  unfold skipOutputBody at h
  split at h
  · rename_i p hp
    unfold skipOutputAt at hp
    split at hp
    · rename_i l q hq
      obtain ⟨h1, h2⟩ := compactAt_progress hq
      simp at hp h; omega
    · simp at hp
  · simp at h

theorem skipOutputBody_cost (buf : Bytes) (s : Unit) (pos : Nat) : (skipOutputBody buf s pos).2 ≤ 4 := by
  unfold skipOutputBody; split <;> simp

theorem skipCommitment_cost (buf : Bytes) (pos : Nat) : (skipCommitment buf pos).2 ≤ 2 := by
  unfold skipCommitment; simp only; split
  · simp
  · split
    · simp
    · split <;> simp

theorem skipCommitment_mono {buf : Bytes} {pos o p c : Nat} (h : skipCommitment buf pos = (some (o, p), c)) :
    pos ≤ p := by
  unfold skipCommitment at h; simp only at h
  split at h
  · simp at h
  · split at h
    · simp at h; omega
    · split at h <;> (simp at h; omega)

theorem skipInputL_cost (ce : Bool) (buf : Bytes) (pos : Nat) : (skipInputL ce buf pos).2 ≤ 8 := by
  unfold skipInputL; simp only
  split
  · simp
  · split
    · have a1 := skipCommitment_cost buf (pos + 32 + (readAt buf (pos + 32) 4).length + 5 + 64)
      split
      · rename_i c1 h1; rw [h1] at a1; simp at a1 ⊢; omega
      · rename_i o1 p4 c1 h1
        rw [h1] at a1
        have a2 := skipCommitment_cost buf p4
        split
        · rename_i c2 h2; rw [h2] at a2; simp at a1 a2 ⊢; omega
        · rename_i o2 p5 c2 h2; rw [h2] at a2; simp at a1 a2 ⊢; omega
    · simp

/-- the code as it is: an input is skipped only if its 4-byte `vout` field was really there -/
theorem skipInputL_progress {buf : Bytes} {pos o p c : Nat} (h : skipInputL true buf pos = (some (o, p), c)) :
    pos + 36 ≤ buf.length ∧ pos + 41 ≤ p := by
  unfold skipInputL at h; simp only at h
  have hl := readAt_length buf (pos + 32) 4
  split at h
  · simp at h
  · rename_i hc
    simp at hc
    split at h
    · split at h
      · simp at h
      · rename_i o1 p4 c1 h1
        have m1 := skipCommitment_mono h1
        split at h
        · simp at h
        · rename_i o2 p5 c2 h2
          have m2 := skipCommitment_mono h2
          simp at h; omega
    · simp at h; omega

theorem skipInputBody_progress (buf : Bytes) (off pos off' p' c : Nat)
    (h : skipInputBody true buf off pos = (.cont off' p', c)) : pos + 36 ≤ buf.length ∧ pos + 41 ≤ p' := by
  unfold skipInputBody at h
  split at h
  · rename_i o p c' hs
    have := skipInputL_progress hs
    simp at h; omega
  · simp at h

theorem skipInputBody_cost (ce : Bool) (buf : Bytes) (off pos : Nat) : (skipInputBody ce buf off pos).2 ≤ 8 := by
  have := skipInputL_cost ce buf pos
  unfold skipInputBody
  split
  · rename_i o p c h; rw [h] at this; simpa using this
  · rename_i c h; rw [h] at this; simpa using this

theorem skipOutputL_cost (buf : Bytes) (pos : Nat) : (skipOutputL buf pos).2 ≤ 8 := by
  unfold skipOutputL; simp only; split <;> simp

theorem skipOutputL_progress {buf : Bytes} {pos p c : Nat} (h : skipOutputL buf pos = (some p, c)) :
    pos + 42 ≤ buf.length ∧ pos + 42 ≤ p := by
  unfold skipOutputL at h; simp only at h
  split at h
  · rename_i l p4 hq
    obtain ⟨h1, h2⟩ := compactAt_progress hq
    simp at h
    have : pos + 41 ≤ pos + 33 + (readAt buf (pos + 33) 1).length + (if readAt buf (pos + 33) 1 ≠ [0x01] then 32 else 8) := by
      split <;> omega
    omega
  · simp at h

theorem skipOutputLBody_progress (buf : Bytes) (s : Unit) (pos : Nat) (s' : Unit) (p' c : Nat)
    (h : skipOutputLBody buf s pos = (.cont s' p', c)) : pos + 42 ≤ buf.length ∧ pos + 42 ≤ p' := by
  unfold skipOutputLBody at h
  split at h
  · rename_i p c' hs
    have := skipOutputL_progress hs
    simp at h; omega
  · simp at h

theorem skipOutputLBody_cost (buf : Bytes) (s : Unit) (pos : Nat) : (skipOutputLBody buf s pos).2 ≤ 8 := by
  have := skipOutputL_cost buf pos
  unfold skipOutputLBody
  split
  · rename_i p c h; rw [h] at this; simpa using this
  · rename_i c h; rw [h] at this; simpa using this

theorem hashToBody_progress (buf : Bytes) (l pos l' p' c : Nat)
    (h : hashToBody buf l pos = (.cont l' p', c)) : pos + 32 ≤ buf.length ∧ pos + 32 ≤ p' ∧ 32 < l ∧ l' = l - 32 := by
  unfold hashToBody at h
  have hl := readAt_length buf pos 32
  split at h
  · simp only at h
    split at h
    · simp at h
    · simp at h; omega
  · simp at h

theorem hashToBody_cost (buf : Bytes) (l pos : Nat) : (hashToBody buf l pos).2 ≤ 1 := by
  unfold hashToBody; split
  · simp only; split <;> simp
  · simp

theorem skipScopeBody_progress (buf : Bytes) (s : Unit) (pos : Nat) (s' : Unit) (p' c : Nat)
    (h : skipScopeBody buf s pos = (.cont s' p', c)) : pos + 2 ≤ buf.length ∧ pos + 2 ≤ p' := by
  unfold skipScopeBody at h
  split at h
  · simp at h
  · rename_i klen p1 h1
    obtain ⟨a1, a2⟩ := skipStringAt_progress h1
    split at h
    · simp at h
    · split at h
      · simp at h
      · rename_i x p2 h2
        obtain ⟨b1, b2⟩ := skipStringAt_progress h2
        simp at h; omega

theorem skipScopeBody_cost (buf : Bytes) (s : Unit) (pos : Nat) : (skipScopeBody buf s pos).2 ≤ 6 := by
  unfold skipScopeBody
  split
  · simp
  · split
    · simp
    · split <;> simp

/-- `_hash_to`: the remaining length shrinks, so fuel `l + 1` is never used up -/
theorem hashTo_fuel (buf : Bytes) : ∀ (fuel l pos : Nat), l < fuel → ∀ s p, (loop (hashToBody buf) fuel l pos).out ≠ .cont s p := by
  intro fuel
  induction fuel with
  | zero => intro l pos h; omega
  | succ n ih =>
    intro l pos hl s p
    unfold loop
    split
    · rename_i l' p' c h
      obtain ⟨_, _, h3, h4⟩ := hashToBody_progress buf l pos l' p' c h
      simp only
      exact ih l' p' (by omega) s p
    · simp
    · simp

end Embit.Model.ViewCost
