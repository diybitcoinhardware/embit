import EmbitModel.Proofs.Base58
import EmbitModel.Model.Base58Check
import EmbitModel.Proofs.KeysSound
/-
  The concrete Base58Check text layer of the key models (`Model/Base58Check.lean`, over ASCII codes — the functions
  the driver runs as `env.b58enc` / `env.b58dec`) IS C11's Base58 model (`Model/Base58.lean`, over `Char`) read
  through the character codes: `decode_eq`, `encode_eq`. Hence C11's two theorems transfer,

    decode s = some b → encode b = s                 (so the codec law `DecodeCanonical` of C10X holds for it),
    decode (encode b) = some b                       for EVERY byte string (empty, leading zeros),

  and with them the Base58Check laws; `decodeCheck dsha (encodeCheck dsha b) = some b` holds IFF `b = []` or
  `4 ≤ (dsha b).length` (embit slices `b[:-4]` / `b[-4:]` whatever the length of the checksum that was appended).
-/
namespace Embit.Keys.B58
open Embit Embit.Keys Embit.Digits

def chr (u : UInt8) : Char := Char.ofNat u.toNat
def code (c : Char) : UInt8 := UInt8.ofNat c.toNat

theorem code_chr (u : UInt8) : code (chr u) = u := by
  have hv : u.toNat.isValidChar := Or.inl (by have := u.toNat_lt; omega)
  simp [code, chr, Char.ofNat, hv, Char.ofNatAux, Char.toNat]

theorem map_code_chr (s : Text) : (s.map chr).map code = s := by
  induction s with
  | nil => rfl
  | cons x xs ih => simp [code_chr, ih]

theorem alphabet_eq_map : alphabet = Model.Base58.digits.map code := by
  rw [← Model.Base58.alphabet_eq]; decide +kernel

theorem chr_code_digits : ∀ c ∈ Model.Base58.digits, chr (code c) = c := by
  rw [← Model.Base58.alphabet_eq]; decide +kernel

theorem map_chr_code (l : List Char) (h : ∀ c ∈ l, c ∈ Model.Base58.digits) : (l.map code).map chr = l := by
  induction l with
  | nil => rfl
  | cons x xs ih =>
    simp only [List.map_cons]
    rw [chr_code_digits x (h x (by simp)), ih (fun c hc => h c (by simp [hc]))]

theorem findIdx_congr {α : Type} {p q : α → Bool} {l : List α} (h : ∀ x ∈ l, p x = q x) :
    l.findIdx p = l.findIdx q := by
  induction l with
  | nil => rfl
  | cons x xs ih =>
    simp only [List.findIdx_cons, h x (by simp), ih (fun y hy => h y (by simp [hy]))]

/-- a byte stands at the same place of the byte alphabet as its character in the character alphabet: on alphabet
    characters `code c = u` says `c = chr u` -/
theorem idxOf_alphabet (u : UInt8) : alphabet.idxOf u = Model.Base58.digits.idxOf (chr u) := by
  rw [alphabet_eq_map]
  unfold List.idxOf
  rw [List.findIdx_map]
  apply findIdx_congr
  intro c hc
  rw [Bool.eq_iff_iff]
  simp only [Function.comp_apply, beq_iff_eq]
  exact ⟨fun h => by rw [← h, chr_code_digits c hc], fun h => by rw [h, code_chr]⟩

theorem charVal_eq (u : UInt8) : charVal u = Model.Base58.digitVal (chr u) := by
  unfold charVal Model.Base58.digitVal
  rw [List.idxOf?, List.findIdx?_eq_guard_findIdx_lt, ← List.idxOf, ← idxOf_alphabet, alphabet_eq_map,
    List.length_map]
  simp only [Option.guard, decide_eq_true_eq]
  split <;> rfl

theorem digitChar_eq (d : Nat) (h : d < 58) : digitChar d = code (Model.Base58.digitChar d) := by
  have hl : d < Model.Base58.digits.length := by rw [Model.Base58.digits_length]; exact h
  simp [digitChar, Model.Base58.digitChar, alphabet_eq_map, List.getD_eq_getElem?_getD, hl]

theorem chr_one (u : UInt8) : chr u = '1' ↔ u = 0x31 :=
  ⟨fun h => by rw [← code_chr u, h]; rfl, fun h => by rw [h]; rfl⟩

theorem decodeNat_eq (s : Text) : ∀ a, decodeNat s a = Model.Base58.accumulate a (s.map chr) := by
  induction s with
  | nil => intro a; rfl
  | cons c r ih =>
    intro a
    simp only [decodeNat, List.map_cons, Model.Base58.accumulate, charVal_eq]
    cases Model.Base58.digitVal (chr c) with
    | none => rfl
    | some d => exact ih _

theorem natBytesAux_eq (n : Nat) : natBytesAux n = (Model.Base58.minBytesLE n).reverse := by
  induction n using Nat.strongRecOn with
  | _ n ih =>
    by_cases hn : n = 0
    · subst hn; rw [natBytesAux, Model.Base58.minBytesLE]; simp
    · rw [natBytesAux, Model.Base58.minBytesLE]
      simp only [hn, dite_false, List.reverse_cons]
      rw [ih _ (by omega)]

theorem natBytes_eq (n : Nat) : natBytes n = Model.Base58.hexBytes n := by
  unfold natBytes Model.Base58.hexBytes
  split
  · rfl
  · exact natBytesAux_eq n

theorem leadingOnes_eq (l : Text) : Model.Base58.leadingOnes (l.map chr) = (l.takeWhile (· = 0x31)).length := by
  induction l with
  | nil => rfl
  | cons x xs ih =>
    simp only [List.map_cons, Model.Base58.leadingOnes, List.takeWhile_cons, chr_one, decide_eq_true_eq]
    split <;> simp [ih]

theorem decode_eq (s : Text) : decode s = Model.Base58.decode (s.map chr) := by
  unfold decode Model.Base58.decode
  by_cases hs : s = []
  · subst hs; rfl
  · have : (s.map chr).isEmpty = false := by cases s with | nil => exact absurd rfl hs | cons _ _ => rfl
    simp only [hs, if_false, this, Bool.false_eq_true, decodeNat_eq]
    cases Model.Base58.accumulate 0 (s.map chr) with
    | none => rfl
    | some n =>
      simp only [natBytes_eq]
      rw [← List.map_dropLast, leadingOnes_eq]

theorem digitsLsd_eq (n : Nat) : digitsLsd n = toLE 58 n := by
  induction n using Nat.strongRecOn with
  | _ n ih =>
    by_cases hn : n = 0
    · subst hn; rw [digitsLsd, toLE_zero]; simp
    · rw [digitsLsd, toLE_pos (by decide) hn]
      simp only [hn, dite_false]
      rw [ih _ (by omega)]

theorem leadingZeros_eq (b : Bytes) : (b.takeWhile (· = 0)).length = Model.Base58.leadingZeros b := by
  induction b with
  | nil => rfl
  | cons x xs ih =>
    simp only [List.takeWhile_cons, Model.Base58.leadingZeros, decide_eq_true_eq]
    split <;> simp [ih]

theorem encode_eq (b : Bytes) : encode b = (Model.Base58.encode b).map code := by
  unfold encode Model.Base58.encode
  simp only [List.map_append, List.map_replicate, List.map_reverse, Model.Base58.loopChars_eq, digitsLsd_eq,
    leadingZeros_eq, List.map_map]
  congr 2
  apply List.map_congr_left
  intro d hd
  exact digitChar_eq d ((toLE_canon (B := 58) (by decide) (ofBe b)).1 d hd)

theorem encode_decode (s : Text) (b : Bytes) (h : decode s = some b) : encode b = s := by
  rw [decode_eq] at h
  rw [encode_eq, Model.Base58.encode_decode _ _ h, map_code_chr]

/-- `chr ∘ code` is the identity on what `encode` emits: alphabet characters -/
theorem decode_encode (b : Bytes) : decode (encode b) = some b := by
  have hmem : ∀ c ∈ Model.Base58.encode b, c ∈ Model.Base58.digits :=
    (Model.Base58.decode_isSome_iff _).mp (by rw [Model.Base58.decode_encode b]; rfl)
  rw [decode_eq, encode_eq, map_chr_code _ hmem]
  exact Model.Base58.decode_encode b

theorem decode_iff (s : Text) (b : Bytes) : decode s = some b ↔ s = encode b :=
  ⟨fun h => (encode_decode s b h).symm, fun h => h ▸ decode_encode b⟩

theorem decodeCheck_sound (dsha : Bytes → Bytes) (t : Text) (p : Bytes) (h : decodeCheck dsha t = some p) :
    encodeCheck dsha p = t := by
  unfold decodeCheck at h
  cases hd : decode t with
  | none => simp [hd] at h
  | some b =>
    simp only [hd] at h
    split at h
    · rename_i hc
      have := Option.some.inj h
      subst this
      unfold encodeCheck
      rw [← hc, List.take_append_drop]
      exact encode_decode t b hd
    · cases h

/-- the codec law of C10X holds for the real Base58Check text layer (any checksum function) -/
theorem decodeCanonical (env : Env) (dsha : Bytes → Bytes) (henc : env.b58enc = encodeCheck dsha)
    (hdec : env.b58dec = decodeCheck dsha) : DecodeCanonical env := by
  intro t b h
  rw [hdec] at h
  rw [henc]
  exact decodeCheck_sound dsha t b h

/-- `decode_check` cuts four bytes off what `encode_check` appended `c = (dsha b).take 4` to: the round trip holds
    exactly when nothing of `b` is cut (`b = []`) or all four bytes are there -/
theorem decodeCheck_encodeCheck_iff (dsha : Bytes → Bytes) (b : Bytes) :
    decodeCheck dsha (encodeCheck dsha b) = some b ↔ (b = [] ∨ 4 ≤ (dsha b).length) := by
  unfold decodeCheck encodeCheck
  rw [decode_encode]
  have hcl : ((dsha b).take 4).length = min 4 (dsha b).length := List.length_take
  by_cases h4 : 4 ≤ (dsha b).length
  · have h1 : (b ++ (dsha b).take 4).length - 4 = b.length := by rw [List.length_append]; omega
    simp only [h1, List.take_left', List.drop_left']
    simp [h4]
  · by_cases hb : b = []
    · subst hb
      have h1 : ((dsha []).take 4).length - 4 = 0 := by omega
      simp only [List.nil_append, h1, List.take_zero, List.drop_zero]
      simp
    · have hlt : (b ++ (dsha b).take 4).length - 4 < b.length := by
        have := List.length_pos_iff.mpr hb
        rw [List.length_append]; omega
      simp only [hb, h4, or_self, iff_false]
      split
      · intro h
        have := congrArg List.length (Option.some.inj h)
        rw [List.length_take] at this
        omega
      · simp

theorem decodeCheck_encodeCheck (dsha : Bytes → Bytes) (b : Bytes) (h4 : 4 ≤ (dsha b).length) :
    decodeCheck dsha (encodeCheck dsha b) = some b :=
  (decodeCheck_encodeCheck_iff dsha b).mpr (Or.inr h4)

theorem decodeCheck_iff (dsha : Bytes → Bytes) (h4 : ∀ b, 4 ≤ (dsha b).length) (s : Text) (b : Bytes) :
    decodeCheck dsha s = some b ↔ s = encodeCheck dsha b :=
  ⟨fun h => (decodeCheck_sound dsha s b h).symm, fun h => h ▸ decodeCheck_encodeCheck dsha b (h4 b)⟩

/-- the hypothesis `hcodec` of C10's text round trips, for every environment whose text layer is the concrete one -/
theorem codec_of_concrete (env : Env) (dsha : Bytes → Bytes) (h4 : ∀ b, 4 ≤ (dsha b).length)
    (henc : env.b58enc = encodeCheck dsha) (hdec : env.b58dec = decodeCheck dsha) :
    ∀ b, env.b58dec (env.b58enc b) = some b := by
  intro b
  rw [henc, hdec]
  exact decodeCheck_encodeCheck dsha b (h4 b)

/-- an environment with its text layer replaced by the concrete Base58Check over `dsha` (what `keyEnv` of
    `Driver/Keys.lean` is, with `dsha` the double SHA-256) -/
def withB58 (env : Env) (dsha : Bytes → Bytes) : Env :=
  { env with b58enc := encodeCheck dsha, b58dec := decodeCheck dsha }

end Embit.Keys.B58
