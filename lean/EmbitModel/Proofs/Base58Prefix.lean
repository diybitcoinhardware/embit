import EmbitModel.Model.Base58Check
import EmbitModel.Proofs.HdInit
/-
  The version bytes of an extended key fix the characters [1:4] of its Base58Check text: for every SLIP-132
  version of the generated table, EVERY 78-byte payload with that version renders as `?prv…` / `?pub…`
  (whatever the checksum function). Proof: the 82-byte number lies in [V·256^78, (V+1)·256^78), both ends have the
  same quotient by 58^107, and that quotient is the value of the four leading base-58 digits.
-/
namespace Embit.Keys.B58
open Embit Embit.Keys

theorem digitsLsd_zero : digitsLsd 0 = [] := by rw [digitsLsd]; simp

theorem digitsLsd_pos (n : Nat) (h : n ≠ 0) : digitsLsd n = n % 58 :: digitsLsd (n / 58) := by
  rw [digitsLsd]; simp [h]

theorem digitsLsd_split (k : Nat) : ∀ n, n / 58 ^ k ≠ 0 →
    ∃ low : List Nat, low.length = k ∧ digitsLsd n = low ++ digitsLsd (n / 58 ^ k) := by
  induction k with
  | zero => intro n _; exact ⟨[], rfl, by simp⟩
  | succ k ih =>
    intro n h
    have hn : n ≠ 0 := by
      intro h0; subst h0; simp at h
    have hdiv : n / 58 / 58 ^ k = n / 58 ^ (k + 1) := by
      rw [Nat.div_div_eq_div_mul, Nat.pow_succ, Nat.mul_comm]
    obtain ⟨low, hl, hd⟩ := ih (n / 58) (by rw [hdiv]; exact h)
    refine ⟨n % 58 :: low, by simp [hl], ?_⟩
    rw [digitsLsd_pos n hn, hd, hdiv]
    rfl

theorem digits4 (T : Nat) (h1 : 58 ^ 3 ≤ T) (h2 : T < 58 ^ 4) :
    digitsLsd T = [T % 58, T / 58 % 58, T / 58 ^ 2 % 58, T / 58 ^ 3] := by
  have e3 : (58:Nat) ^ 3 = 195112 := by decide
  have e4 : (58:Nat) ^ 4 = 11316496 := by decide
  have e2 : (58:Nat) ^ 2 = 3364 := by decide
  rw [e3] at h1 ⊢; rw [e4] at h2; rw [e2]
  have a1 : T ≠ 0 := by omega
  have a2 : T / 58 ≠ 0 := by omega
  have a3 : T / 58 / 58 ≠ 0 := by omega
  have a4 : T / 58 / 58 / 58 ≠ 0 := by omega
  have a5 : T / 58 / 58 / 58 / 58 = 0 := by omega
  rw [digitsLsd_pos T a1, digitsLsd_pos _ a2, digitsLsd_pos _ a3, digitsLsd_pos _ a4, a5, digitsLsd_zero]
  have b1 : T / 58 / 58 = T / 3364 := by omega
  have b2 : T / 58 / 58 / 58 = T / 195112 := by omega
  have b3 : T / 195112 % 58 = T / 195112 := by omega
  rw [b2, b1, b3]

/-- the decidable test: all numbers `V·256^78 + R` (`R < 256^78`) share the four leading base-58 digits, and the
    last three of those spell `t` -/
def versionFixes (V : Nat) (t : Text) : Bool :=
  decide (((V + 1) * 256 ^ 78 - 1) / 58 ^ 107 = V * 256 ^ 78 / 58 ^ 107) &&
  decide (58 ^ 3 ≤ V * 256 ^ 78 / 58 ^ 107) && decide (V * 256 ^ 78 / 58 ^ 107 < 58 ^ 4) &&
  ([digitChar (V * 256 ^ 78 / 58 ^ 107 / 58 ^ 2 % 58), digitChar (V * 256 ^ 78 / 58 ^ 107 / 58 % 58),
    digitChar (V * 256 ^ 78 / 58 ^ 107 % 58)] == t)

theorem sub14_encode (b : Bytes) (c : UInt8) (r : Bytes) (hb : b = c :: r) (hc : c ≠ 0) (T : Nat)
    (hT : ofBe b / 58 ^ 107 = T) (h1 : 58 ^ 3 ≤ T) (h2 : T < 58 ^ 4) :
    sub14 (encode b) = [digitChar (T / 58 ^ 2 % 58), digitChar (T / 58 % 58), digitChar (T % 58)] := by
  have hne : ofBe b / 58 ^ 107 ≠ 0 := by
    rw [hT]; intro h0; rw [h0] at h1; simp at h1
  obtain ⟨low, _, hd⟩ := digitsLsd_split 107 (ofBe b) hne
  unfold encode
  have hpad : (b.takeWhile (· = 0)) = [] := by
    rw [hb]; simp [List.takeWhile, hc]
  rw [hpad, hd, hT, digits4 T h1 h2]
  simp [sub14]

theorem versionSays_of_fixes (dsha : Bytes → Bytes) (hd : ∀ b, 4 ≤ (dsha b).length) (ver : Bytes) (t : Text)
    (c : UInt8) (r : Bytes) (hv : ver = c :: r) (hc : c ≠ 0)
    (hf : versionFixes (ofBe ver) t = true) :
    ∀ rest : Bytes, rest.length = 74 → sub14 (encodeCheck dsha (ver ++ rest)) = t := by
  intro rest hr
  unfold versionFixes at hf
  simp only [Bool.and_eq_true, decide_eq_true_eq, beq_iff_eq] at hf
  obtain ⟨⟨⟨hhi, h1⟩, h2⟩, ht⟩ := hf
  unfold encodeCheck
  have hlen : (rest ++ (dsha (ver ++ rest)).take 4).length = 78 := by
    have := hd (ver ++ rest); simp [hr]; omega
  have hN : ofBe (ver ++ rest ++ (dsha (ver ++ rest)).take 4)
      = ofBe ver * 256 ^ 78 + ofBe (rest ++ (dsha (ver ++ rest)).take 4) := by
    rw [List.append_assoc, ofBe_append, hlen]
  have hR : ofBe (rest ++ (dsha (ver ++ rest)).take 4) < 256 ^ 78 := by
    have := ofBe_lt (rest ++ (dsha (ver ++ rest)).take 4); rwa [hlen] at this
  have hT : ofBe (ver ++ rest ++ (dsha (ver ++ rest)).take 4) / 58 ^ 107 = ofBe ver * 256 ^ 78 / 58 ^ 107 := by
    rw [hN]
    apply Nat.le_antisymm
    · rw [← hhi]
      apply Nat.div_le_div_right
      have : (ofBe ver + 1) * 256 ^ 78 = ofBe ver * 256 ^ 78 + 256 ^ 78 := by rw [Nat.add_mul, Nat.one_mul]
      omega
    · apply Nat.div_le_div_right; omega
  rw [sub14_encode _ c (r ++ rest ++ (dsha (ver ++ rest)).take 4) (by rw [hv]; simp) hc _ hT h1 h2]
  exact ht

def tableOk : Bool :=
  Generated.keyNets.all fun net => net.versions.all fun e =>
    e.2.1.length == 4 && (match e.2.1 with | c :: _ => c != 0 | [] => false) &&
      versionFixes (ofBe e.2.1) (if e.2.2 then tPrv else tPub)

set_option maxRecDepth 100000 in
theorem table_ok : tableOk = true := by decide

theorem table_entry (net : Generated.KeyNet) (hn : net ∈ Generated.keyNets) (e : String × Bytes × Bool)
    (he : e ∈ net.versions) :
    e.2.1.length = 4 ∧ (∃ c r, e.2.1 = c :: r ∧ c ≠ 0) ∧
      versionFixes (ofBe e.2.1) (if e.2.2 then tPrv else tPub) = true := by
  have := List.all_eq_true.mp (List.all_eq_true.mp table_ok net hn) e he
  simp only [Bool.and_eq_true, beq_iff_eq] at this
  obtain ⟨⟨hl, hc⟩, hf⟩ := this
  refine ⟨hl, ?_, hf⟩
  cases hv : e.2.1 with
  | nil => rw [hv] at hc; cases hc
  | cons c r => rw [hv] at hc; exact ⟨c, r, rfl, by simpa using hc⟩

/-- every SLIP-132 version prefix of the generated NETWORKS table says its kind, for every payload and every
    checksum function -/
theorem table_versionSays (env : Env) (dsha : Bytes → Bytes) (hd : ∀ b, 4 ≤ (dsha b).length)
    (henc : env.b58enc = encodeCheck dsha) (net : Generated.KeyNet) (hn : net ∈ Generated.keyNets)
    (e : String × Bytes × Bool) (he : e ∈ net.versions) :
    VersionSays env e.2.1 (kindText e.2.2) := by
  obtain ⟨_, ⟨c, r, hv, hc⟩, hf⟩ := table_entry net hn e he
  intro rest hr
  rw [henc]
  exact versionSays_of_fixes dsha hd e.2.1 _ c r hv hc hf rest hr

end Embit.Keys.B58
