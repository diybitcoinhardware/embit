import EmbitModel.Model.Address
import EmbitModel.Spec.Address
import EmbitModel.Proofs.Base58
import EmbitModel.Proofs.Bech32Codec
/-
  Addresses: script → address → script for the five standard types, equality with the specified texts,
  and what `address_to_scriptpubkey` can yield at all.
-/
namespace Embit.Model.Address
open Embit Digits Spec.Address

theorem scriptType_p2pkh (h : Bytes) (hl : h.length = 20) : scriptType (Std.script (.p2pkh h)) = some .p2pkh := by
  have hd : (([0x76, 0xa9, 0x14] ++ h) ++ [0x88, 0xac] : Bytes).drop 23 = [0x88, 0xac] :=
    List.drop_left' (by simp [hl])
  simp [Std.script, scriptType, hl] at hd ⊢

theorem getLast?_cons_snoc {α : Type} (x a : α) (h : List α) : (x :: (h ++ [a])).getLast? = some a := by
  rw [← List.cons_append, List.getLast?_append]; simp

theorem scriptType_p2sh (h : Bytes) (hl : h.length = 20) : scriptType (Std.script (.p2sh h)) = some .p2sh := by
  simp [Std.script, scriptType, hl, List.getLast?_cons_cons, getLast?_cons_snoc]

theorem scriptType_p2wpkh (h : Bytes) (hl : h.length = 20) : scriptType (Std.script (.p2wpkh h)) = some .p2wpkh := by
  simp [Std.script, scriptType, hl]

theorem scriptType_p2wsh (h : Bytes) (hl : h.length = 32) : scriptType (Std.script (.p2wsh h)) = some .p2wsh := by
  simp [Std.script, scriptType, hl]

theorem scriptType_p2tr (h : Bytes) (hl : h.length = 32) : scriptType (Std.script (.p2tr h)) = some .p2tr := by
  simp [Std.script, scriptType, hl]

theorem toLE_length_le {B : Nat} (hB : 2 ≤ B) (k n : Nat) (h : n < B ^ k) : (toLE B n).length ≤ k := by
  induction k generalizing n with
  | zero => simp at h; subst h; simp [toLE_zero]
  | succ k ih =>
    by_cases hn : n = 0
    · subst hn; simp [toLE_zero]
    · rw [toLE_pos hB hn]
      have : n / B < B ^ k := by
        rw [Nat.div_lt_iff_lt_mul (by omega)]; rwa [Nat.pow_succ] at h
      have := ih _ this
      simp; omega

theorem pow_table : ∀ z, z ≤ 25 → 256 ^ (25 - z) ≤ 58 ^ (35 - z) := by decide +kernel

theorem b58_len25 (s : List Char) (b : Bytes) (h : Base58.decode s = some b) (hl : b.length = 25) :
    s.length ≤ 35 := by
  rw [(Base58.decode_iff s b).mp h]
  obtain ⟨r, hb, hh⟩ := Base58.bytes_decomp b
  generalize Base58.leadingZeros b = z at hb
  subst hb
  rw [Base58.encode_normal z r hh]
  have hz : z + r.length = 25 := by simpa using hl
  have hlt : ofBe r < 58 ^ (35 - z) := by
    have h1 : ofBe r < 256 ^ r.length := by
      have := ofLe_lt r.reverse; simpa [ofBe] using this
    have h2 := pow_table z (by omega)
    have : r.length = 25 - z := by omega
    rw [this] at h1
    omega
  have := toLE_length_le (B := 58) (by decide) (35 - z) (ofBe r) hlt
  simp; omega

/-- what the address code needs from a `NETWORKS` entry -/
structure NetOk (net : Network) : Prop where
  pkh1 : net.p2pkh.length = 1
  sh1 : net.p2sh.length = 1
  hrpOk : Bech32.HrpOk net.bech32
  noSep : '1' ∉ net.bech32
  short : net.bech32.length ≤ 30

structure TableOk (nets : List Network) : Prop where
  each : ∀ n ∈ nets, NetOk n
  disjoint : ∀ n ∈ nets, ∀ m ∈ nets, n.p2pkh ≠ m.p2sh

def paramsOf (net : Network) : Params :=
  { pkhVersion := net.p2pkh.headD 0, shVersion := net.p2sh.headD 0, hrp := net.bech32 }

def convOf (prog : Bytes) : List Nat := (Bech32.convertbits (prog.map UInt8.toNat) 8 5 true).getD []

def textOf (dsha : Bytes → Bytes) (net : Network) : Std → List Char
  | .p2pkh h => Base58.encodeCheck dsha (net.p2pkh ++ h)
  | .p2sh h => Base58.encodeCheck dsha (net.p2sh ++ h)
  | .p2wpkh h => Bech32.segwitText net.bech32 0 (convOf h)
  | .p2wsh h => Bech32.segwitText net.bech32 0 (convOf h)
  | .p2tr x => Bech32.segwitText net.bech32 1 (convOf x)

end Embit.Model.Address

namespace Embit.Model.Bech32
open Address (convOf)

theorem convertbits_convOf (prog : Bytes) : convertbits (prog.map UInt8.toNat) 8 5 true = some (convOf prog) := by
  unfold convOf; rw [convertbits_8_5 _ (bytes_lt prog)]; rfl

theorem convertbits_convOf_back (prog : Bytes) : convertbits (convOf prog) 5 8 false = some (prog.map UInt8.toNat) := by
  obtain ⟨c, h1, _, _, _, h5⟩ := convertbits_8_5_8 (prog.map UInt8.toNat) (bytes_lt prog)
  rwa [Option.some.inj ((convertbits_convOf prog).symm.trans h1)]

theorem convOf_lt (prog : Bytes) : ∀ x ∈ convOf prog, x < 32 := by
  unfold convOf; rw [convertbits_8_5 _ (bytes_lt prog)]; exact Digits.fixedBE_lt (by decide) _ _

theorem convOf_length (prog : Bytes) : (convOf prog).length = (8 * prog.length + 4) / 5 := by
  unfold convOf; rw [convertbits_8_5 _ (bytes_lt prog)]; simp

theorem encode_decode_convOf (hrp : List Char) (ver : Nat) (prog : Bytes)
    (h : SegwitOk hrp ver (prog.map UInt8.toNat)) :
    encode hrp ver (prog.map UInt8.toNat) = some (segwitText hrp ver (convOf prog))
    ∧ decode hrp (segwitText hrp ver (convOf prog)) = some (ver, prog.map UInt8.toNat) := by
  obtain ⟨conv, h1, h5, h6⟩ := encode_segwit hrp ver _ h
  obtain rfl : convOf prog = conv := Option.some.inj ((convertbits_convOf prog).symm.trans h1)
  exact ⟨h5, h6⟩

end Embit.Model.Bech32

namespace Embit.Model.Address
open Embit Digits Spec.Address

theorem segwitOk_of (net : Network) (hn : NetOk net) (ver : Nat) (h : Bytes) (hv : ver ≤ 1)
    (hl : h.length = 20 ∨ h.length = 32) : Bech32.SegwitOk net.bech32 ver (h.map UInt8.toNat) := by
  have := hn.short
  refine ⟨hn.hrpOk, by omega, Bech32.bytes_lt h, ?_, ?_, ?_, ?_⟩
  · simp; omega
  · simp; omega
  · intro _; simpa using hl
  · simp; rcases hl with e | e <;> rw [e] <;> omega

theorem encode_convOf (net : Network) (hn : NetOk net) (ver : Nat) (h : Bytes) (hv : ver ≤ 1)
    (hl : h.length = 20 ∨ h.length = 32) :
    Bech32.encode net.bech32 ver (h.map UInt8.toNat) = some (Bech32.segwitText net.bech32 ver (convOf h))
    ∧ Bech32.decode net.bech32 (Bech32.segwitText net.bech32 ver (convOf h)) = some (ver, h.map UInt8.toNat) :=
  Bech32.encode_decode_convOf _ ver h (segwitOk_of net hn ver h hv hl)

theorem segwitText_length (hrp : List Char) (ver : Nat) (conv : List Nat) :
    (Bech32.segwitText hrp ver conv).length = hrp.length + 1 + (1 + conv.length) + 6 := by
  simp [Bech32.segwitText, Bech32.createChecksum_length]; omega

/-- a segwit address never fits the 35 characters of a 25-byte Base58 string -/
theorem segwitText_long (net : Network) (ver : Nat) (h : Bytes)
    (hl : h.length = 20 ∨ h.length = 32) : 35 < (Bech32.segwitText net.bech32 ver (convOf h)).length := by
  rw [segwitText_length, Bech32.convOf_length]
  rcases hl with e | e <;> rw [e] <;> omega

theorem bech32Decode_segwitText (net : Network) (hn : NetOk net) (ver : Nat) (h : Bytes) (hv : ver ≤ 1)
    (hl : h.length = 20 ∨ h.length = 32) :
    Bech32.bech32Decode (Bech32.segwitText net.bech32 ver (convOf h))
      = some (Bech32.encOf ver, net.bech32, ver :: convOf h) :=
  Bech32.bech32Decode_encode (Bech32.encOf ver) net.bech32 (ver :: convOf h) hn.hrpOk
    (List.forall_mem_cons.mpr ⟨by omega, Bech32.convOf_lt h⟩)
    (by have := (segwitOk_of net hn ver h hv hl).total
        rw [List.length_cons, Bech32.convOf_length]; simp at this; omega)

def isSegwit : Std → Bool
  | .p2pkh _ | .p2sh _ => false
  | .p2wpkh _ | .p2wsh _ | .p2tr _ => true

theorem segwit_std_cases (std : Std) (hs : isSegwit std = true) (hw : std.WF) :
    ∃ ver, ∃ h : Bytes, ver ≤ 1 ∧ (h.length = 20 ∨ h.length = 32) ∧ (ver = 1 → h.length = 32)
      ∧ (∀ dsha net, textOf dsha net std = Bech32.segwitText net.bech32 ver (convOf h))
      ∧ std.script = UInt8.ofNat (if ver > 0 then ver + 0x50 else ver) :: UInt8.ofNat h.length :: h := by
  cases std with
  | p2pkh h => simp [isSegwit] at hs
  | p2sh h => simp [isSegwit] at hs
  | p2wpkh h =>
    simp only [Std.WF] at hw
    exact ⟨0, h, by decide, Or.inl hw, fun e => absurd e (by decide), fun _ _ => rfl, by simp [Std.script, hw]⟩
  | p2wsh h =>
    simp only [Std.WF] at hw
    exact ⟨0, h, by decide, Or.inr hw, fun e => absurd e (by decide), fun _ _ => rfl, by simp [Std.script, hw]⟩
  | p2tr h =>
    simp only [Std.WF] at hw
    exact ⟨1, h, by decide, Or.inr hw, fun _ => hw, fun _ _ => rfl, by simp [Std.script, hw]⟩

theorem address_std (dsha : Bytes → Bytes) (net : Network) (hn : NetOk net) (s : Std) (hs : s.WF) :
    address dsha net s.script = some (some (textOf dsha net s)) := by
  unfold address
  cases s with
  | p2pkh h => rw [scriptType_p2pkh h hs]; simp [Std.script, textOf, show h.length = 20 from hs]
  | p2sh h => rw [scriptType_p2sh h hs]; simp [Std.script, textOf, show h.length = 20 from hs]
  | p2wpkh h =>
    rw [scriptType_p2wpkh h hs]
    simp [Std.script, textOf, (encode_convOf net hn 0 h (by decide) (Or.inl hs)).1]
  | p2wsh h =>
    rw [scriptType_p2wsh h hs]
    simp [Std.script, textOf, (encode_convOf net hn 0 h (by decide) (Or.inr hs)).1]
  | p2tr h =>
    rw [scriptType_p2tr h hs]
    simp [Std.script, textOf, (encode_convOf net hn 1 h (by decide) (Or.inr hs)).1]

theorem matchPrefix_yields (data : Bytes) (nets : List Network) (sc : Bytes) (h : matchPrefix data nets = some sc) :
    ∃ net ∈ nets, (data.take 1 = net.p2pkh ∧ sc = [0x76, 0xa9, 0x14] ++ data.drop 1 ++ [0x88, 0xac])
      ∨ (data.take 1 = net.p2sh ∧ sc = [0xa9, 0x14] ++ data.drop 1 ++ [0x87]) := by
  induction nets with
  | nil => exact absurd h (by simp [matchPrefix])
  | cons m rest ih =>
    unfold matchPrefix at h
    by_cases h1 : data.take 1 = m.p2pkh
    · rw [if_pos (beq_iff_eq.mpr h1)] at h
      exact ⟨m, List.mem_cons_self, Or.inl ⟨h1, (Option.some.inj h).symm⟩⟩
    · rw [if_neg (mt beq_iff_eq.mp h1)] at h
      by_cases h2 : data.take 1 = m.p2sh
      · rw [if_pos (beq_iff_eq.mpr h2)] at h
        exact ⟨m, List.mem_cons_self, Or.inr ⟨h2, (Option.some.inj h).symm⟩⟩
      · rw [if_neg (mt beq_iff_eq.mp h2)] at h
        obtain ⟨n, hn, hh⟩ := ih h
        exact ⟨n, List.mem_cons_of_mem _ hn, hh⟩

theorem matchPrefix_eq_none_iff {data : Bytes} {nets : List Network} :
    matchPrefix data nets = none ↔ ∀ net ∈ nets, data.take 1 ≠ net.p2pkh ∧ data.take 1 ≠ net.p2sh := by
  induction nets with
  | nil => simp [matchPrefix]
  | cons m rest ih =>
    rw [matchPrefix, List.forall_mem_cons, ← ih]
    by_cases h1 : data.take 1 = m.p2pkh
    · simp [h1]
    · rw [if_neg (mt beq_iff_eq.mp h1)]
      by_cases h2 : data.take 1 = m.p2sh
      · rw [if_pos (beq_iff_eq.mpr h2)]; simp [h2]
      · rw [if_neg (mt beq_iff_eq.mp h2)]; simp [h1, h2]

theorem matchPrefix_of_pkh {data : Bytes} {nets : List Network} (hm : ∃ n ∈ nets, data.take 1 = n.p2pkh)
    (hd : ∀ m ∈ nets, data.take 1 ≠ m.p2sh) :
    matchPrefix data nets = some ([0x76, 0xa9, 0x14] ++ data.drop 1 ++ [0x88, 0xac]) := by
  cases h : matchPrefix data nets with
  | none => obtain ⟨n, hn, e⟩ := hm; exact absurd e (matchPrefix_eq_none_iff.mp h n hn).1
  | some sc =>
    obtain ⟨n, hn, ⟨_, rfl⟩ | ⟨e, _⟩⟩ := matchPrefix_yields data nets sc h
    · rfl
    · exact absurd e (hd n hn)

theorem matchPrefix_of_sh {data : Bytes} {nets : List Network} (hm : ∃ n ∈ nets, data.take 1 = n.p2sh)
    (hd : ∀ m ∈ nets, data.take 1 ≠ m.p2pkh) :
    matchPrefix data nets = some ([0xa9, 0x14] ++ data.drop 1 ++ [0x87]) := by
  cases h : matchPrefix data nets with
  | none => obtain ⟨n, hn, e⟩ := hm; exact absurd e (matchPrefix_eq_none_iff.mp h n hn).2
  | some sc =>
    obtain ⟨n, hn, ⟨e, _⟩ | ⟨_, rfl⟩⟩ := matchPrefix_yields data nets sc h
    · exact absurd e (hd n hn)
    · rfl

theorem takeWhile_stop {α : Type} (p : α → Bool) (a r : List α) (x : α) (ha : ∀ y ∈ a, p y = true)
    (hx : p x = false) : (a ++ x :: r).takeWhile p = a := by
  induction a with
  | nil => simp [hx]
  | cons c cs ih =>
    simp [ha c (by simp), ih (fun y hy => ha y (by simp [hy]))]

theorem splitOne_spec (hrp rest : List Char) (h : '1' ∉ hrp) : splitOne (hrp ++ '1' :: rest) = hrp := by
  unfold splitOne
  apply takeWhile_stop
  · intro y hy
    have : y ≠ '1' := fun e => h (e ▸ hy)
    simpa using this
  · simp

theorem splitOne_segwitText (hrp : List Char) (ver : Nat) (conv : List Nat) (h : '1' ∉ hrp) :
    splitOne (Bech32.segwitText hrp ver conv) = hrp := by
  rw [Bech32.segwitText_eq]; exact splitOne_spec _ _ h

theorem toScript_long (dsha : Bytes → Bytes) (nets : List Network) (s : List Char) (hl : 35 < s.length) :
    toScript dsha nets s = (bech32Branch true nets s).map some := by
  unfold toScript
  cases hd : Base58.decodeCheck dsha s with
  | none => rfl
  | some data =>
    have hne : data.length ≠ 21 := by
      intro h21
      unfold Base58.decodeCheck at hd
      cases hb : Base58.decode s with
      | none => simp [hb] at hd
      | some b =>
        simp only [hb] at hd
        split at hd
        · simp at hd
        · simp at hd
          have : b.length = 25 := by
            rw [← hd] at h21; simp [List.length_take] at h21; omega
          have := b58_len25 s b hb this
          omega
    simp [hne]

theorem toScript_long_some (dsha : Bytes → Bytes) (nets : List Network) (s : List Char) (sc : Bytes)
    (hl : 35 < s.length) (h : toScript dsha nets s = some (some sc)) : bech32Branch true nets s = some sc := by
  rw [toScript_long dsha nets s hl] at h
  cases hb : bech32Branch true nets s with
  | none => simp [hb] at h
  | some sc' => simpa [hb] using h

theorem bech32Branch_of_decode (nets : List Network) (net : Network) (hmem : net ∈ nets) (s : List Char)
    (ver : Nat) (h : Bytes) (hsplit : splitOne s = net.bech32)
    (hdec : Bech32.decode net.bech32 s = some (ver, h.map UInt8.toNat))
    (hv : ver ≤ 1) (hl : h.length = 20 ∨ h.length = 32) (h1 : ver = 1 → h.length = 32) :
    bech32Branch true nets s
      = some (UInt8.ofNat (if ver > 0 then ver + 0x50 else ver) :: UInt8.ofNat h.length :: h) := by
  unfold bech32Branch
  have hcont : (nets.map (·.bech32)).contains net.bech32 = true := by
    rw [List.contains_iff_mem]; exact List.mem_map_of_mem hmem
  simp only [hsplit, hcont, Bool.not_true, Bool.and_false, Bool.false_eq_true, if_false, hdec,
    List.length_map, map_ofNat_toNat]
  have hv' : ver = 0 ∨ ver = 1 := by omega
  rcases hv' with rfl | rfl
  · rcases hl with e | e <;> simp [e]
  · simp [h1 rfl]

theorem bech32Branch_text (nets : List Network) (net : Network) (hn : NetOk net) (hmem : net ∈ nets)
    (ver : Nat) (h : Bytes) (hv : ver ≤ 1) (hl : h.length = 20 ∨ h.length = 32) (h1 : ver = 1 → h.length = 32) :
    bech32Branch true nets (Bech32.segwitText net.bech32 ver (convOf h))
      = some (UInt8.ofNat (if ver > 0 then ver + 0x50 else ver) :: UInt8.ofNat h.length :: h) :=
  bech32Branch_of_decode nets net hmem _ ver h (splitOne_segwitText _ _ _ hn.noSep)
    (encode_convOf net hn ver h hv hl).2 hv hl h1

/-- script → address → script is the identity on the five standard types, for every network of a
    well-formed table and every hash function with at least four output bytes -/
theorem toScript_address (dsha : Bytes → Bytes) (h4 : ∀ x, 4 ≤ (dsha x).length) (nets : List Network)
    (ht : TableOk nets) (net : Network) (hmem : net ∈ nets) (s : Std) (hs : s.WF) :
    toScript dsha nets (textOf dsha net s) = some (some s.script) := by
  have hn := ht.each net hmem
  cases hseg : isSegwit s with
  | true =>
    obtain ⟨ver, h, hv, hl, h1, htext, hscr⟩ := segwit_std_cases s hseg hs
    rw [htext, toScript_long dsha nets _ (segwitText_long net ver h hl),
      bech32Branch_text nets net hn hmem ver h hv hl h1, hscr]
    rfl
  | false =>
    have h21 : ∀ (v h : Bytes), v.length = 1 → h.length = 20 →
        toScript dsha nets (Base58.encodeCheck dsha (v ++ h)) = some (matchPrefix (v ++ h) nets) := by
      intro v h hv hh
      unfold toScript
      rw [Base58.decodeCheck_encodeCheck dsha h4]
      exact if_neg (by simp [hv, hh])
    cases s with
    | p2pkh h =>
      have ht1 : (net.p2pkh ++ h).take 1 = net.p2pkh := List.take_left' hn.pkh1
      rw [textOf, h21 _ h hn.pkh1 hs, matchPrefix_of_pkh ⟨net, hmem, ht1⟩
        (fun m hm => by rw [ht1]; exact ht.disjoint net hmem m hm), List.drop_left' hn.pkh1]
      rfl
    | p2sh h =>
      have ht1 : (net.p2sh ++ h).take 1 = net.p2sh := List.take_left' hn.sh1
      rw [textOf, h21 _ h hn.sh1 hs, matchPrefix_of_sh ⟨net, hmem, ht1⟩
        (fun m hm => by rw [ht1]; exact (ht.disjoint m hm net hmem).symm), List.drop_left' hn.sh1]
      rfl
    | p2wpkh h => simp [isSegwit] at hseg
    | p2wsh h => simp [isSegwit] at hseg
    | p2tr h => simp [isSegwit] at hseg

theorem toScript_yields (dsha : Bytes → Bytes) (nets : List Network) (s : List Char) (sc : Bytes)
    (h : toScript dsha nets s = some (some sc)) :
    (∃ data, Base58.decodeCheck dsha s = some data ∧ data.length = 21 ∧ matchPrefix data nets = some sc)
    ∨ bech32Branch true nets s = some sc := by
  have key : ∀ o : Option Bytes, o.map some = some (some sc) → o = some sc := by
    rintro (_ | x) ho
    · exact absurd ho (by simp)
    · exact congrArg some (Option.some.inj (Option.some.inj ho))
  unfold toScript at h
  cases hd : Base58.decodeCheck dsha s with
  | none => rw [hd] at h; exact Or.inr (key _ h)
  | some data =>
    rw [hd] at h
    by_cases hl : data.length = 21
    · exact Or.inl ⟨data, rfl, hl, Option.some.inj ((if_neg (Decidable.not_not.mpr hl)).symm.trans h)⟩
    · exact Or.inr (key _ ((if_pos hl).symm.trans h))

theorem bech32Branch_yields (nets : List Network) (s : List Char) (sc : Bytes)
    (h : bech32Branch true nets s = some sc) :
    splitOne s ∈ nets.map (·.bech32) ∧ ∃ ver prog, Bech32.decode (splitOne s) s = some (ver, prog)
      ∧ ((ver = 0 ∧ (prog.length = 20 ∨ prog.length = 32)) ∨ (ver = 1 ∧ prog.length = 32))
      ∧ sc = UInt8.ofNat (if ver > 0 then ver + 0x50 else ver) :: UInt8.ofNat prog.length :: prog.map UInt8.ofNat := by
  unfold bech32Branch at h
  rw [Option.ite_none_left_eq_some] at h
  refine ⟨by simpa using h.1, ?_⟩
  cases hd : Bech32.decode (splitOne s) s with
  | none => rw [hd] at h; exact absurd h.2 (by simp)
  | some r =>
    obtain ⟨ver, prog⟩ := r
    simp only [hd, Option.ite_none_left_eq_some, Option.some.injEq, Bool.or_eq_true, Bool.and_eq_true,
      Bool.not_eq_true', Bool.or_eq_false_iff, beq_eq_false_iff_ne, beq_iff_eq, bne_iff_ne, ne_eq, not_and,
      Decidable.not_not] at h
    obtain ⟨_, h1, h2, rfl⟩ := h
    refine ⟨ver, prog, rfl, ?_, rfl⟩
    omega

/-- an unknown human-readable part never yields a script (the D15 repair) -/
theorem bech32Branch_unknown_hrp (nets : List Network) (s : List Char)
    (h : splitOne s ∉ nets.map (·.bech32)) : bech32Branch true nets s = none := by
  cases hb : bech32Branch true nets s with
  | none => rfl
  | some sc => exact absurd (bech32Branch_yields nets s sc hb).1 h

def netOkB (net : Network) : Bool :=
  net.p2pkh.length == 1 && net.p2sh.length == 1 && !net.bech32.isEmpty
  && net.bech32.all (fun c => 33 ≤ c.toNat && c.toNat ≤ 126 && c.toLower == c && c != '1')
  && net.bech32.length ≤ 30

def tableOkB (nets : List Network) : Bool :=
  nets.all netOkB && nets.all (fun n => nets.all (fun m => n.p2pkh != m.p2sh))

theorem netOk_of_B (net : Network) (h : netOkB net = true) : NetOk net := by
  unfold netOkB at h
  simp only [Bool.and_eq_true, beq_iff_eq, List.all_eq_true, decide_eq_true_eq, bne_iff_ne, ne_eq,
    Bool.not_eq_true', List.isEmpty_eq_false_iff] at h
  obtain ⟨⟨⟨⟨h1, h2⟩, h3⟩, h4⟩, h5⟩ := h
  refine ⟨h1, h2, ⟨h3, fun c hc => ⟨(h4 c hc).1.1.1, (h4 c hc).1.1.2⟩, fun c hc => (h4 c hc).1.2⟩, ?_, h5⟩
  intro hm
  exact (h4 '1' hm).2 rfl

theorem tableOk_of_B (nets : List Network) (h : tableOkB nets = true) : TableOk nets := by
  unfold tableOkB at h
  simp only [Bool.and_eq_true, List.all_eq_true, bne_iff_ne, ne_eq] at h
  exact ⟨fun n hn => netOk_of_B n (h.1 n hn), fun n hn m hm => h.2 n hn m hm⟩

end Embit.Model.Address
