import EmbitModel.Proofs.SignWithJust
import EmbitModel.Proofs.SignWithFrame
/-
  Validity of the signatures `SignWith.signWith` adds, relative to the laws of the abstract signing functions
  (`SigLaws` — what Props/C07 proves of the concrete ECDSA / BIP340 signers relative to `EcLaws`), and the final-state
  form of soundness: every slot content that is new is a justified write (Mathlib-free).
-/
namespace Embit.Model.SignWith
open Embit Embit.Model

variable {HD : Type}

/-- laws of the signing functions (`ecdsaVerify pub msg sig`, `schnorrVerify xonly msg sig`); `validSec` = the byte
    string is the SEC encoding of a curve point (what `ec.PublicKey.parse` checks when a PSBT is parsed) -/
structure SigLaws (O : Ops HD) (validSec : Bytes → Bool) (ecdsaVerify schnorrVerify : Bytes → Bytes → Bytes → Bool) :
    Prop where
  /-- a signature by `sk` verifies under both SEC encodings of the public key of `sk` -/
  ecdsa_own : ∀ sk c m sig, O.ecdsaSign sk m = some sig → ecdsaVerify (O.secOf sk c) m sig = true
  /-- … and under every valid SEC encoding that denotes the same point -/
  ecdsa_entry : ∀ sk m sig pub, validSec pub = true → O.ecdsaSign sk m = some sig →
    compressSec pub = O.secOf sk true → ecdsaVerify pub m sig = true
  /-- a BIP340 signature by `sk` verifies under the x-only public key of `sk` -/
  schnorr_ok : ∀ sk c m sig, O.schnorrSign sk m = some sig →
    schnorrVerify (xonlyOfSec (O.secOf sk c)) m sig = true

/-- the keys of the derivation maps of a scope are encodings of curve points (enforced by `PSBT.parse`: keys of type
    `06` go through `ec.PublicKey.parse`, keys of type `16` through `from_xonly` = parse of `02 ‖ x`) -/
def KeysValid (validSec : Bytes → Bool) (s : InScope) : Prop :=
  (∀ e ∈ s.bip32, validSec e.1 = true) ∧ (∀ e ∈ s.tapBip32, validSec (0x02 :: e.1) = true)

theorem matchingDerivs_valid {validSec : Bytes → Bool} {s : InScope} (hk : KeysValid validSec s) (fp pub : Bytes)
    (d : Deriv) (h : (pub, d) ∈ matchingDerivs s fp) : validSec pub = true := by
  simp only [matchingDerivs, List.mem_append, List.mem_map, List.mem_filter] at h
  rcases h with ⟨e, ⟨he, _⟩, heq⟩ | ⟨he, _⟩
  · cases heq; exact hk.2 e he
  · exact hk.1 _ he

/-- the write is a valid signature over the digest `D` assigns, carrying the flag as the standards say -/
def ValidWrite (ecdsaVerify schnorrVerify : Bytes → Bytes → Bytes → Bool) (O : Ops HD) (s : InScope) (u : TxOut)
    (f : Nat) (D : Nat → Option (Bytes × Nat) → Option Bytes) : Slot × Bytes → Prop
  | (.partialSig pub, v) =>
    isTaprootSpk u.spk = false ∧
    ∃ h sig, D f none = some h ∧ v = sig ++ [UInt8.ofNat f] ∧ ecdsaVerify pub h sig = true
  | (.tapKeySig, v) =>
    isTaprootSpk u.spk = true ∧
    ∃ xo h sig, isInfix xo u.spk = true ∧ D f none = some h ∧
      v = sig ++ (if f ≠ 0 then [UInt8.ofNat f] else []) ∧ schnorrVerify xo h sig = true
  | (.tapScriptSig key, v) =>
    isTaprootSpk u.spk = true ∧
    ∃ xo ctrl sc lv h sig, (ctrl, sc) ∈ s.tapScripts ∧ isInfix xo sc = true ∧ sc.getLast? = some lv ∧
      key = xo ++ taggedHash O.sha "TapLeaf" ([lv] ++ scriptSer sc.dropLast) ∧
      D f (some (sc.dropLast, lv.toNat)) = some h ∧
      v = sig ++ (if f ≠ 0 then [UInt8.ofNat f] else []) ∧ schnorrVerify xo h sig = true

theorem Justified.valid {O : Ops HD} {vs : Bytes → Bool} {ev sv : Bytes → Bytes → Bytes → Bool}
    (SL : SigLaws O vs ev sv)
    {sg : Single HD} {s : InScope} {u : TxOut} {f : Nat} {D : Nat → Option (Bytes × Nat) → Option Bytes}
    {w : Slot × Bytes} (hk : KeysValid vs s) (hj : Justified O sg s u f D w) : ValidWrite ev sv O s u f D w := by
  cases hj with
  | ecdsaRoot hh sig h1 h2 h3 h4 =>
    exact ⟨h1, hh, sig, h3, rfl, SL.ecdsa_own _ _ _ _ h4⟩
  | ecdsaDerived sk pub hh sig h1 h2 h3 h4 =>
    obtain ⟨fp, d, k, _, _, hmem, _, _, hm⟩ := h2
    have : compressSec pub = O.secOf sk true := by
      simp only [keyMatches, Bool.false_eq_true, if_false, decide_eq_true_eq] at hm
      exact hm.symm
    exact ⟨h1, hh, sig, h3, rfl, SL.ecdsa_entry _ _ _ _ (matchingDerivs_valid hk fp pub d hmem) h4 this⟩
  | tapKey sk c tsk hh sig h1 h2 h3 h4 h5 h6 =>
    exact ⟨h1, _, hh, sig, h4, h5, rfl, SL.schnorr_ok tsk true _ _ h6⟩
  | tapLeaf sk c ctrl sc lv hh sig h1 h2 h3 h4 h5 h6 h7 =>
    exact ⟨h1, _, ctrl, sc, lv, hh, sig, h3, h4, h5, rfl, h6, rfl, SL.schnorr_ok sk c _ _ h7⟩

theorem new_content_written {G : List (Nat × Slot)} (p p' : Psbt) (n : Nat) (ws : List Write) (t : PTr G p p' n ws) (i : Nat) (s s' : InScope)
    (hs : p.inputs[i]? = some s) (hs' : p'.inputs[i]? = some s') (sl : Slot) (v : Bytes)
    (hv : slotValue s' sl = some v) (hnew : slotValue s sl ≠ some v) : (i, sl, v) ∈ ws := by
  rw [t.scope i s s' hs hs'] at hv
  rcases slotValue_applySlots s _ sl v hv with h | h
  · exact absurd h hnew
  · exact (mem_writesOf ws i _).mp h

end Embit.Model.SignWith
