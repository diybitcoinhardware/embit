import EmbitModel.Proofs.DescMs
import EmbitModel.Proofs.CostDesc
/-
  C12: the parser only produces NORMAL descriptors — whatever `Descriptor.from_string` accepts is an
  object that prints to a text which parses back to the very same object (`DescNormal`, the hypothesis of
  `print_parse_all`). This is the normalisation of the variant spellings: `{a,b}` → `<a;b>`, `'` / `H` → `h`,
  upper-case hex → lower case, `int()` spellings (sign, leading zeros, `_`, surrounding white space) → `%d`,
  trailing `/` in an origin or after a key, an empty wrapper list `:pk(…)`.
  What is assumed of the key codecs, in the PARSE direction, is the explicit hypothesis `KeyCodec` (C10 / C11: every
  key decoder is sound — what it accepts re-encodes to itself).
-/
set_option linter.unusedSimpArgs false
set_option linter.unusedVariables false
namespace Embit.Model.Descriptor
open Embit Embit.Miniscript

variable {K : Type}

/-- SEC encodings `PublicKey.parse` can accept: 33 bytes starting 02 / 03, or 65 bytes starting 04 -/
def SecShape (b : Bytes) : Prop :=
  ∃ x rest, b = x :: rest ∧ ((rest.length = 32 ∧ (x = 2 ∨ x = 3)) ∨ (rest.length = 64 ∧ x = 4))

/-- the key decoders are sound: an accepted text / byte string is the one the key prints again (C10: "accepted ⇒
    re-encodes to itself", base58 canonicity included), and the class of the object is the one of the decoder -/
structure KeyCodec (ops : KeyOps K) : Prop where
  sec : ∀ b key, ops.parseSec b = some key → ops.kind key = .pub ∧ ops.sec key = b ∧ SecShape b
  xkey : ∀ s key, ops.parseXkey s = some key → ops.kind key = .xkey ∧ ops.text key = some s
  wif : ∀ s key, ops.parseWif s = some key → ops.kind key = .priv ∧ ops.text key = some s
  textShape : ∀ s key, (ops.parseXkey s = some key ∨ ops.parseWif s = some key) → 4 ≤ s.length ∧ s.head? ≠ some '['

theorem mapOpt_sound {α β : Type} (f : α → Option β) : ∀ (l : List α) (l' : List β), mapOpt f l = some l' →
    ∀ y ∈ l', ∃ x ∈ l, f x = some y := by
  intro l
  induction l with
  | nil => intro l' h y hy; cases h; cases hy
  | cons a r ih =>
    intro l' h y hy
    simp only [mapOpt] at h
    split at h
    next b bs ha hr =>
      cases h
      cases hy with
      | head => exact ⟨a, List.mem_cons_self, ha⟩
      | tail _ hm =>
        obtain ⟨x, hx, hf⟩ := ih bs hr y hm
        exact ⟨x, List.mem_cons_of_mem _ hx, hf⟩
    next => cases h

theorem splitOn_ne_nil (sep : Char) : ∀ (s : Str), splitOn sep s ≠ [] := by
  intro s
  induction s with
  | nil => simp [splitOn]
  | cons c r ih =>
    simp only [splitOn]
    split
    · simp
    · split <;> simp

theorem parseSetElem_sound (ah : Bool) (d : Str) (x : Option Nat) (h : parseSetElem ah d = some x) :
    x = none ∨ ∃ n, x = some n ∧ ElemOk ah n := by
  unfold parseSetElem at h
  split at h
  · simp at h; exact Or.inl h.symm
  · split at h
    · rename_i f l _ _
      split at h
      · simp at h
      · simp only [] at h
        generalize (l = 'h' || l = 'H' || l = '\'') = hard at h
        split at h
        · simp at h
        · rename_i hha
          split at h
          · rename_i i hi
            split at h
            · simp at h
            · rename_i hlt
              simp only [Option.some.injEq] at h
              right
              refine ⟨_, h.symm, ?_⟩
              have hi' : i < HARDENED := by omega
              cases hard with
              | true =>
                have : ah = true := by simpa using hha
                exact ⟨by simp only [HARDENED, if_true] at hi' ⊢; omega, fun _ => this⟩
              | false =>
                refine ⟨by simp only [HARDENED] at hi' ⊢; simp; omega, ?_⟩
                intro hge
                simp only [HARDENED] at hi' hge
                simp at hge
                omega
          · simp at h
    · simp at h

theorem parseElement_sound (ah : Bool) (d : Str) (st : Step) (h : parseElement ah d = some st) : StepOk ah st := by
  have hset : ∀ (sep : Char) (inner : Str) (l : List (Option Nat)),
      mapOpt (parseSetElem ah) (splitOn sep inner) = some l → StepOk ah (.set l) := by
    intro sep inner l hl
    have h1 := mapOpt_length hl
    have h2 := mapOpt_sound _ _ _ hl
    constructor
    · intro he
      subst he
      have := splitOn_ne_nil sep inner
      cases hs : splitOn sep inner with
      | nil => exact this hs
      | cons _ _ => rw [hs] at h1; simp at h1
    · intro x hx
      obtain ⟨t, _, ht⟩ := h2 x hx
      exact parseSetElem_sound ah t x ht
  unfold parseElement at h
  split at h
  · simp at h; subst h; trivial
  · split at h
    · split at h
      · simp only [Option.map_eq_some_iff] at h
        obtain ⟨l, hl, rfl⟩ := h
        exact hset _ _ _ hl
      · split at h
        · simp only [Option.map_eq_some_iff] at h
          obtain ⟨l, hl, rfl⟩ := h
          exact hset _ _ _ hl
        · split at h
          · rename_i n hn
            simp at h; subst h
            rcases parseSetElem_sound ah d _ hn with h0 | ⟨m, hm, hok⟩
            · simp at h0
            · simp at hm; subst hm; exact hok
          · simp at h
    · simp at h

theorem parseAllowed_sound (ah : Bool) (der : Str) (ix : List Step) (h : parseAllowed ah der = some (some ix)) :
    StepsOk ah ix := by
  unfold parseAllowed at h
  split at h
  · simp at h
  · cases hm : mapOpt (parseElement ah) (splitOn '/' der) with
    | none => simp [hm] at h
    | some l =>
      simp only [hm] at h
      have hmk : mkAllowed l = some ix := by
        cases hk : mkAllowed l with
        | none => simp [hk] at h
        | some v => simp [hk] at h; subst h; rfl
      have hix : l = ix := by
        unfold mkAllowed at hmk
        split at hmk
        · simp at hmk
        · split at hmk
          · simp at hmk
          · simpa using hmk
      subst hix
      have h1 := mapOpt_length hm
      have h2 := mapOpt_sound _ _ _ hm
      refine ⟨?_, ?_, hmk⟩
      · intro he
        subst he
        have := splitOn_ne_nil '/' der
        cases hs : splitOn '/' der with
        | nil => exact this hs
        | cons _ _ => rw [hs] at h1; simp at h1
      · intro s hs
        obtain ⟨t, _, ht⟩ := h2 s hs
        exact parseElement_sound ah t s ht

theorem readUntilAux_res (stops : List Char) : ∀ (r b res : Str) (ch : Option Char) (s' : Stream),
    readUntilAux stops b r = (res, ch, s') →
    (∀ x ∈ res, stops.contains x = false) ∧ (res = [] ∨ res.head? = r.head?) ∧ res.length ≤ r.length := by
  intro r
  induction r with
  | nil => intro b res ch s' h; simp [readUntilAux] at h; obtain ⟨rfl, _⟩ := h; simp
  | cons c r ih =>
    intro b res ch s' h
    simp only [readUntilAux] at h
    split at h
    · simp at h; obtain ⟨rfl, _⟩ := h; simp
    · rename_i hc
      cases hrec : readUntilAux stops (c :: b) r with
      | mk res1 rest1 =>
        obtain ⟨ch1, s1⟩ := rest1
        simp only [hrec, Prod.mk.injEq] at h
        obtain ⟨rfl, _, _⟩ := h
        obtain ⟨i1, _, i3⟩ := ih _ _ _ _ hrec
        refine ⟨?_, Or.inr rfl, by simp; omega⟩
        intro x hx
        simp at hx
        rcases hx with rfl | hx
        · simpa using hc
        · exact i1 x hx

theorem readUntil_res (stops : List Char) (s : Stream) (res : Str) (ch : Option Char) (s' : Stream)
    (h : readUntil stops s = (res, ch, s')) :
    (∀ x ∈ res, stops.contains x = false) ∧ (res = [] ∨ res.head? = s.rest.head?) ∧ res.length ≤ s.rest.length :=
  readUntilAux_res stops s.rest s.back res ch s' h

/-- the key text `Key.read_from` hands to `parse_key` is what precedes the first `,` `)` `/` -/
theorem readKeyBody_chars (s s' : Stream) (k der : Str) (h : readKeyBody s = some (k, der, s')) :
    (∀ x ∈ k, x ≠ ',' ∧ x ≠ ')' ∧ x ≠ '/') ∧ (k = [] ∨ k.head? = s.rest.head?) ∧ k.length ≤ s.rest.length := by
  have hk := ((Cost.readKeyBody_cost s).2 k der s' h).1
  obtain ⟨h1, h2, h3⟩ := readUntil_res [',', ')', '/'] s _ _ _ (rfl : readUntil [',', ')', '/'] s = _)
  change ∀ x ∈ (readUntil [',', ')', '/'] s).1, _ at h1
  change (readUntil [',', ')', '/'] s).1 = [] ∨ (readUntil [',', ')', '/'] s).1.head? = _ at h2
  change (readUntil [',', ')', '/'] s).1.length ≤ _ at h3
  rw [← hk] at h1 h2 h3
  refine ⟨?_, h2, h3⟩
  intro x hx
  have := h1 x hx
  simp at this
  exact ⟨this.1, this.2.1, this.2.2⟩

/-- what `Key.parse_key` returns prints (as the key's own text) to something `parse_key` maps to the same result -/
theorem parseKeyText_normal (ops : KeyOps K) (hc : KeyCodec ops) (tap : Bool) (kt : Str) (kv : KeyVal K) (xo : Bool)
    (hdel : ∀ x ∈ kt, x ≠ ',' ∧ x ≠ ')' ∧ x ≠ '/')
    (h : parseKeyText ops tap kt = some (kv, xo)) (origin : Option Origin) (deriv : Option (List Step)) :
    ∃ kt', keyText ops (⟨origin, kv, deriv, xo && tap⟩ : KeyExpr K) = some kt' ∧ kt'.head? ≠ some '[' ∧ kt' ≠ [] ∧
      (∀ x ∈ kt', x ≠ ',' ∧ x ≠ ')' ∧ x ≠ '/') ∧ parseKeyText ops tap kt' = some (kv, xo && tap)
      ∧ 4 ≤ kt'.length ∧ (∃ key, kv = .obj key) ∧ (xo = true → tap = true) ∧ 4 ≤ kt.length
      ∧ (kt.length ≠ 40 → kt'.length ≠ 40) := by
  unfold parseKeyText at h
  simp only [] at h
  split at h
  · -- hex SEC
    rename_i hcond
    cases hu : unhexlify kt with
    | none => simp [hu] at h
    | some b =>
      simp only [hu, Option.map_eq_some_iff, Prod.mk.injEq] at h
      obtain ⟨key, hp, rfl, rfl⟩ := h
      obtain ⟨hkind, hsec, hshape⟩ := hc.sec b key hp
      obtain ⟨kt', a1, a2, a3, a4, a5⟩ := keyText_pub_sec ops tap false ⟨origin, .obj key, deriv, false && tap⟩ key rfl hkind
        (by simp) (by rw [hsec]; exact hshape) (by rw [hsec]; exact hp)
      have hl' : kt'.length = 66 ∨ kt'.length = 130 := by
        simp only [keyText, hkind, Bool.false_and, Bool.false_eq_true, if_false, Option.some.injEq] at a1
        rw [← a1, hexlify_length, hsec]
        obtain ⟨x, rest, rfl, hl⟩ := hshape
        simp only [List.length_cons]
        rcases hl with ⟨h32, _⟩ | ⟨h64, _⟩ <;> omega
      have hk4 : 4 ≤ kt.length := by
        simp only [Bool.and_eq_true, Bool.or_eq_true, decide_eq_true_eq] at hcond
        rcases hcond.1 with e | e <;> omega
      exact ⟨kt', a1, a2, a3, a4, by simpa using a5, by rcases hl' with e | e <;> omega, ⟨key, rfl⟩, by simp, hk4,
        fun _ => by rcases hl' with e | e <;> omega⟩
  · rename_i hnot
    split at h
    · -- x-only
      rename_i htap
      simp only [Bool.and_eq_true, decide_eq_true_eq] at htap
      obtain ⟨htap, hlen⟩ := htap
      subst htap
      cases hu : unhexlify kt with
      | none => simp [hu] at h
      | some b =>
        simp only [hu, Option.map_eq_some_iff, Prod.mk.injEq] at h
        obtain ⟨key, hp, rfl, rfl⟩ := h
        obtain ⟨hkind, hsec, hshape⟩ := hc.sec (0x02 :: b) key hp
        have hb : b.length = 32 := by
          obtain ⟨x, rest, he, hl⟩ := hshape
          simp only [List.cons.injEq] at he
          obtain ⟨rfl, rfl⟩ := he
          rcases hl with ⟨h32, _⟩ | ⟨_, h4⟩
          · exact h32
          · exact absurd h4 (by decide)
        have htk : ((ops.sec key).drop 1).take 32 = b := by rw [hsec]; simp [← hb]
        obtain ⟨d1, d2, d3⟩ := hexlify_delims b (by intro e; subst e; simp at hb)
        refine ⟨hexlify b, by simp only [keyText, hkind, Bool.and_self, if_true, htk], d1, d2, d3, ?_, by rw [hexlify_length]; omega, ⟨key, rfl⟩,
          fun _ => rfl, by omega, fun _ => by rw [hexlify_length]; omega⟩
        · unfold parseKeyText
          have hl : (hexlify b).length = 64 := by rw [hexlify_length]; omega
          simp only [hl, unhexlify_hexlify, hp]
          have e1 : (decide ((64 : Nat) = 66) || decide ((64 : Nat) = 130)) = false := by decide
          simp only [e1, Bool.false_and, Bool.false_eq_true, if_false, decide_true, Bool.and_self, if_true,
            Option.map_some]
    · rename_i hnot2
      split at h
      · -- xpub / xprv
        rename_i hmid
        simp only [Option.map_eq_some_iff, Prod.mk.injEq] at h
        obtain ⟨key, hp, rfl, rfl⟩ := h
        obtain ⟨hkind, htext⟩ := hc.xkey kt key hp
        obtain ⟨hl, hh⟩ := hc.textShape kt key (Or.inl hp)
        refine ⟨kt, by simp [keyText, hkind, htext], hh, ?_, hdel, ?_, hl, ⟨key, rfl⟩, by simp, hl, fun e => e⟩
        · intro he; subst he; simp at hl
        · simp only [Bool.false_and]
          unfold parseKeyText
          rw [if_neg hnot, if_neg hnot2, if_pos hmid]
          simp [hp]
      · rename_i hmid
        simp only [Option.map_eq_some_iff, Prod.mk.injEq] at h
        obtain ⟨key, hp, rfl, rfl⟩ := h
        obtain ⟨hkind, htext⟩ := hc.wif kt key hp
        obtain ⟨hl, hh⟩ := hc.textShape kt key (Or.inr hp)
        refine ⟨kt, by simp [keyText, hkind, htext], hh, ?_, hdel, ?_, hl, ⟨key, rfl⟩, by simp, hl, fun e => e⟩
        · intro he; subst he; simp at hl
        · simp only [Bool.false_and]
          unfold parseKeyText
          rw [if_neg hnot, if_neg hnot2, if_neg hmid]
          simp [hp]

theorem parseOrigin_sound (t : Str) (o : Origin) (h : parseOrigin t = some o) : OriginOk o := by
  unfold parseOrigin at h
  split at h
  · simp at h
  · split at h
    · simp at h
    · split at h
      · simp at h
      · rename_i hl
        simp only [Option.map_eq_some_iff] at h
        obtain ⟨p, _, rfl⟩ := h
        simpa [OriginOk] using hl

/-- MAIN (keys): whatever `Key.read_from` / `KeyHash.read_from` returns is a normal key expression -/
theorem readKey_normal (ops : KeyOps K) (hc : KeyCodec ops) (tap hash : Bool) (s s' : Stream) (k : KeyExpr K)
    (h : readKey ops tap hash s = some (k, s')) :
    KeyNormal ops tap hash k ∧ (hash = false → ∀ t, showKey ops k = some t → t.length ≥ 4) := by
  unfold readKey at h
  simp only [] at h
  -- origin and the stream after it
  split at h
  · simp at h
  · rename_i origin s2 hos
    split at h
    · simp at h
    · rename_i kt der s3 hbody
      obtain ⟨hdel, hhead, hklen⟩ := readKeyBody_chars s2 s3 kt der hbody
      split at h
      · simp at h
      · rename_i kv xo hkey
        split at h
        · simp at h
        · rename_i derivation hder
          split at h
          · simp at h
          · rename_i hcheck
            simp only [Option.some.injEq, Prod.mk.injEq] at h
            obtain ⟨rfl, _⟩ := h
            -- the origin
            have horigin : (∀ o, origin = some o → OriginOk o) ∧
                (origin = none → (kt = [] ∨ kt.head? ≠ some '[') ∨ kt.length ≤ 1) := by
              split at hos
              · rename_i hfirst
                split at hos
                · simp at hos
                · simp only [Option.map_eq_some_iff, Prod.mk.injEq] at hos
                  obtain ⟨o, ho, rfl, _⟩ := hos
                  refine ⟨fun o' e => (by cases e; exact parseOrigin_sound _ _ ho), fun e => (by cases e)⟩
              · rename_i hfirst
                simp only [Option.map_eq_some_iff, Prod.mk.injEq] at hos
                obtain ⟨s2', hun, rfl, rfl⟩ := hos
                refine ⟨fun o e => (by cases e), fun _ => ?_⟩
                obtain ⟨b, r⟩ := s
                cases r with
                | nil =>
                  -- end of stream: `seek(-1, 1)` steps back over the previous character
                  right
                  cases b with
                  | nil => simp [Stream.read1, Stream.unread] at hun
                  | cons c b' =>
                    simp [Stream.read1, Stream.unread] at hun
                    subst hun
                    simpa using hklen
                | cons c r =>
                  left
                  simp only [Stream.read1] at hfirst hun
                  simp [Stream.unread] at hun
                  subst hun
                  have hc0 : c ≠ '[' := by simpa using hfirst
                  rcases hhead with e | e
                  · exact Or.inl e
                  · right; rw [e]; simpa using hc0
            -- derivation
            have hderiv : ∀ ix, derivation = some ix → kv.hasDerive ops = true ∧ StepsOk (kv.allowHardened ops) ix := by
              intro ix e
              subst e
              refine ⟨?_, parseAllowed_sound _ _ _ hder⟩
              cases hd : kv.hasDerive ops with
              | true => rfl
              | false => simp [hd] at hcheck
            cases hash with
            | false =>
              simp only [Bool.false_eq_true, if_false] at hkey
              obtain ⟨kt', t1, t2, t3, t4, t5, t6, _, t8, t9, _⟩ :=
                parseKeyText_normal ops hc tap kt kv xo hdel hkey origin derivation
              refine ⟨⟨horigin.1, ⟨kt', t1, fun _ => t2, t3, t4, by simpa using t5⟩, ?_, hderiv⟩, ?_⟩
              · intro hx
                simp only [Bool.and_eq_true] at hx
                exact hx.2
              · intro _ t ht
                rw [showKey_eq ops _ kt' t1 (fun ix hix => (hderiv ix hix).1)] at ht
                simp only [Option.map_eq_some_iff] at ht
                obtain ⟨suf, _, rfl⟩ := ht
                simp only [List.length_append]
                omega
            | true =>
              simp only [if_true] at hkey
              unfold parseKeyHashText at hkey
              split at hkey
              · -- a raw 40-character hash, taken verbatim
                rename_i h40
                -- … and only when `unhexlify` takes it
                cases hhex : unhexlify kt with
                | none => simp [hhex] at hkey
                | some hb =>
                simp only [hhex, Option.some.injEq, Prod.mk.injEq] at hkey
                obtain ⟨rfl, rfl⟩ := hkey
                refine ⟨⟨horigin.1, ⟨kt, rfl, ?_, ?_, hdel, ?_⟩, by simp, hderiv⟩, fun e => by cases e⟩
                · intro ho
                  rcases horigin.2 ho with (e | e) | e
                  · subst e; simp at h40
                  · exact e
                  · omega
                · intro e; subst e; simp at h40
                · simp [parseKeyHashText, h40, hhex]
              · rename_i h40
                obtain ⟨kt', t1, t2, t3, t4, t5, t6, _, t8, t9, t10⟩ :=
                  parseKeyText_normal ops hc tap kt kv xo hdel hkey origin derivation
                refine ⟨⟨horigin.1, ⟨kt', t1, fun _ => t2, t3, t4, ?_⟩, ?_, hderiv⟩, fun e => by cases e⟩
                · simp only [if_true, parseKeyHashText]
                  rw [if_neg (t10 h40)]
                  simpa using t5
                · intro hx
                  simp only [Bool.and_eq_true] at hx
                  exact hx.2

theorem ofHexChars_length : ∀ (n : Nat) (t : Str) (b : Bytes), t.length ≤ n → ofHexChars t = some b →
    t.length = 2 * b.length := by
  intro n
  induction n with
  | zero =>
    intro t b hl h
    have : t = [] := by cases t with
      | nil => rfl
      | cons _ _ => simp at hl
    subst this
    simp [ofHexChars] at h; subst h; rfl
  | succ n ih =>
    intro t b hl h
    match t, h with
    | [], h => simp [ofHexChars] at h; subst h; rfl
    | [_], h => simp [ofHexChars] at h
    | a :: c :: rest, h =>
      simp only [ofHexChars] at h
      cases ha : hexVal a with
      | none => simp [ha] at h
      | some x =>
        cases hb : hexVal c with
        | none => simp [ha, hb] at h
        | some y =>
          cases hr : ofHexChars rest with
          | none => simp [ha, hb, hr] at h
          | some r =>
            simp [ha, hb, hr] at h
            subst h
            have := ih rest r (by simp at hl; omega) hr
            simp [this]; omega

theorem readN_length : ∀ (n : Nat) (s : Stream), (s.readN n).1.length ≤ n := by
  intro n
  induction n with
  | zero => intro s; simp [Stream.readN]
  | succ n ih =>
    intro s
    obtain ⟨b, r⟩ := s
    cases r with
    | nil => simp [Stream.readN]
    | cons c r =>
      simp only [Stream.readN]
      have := ih ⟨c :: b, r⟩
      cases hh : Stream.readN n ⟨c :: b, r⟩ with
      | mk x s' => rw [hh] at this; simp at this ⊢; omega

theorem readRaw_length (len : Nat) (s s' : Stream) (h : Bytes) (hr : readRaw len s = some (h, s')) :
    h.length = len := by
  unfold readRaw at hr
  cases hh : s.readN (2 * len) with
  | mk t s1 =>
    simp only [hh] at hr
    split at hr
    · simp at hr
    · rename_i hl
      simp only [Option.map_eq_some_iff, Prod.mk.injEq] at hr
      obtain ⟨b, hb, rfl, _⟩ := hr
      have := ofHexChars_length t.length t b (Nat.le_refl _) hb
      simp at hl
      omega

theorem readMore_all {α : Type} (p : Stream → Option (α × Stream)) (P : α → Prop)
    (hp : ∀ s x s', p s = some (x, s') → P x) :
    ∀ (fuel : Nat) (s : Stream) (xs : List α) (s' : Stream), readMore p fuel s = some (xs, s') → ∀ x ∈ xs, P x := by
  intro fuel
  induction fuel with
  | zero => intro s xs s' h; simp [readMore] at h
  | succ n ih =>
    intro s xs s' h
    simp only [readMore] at h
    split at h
    · rename_i s1 _
      split at h
      · simp at h
      · rename_i x s2 hx
        split at h
        · simp at h
        · rename_i xs' s3 hrec
          simp only [Option.some.injEq, Prod.mk.injEq] at h
          obtain ⟨rfl, _⟩ := h
          intro y hy
          simp at hy
          rcases hy with rfl | hy
          · exact hp _ _ _ hx
          · exact ih _ _ _ hrec y hy
    · simp at h; obtain ⟨rfl, _⟩ := h; simp
    · simp at h

theorem MsNormalL_of_forall {ops : KeyOps K} {tap : Bool} : ∀ (xs : List (DMs K)),
    (∀ x ∈ xs, MsNormal ops tap x) → MsNormalL ops tap xs := by
  intro xs
  induction xs with
  | nil => intro _; trivial
  | cons x r ih =>
    intro h
    exact ⟨h x (by simp), ih (fun y hy => h y (by simp [hy]))⟩

theorem applyWrappers_normal {ops : KeyOps K} {tap : Bool} : ∀ (ws : Str) (e e' : DMs K),
    applyWrappers ws e = some e' → MsNormal ops tap e → MsNormal ops tap e' := by
  intro ws
  induction ws with
  | nil => intro e e' h hn; cases h; exact hn
  | cons c r ih =>
    intro e e' h hn
    simp only [applyWrappers] at h
    split at h
    next inner w hi _ => cases h; exact ih e inner hi hn
    next => cases h

theorem applyWrappers_keys : ∀ (ws : Str) (e e' : DMs K), applyWrappers ws e = some e' → e'.keys = e.keys := by
  intro ws
  induction ws with
  | nil => intro e e' h; cases h; rfl
  | cons c r ih =>
    intro e e' h
    simp only [applyWrappers] at h
    split at h
    next inner w hi _ => cases h; exact ih e inner hi
    next => cases h

theorem keysL_all {P : KeyExpr K → Prop} : ∀ (xs : List (DMs K)),
    (∀ x ∈ xs, ∀ k ∈ x.keys, P k) → ∀ k ∈ DMs.keysL xs, P k := by
  intro xs h k hk
  obtain ⟨x, hx, hkx⟩ := mem_keysL hk
  exact h x hx k hkx

/-! ### the readers of expressions, tap trees and descriptors: ONE walk along each

  Two things are read off the same case analysis of each reader: the result is normal (this needs the key codecs to be
  sound, `KeyCodec`), and every key in it came out of `Key.read_from` (this needs nothing, and is what C14 uses). -/

def ReadKeyInv (ops : KeyOps K) (P : KeyExpr K → Prop) : Prop :=
  ∀ (tap hash : Bool) (s s' : Stream) (k : KeyExpr K), readKey ops tap hash s = some (k, s') → P k

def MsRead (ops : KeyOps K) (P : KeyExpr K → Prop) (tap : Bool) (e : DMs K) : Prop :=
  (KeyCodec ops → MsNormal ops tap e) ∧ ∀ k ∈ e.keys, P k

/-- every answer of the reader `p` satisfies `P` -/
def Yields {α : Type} (p : Stream → Option (α × Stream)) (P : α → Prop) : Prop :=
  ∀ s x s', p s = some (x, s') → P x

namespace Yields
variable {α β : Type} {p : Stream → Option (α × Stream)} {P : α → Prop} {Q : β → Prop}

theorem thn {q : α → Stream → Option (β × Stream)} (hp : Yields p P) (hq : ∀ x, P x → Yields (q x) Q) :
    Yields (optRM.thn p q) Q := fun s y s' h => by
  simp only [RM.thn, optRM] at h
  cases hr : p s with
  | none => rw [hr] at h; cases h
  | some r => rw [hr] at h; exact hq r.1 (hp s r.1 r.2 hr) r.2 y s' h

theorem comma {q : Stream → Option (β × Stream)} (hq : Yields q Q) : Yields (optRM.comma q) Q := fun s y s' h => by
  simp only [RM.comma] at h
  cases hr : expectChar ',' s with
  | none => rw [hr] at h; cases h
  | some t => rw [hr] at h; exact hq t y s' h

theorem close {a : α} (h : P a) : Yields (optRM.close a) P := fun s x s' e => by
  simp only [RM.close, optRM, id, Option.map_eq_some_iff, Prod.mk.injEq] at e
  obtain ⟨_, _, rfl, _⟩ := e
  exact h

theorem ret {a : α} (h : P a) : Yields (optRM.ret a) P := fun _ _ _ e => by cases e; exact h

theorem guard {b : Bool} {a : α} (h : b = true → P a) : Yields (optRM.guard b a) P := by
  cases b
  · exact fun _ _ _ e => by cases e
  · exact ret (h rfl)
end Yields

theorem readMsBody_read (ops : KeyOps K) (P : KeyExpr K → Prop) (hP : ReadKeyInv ops P) (tap : Bool)
    (sub : Stream → Option (DMs K × Stream)) (hsub : ∀ s x s', sub s = some (x, s') → MsRead ops P tap x)
    (fuel : Nat) (op : Str) (s s' : Stream) (e : DMs K)
    (h : readMsBody ops tap sub fuel op s = some (e, s')) : MsRead ops P tap e := by
  rw [readMsBody_eq, opCases_eq] at h
  split at h
  rotate_left
  · cases h
  rename_i o _
  have hsub : Yields sub (MsRead ops P tap) := hsub
  have hkey : ∀ hash, Yields (readKey ops tap hash) fun k => (KeyCodec ops → KeyNormal ops tap hash k) ∧ P k :=
    fun hash s k s' h => ⟨fun hc => (readKey_normal ops hc tap hash s s' k h).1, hP tap hash s s' k h⟩
  have hnum : Yields readNumber fun _ => True := fun _ _ _ _ => trivial
  refine (?_ : Yields (o.reader optRM ops tap sub fuel) (MsRead ops P tap)) s e s' h
  cases o with
  | key f => exact (hkey _).thn fun k hk => .close ⟨hk.1, by simpa [DMs.keys] using hk.2⟩
  | time f => exact hnum.thn fun n _ => .close ⟨fun _ => trivial, by simp [DMs.keys]⟩
  | hash f =>
    exact Yields.thn (P := fun h => h.length = hashFragLen f) (fun s h s' hr => readRaw_length _ s s' h hr)
      fun h hh => .close ⟨fun _ => by simpa only [MsNormal] using hh, by simp [DMs.keys]⟩
  | andor =>
    exact hsub.thn fun x hx => (hsub.thn fun y hy => (hsub.thn fun z hz => .close
      ⟨fun hc => ⟨hx.1 hc, hy.1 hc, hz.1 hc⟩, by
        simp only [DMs.keys, List.mem_append]
        exact fun k hk => hk.elim (fun hk => hk.elim (hx.2 k) (hy.2 k)) (hz.2 k)⟩).comma).comma
  | bin f =>
    exact hsub.thn fun x hx => (hsub.thn fun y hy => .close
      ⟨fun hc => ⟨hx.1 hc, hy.1 hc⟩, by
        simp only [DMs.keys, List.mem_append]
        exact fun k hk => hk.elim (hx.2 k) (hy.2 k)⟩).comma
  | thresh =>
    exact hnum.thn fun k _ => Yields.thn (readMore_all sub _ hsub fuel) fun xs hall => .ret
      ⟨fun hc => MsNormalL_of_forall xs fun x hx => (hall x hx).1 hc, keysL_all xs fun x hx => (hall x hx).2⟩
  | multi f =>
    exact hnum.thn fun k _ => Yields.thn (readMore_all _ _ (hkey false) fuel) fun keys hall => .guard fun hmt =>
      ⟨fun hc => ⟨by simpa using hmt, fun k hk => (hall k hk).1 hc⟩, fun k hk => (hall k hk).2⟩

theorem readMs_read (ops : KeyOps K) (P : KeyExpr K → Prop) (hP : ReadKeyInv ops P) (tap : Bool) :
    ∀ (fuel : Nat) (s s' : Stream) (e : DMs K), readMs ops tap fuel s = some (e, s') → MsRead ops P tap e := by
  intro fuel
  induction fuel with
  | zero => intro s s' e h; cases h
  | succ n ih =>
    intro s s' e h
    simp only [readMs] at h
    split at h
    · cases h
    · rename_i wrappers op _
      split at h
      · cases h
      · split at h
        · cases h
        · rename_i e0 s1 hb
          simp only [Option.map_eq_some_iff, Prod.mk.injEq] at h
          obtain ⟨e1, hw, rfl, _⟩ := h
          have h0 := readMsBody_read ops P hP tap _ (fun s x s' hx => ih s s' x hx) n op _ _ e0 hb
          exact ⟨fun hc => applyWrappers_normal wrappers e0 e1 hw (h0.1 hc),
            by rw [applyWrappers_keys _ e0 e1 hw]; exact h0.2⟩

theorem readMs_normal (ops : KeyOps K) (hc : KeyCodec ops) (tap : Bool) : ∀ (fuel : Nat) (s s' : Stream) (e : DMs K),
    readMs ops tap fuel s = some (e, s') → MsNormal ops tap e :=
  fun fuel s s' e h => (readMs_read ops (fun _ => True) (fun _ _ _ _ _ _ => trivial) tap fuel s s' e h).1 hc

/-- `TapTree.read_from` returns an empty tree only at the end of the stream (where every caller then fails);
    otherwise a tree of accepted normal leaves without empty sub-trees -/
theorem readTapTree_read (ops : KeyOps K) (P : KeyExpr K → Prop) (hP : ReadKeyInv ops P) :
    ∀ (fuel : Nat) (s s' : Stream) (t : TapTree K), readTapTree ops fuel s = some (t, s') →
      (KeyCodec ops → (t = .empty ∧ s'.rest = []) ∨ TreeNormal ops t) ∧ ∀ k ∈ t.keys, P k := by
  intro fuel
  induction fuel with
  | zero => intro s s' t h; cases h
  | succ n ih =>
    intro s s' t h
    simp only [readTapTree] at h
    split at h
    · -- end of stream
      rename_i s1 hr
      simp only [Option.some.injEq, Prod.mk.injEq] at h
      obtain ⟨rfl, rfl⟩ := h
      refine ⟨fun _ => Or.inl ⟨rfl, ?_⟩, fun k hk => by simp [TapTree.keys] at hk⟩
      obtain ⟨b, r⟩ := s
      cases r with
      | nil => simp [Stream.read1] at hr; rw [← hr]
      | cons c r => simp [Stream.read1] at hr
    · rename_i c s1 hr
      split at h
      · -- `{`
        split at h
        · cases h
        · rename_i left s2 hl
          have hleft := ih _ _ _ hl
          -- a sub-tree that is followed by a character is not the empty one
          have nonempty : ∀ {t : TapTree K} {s2 : Stream}, (t = .empty ∧ s2.rest = []) ∨ TreeNormal ops t →
              (∃ c s3, s2.read1 = (some c, s3)) → TreeNormal ops t := by
            intro t s2 ht hc
            rcases ht with ⟨_, he⟩ | hn
            · obtain ⟨b2, r2⟩ := s2
              obtain ⟨c, s3, hc⟩ := hc
              simp only at he
              subst he
              simp [Stream.read1] at hc
            · exact hn
          split at h
          · rename_i s3 hr2
            simp only [Option.some.injEq, Prod.mk.injEq] at h
            obtain ⟨rfl, rfl⟩ := h
            exact ⟨fun hc => Or.inr (nonempty (hleft.1 hc) ⟨_, _, hr2⟩), hleft.2⟩
          · rename_i s3 hr2
            split at h
            · cases h
            · rename_i right s4 hrt
              have hright := ih _ _ _ hrt
              simp only [Option.map_eq_some_iff, Prod.mk.injEq] at h
              obtain ⟨s5, hex, rfl, rfl⟩ := h
              refine ⟨fun hc => Or.inr ⟨nonempty (hleft.1 hc) ⟨_, _, hr2⟩, nonempty (hright.1 hc) ?_⟩, fun k hk => ?_⟩
              · simp only [expectChar] at hex
                split at hex
                · exact ⟨_, _, by assumption⟩
                · cases hex
              · simp only [TapTree.keys, List.mem_append] at hk
                exact hk.elim (hleft.2 k) (hright.2 k)
          · cases h
      · -- a leaf
        split at h
        · cases h
        · rename_i s2 _
          split at h
          · cases h
          · rename_i ms s3 hms
            split at h
            · rename_i hacc
              simp only [Option.some.injEq, Prod.mk.injEq] at h
              obtain ⟨rfl, rfl⟩ := h
              have hm := readMs_read ops P hP true _ _ _ _ hms
              exact ⟨fun hc => Or.inr ⟨hm.1 hc, hacc⟩, hm.2⟩
            · cases h

/-- the seven shapes of object `Descriptor.read_from` builds -/
inductive ParsedShape : Desc K → Prop
  | tr (key : KeyExpr K) (tree : TapTree K) : ParsedShape ⟨none, false, false, some key, false, true, tree⟩
  | shwsh (ms : DMs K) : ParsedShape ⟨some ms, true, true, none, false, false, .empty⟩
  | wsh (ms : DMs K) : ParsedShape ⟨some ms, false, true, none, false, false, .empty⟩
  | sh (ms : DMs K) : ParsedShape ⟨some ms, true, false, none, false, false, .empty⟩
  | shwpkh (key : KeyExpr K) : ParsedShape ⟨none, true, false, some key, true, false, .empty⟩
  | wpkh (key : KeyExpr K) : ParsedShape ⟨none, false, false, some key, true, false, .empty⟩
  | pkh (key : KeyExpr K) : ParsedShape ⟨none, false, false, some key, false, false, .empty⟩

theorem DescNormal.ofMs {ops : KeyOps K} {ms : DMs K} {sh wsh : Bool} (hf : (sh || wsh) = true)
    (hn : MsNormal ops false ms) (hacc : msAccepted .wsh ms = true) :
    DescNormal ops ⟨some ms, sh, wsh, none, false, false, .empty⟩ := by
  cases sh <;> cases wsh
  · cases hf
  · exact .msForm .wsh ms hn hacc
  · exact .msForm .sh ms hn hacc
  · exact .msForm .shwsh ms hn hacc

theorem DescNormal.ofKey {ops : KeyOps K} {k : KeyExpr K} {sh wpkh : Bool} (hf : sh = true → wpkh = true)
    (hk : KeyNormal ops false false k) (hlen : ∀ t, showKey ops k = some t → t.length ≥ 4) :
    DescNormal ops ⟨none, sh, false, some k, wpkh, false, .empty⟩ := by
  cases sh <;> cases wpkh
  · exact .keyForm .pkh k hk hlen
  · exact .keyForm .wpkh k hk hlen
  · cases hf rfl
  · exact .keyForm .shwpkh k hk hlen

/-- MAIN (`Descriptor.read_from`): the object is a normal descriptor, it has one of the seven shapes, and every
    element of `Descriptor.keys` came out of `Key.read_from` -/
theorem readFrom_read (ops : KeyOps K) (P : KeyExpr K → Prop) (hP : ReadKeyInv ops P) (fuel : Nat) (s s' : Stream)
    (d : Desc K) (h : Desc.readFrom ops fuel s = some (d, s')) :
    (KeyCodec ops → DescNormal ops d) ∧ ParsedShape d ∧ ∀ k ∈ d.keys, P k := by
  have single : ∀ (key : KeyExpr K) (sh wpkh : Bool), P key →
      ∀ k ∈ (⟨none, sh, false, some key, wpkh, false, .empty⟩ : Desc K).keys, P k := by
    intro key sh wpkh hk k hmem
    simp only [Desc.keys, TapTree.truthy, Bool.false_eq_true, if_false, List.mem_singleton] at hmem
    subst hmem
    exact hk
  have msk : ∀ (ms : DMs K) (sh wsh : Bool), (∀ k ∈ ms.keys, P k) →
      ∀ k ∈ (⟨some ms, sh, wsh, none, false, false, .empty⟩ : Desc K).keys, P k := by
    intro ms sh wsh hk k hmem
    simp only [Desc.keys, TapTree.truthy, Bool.false_eq_true, if_false] at hmem
    exact hk k hmem
  unfold Desc.readFrom at h
  split at h
  · cases h
  · -- tr
    split at h
    · cases h
    · rename_i key s2 hk
      simp only [] at h
      split at h
      · cases h
      · rename_i tree s3 htt
        simp only [Option.map_eq_some_iff, Prod.mk.injEq] at h
        obtain ⟨s4, hclose, rfl, _⟩ := h
        refine ⟨fun hc => ?_, .tr key tree, ?_⟩
        · obtain ⟨hkn, hlen⟩ := readKey_normal ops hc true false _ _ key hk
          split at htt
          · -- with a tree
            rcases (readTapTree_read ops P hP _ _ _ _ htt).1 hc with ⟨_, he⟩ | hn
            · obtain ⟨b3, r3⟩ := s3
              simp only at he
              subst he
              simp [expectClose, expectChar, Stream.read1] at hclose
            · exact .trTree key tree hkn (hlen rfl) hn
          · simp only [Option.map_eq_some_iff, Prod.mk.injEq] at htt
            obtain ⟨_, _, rfl, _⟩ := htt
            exact .keyForm .tr key hkn (hlen rfl)
        · have htree : ∀ k ∈ tree.keys, P k := by
            split at htt
            · exact (readTapTree_read ops P hP _ _ _ _ htt).2
            · simp only [Option.map_eq_some_iff, Prod.mk.injEq] at htt
              obtain ⟨_, _, rfl, _⟩ := htt
              intro k hk'; simp [TapTree.keys] at hk'
          intro k hmem
          simp only [Desc.keys] at hmem
          split at hmem
          · simp only [List.mem_cons] at hmem
            rcases hmem with rfl | hmem
            · exact hP _ _ _ _ _ hk
            · exact htree k hmem
          · simp only [List.mem_singleton] at hmem
            subst hmem
            exact hP _ _ _ _ _ hk
  -- sh(wsh(M)), wsh(M), sh(M)
  iterate 3
    · split at h
      · cases h
      · rename_i ms s2 hm
        have hr := readMs_read ops P hP false _ _ _ _ hm
        split at h
        · cases h
        · split at h
          · rename_i hacc
            simp only [Option.some.injEq, Prod.mk.injEq] at h
            obtain ⟨rfl, _⟩ := h
            exact ⟨fun hc => .ofMs rfl (hr.1 hc) hacc, by constructor, msk ms _ _ hr.2⟩
          · cases h
  -- sh(wpkh(K)), wpkh(K), pkh(K)
  iterate 3
    · split at h
      · cases h
      · rename_i key s2 hk
        simp only [Option.map_eq_some_iff, Prod.mk.injEq] at h
        obtain ⟨_, _, rfl, _⟩ := h
        refine ⟨fun hc => ?_, by constructor, single key _ _ (hP _ _ _ _ _ hk)⟩
        obtain ⟨hkn, hlen⟩ := readKey_normal ops hc false false _ _ key hk
        exact .ofKey (by decide) hkn (hlen rfl)

theorem parse_read (ops : KeyOps K) (P : KeyExpr K → Prop) (hP : ReadKeyInv ops P) (t : Str) (d : Desc K)
    (h : Desc.parse ops t = some d) : (KeyCodec ops → DescNormal ops d) ∧ ParsedShape d ∧ ∀ k ∈ d.keys, P k := by
  unfold Desc.parse at h
  split at h
  · cases h
  · rename_i d' s hr
    have hn := readFrom_read ops P hP _ _ _ _ hr
    split at h
    · cases h; exact hn
    · split at h
      · cases h; exact hn
      · cases h

theorem parse_normal (ops : KeyOps K) (hc : KeyCodec ops) (t : Str) (d : Desc K) (h : Desc.parse ops t = some d) :
    DescNormal ops d :=
  (parse_read ops (fun _ => True) (fun _ _ _ _ _ _ => trivial) t d h).1 hc

theorem parse_print_parse (ops : KeyOps K) (hc : KeyCodec ops) (t : Str) (d : Desc K) (h : Desc.parse ops t = some d) :
    ∃ text, d.print ops = some text ∧ Desc.parse ops text = some d :=
  print_parse_all ops d (parse_normal ops hc t d h)

end Embit.Model.Descriptor
