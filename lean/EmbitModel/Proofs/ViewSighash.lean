import EmbitModel.Model.ViewSighash
/-
  C01X helpers: the view's streaming digests equal the `Transaction` digests of any transaction the view's
  accessors describe (`ViewObs`), and the list lemmas behind that.
-/
set_option linter.unusedSimpArgs false
set_option linter.unusedVariables false
namespace Embit
open Model

theorem optAll_range_getElem? {α : Type} : ∀ (l : List α),
    optAll ((List.range l.length).map (fun i => l[i]?)) = some l := by
  intro l
  induction l with
  | nil => rfl
  | cons a l ih =>
    rw [List.length_cons, List.range_succ_eq_map, List.map_cons, List.map_map]
    have : ((fun i => (a :: l)[i]?) ∘ Nat.succ) = fun i => l[i]? := by
      funext i; simp
    rw [this]
    simp [optAll, ih]

theorem optAll_range_congr {α : Type} (n : Nat) (f g : Nat → Option α) (h : ∀ i, f i = g i) :
    optAll ((List.range n).map f) = optAll ((List.range n).map g) := by
  have : f = g := funext h
  rw [this]

theorem optAll_getElem? {α β : Type} (f : α → Option β) : ∀ (l : List α) (l' : List β),
    optAll (l.map f) = some l' → l'.length = l.length ∧ ∀ i : Nat, l'[i]? = (l[i]?).bind f := by
  intro l
  induction l with
  | nil => intro l' h; simp [optAll] at h; subst h; simp
  | cons a l ih =>
    intro l' h
    simp only [List.map_cons] at h
    cases hfa : f a with
    | none => rw [hfa] at h; simp [optAll] at h
    | some b =>
      rw [hfa] at h
      simp only [optAll] at h
      cases hr : optAll (l.map f) with
      | none => rw [hr] at h; simp at h
      | some r =>
        rw [hr] at h; simp at h; subst h
        obtain ⟨e1, e2⟩ := ih r hr
        refine ⟨by simp [e1], ?_⟩
        intro i
        cases i with
        | zero => simp [hfa]
        | succ i => simpa using e2 i

theorem range_bind_eq_map {α β : Type} (f : α → Option β) (l : List α) :
    (List.range l.length).map (fun i => (l[i]?).bind f) = l.map f := by
  apply List.ext_getElem?
  intro i
  by_cases hi : i < l.length
  · simp [hi, List.getElem?_eq_getElem hi]
  · have : l.length ≤ i := by omega
    simp [hi, List.getElem?_eq_none this]

/-- what the view's accessors report is the transaction `t` -/
structure ViewObs (buf : Bytes) (v : View) (t : Tx) : Prop where
  numIn : v.numIn = t.vin.length
  numOut : v.numOut = t.vout.length
  vin : ∀ i, View.vin buf v i = t.vin[i]?
  vout : ∀ j, View.vout buf v j = t.vout[j]?
  locktime : View.getLocktime buf v = some t.locktime
  txVersion : View.getTxVersion buf v = some t.version

namespace ViewObs
variable {buf : Bytes} {v : View} {t : Tx}

theorem vins (o : ViewObs buf v t) : View.vins buf v = some t.vin := by
  unfold View.vins
  rw [o.numIn, optAll_range_congr _ _ _ o.vin]
  exact optAll_range_getElem? t.vin

theorem vouts (o : ViewObs buf v t) : View.vouts buf v = some t.vout := by
  unfold View.vouts
  rw [o.numOut, optAll_range_congr _ _ _ o.vout]
  exact optAll_range_getElem? t.vout

theorem hashPrevouts (o : ViewObs buf v t) (sha : Bytes → Bytes) :
    View.hashPrevouts sha buf v = some (sha (hashPrevoutsPre t)) := by
  simp [View.hashPrevouts, o.vins, hashPrevoutsPre]

theorem hashSequence (o : ViewObs buf v t) (sha : Bytes → Bytes) :
    View.hashSequence sha buf v = some (sha (hashSequencePre t)) := by
  simp [View.hashSequence, o.vins, hashSequencePre]

theorem hashOutputs (o : ViewObs buf v t) (sha : Bytes → Bytes) :
    View.hashOutputs sha buf v = some (sha (hashOutputsPre t)) := by
  simp [View.hashOutputs, o.vouts, hashOutputsPre]

end ViewObs

/-- the view's streaming legacy digest is the `Transaction.sighash_legacy` digest of the transaction it describes:
    every index, every flag (also invalid ones and out-of-range indices: both refuse) -/
theorem View.sighashLegacy_eq (sha : Bytes → Bytes) (buf : Bytes) (v : View) (t : Tx) (o : ViewObs buf v t)
    (idx : Nat) (sc : Bytes) (f : Nat) :
    View.sighashLegacy sha buf v idx sc f = sighashLegacy sha t idx sc f := by
  unfold View.sighashLegacy sighashLegacy
  rw [o.numIn, o.numOut, o.vins, o.vouts, o.vin idx, o.vout idx, o.txVersion, o.locktime]
  by_cases hi : idx ≥ t.vin.length
  · simp [hi]
  · simp only [hi, if_false]
    cases hc : sighashCheck f with
    | none => rfl
    | some r =>
      obtain ⟨sh0, acp⟩ := r
      simp only []
      generalize (if (sh0 == 0) = true then SIGHASH_ALL else sh0) = sh
      by_cases hS : (sh == SIGHASH_SINGLE && decide (idx ≥ t.vout.length)) = true
      · simp only [hS, if_true]
      · simp only [hS, if_false]
        generalize (if acp = true then _ else _ : Option Bytes) = ins
        generalize (if (sh == SIGHASH_NONE) = true then _ else _ : Option Bytes) = outs
        cases ins <;> cases outs <;> rfl

/-- the output BIP143 hashes under SINGLE: the view maps over an optional read, `Transaction` matches on it -/
theorem single_out {α β : Type} (c : Bool) (l : List α) (i : Nat) (F : α → β) (z : β) :
    (if (c && decide (i < l.length)) = true then (l[i]?).map F else some z)
      = some (if (c && decide (i < l.length)) = true then ((l[i]?).map F).getD z else z) := by
  by_cases h : i < l.length
  · cases c <;> simp [h, List.getElem?_eq_getElem h]
  · simp [h]

/-- the view's streaming BIP143 digest is `Transaction.sighash_segwit` of the transaction it describes -/
theorem View.sighashSegwit_eq (sha : Bytes → Bytes) (buf : Bytes) (v : View) (t : Tx) (o : ViewObs buf v t)
    (idx : Nat) (sc : Bytes) (value : Nat) (f : Nat) :
    View.sighashSegwit sha buf v idx sc value f = sighashSegwit sha t idx sc value f := by
  unfold View.sighashSegwit sighashSegwit
  rw [o.numIn, o.numOut, o.hashPrevouts, o.hashSequence, o.hashOutputs, o.vin idx, o.vout idx, o.txVersion,
    o.locktime]
  by_cases hi : idx ≥ t.vin.length
  · simp only [hi, if_true]
  · simp only [hi, if_false]
    cases hc : sighashCheck f with
    | none => rfl
    | some r =>
      obtain ⟨sh0, acp⟩ := r
      cases hv : t.vin[idx]? with
      | none => rfl
      | some inp =>
        -- each of the three optional hashes of the view is `some` of the hash `Transaction` computes
        simp only [Option.map_some, single_out, ← apply_ite some]
        cases t.vout[idx]? <;> rfl

/-- the view's streaming BIP341 digest is `Transaction.sighash_taproot` of the transaction it describes -/
theorem View.sighashTaproot_eq (sha : Bytes → Bytes) (buf : Bytes) (v : View) (t : Tx) (o : ViewObs buf v t)
    (idx : Nat) (spks : List Bytes) (values : List Nat) (f extFlag : Nat) (annex script : Option Bytes)
    (leafVer : Nat) (codesep : Option Nat) :
    View.sighashTaproot sha buf v idx spks values f extFlag annex script leafVer codesep
      = sighashTaproot sha t idx spks values f extFlag annex script leafVer codesep := by
  unfold View.sighashTaproot sighashTaproot
  rw [o.numIn, o.hashPrevouts, o.hashSequence, o.hashOutputs, o.vin idx, o.vout idx, o.txVersion, o.locktime]
  cases hc : sighashCheck f with
  | none => rfl
  | some r =>
    obtain ⟨sh, acp⟩ := r
    -- the view's optional `shas` / `outsH` are `some` of the two conditional parts of `common`
    simp only [← apply_ite some]
    generalize (if acp = true then
        (match t.vin[idx]?, values[idx]?, spks[idx]? with
          | some inp, some a, some spk => _
          | _, _, _ => none)
      else some (leN 4 idx) : Option Bytes) = thisIn
    generalize (if (sh == SIGHASH_SINGLE) = true then _ else some [] : Option Bytes) = single
    cases script with
    | none => cases thisIn <;> cases single <;> rfl
    | some s =>
      simp only []
      generalize (if leafVer ≥ 256 then none else some _ : Option Bytes) = ext
      cases thisIn <;> cases single <;> cases ext <;> rfl

/-- the utxo list the view's taproot branch collects through `input(idx)` is that of the PSBT it presents -/
theorem View.inputs_utxo (ko : KeyOps) (sha : Bytes → Bytes) (buf : Bytes) (v : View) (vc : Nat) (p : Psbt)
    (hn : v.numIn = p.inputs.length) (hin : ∀ i, View.input ko sha buf v i vc = p.inputs[i]?) :
    (List.range v.numIn).map (fun idx => (View.input ko sha buf v idx vc).bind InScope.utxo)
      = p.inputs.map InScope.utxo := by
  rw [hn, ← range_bind_eq_map InScope.utxo p.inputs]
  exact List.map_congr_left fun idx _ => by rw [hin idx]

/-- `PSBTView.sighash(i, …, input_scope=inp)` is `PSBT.sighash` of any PSBT `q` that holds `inp` as input `i`, has
    the transaction the view describes and the utxos the view's scopes carry: same dispatch, then streaming
    digest = in-memory digest -/
theorem View.sighashWith_eq_psbt (ko : KeyOps) (sha : Bytes → Bytes) (buf : Bytes) (v : View) (vc : Nat) (q : Psbt)
    (t : Tx) (o : ViewObs buf v t) (htx : q.tx = some t)
    (hut : (List.range v.numIn).map (fun idx => (View.input ko sha buf v idx vc).bind InScope.utxo)
      = q.inputs.map InScope.utxo)
    (i f : Nat) (x : TapExtra) (inp : InScope) (hi : q.inputs[i]? = some inp) :
    View.sighashWith ko sha buf v vc i f x inp = Psbt.sighash sha q i f x := by
  unfold View.sighashWith Psbt.sighash
  rw [hi, hut, htx]
  simp only []
  cases hu : inp.utxo with
  | none => rfl
  | some u =>
    simp only []
    rcases hd : inp.dispatch u with ⟨algo, sc⟩
    cases algo with
    | legacy => exact View.sighashLegacy_eq sha buf v t o i sc f
    | segwit => exact View.sighashSegwit_eq sha buf v t o i sc u.value f
    | taproot =>
      simp only []
      cases optAll (q.inputs.map InScope.utxo) with
      | none => rfl
      | some us => exact View.sighashTaproot_eq sha buf v t o i _ _ f _ _ _ _ _

/-- `PSBTView.sighash` equals `PSBT.sighash` whenever the view's scope objects are the PSBT's and its accessors
    describe the PSBT's transaction -/
theorem View.sighash_eq_psbt (ko : KeyOps) (sha : Bytes → Bytes) (buf : Bytes) (v : View) (vc : Nat) (p : Psbt)
    (t : Tx) (o : ViewObs buf v t) (htx : p.tx = some t) (hn : v.numIn = p.inputs.length)
    (hin : ∀ i, View.input ko sha buf v i vc = p.inputs[i]?) (i f : Nat) (x : TapExtra) :
    View.sighash ko sha buf v vc i f x = Psbt.sighash sha p i f x := by
  unfold View.sighash
  rw [hin i]
  cases hi : p.inputs[i]? with
  | none => simp only [Psbt.sighash, hi]
  | some inp =>
    exact View.sighashWith_eq_psbt ko sha buf v vc p t o htx (View.inputs_utxo ko sha buf v vc p hn hin) i f x inp hi

end Embit
