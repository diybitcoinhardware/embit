import EmbitModel.Proofs.Sign
import EmbitModel.Spec.LibsecpContract
/-
  Lemmas behind "model of py_secp256k1 = contract of the wrapped libsecp256k1 function" (`Props/C08`): how the
  argument classes of the contract (`seckey`, `pubkeyOf`, `pubkeyStruct`) relate to the checks of the model, the
  two formulations of the low-S rule, the model's DER serialiser as the X.690 encoder, and the verdict of
  `verify_ecdsa` on the model's own encoding.
-/
namespace Embit
open Embit.Model Embit.Model.Der Embit.Model.PySecp Embit.Spec.Der

variable (E : EcOps)

theorem rev_eq_leN (x : Bytes) (h : x.length = 32) : x.reverse = leN 32 (ofBe x) := by
  have := leN_ofLe x.reverse
  simp only [List.length_reverse, h] at this
  simp [ofBe, this]

theorem rev_eq_beN (x : Bytes) (h : x.length = 32) : x.reverse = beN 32 (ofLe x) := by
  have := leN_ofLe x
  rw [h] at this
  simp [beN, this]

theorem take32_len (c : Bytes) (h : c.length = 64) : (c.take 32).length = 32 := by simp; omega
theorem drop32_len (c : Bytes) (h : c.length = 64) : (c.drop 32).length = 32 := by simp; omega

/-- the contract's phrasing of "extra data of the wrong length" -/
theorem badExtra_iff (aux : Option Bytes) : (aux.map fun e => e.length != 32) = some true ↔ badExtra aux = true := by
  cases aux <;> simp [badExtra]

theorem seckey_eq (b : Bytes) (hl : b.length = 32) :
    Spec.Libsecp.seckey E b = if seckeyValid E (ofBe b) then some (ofBe b) else none := by
  unfold Spec.Libsecp.seckey seckeyValid
  by_cases h : 0 < ofBe b ∧ ofBe b < E.n
  · simp [hl, h]
  · simp only [hl, true_and, h, if_false]
    have : ¬ ((decide (0 < ofBe b) && decide (ofBe b < E.n)) = true) := by simpa using h
    simp [this]

theorem seckey_some (b : Bytes) (d : Nat) (h : Spec.Libsecp.seckey E b = some d) :
    b.length = 32 ∧ d = ofBe b ∧ 0 < d ∧ d < E.n := by
  unfold Spec.Libsecp.seckey at h
  split at h
  · rename_i hc
    cases h
    exact ⟨hc.1, rfl, hc.2.1, hc.2.2⟩
  · cases h

theorem seckey_none_of_len (b : Bytes) (hl : b.length ≠ 32) : Spec.Libsecp.seckey E b = none := by
  simp [Spec.Libsecp.seckey, hl]

theorem normalize_eq (n s : Nat) (hodd : n % 2 = 1) :
    (if s > n / 2 then n - s else s) = (if s ≤ (n - 1) / 2 then s else n - s) := by
  rw [show (n - 1) / 2 = n / 2 by omega]
  by_cases h : s ≤ n / 2
  · rw [if_neg (by omega), if_pos h]
  · rw [if_pos (by omega), if_neg h]

theorem eq_rec_convert (sig : Bytes) :
    ecdsaRecoverableSignatureConvert sig = Spec.Libsecp.ecdsa_recoverable_signature_convert sig := rfl

theorem ofBe_dropZeros (l : Bytes) : ofBe (l.dropWhile (· == 0)) = ofBe l := by
  induction l with
  | nil => rfl
  | cons a l ih =>
    by_cases h : a = 0
    · subst h; simp [ih, ofBe_cons]
    · simp [h]

theorem head_dropZeros (l : Bytes) (a : UInt8) (rest : Bytes) (h : l.dropWhile (· == 0) = a :: rest) : a ≠ 0 := by
  induction l with
  | nil => simp at h
  | cons b l ih =>
    by_cases hb : b = 0
    · subst hb; simp at h; exact ih h
    · simp [hb] at h
      rw [← h.1]; exact hb

theorem intContent_isDer (v : Nat) (hv : v < 2 ^ 264) : IsDerInt (intContent v) v := by
  have hval : ofBe (minBe v) = v := by
    unfold minBe; rw [ofBe_dropZeros]; apply ofBe_beN; rw [pow256]; exact hv
  unfold intContent
  match hm : minBe v with
  | [] =>
    rw [hm] at hval
    obtain rfl : 0 = v := hval
    exact ⟨by simp [ofBe, ofLe], by simp, by intro a ha; simp at ha; subst ha; simp,
      by intro a b _ hb; simp at hb⟩
  | a :: rest =>
    have ha := head_dropZeros _ a rest (by unfold minBe at hm; exact hm)
    rw [hm] at hval
    simp only []
    split
    · rename_i hge
      refine ⟨by rw [ofBe_cons]; simpa using hval, by simp, ?_, ?_⟩
      · intro x hx; simp at hx; subst hx; simp
      · intro x y hx hy _; simp at hx hy; subst hy; exact hge
    · rename_i hlt
      refine ⟨hval, by simp, ?_, ?_⟩
      · intro x hx; simp at hx; subst hx; omega
      · intro x y hx _ hx0; simp at hx; subst hx; exact absurd hx0 ha

theorem intContent_eq_derInt (v : Nat) (hv : v < 2 ^ 264) : intContent v = derInt v :=
  isDer_unique _ _ (intContent_isDer v hv)

theorem encode_eq_serRS (r s : Nat) (hr : r < 2 ^ 264) (hs : s < 2 ^ 264) : Spec.Der.encode r s = serRS r s := by
  unfold Spec.Der.encode serRS
  rw [intContent_eq_derInt r hr, intContent_eq_derInt s hs]
  simp

theorem ofLe_lt_256 (x : Bytes) (h : x.length = 32) : ofLe x < 2 ^ 256 := by
  have := ofLe_lt x; rw [h, pow256] at this; exact this

theorem pubStore_eq (P : E.Pt) : pubStore E P = Spec.Libsecp.pubkeyStruct E P := by
  unfold pubStore Spec.Libsecp.pubkeyStruct
  cases E.xy P with
  | none => rfl
  | some xy => rfl

theorem pubkeyStruct_eq_none (P : E.Pt) : Spec.Libsecp.pubkeyStruct E P = none ↔ E.xy P = none := by
  unfold Spec.Libsecp.pubkeyStruct
  exact Option.map_eq_none_iff

theorem pubLoad_eq (b : Bytes) (h : b.length = 64) : pubLoad E b = Spec.Libsecp.pubkeyOf E b := by
  unfold pubLoad Spec.Libsecp.pubkeyOf
  simp [h]

theorem pubkeyOf_none (b : Bytes) (h : b.length ≠ 64) : Spec.Libsecp.pubkeyOf E b = none := by
  simp [Spec.Libsecp.pubkeyOf, h]

theorem eq_pubkey_create (secret : Bytes) : ecPubkeyCreate E secret = Spec.Libsecp.ec_pubkey_create E secret := by
  unfold ecPubkeyCreate Spec.Libsecp.ec_pubkey_create
  by_cases hl : secret.length = 32
  · simp only [hl, ne_eq, not_true_eq_false, if_false, seckey_eq E secret hl, pubStore_eq]
    cases seckeyValid E (ofBe secret) <;> simp
  · simp [hl, seckey_none_of_len E secret hl]

/-- the DER detour inside `ecdsa_verify` (`serialize_der` then the strict parser of `verify_ecdsa`) only applies
    the range / low-S test -/
theorem parse_of_ser (n : Nat) (lowS : Bool) (r s : Nat) (hr : r < 2 ^ 256) (hs : s < 2 ^ 256) :
    Der.parse n lowS (serRS r s) = if rangeOk n lowS r s then some (r, s) else none := by
  unfold Der.parse
  rw [parseRS_serRS r s hr hs]

theorem verifyKey_eq_spec (hodd : E.n % 2 = 1) (P : E.Pt) (r s : Nat) (msg : Bytes)
    (hr : r < 2 ^ 256) (hs : s < 2 ^ 256) :
    verifyEcdsaKey E P (serRS r s) msg true = (Spec.Ecdsa.isLowS E s && Spec.Ecdsa.verify E P (ofBe msg) r s) := by
  unfold verifyEcdsaKey Spec.Ecdsa.isLowS Spec.Ecdsa.verify
  rw [parse_of_ser E.n true r s hr hs, show (E.n - 1) / 2 = E.n / 2 by omega]
  by_cases hok : rangeOk E.n true r s = true
  · have h := (rangeOk_iff E.n true r s).mp hok
    rw [if_pos hok, if_neg (by omega), decide_eq_true (h.2.2.2.2 rfl), Bool.true_and]
    dsimp only
    rw [Nat.mod_mul_mod]
    cases E.xy (E.add (E.mul (ofBe msg * E.invN s % E.n) E.g) (E.mul (r * E.invN s % E.n) P)) <;> rfl
  · have h := (rangeOk_iff E.n true r s).not.mp hok
    rw [if_neg hok]
    by_cases h1 : r < 1 ∨ r ≥ E.n ∨ s < 1 ∨ s ≥ E.n
    · rw [if_pos h1, Bool.and_false]
    · rw [decide_eq_false (fun hle => h ⟨by omega, by omega, by omega, by omega, fun _ => hle⟩), Bool.false_and]
end Embit
