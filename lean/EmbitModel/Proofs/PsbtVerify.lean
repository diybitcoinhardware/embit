import EmbitModel.Model.PsbtVerify
/-
  Helper lemmas for Props/C06X.lean: what one `InputScope.verify` call can do, and the loop of `PSBT.verify` scope by
  scope (index form).
-/
namespace Embit.Model

theorem InScope.verify_true_eq (sha : Bytes → Bytes) (s s' : InScope) (ign : Bool)
    (h : InScope.verify sha s ign = some (true, s')) : s' = { s with verified := true } := by
  unfold InScope.verify at h
  repeat' (split at h)
  all_goals (simp at h)
  all_goals (exact h.symm)

theorem InScope.verify_false_eq (sha : Bytes → Bytes) (s s' : InScope) (ign : Bool)
    (h : InScope.verify sha s ign = some (false, s')) : s' = s ∧ ign = true := by
  unfold InScope.verify at h
  repeat' (split at h)
  all_goals (simp at h)
  rename_i hi
  exact ⟨h.symm, hi⟩

/-- with previous-transaction data present `verify` never answers `False`: it answers `True` or raises -/
theorem InScope.verify_ok_of_prev (sha : Bytes → Bytes) (s s' : InScope) (ign ok : Bool)
    (hp : (s.nonWitnessUtxo.isSome || s.txhash.isSome) = true)
    (h : InScope.verify sha s ign = some (ok, s')) : ok = true := by
  unfold InScope.verify at h
  rw [if_pos hp] at h
  repeat' (split at h)
  all_goals (simp at h)
  all_goals (exact h.1)

theorem InScope.verify_strict (sha : Bytes → Bytes) (s s' : InScope) (ok : Bool)
    (h : InScope.verify sha s false = some (ok, s')) : ok = true := by
  cases ok with
  | true => rfl
  | false => exact absurd (InScope.verify_false_eq sha s s' false h).2 (by decide)

theorem InScope.verify_true_expected (sha : Bytes → Bytes) (s s' : InScope) (ign : Bool)
    (h : InScope.verify sha s ign = some (true, s')) :
    (s.nonWitnessUtxo.isSome || s.txhash.isSome) = true ∧ s.txid.isSome = true ∧ s.txid = s.expectedTxid sha := by
  unfold InScope.verify at h
  split at h
  · rename_i hp
    split at h
    · rename_i hc
      simp only [Bool.and_eq_true, beq_iff_eq] at hc
      exact ⟨hp, hc.1, hc.2⟩
    · simp at h
  · split at h <;> simp at h

theorem InScope.verify_mono (sha : Bytes → Bytes) (s s' : InScope) (ign ok : Bool)
    (h : InScope.verify sha s ign = some (ok, s')) : s.verified = true → s' = s := by
  intro hv
  cases ok with
  | true =>
    rw [InScope.verify_true_eq sha s s' ign h]
    cases s; simp_all
  | false => exact (InScope.verify_false_eq sha s s' ign h).1

theorem verifyLoop_done (sha : Bytes → Bytes) (ign : Bool) :
    ∀ (l l' : List InScope), verifyLoop sha ign l = (l', true) →
      l'.length = l.length ∧
      ∀ (i : Nat) (s : InScope), l[i]? = some s →
        ∃ ok s', InScope.verify sha s ign = some (ok, s') ∧ l'[i]? = some s' := by
  intro l
  induction l with
  | nil =>
    intro l' h
    simp [verifyLoop] at h
    subst h
    simp
  | cons a r ih =>
    intro l' h
    unfold verifyLoop at h
    cases hv : InScope.verify sha a ign with
    | none => simp [hv] at h
    | some x =>
      obtain ⟨ok, a'⟩ := x
      simp only [hv] at h
      cases hr : verifyLoop sha ign r with
      | mk r' d =>
        simp only [hr, Prod.mk.injEq] at h
        obtain ⟨rfl, rfl⟩ := h
        obtain ⟨hl, hi⟩ := ih r' hr
        refine ⟨by simp [hl], ?_⟩
        intro i s hs
        cases i with
        | zero =>
          simp at hs
          subst hs
          exact ⟨ok, a', hv, by simp⟩
        | succ j =>
          simp at hs
          obtain ⟨ok', s', h1, h2⟩ := hi j s hs
          exact ⟨ok', s', h1, by simpa using h2⟩

theorem verifyLoop_raise (sha : Bytes → Bytes) (ign : Bool) :
    ∀ (l l' : List InScope), verifyLoop sha ign l = (l', false) →
      l'.length = l.length ∧
      ∃ (k : Nat) (s : InScope), l[k]? = some s ∧ InScope.verify sha s ign = none ∧
        (∀ i, k ≤ i → l'[i]? = l[i]?) ∧
        (∀ (i : Nat) (t : InScope), i < k → l[i]? = some t →
          ∃ ok t', InScope.verify sha t ign = some (ok, t') ∧ l'[i]? = some t') := by
  intro l
  induction l with
  | nil =>
    intro l' h
    simp [verifyLoop] at h
  | cons a r ih =>
    intro l' h
    unfold verifyLoop at h
    cases hv : InScope.verify sha a ign with
    | none =>
      simp only [hv, Prod.mk.injEq] at h
      obtain ⟨rfl, -⟩ := h
      exact ⟨rfl, 0, a, by simp, hv, fun i _ => rfl, fun i t hi => absurd hi (Nat.not_lt_zero i)⟩
    | some x =>
      obtain ⟨ok, a'⟩ := x
      simp only [hv] at h
      cases hr : verifyLoop sha ign r with
      | mk r' d =>
        simp only [hr, Prod.mk.injEq] at h
        obtain ⟨rfl, rfl⟩ := h
        obtain ⟨hl, k, s, hk, hn, hge, hlt⟩ := ih r' hr
        refine ⟨by simp [hl], k + 1, s, by simpa using hk, hn, ?_, ?_⟩
        · intro i hi
          cases i with
          | zero => omega
          | succ j => simpa using hge j (by omega)
        · intro i t hi ht
          cases i with
          | zero =>
            simp at ht
            subst ht
            exact ⟨ok, a', hv, by simp⟩
          | succ j =>
            simp at ht
            obtain ⟨ok', t', h1, h2⟩ := hlt j t (by omega) ht
            exact ⟨ok', t', h1, by simpa using h2⟩

end Embit.Model
