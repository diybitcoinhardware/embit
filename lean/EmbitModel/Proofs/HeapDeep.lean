import EmbitModel.Model.HeapDeep
/-
  C19 — keyed memos whose keys are DEEP copies, under in-place edits of the caller's lists AND of the buffers in them:
  the memo invariant and its preservation.
-/
namespace Embit.HeapDeep

/-- every memo entry is keyed by a deep copy and holds the value of `f` on exactly those bytes -/
def MemoOk (env : Env) (st : State) : Prop :=
  ∀ i m key v, st.memo i m = some (key, v) → ∃ c, key = .deep c ∧ v = env.f m (st.recv i) c

theorem memoOk_init (env : Env) : MemoOk env init := by
  intro i m key v h; simp [init] at h

theorem keyKind_deep {env : Env} (hd : env.keysDeep = true) (m : Nat) : keyKind env m = .deep := by
  unfold keyKind
  cases hm : env.methods[m]? with
  | none => rfl
  | some k =>
    have hmem := List.mem_of_getElem? hm
    simp only [Env.keysDeep, List.all_eq_true] at hd
    have := hd _ hmem
    simpa using this

theorem mkKey_deep {env : Env} (hd : env.keysDeep = true) (st : State) (m k : Nat) :
    mkKey env st m k = .deep (deref st k) := by
  unfold mkKey; rw [keyKind_deep hd]

/-- the receiver of a memo entry found after an operation was left alone by it, and the entry was there before or is
    the one a query has just stored -/
theorem step_memo {env : Env} {st : State} {op : Op} {i m : Nat} {key : StoredKey} {v : Val}
    (h : (step env st op).memo i m = some (key, v)) :
    (step env st op).recv i = st.recv i ∧ (st.memo i m = some (key, v) ∨
      ∃ k, op = .query i m k ∧ k < st.nargs ∧ key = mkKey env st m k ∧ v = env.f m (st.recv i) (deref st k)) := by
  -- operations on the caller's side touch neither the memo table nor the receivers
  have caller : (step env st op).memo = st.memo → (step env st op).recv = st.recv →
      (step env st op).recv i = st.recv i ∧ (st.memo i m = some (key, v) ∨
        ∃ k, op = .query i m k ∧ k < st.nargs ∧ key = mkKey env st m k ∧ v = env.f m (st.recv i) (deref st k)) :=
    fun e1 e2 => ⟨by rw [e2], .inl (by rw [← e1]; exact h)⟩
  cases op with
  | newCell c => exact caller rfl rfl
  | editCell r c => apply caller <;> simp only [step] <;> split <;> rfl
  | newArg rs => apply caller <;> simp only [step] <;> split <;> rfl
  | editArg k rs => apply caller <;> simp only [step] <;> split <;> rfl
  | newObj c =>
    simp only [step] at h ⊢
    split at h
    · cases h
    · rename_i hi; exact ⟨if_neg hi, .inl h⟩
  | mutate j w =>
    by_cases hj : j < st.nobjs <;> simp only [step, hj, ↓reduceIte] at h ⊢
    · split at h
      · cases h
      · rename_i hi; exact ⟨if_neg hi, .inl h⟩
    · exact ⟨trivial, .inl h⟩
  | query j n k =>
    -- the query stores an entry unless the slot holds one whose key compares equal
    have hstep : step env st (.query j n k) = st ∨ (k < st.nargs ∧
        step env st (.query j n k) = setMemo st j n (mkKey env st n k, env.f n (st.recv j) (deref st k))) := by
      simp only [step]
      split
      · rename_i hjk
        split
        · split
          · exact .inl rfl
          · exact .inr ⟨hjk.2, rfl⟩
        · exact .inr ⟨hjk.2, rfl⟩
      · exact .inl rfl
    rcases hstep with e | ⟨hk, e⟩
    · rw [e] at h ⊢; exact ⟨rfl, .inl h⟩
    · rw [e] at h ⊢
      refine ⟨rfl, ?_⟩
      simp only [setMemo] at h
      split at h
      · rename_i him
        obtain ⟨rfl, rfl⟩ := him
        cases h
        exact .inr ⟨k, rfl, hk, rfl, rfl⟩
      · exact .inl h

theorem step_memoOk (env : Env) (hd : env.keysDeep = true) (st : State) (op : Op)
    (I : MemoOk env st) : MemoOk env (step env st op) := by
  intro i m key v h
  obtain ⟨hr, h' | ⟨k, rfl, _, rfl, rfl⟩⟩ := step_memo h
  · obtain ⟨c, rfl, rfl⟩ := I i m key v h'
    exact ⟨c, rfl, by rw [hr]⟩
  · exact ⟨deref st k, mkKey_deep hd st m k, by rw [hr]⟩

theorem run_memoOk (env : Env) (hd : env.keysDeep = true) (h : List Op) :
    ∀ st, MemoOk env st → MemoOk env (run env st h) := by
  induction h with
  | nil => intro st I; exact I
  | cons op ops ih => intro st I; exact ih _ (step_memoOk env hd st op I)

theorem answer_of_memoOk (env : Env) (st : State) (I : MemoOk env st) (i m k : Nat) :
    answer env st i m k = env.f m (st.recv i) (deref st k) := by
  unfold answer
  cases hmemo : st.memo i m with
  | none => rfl
  | some e =>
    obtain ⟨key, v⟩ := e
    simp only
    split
    · rename_i hit
      obtain ⟨c, rfl, rfl⟩ := I i m key v hmemo
      simp only [keyContent] at hit
      rw [hit]
    · rfl

/-! ### shallow (or deep) keys, histories without in-place edits of buffers -/

/-- keys are never the caller's list; a memo entry holds the value of `f` on what its key compares as NOW; the buffers a
    shallow key refers to, and the buffers the caller's lists refer to, exist -/
def MemoOkS (env : Env) (st : State) : Prop :=
  (∀ i m key v, st.memo i m = some (key, v) →
    v = env.f m (st.recv i) (keyContent st key) ∧ (∀ r, key ≠ .ref r) ∧ (∀ rs, key = .shallow rs → ∀ r ∈ rs, r < st.ncells))
  ∧ (∀ k, k < st.nargs → ∀ r ∈ st.args k, r < st.ncells)

theorem memoOkS_init (env : Env) : MemoOkS env init :=
  ⟨fun i m key v h => by simp [init] at h, fun k hk => by simp [init] at hk⟩

theorem keyKind_not_aliases {env : Env} (hn : env.noListAlias = true) (m : Nat) : keyKind env m ≠ .aliases := by
  unfold keyKind
  cases hm : env.methods[m]? with
  | none => simp
  | some k =>
    have hmem := List.mem_of_getElem? hm
    simp only [Env.noListAlias, List.all_eq_true] at hn
    have := hn _ hmem
    simpa using this

theorem keyContent_cells_irrel (st st' : State) (key : StoredKey) (hne : ∀ r, key ≠ .ref r)
    (hc : ∀ rs, key = .shallow rs → ∀ r ∈ rs, st'.cells r = st.cells r) :
    keyContent st' key = keyContent st key := by
  cases key with
  | deep c => rfl
  | shallow rs =>
    simp only [keyContent]
    exact List.map_congr_left (hc rs rfl)
  | ref r => exact absurd rfl (hne r)

theorem mkKey_okS {env : Env} (hn : env.noListAlias = true) (st : State) (m k : Nat)
    (hargs : ∀ r ∈ st.args k, r < st.ncells) :
    keyContent st (mkKey env st m k) = deref st k ∧ (∀ r, mkKey env st m k ≠ .ref r)
      ∧ (∀ rs, mkKey env st m k = .shallow rs → ∀ r ∈ rs, r < st.ncells) := by
  have hk := keyKind_not_aliases hn m
  unfold mkKey
  cases hkind : keyKind env m with
  | deep => dsimp only; exact ⟨rfl, fun r h => (by cases h), fun rs h => (by cases h)⟩
  | shallow =>
    refine ⟨rfl, fun r h => (by cases h), fun rs h r hr => ?_⟩
    cases h
    exact hargs r hr
  | aliases => exact absurd hkind hk

theorem step_cells {env : Env} {st : State} {op : Op} (hop : op.isCellEdit = false) :
    st.ncells ≤ (step env st op).ncells ∧ ∀ r, r < st.ncells → (step env st op).cells r = st.cells r := by
  cases op with
  | newCell c => exact ⟨Nat.le_succ _, fun r hr => if_neg (Nat.ne_of_lt hr)⟩
  | editCell r c => cases hop
  | newArg rs => simp only [step]; split <;> exact ⟨Nat.le_refl _, fun _ _ => rfl⟩
  | editArg k rs => simp only [step]; split <;> exact ⟨Nat.le_refl _, fun _ _ => rfl⟩
  | newObj c => exact ⟨Nat.le_refl _, fun _ _ => rfl⟩
  | mutate j w => simp only [step]; split <;> exact ⟨Nat.le_refl _, fun _ _ => rfl⟩
  | query j n k =>
    simp only [step]
    split
    · split
      · split <;> exact ⟨Nat.le_refl _, fun _ _ => rfl⟩
      · exact ⟨Nat.le_refl _, fun _ _ => rfl⟩
    · exact ⟨Nat.le_refl _, fun _ _ => rfl⟩

theorem step_args_bound {env : Env} {st : State} {op : Op}
    (I : ∀ k, k < st.nargs → ∀ r ∈ st.args k, r < st.ncells) :
    ∀ k, k < (step env st op).nargs → ∀ r ∈ (step env st op).args k, r < (step env st op).ncells := by
  cases op with
  | newCell c => exact fun k hk r hr => Nat.lt_succ_of_lt (I k hk r hr)
  | editCell r c => simp only [step]; split <;> exact I
  | newArg rs =>
    simp only [step]
    split
    · rename_i hrs
      intro k hk r hr
      simp only [List.all_eq_true, decide_eq_true_eq] at hrs
      dsimp only at hk hr ⊢
      split at hr
      · exact hrs r hr
      · exact I k (by omega) r hr
    · exact I
  | editArg k' rs =>
    simp only [step]
    split
    · rename_i hrs
      intro k hk r hr
      have := hrs.2
      simp only [List.all_eq_true, decide_eq_true_eq] at this
      dsimp only at hk hr ⊢
      split at hr
      · exact this r hr
      · exact I k hk r hr
    · exact I
  | newObj c => exact I
  | mutate j w => simp only [step]; split <;> exact I
  | query j n k =>
    simp only [step]
    split
    · split
      · split <;> exact I
      · exact I
    · exact I

theorem step_memoOkS (env : Env) (hn : env.noListAlias = true) (st : State) (op : Op) (hop : op.isCellEdit = false)
    (I : MemoOkS env st) : MemoOkS env (step env st op) := by
  obtain ⟨I1, I2⟩ := I
  obtain ⟨hle, hcells⟩ := step_cells (env := env) (st := st) hop
  refine ⟨fun i m key v h => ?_, step_args_bound I2⟩
  -- what a key that is not the caller's list compares as depends on existing buffers only
  have content : ∀ key, (∀ r, key ≠ .ref r) → (∀ rs, key = .shallow rs → ∀ r ∈ rs, r < st.ncells) →
      keyContent (step env st op) key = keyContent st key := fun key h2 h3 =>
    keyContent_cells_irrel _ _ key h2 fun rs hrs r hr => hcells r (h3 rs hrs r hr)
  obtain ⟨hr, h' | ⟨k, rfl, hk, rfl, rfl⟩⟩ := step_memo h
  · obtain ⟨h1, h2, h3⟩ := I1 i m key v h'
    exact ⟨by rw [h1, hr, content key h2 h3], h2, fun rs hrs r hr' => Nat.lt_of_lt_of_le (h3 rs hrs r hr') hle⟩
  · obtain ⟨e1, e2, e3⟩ := mkKey_okS hn st m k (I2 k hk)
    exact ⟨by rw [hr, content _ e2 e3, e1], e2, fun rs hrs r hr' => Nat.lt_of_lt_of_le (e3 rs hrs r hr') hle⟩

theorem run_memoOkS (env : Env) (hn : env.noListAlias = true) (h : List Op) :
    ∀ st, (h.all fun o => !o.isCellEdit) = true → MemoOkS env st → MemoOkS env (run env st h) := by
  induction h with
  | nil => intro st _ I; exact I
  | cons op ops ih =>
    intro st hs I
    simp only [List.all_cons, Bool.and_eq_true] at hs
    exact ih _ hs.2 (step_memoOkS env hn st op (by simpa using hs.1) I)

theorem answer_of_memoOkS (env : Env) (st : State) (I : MemoOkS env st) (i m k : Nat) :
    answer env st i m k = env.f m (st.recv i) (deref st k) := by
  unfold answer
  cases hmemo : st.memo i m with
  | none => rfl
  | some e =>
    obtain ⟨key, v⟩ := e
    simp only
    split
    · rename_i hit
      rw [(I.1 i m key v hmemo).1, hit]
    · rfl

end Embit.HeapDeep
