import EmbitModel.Model.Bip39
/-
  The rounds of the packing loop of `mnemonic_to_bytes` that occur with 11-bit words, one equation each; used by the
  value proofs (`Proofs/Bip39.lean`) and by the size and fuel proofs (`Proofs/CostMnemonic.lean`). Mathlib-free.
-/
namespace Embit.Model.Bip39

theorem packLoop_zero (fuel : Nat) (st : Pack) (index : Nat) : packLoop fuel st index 0 = some st := by
  cases fuel <;> simp [packLoop]

theorem packLoop_aligned_le (fuel : Nat) (seed : Bytes) (idx rem : Nat) (h0 : 0 < rem) (h8 : rem ≤ 8) :
    packLoop (fuel + 1) ⟨seed, 0⟩ idx rem = (baAppend seed (idx <<< (8 - rem))).map fun s => ⟨s, rem % 8⟩ := by
  rw [packLoop]
  by_cases h : rem = 8
  · subst h
    rw [Nat.sub_self, Nat.shiftLeft_zero]
    cases baAppend seed idx <;> simp [packLoop_zero]
  · have hlt : ¬ 8 < rem := by omega
    have hm : rem % 8 = rem := by omega
    cases baAppend seed (idx <<< (8 - rem)) <;> simp [packLoop_zero, *]

theorem packLoop_aligned_gt (fuel : Nat) (seed : Bytes) (idx rem : Nat) (h8 : 8 < rem) :
    packLoop (fuel + 1) ⟨seed, 0⟩ idx rem = (baAppend seed (idx >>> (rem - 8))).bind fun s =>
      packLoop fuel ⟨s, 0⟩ (idx &&& (1 <<< (rem - 8) - 1)) (rem - 8) := by
  rw [packLoop]
  have h0 : 0 < rem := by omega
  have h : ¬ rem = 8 := by omega
  simp [*]

theorem packLoop_unaligned (fuel : Nat) (seed : Bytes) (o idx rem : Nat) (ho : 0 < o) (h : 8 - o < rem) :
    packLoop (fuel + 1) ⟨seed, o⟩ idx rem = (baOrLast seed (idx >>> (rem - (8 - o)))).bind fun s =>
      packLoop fuel ⟨s, 0⟩ (idx &&& (1 <<< (rem - (8 - o)) - 1)) (rem - (8 - o)) := by
  rw [packLoop]
  have h0 : 0 < rem := by omega
  have h1 : ¬ rem = 8 - o := by omega
  have h2 : ¬ 8 - o = 8 := by omega
  simp [*]

end Embit.Model.Bip39
