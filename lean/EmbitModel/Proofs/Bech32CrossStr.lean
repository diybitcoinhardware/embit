import EmbitModel.Proofs.Bech32Cross
import EmbitModel.Proofs.AddressComplete
/-
  The cross-variant neighbour lifted to bech32 strings and to `address_to_scriptpubkey`.
-/
namespace Embit.Model.Bech32.Cross
open Embit Gf2 Detect

/-- the cross-variant neighbour of a string whose data part has 59 characters: the symbol values of the last 59
    characters XOR `crossPattern` (four characters change: the witness version `q`↔`p` and those at offsets
    45, 36, 16 from the end) -/
def neighbour (a : List Char) : List Char :=
  a.take (a.length - 59)
    ++ (xorW ((a.drop (a.length - 59)).map (fun c => (charVal c).getD 0)) crossPattern).map chr

theorem neighbour_text (hrp : List Char) (vals : List Nat) (hl : vals.length = 59) (hv : ∀ v ∈ vals, v < 32) :
    neighbour (hrp ++ '1' :: vals.map chr) = hrp ++ '1' :: (xorW vals crossPattern).map chr := by
  unfold neighbour
  have hlen : (hrp ++ '1' :: vals.map chr).length - 59 = (hrp ++ ['1']).length := by simp [hl]
  rw [hlen, List.append_cons hrp _ (vals.map chr), List.take_left, List.drop_left, List.map_map]
  have : vals.map ((fun c => (charVal c).getD 0) ∘ chr) = vals :=
    (List.map_congr_left fun d hd => by simp [(chr_props d (hv d hd)).1]).trans (List.map_id vals)
  rw [this]; simp

theorem charHamming_xorW (u p : List Nat) (hl : u.length = p.length) (hu : ∀ x ∈ u, x < 32)
    (hp : ∀ x ∈ p, x < 32) : charHamming (u.map chr) ((xorW u p).map chr) = weight p := by
  induction u generalizing p with
  | nil => cases p with
    | nil => rfl
    | cons _ _ => simp at hl
  | cons x xs ih =>
    cases p with
    | nil => simp at hl
    | cons y ys =>
      simp only [xorW, List.map_cons, charHamming, weight]
      rw [ih ys (by simpa using hl) (fun z hz => hu z (by simp [hz])) (fun z hz => hp z (by simp [hz]))]
      congr 1
      by_cases hy : y = 0
      · subst hy; simp
      · have hx32 := hu x (by simp)
        have hy32 := hp y (by simp)
        have hxy : x ^^^ y < 32 := Nat.xor_lt_two_pow (n := 5) hx32 hy32
        have hne : chr x ≠ chr (x ^^^ y) := by
          intro e
          have := chr_inj x (x ^^^ y) hx32 hxy e
          have h0 : x ^^^ (x ^^^ y) = 0 := by rw [← this, Nat.xor_self]
          rw [← Nat.xor_assoc, Nat.xor_self, Nat.zero_xor] at h0
          exact hy h0
        simp [hne, hy]

theorem neighbour_hamming (hrp : List Char) (vals : List Nat) (hl : vals.length = 59) (hv : ∀ v ∈ vals, v < 32) :
    (neighbour (hrp ++ '1' :: vals.map chr)).length = (hrp ++ '1' :: vals.map chr).length
    ∧ charHamming (hrp ++ '1' :: vals.map chr) (neighbour (hrp ++ '1' :: vals.map chr)) = 4 := by
  rw [neighbour_text hrp vals hl hv]
  refine ⟨by simp [xorW_length vals crossPattern (by rw [hl, crossPattern_length])], ?_⟩
  rw [List.append_cons hrp _ (vals.map chr), List.append_cons hrp _ ((xorW vals crossPattern).map chr), charHamming_prefix, charHamming_xorW vals crossPattern (by rw [hl, crossPattern_length]) hv crossPattern_lt]
  decide

theorem polymod_xor_crossPattern (hrp : List Char) (vals : List Nat) (hl : vals.length = 59) :
    polymod (hrpExpand hrp ++ xorW vals crossPattern) = polymod (hrpExpand hrp ++ vals) ^^^ crossT := by
  have hx := polymodFrom_xor 1 0 (hrpExpand hrp ++ vals) (List.replicate (hrpExpand hrp).length 0 ++ crossPattern)
    (by simp [hl, crossPattern_length])
  rwa [xorW_append _ _ _ _ (by simp), xorW_zeros_right, polymodFrom_append _ (List.replicate _ _),
    polymodFrom_zeros, crossPattern_syndrome, Nat.xor_zero] at hx

theorem const_xor (e e' : Encoding) (h : e ≠ e') : e.const ^^^ e'.const = crossT := by
  cases e <;> cases e' <;> first | exact absurd rfl h | decide

/-- strings: two strings of the same length with a 59-character data part that `bech32_decode` accepts with the
    same human-readable part but *different* checksum variants, whose first data symbols differ by XOR 1 and that
    differ in at most four characters: the second is (up to case) the neighbour of the first -/
theorem cross_strings (s s' : List Char) (e e' : Encoding) (h : List Char) (v v' : Nat) (d d' : List Nat)
    (hd : bech32Decode s = some (e, h, v :: d)) (hd' : bech32Decode s' = some (e', h, v' :: d'))
    (he : e ≠ e') (hvv : v ^^^ v' = 1) (hlen : s.length = s'.length) (hN : s.length = h.length + 60)
    (hham : charHamming s s' ≤ 4) : lower s' = neighbour (lower s) := by
  obtain ⟨vals, vals', h1, h1', h2, h2', hvl, hl, _, h4, h4', h5, h5', hh⟩ :=
    decoded_pair s s' e e' h _ _ 4 hd hd' hlen hham
  have hvl59 : vals.length = 59 := by omega
  have hhead : (xorW vals vals').head? = some 1 := by
    cases vals with
    | nil => simp at hvl59
    | cons x t =>
      cases vals' with
      | nil => simp at hvl
      | cons x' t' =>
        have e1 : x = v := by
          rw [hvl59] at h5; simp at h5; exact h5.1.symm
        have e2 : x' = v' := by
          rw [← hvl, hvl59] at h5'; simp at h5'; exact h5'.1.symm
        simp [xorW, e1, e2, hvv]
  have hw := cross_words 1 (hrpExpand h) vals vals' hvl59 (by rw [← hvl, hvl59]) h2 h2' hh hhead
    (by rw [h4, h4']; exact const_xor e e' he)
  rw [h1, h1', neighbour_text h vals hvl59 h2, ← hw, xorW_xorW vals vals' hvl]

end Embit.Model.Bech32.Cross

namespace Embit.Model.Address
open Embit Bech32 Bech32.Detect Bech32.Cross

/-- a string of the same length within four substitutions of a segwit address, with the same human-readable
    part and not equal to it up to case, that the segwit branch accepts, is valid for the *other* variant -/
theorem le4_other_variant (nets : List Network) (net : Network) (hn : NetOk net) (ver : Nat) (h : Bytes)
    (hv : ver ≤ 1) (hl : h.length = 20 ∨ h.length = 32) (s' : List Char) (sc : Bytes)
    (hlen : (segwitText net.bech32 ver (convOf h)).length = s'.length)
    (hham : charHamming (segwitText net.bech32 ver (convOf h)) s' ≤ 4)
    (hne : lower (segwitText net.bech32 ver (convOf h)) ≠ lower s')
    (hsplit : splitOne s' = net.bech32) (hb : bech32Branch true nets s' = some sc) :
    ∃ ver' prog data, ver' ≤ 1 ∧ ver' ≠ ver
      ∧ bech32Decode s' = some (encOf ver', net.bech32, ver' :: data)
      ∧ convertbits data 5 8 false = some prog ∧ (ver' = 1 → prog.length = 32) := by
  have hda := bech32Decode_segwitText net hn ver h hv hl
  obtain ⟨_, ver', prog, hdec, hvp, _⟩ := bech32Branch_yields nets s' sc hb
  rw [hsplit] at hdec
  obtain ⟨_, _, _, _, data, hbd, hcb⟩ := (decode_eq_some_iff _ s' ver' prog).mp hdec
  have hv' : ver' ≤ 1 := by rcases hvp with ⟨e, _⟩ | ⟨e, _⟩ <;> omega
  refine ⟨ver', prog, data, hv', ?_, hbd, hcb, ?_⟩
  · intro e
    rw [e] at hbd
    exact hne (detect_strings topCheck_W _ s' (encOf ver) net.bech32 _ _ hda hbd hlen hham)
  · intro e
    rcases hvp with ⟨e0, _⟩ | ⟨_, h32⟩
    · omega
    · exact h32

theorem le4_p2wpkh_none (nets : List Network) (net : Network) (hn : NetOk net) (h : Bytes)
    (hl : h.length = 20) (s' : List Char)
    (hlen : (segwitText net.bech32 0 (convOf h)).length = s'.length)
    (hham : charHamming (segwitText net.bech32 0 (convOf h)) s' ≤ 4)
    (hne : lower (segwitText net.bech32 0 (convOf h)) ≠ lower s')
    (hsplit : splitOne s' = net.bech32) : bech32Branch true nets s' = none := by
  cases hb : bech32Branch true nets s' with
  | none => rfl
  | some sc =>
    exfalso
    obtain ⟨ver', prog, data, hv', hnev, hbd, hcb, h32⟩ :=
      le4_other_variant nets net hn 0 h (by decide) (Or.inl hl) s' sc hlen hham hne hsplit hb
    have hver : ver' = 1 := by omega
    have hp32 := h32 hver
    obtain ⟨_, _, _, _, vals, h1, h2, _, _, h5⟩ := (bech32Decode_eq_some_iff s' _ _ _).mp hbd
    have hvl : vals.length = 39 := by
      have e := lower_length s'
      rw [h1, ← hlen, segwitText_length, convOf_length, hl] at e
      simp at e; omega
    have hdl : data.length = 32 := by
      have := congrArg List.length h5
      rw [hvl] at this; simp at this; omega
    have hd32 : ∀ x ∈ data, x < 32 := by
      intro x hx
      have : x ∈ ver' :: data := by simp [hx]
      rw [h5] at this
      exact h2 x (List.mem_of_mem_take this)
    obtain ⟨_, hle, _, _⟩ := convertbits_5_8_back data prog hd32 hcb
    omega

/-- 32-byte programs (p2wsh ↔ p2tr): an accepted neighbour is exactly `neighbour` of the address -/
theorem le4_cross_only (nets : List Network) (net : Network) (hn : NetOk net) (ver : Nat) (h : Bytes)
    (hv : ver ≤ 1) (hl : h.length = 32) (s' : List Char) (sc : Bytes)
    (hlen : (segwitText net.bech32 ver (convOf h)).length = s'.length)
    (hham : charHamming (segwitText net.bech32 ver (convOf h)) s' ≤ 4)
    (hne : lower (segwitText net.bech32 ver (convOf h)) ≠ lower s')
    (hsplit : splitOne s' = net.bech32) (hb : bech32Branch true nets s' = some sc) :
    lower s' = neighbour (segwitText net.bech32 ver (convOf h)) := by
  obtain ⟨ver', prog, data, hv', hnev, hbd, _, _⟩ :=
    le4_other_variant nets net hn ver h hv (Or.inr hl) s' sc hlen hham hne hsplit hb
  have hda := bech32Decode_segwitText net hn ver h hv (Or.inr hl)
  have henc : encOf ver ≠ encOf ver' := by
    unfold encOf
    have : ver = 0 ∧ ver' = 1 ∨ ver = 1 ∧ ver' = 0 := by omega
    rcases this with ⟨rfl, rfl⟩ | ⟨rfl, rfl⟩ <;> decide
  have hxor : ver ^^^ ver' = 1 := by
    have : ver = 0 ∧ ver' = 1 ∨ ver = 1 ∧ ver' = 0 := by omega
    rcases this with ⟨rfl, rfl⟩ | ⟨rfl, rfl⟩ <;> decide
  have hN : (segwitText net.bech32 ver (convOf h)).length = net.bech32.length + 60 := by
    rw [segwitText_length, convOf_length, hl]
  have := cross_strings _ s' _ _ net.bech32 ver ver' _ _ hda hbd henc hxor hlen hN hham
  rw [this, segwitText_lower net.bech32 ver _ hn.hrpOk (by omega) (convOf_lt h)]

/-- 5→8 regrouping only looks at the last symbol to decide whether the padding is acceptable -/
theorem convertbits_5_8_same_last (f f' : List Nat) (x : Nat) (hlen : f.length = f'.length)
    (hf : ∀ v ∈ f, v < 32) (hf' : ∀ v ∈ f', v < 32) (hx : x < 32) (prog : List Nat)
    (h : convertbits (f ++ [x]) 5 8 false = some prog) :
    ∃ prog', convertbits (f' ++ [x]) 5 8 false = some prog' := by
  have hd : ∀ v ∈ f ++ [x], v < 2 ^ 5 := List.forall_mem_append.mpr ⟨hf, List.forall_mem_singleton.mpr hx⟩
  have hd' : ∀ v ∈ f' ++ [x], v < 2 ^ 5 := List.forall_mem_append.mpr ⟨hf', List.forall_mem_singleton.mpr hx⟩
  obtain ⟨m, bits, hm, hb⟩ : ∃ m bits, 5 * (f ++ [x]).length = 8 * m + bits ∧ bits < 8 :=
    ⟨5 * (f ++ [x]).length / 8, 5 * (f ++ [x]).length % 8, by omega, by omega⟩
  have hm' : 5 * (f' ++ [x]).length = 8 * m + bits := by
    rw [← hm, List.length_append, List.length_append, hlen]
  -- fewer than five padding bits all lie in the last symbol
  have key : ∀ g : List Nat, bits < 5 → valOf 5 (g ++ [x]) % 2 ^ bits = x % 2 ^ bits := by
    intro g hb5
    have e : (2 : Nat) ^ 5 = 2 ^ bits * 2 ^ (5 - bits) := by rw [← Nat.pow_add]; congr 1; omega
    rw [valOf, Digits.ofBE_append, List.length_singleton, Nat.pow_one]
    conv => lhs; arg 1; arg 1; arg 2; rw [e]
    rw [Nat.mul_left_comm, Nat.mul_add_mod]
    simp [Digits.ofBE]
  rw [convertbits_strict 5 8 (by decide) (by decide) _ hd m bits hm hb] at h
  rw [convertbits_strict 5 8 (by decide) (by decide) _ hd' m bits hm' hb]
  split at h
  · exact absurd h (by simp)
  · rename_i hc
    obtain ⟨hb5, hz⟩ := not_or.mp hc
    have hb5' : bits < 5 := by omega
    exact ⟨_, if_neg (not_or.mpr ⟨hb5, by rw [key f' hb5', ← key f hb5']; exact hz⟩)⟩

/-- `crossPattern` = version symbol, 51 program symbols, the last program symbol (untouched), the checksum
    (untouched) -/
def progPattern : List Nat := (crossPattern.drop 1).take 51

theorem crossPattern_split : crossPattern = 1 :: (progPattern ++ [0]) ++ [0, 0, 0, 0, 0, 0] := by decide

theorem progPattern_props : progPattern.length = 51 ∧ ∀ x ∈ progPattern, x < 32 := by decide

theorem const_cross (ver : Nat) (hv : ver ≤ 1) : (encOf ver).const ^^^ crossT = (encOf (1 - ver)).const := by
  have : ver = 0 ∨ ver = 1 := by omega
  rcases this with rfl | rfl <;> decide

theorem xorW_zeros6 (c : List Nat) (h : c.length = 6) : xorW c [0, 0, 0, 0, 0, 0] = c := by
  have := xorW_zeros_right c
  rw [h] at this; exact this

/-- the 52 symbols of a 32-byte program with `progPattern` XOR-ed on are the symbols of another 32-byte program:
    the padding bits sit in the last symbol, which the pattern leaves alone -/
theorem convOf_xor_progPattern (h : Bytes) (hl : h.length = 32) :
    ∃ h' : Bytes, h'.length = 32 ∧ convOf h' = xorW (convOf h) (progPattern ++ [0]) := by
  obtain ⟨ppl, pp32⟩ := progPattern_props
  have hc32 := convOf_lt h
  have hclen : (convOf h).length = 52 := by rw [convOf_length, hl]
  have hback := convertbits_convOf_back h
  obtain ⟨cf, x, hcf⟩ : ∃ cf x, convOf h = cf ++ [x] :=
    ⟨_, _, (List.dropLast_concat_getLast (by intro e; rw [e] at hclen; simp at hclen)).symm⟩
  rw [hcf] at hc32 hclen hback ⊢
  have hcfl : cf.length = 51 := by simpa using hclen
  obtain ⟨hcf32, hx32⟩ := List.forall_mem_append.mp hc32
  have hcf'32 := xorW_lt cf progPattern hcf32 pp32
  have hcf'l : (xorW cf progPattern).length = 51 := by rw [xorW_length cf progPattern (by rw [hcfl, ppl]), hcfl]
  obtain ⟨prog', hp'⟩ := convertbits_5_8_same_last cf (xorW cf progPattern) x (by rw [hcfl, hcf'l]) hcf32 hcf'32
    (hx32 x (by simp)) _ hback
  obtain ⟨hp256, hle, hlt, hfwd⟩ := convertbits_5_8_back _ prog' (List.forall_mem_append.mpr ⟨hcf'32, hx32⟩) hp'
  refine ⟨prog'.map UInt8.ofNat, by simp [hcf'l] at hle hlt ⊢; omega, ?_⟩
  rw [xorW_append cf [x] progPattern [0] (by rw [hcfl, ppl])]
  unfold convOf
  rw [map_toNat_ofNat hp256, hfwd]
  simp [xorW]

/-- the neighbour of the address of a 32-byte v0/v1 program is the canonical address of a 32-byte program of the
    other version, and `address_to_scriptpubkey` accepts it -/
theorem neighbour_accepted (dsha : Bytes → Bytes) (nets : List Network) (net : Network) (hn : NetOk net)
    (hmem : net ∈ nets) (ver : Nat) (h : Bytes) (hv : ver ≤ 1) (hl : h.length = 32) :
    ∃ h' : Bytes, h'.length = 32
      ∧ neighbour (segwitText net.bech32 ver (convOf h)) = segwitText net.bech32 (1 - ver) (convOf h')
      ∧ toScript dsha nets (neighbour (segwitText net.bech32 ver (convOf h)))
          = some (some (UInt8.ofNat (if 1 - ver > 0 then 1 - ver + 0x50 else 1 - ver) :: UInt8.ofNat h'.length :: h')) := by
  obtain ⟨h', hh'l, hconv'⟩ := convOf_xor_progPattern h hl
  generalize hcks : createChecksum (encOf ver) net.bech32 (ver :: convOf h) = cks
  have hcksl : cks.length = 6 := hcks ▸ createChecksum_length _ _ _
  have hcks32 : ∀ v ∈ cks, v < 32 := hcks ▸ createChecksum_lt _ _ _
  have hvals32 : ∀ v ∈ (ver :: convOf h) ++ cks, v < 32 := hcks ▸ segwitVals_lt net.bech32 (by omega) (convOf_lt h)
  have hvalsl : ((ver :: convOf h) ++ cks).length = 59 := by simp [convOf_length, hl, hcksl]
  have hxv : ver ^^^ 1 = 1 - ver := by
    have : ver = 0 ∨ ver = 1 := by omega
    rcases this with rfl | rfl <;> decide
  -- the pattern: version symbol, program symbols, nothing on the checksum
  have hxw : xorW ((ver :: convOf h) ++ cks) crossPattern = ((1 - ver) :: convOf h') ++ cks := by
    rw [crossPattern_split, xorW_append (ver :: convOf h) cks (1 :: (progPattern ++ [0])) _
      (by simp [convOf_length, hl, progPattern_props.1]), xorW_zeros6 cks hcksl, hconv']
    simp only [xorW, hxv]
  -- so the old checksum symbols are the checksum of the other variant
  have hpm : polymod (hrpExpand net.bech32 ++ ((1 - ver) :: convOf h') ++ cks) = (encOf (1 - ver)).const := by
    rw [List.append_assoc, ← hxw, polymod_xor_crossPattern _ _ hvalsl, ← List.append_assoc, ← hcks,
      polymod_createChecksum]
    exact const_cross ver hv
  have hck := checksum_unique (encOf (1 - ver)) net.bech32 ((1 - ver) :: convOf h') cks hcks32 hcksl hpm
  have htext : neighbour (segwitText net.bech32 ver (convOf h)) = segwitText net.bech32 (1 - ver) (convOf h') := by
    rw [segwitText_eq, hcks, neighbour_text net.bech32 _ hvalsl hvals32, hxw, segwitText_eq, ← hck]
  refine ⟨h', hh'l, htext, ?_⟩
  rw [htext, toScript_long dsha nets _ (segwitText_long net _ h' (Or.inr hh'l)),
    bech32Branch_text nets net hn hmem (1 - ver) h' (by omega) (Or.inr hh'l) (fun _ => hh'l)]
  rfl

def std32 (ver : Nat) (h : Bytes) : Spec.Address.Std := if ver = 0 then .p2wsh h else .p2tr h

theorem std32_text (sha : Bytes → Bytes) (net : Network) (ver : Nat) (h : Bytes) (hv : ver ≤ 1) :
    Spec.Address.addressOf sha (paramsOf net) (std32 ver h) = segwitText net.bech32 ver (convOf h) := by
  have : ver = 0 ∨ ver = 1 := by omega
  rcases this with rfl | rfl
  · simp only [std32, if_true, Spec.Address.addressOf, paramsOf]; exact (segwitText_eq_spec _ 0 h (by decide)).symm
  · simp only [std32, Spec.Address.addressOf, paramsOf]; exact (segwitText_eq_spec _ 1 h (by decide)).symm

theorem std32_script (ver : Nat) (h : Bytes) (hv : ver ≤ 1) (hl : h.length = 32) :
    (std32 ver h).script = UInt8.ofNat (if ver > 0 then ver + 0x50 else ver) :: UInt8.ofNat h.length :: h := by
  have : ver = 0 ∨ ver = 1 := by omega
  rcases this with rfl | rfl <;> simp [std32, Spec.Address.Std.script, hl]

end Embit.Model.Address
