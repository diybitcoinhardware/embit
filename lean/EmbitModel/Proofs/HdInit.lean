import EmbitModel.Proofs.KeysBasic
/-
  The HDKey constructor: when it succeeds, what it returns, and the version test phrased on version bytes.
-/
namespace Embit.Keys
open Embit

variable {E : EcOps}

/-- "every 78-byte payload that starts with `ver` renders as `?t…`": the version bytes alone fix the characters
    `[1:4]` of the Base58Check text (true for every SLIP-132 version of the generated table, see
    `Proofs/Base58Prefix.lean`) -/
def VersionSays (env : Env) (ver : Bytes) (t : Text) : Prop :=
  ∀ rest : Bytes, rest.length = 74 → sub14 (env.b58enc (ver ++ rest)) = t

/-- an HD key holds a private key or a compressed public key (what `HDKey.__init__` insists on) -/
def KeyObj.Canon : KeyObj E → Prop
  | .priv k => k.compressed = true
  | .pub k => k.compressed = true

def kindText (isPrivate : Bool) : Text := if isPrivate then tPrv else tPub

theorem tPrv_ne_tPub : tPrv ≠ tPub := by decide

theorem serialize_length_canon (key : KeyObj E) (h : key.Canon) :
    key.serialize.length = if key.isPrivate then 32 else 33 := by
  cases key with
  | priv k => simp [KeyObj.serialize, PrivateKey.serialize, KeyObj.isPrivate]
  | pub k =>
    simp only [KeyObj.Canon] at h
    simp [KeyObj.serialize, PublicKey.sec, KeyObj.isPrivate, pubkeySerialize_length, h]

theorem serialize_split (k : HDKey E) (hc : k.key.Canon) (hcc : k.chainCode.length = 32)
    (hfp : k.fingerprint.length = 4) (hd : k.depth < 256) (hcn : k.childNumber < 2 ^ 32) :
    ∃ rest : Bytes, rest.length = 74 ∧ k.serialize = some (k.version ++ rest) := by
  refine ⟨[UInt8.ofNat k.depth] ++ k.fingerprint ++ beN 4 k.childNumber ++ k.chainCode
      ++ (if k.key.isPrivate then [0x00] else []) ++ k.key.serialize, ?_, ?_⟩
  · have := serialize_length_canon k.key hc
    cases hp : k.key.isPrivate <;> simp [hp] at this ⊢ <;> omega
  · simp [HDKey.serialize, hd, hcn]

/-- `serialize` answers only when depth and child number fit their fields (`bytes([depth])`, `to_bytes(4, "big")`) -/
theorem serialize_some_range {k : HDKey E} {b : Bytes} (h : k.serialize = some b) :
    k.depth < 256 ∧ k.childNumber < 2 ^ 32 := by
  unfold HDKey.serialize at h
  split at h
  · assumption
  · cases h

theorem init_iff (env : Env) (key : KeyObj E) (cc ver fp : Bytes) (depth cn : Nat) (k : HDKey E) :
    HDKey.init env key cc (some ver) depth fp cn = some k ↔
      (key.serialize.length = 32 ∨ key.serialize.length = 33) ∧ key.privUncompressed = false ∧
      k = ⟨key, cc, ver, depth, fp, cn⟩ ∧
      ∃ b, (⟨key, cc, ver, depth, fp, cn⟩ : HDKey E).serialize = some b ∧
        sub14 (env.b58enc b) = kindText key.isPrivate := by
  unfold HDKey.init HDKey.toBase58
  simp only [Option.getD_some]
  by_cases h1 : key.serialize.length ≠ 32 ∧ key.serialize.length ≠ 33
  · rw [if_pos h1]
    constructor
    · intro h; cases h
    · intro h; omega
  · rw [if_neg h1]
    cases h2 : key.privUncompressed
    · simp only [Bool.false_eq_true, if_false, true_and]
      cases hs : (⟨key, cc, ver, depth, fp, cn⟩ : HDKey E).serialize with
      | none => simp
      | some b =>
        have hl : key.serialize.length = 32 ∨ key.serialize.length = 33 := by omega
        cases hp : key.isPrivate
        · by_cases ht : sub14 (env.b58enc b) = tPub
          · simp [ht, kindText, tPrv_ne_tPub.symm, eq_comm]; intro _; omega
          · by_cases ht2 : sub14 (env.b58enc b) = tPrv
            · simp [ht2, kindText, tPrv_ne_tPub]
            · simp [ht, ht2, kindText]
        · by_cases ht : sub14 (env.b58enc b) = tPrv
          · simp [ht, kindText, tPrv_ne_tPub, eq_comm]; intro _; omega
          · by_cases ht2 : sub14 (env.b58enc b) = tPub
            · simp [ht2, kindText, tPrv_ne_tPub.symm]
            · simp [ht, ht2, kindText]
    · simp

theorem init_some (env : Env) (key : KeyObj E) (cc ver fp : Bytes) (depth cn : Nat)
    (hkey : key.Canon) (hcc : cc.length = 32) (hfp : fp.length = 4) (hd : depth < 256) (hcn : cn < 2 ^ 32)
    (hsays : VersionSays env ver (kindText key.isPrivate)) :
    HDKey.init env key cc (some ver) depth fp cn
      = some { key := key, chainCode := cc, version := ver, depth := depth, fingerprint := fp, childNumber := cn } := by
  have hlen := serialize_length_canon key hkey
  obtain ⟨rest, hrl, hser⟩ := serialize_split (E := E) ⟨key, cc, ver, depth, fp, cn⟩ hkey hcc hfp hd hcn
  rw [init_iff]
  refine ⟨by cases hp : key.isPrivate <;> simp [hp] at hlen <;> omega, ?_, rfl, _, hser, hsays rest hrl⟩
  cases key with
  | priv k => simp only [KeyObj.Canon] at hkey; simp [KeyObj.privUncompressed, hkey]
  | pub k => rfl

/-- the constructor refuses depth 256 and beyond: `bytes([depth])` raises -/
theorem init_depth_overflow (env : Env) (key : KeyObj E) (cc ver fp : Bytes) (depth cn : Nat) (hd : 256 ≤ depth) :
    HDKey.init env key cc (some ver) depth fp cn = none :=
  Option.eq_none_iff_forall_ne_some.mpr fun k h => by
    obtain ⟨_, _, _, b, hser, _⟩ := (init_iff env _ _ _ _ _ _ k).mp h
    simp only [HDKey.serialize] at hser
    rw [if_neg (by omega)] at hser
    cases hser

theorem init_fields (env : Env) (key : KeyObj E) (cc : Bytes) (ver : Bytes) (fp : Bytes)
    (depth cn : Nat) (k : HDKey E) (h : HDKey.init env key cc (some ver) depth fp cn = some k) :
    k = { key := key, chainCode := cc, version := ver, depth := depth, fingerprint := fp, childNumber := cn } :=
  ((init_iff env _ _ _ _ _ _ k).mp h).2.2.1

theorem toBase58_of_kind (env : Env) (k : HDKey E) (b : Bytes) (hs : k.serialize = some b)
    (ht : sub14 (env.b58enc b) = kindText k.key.isPrivate) : k.toBase58 env = some (env.b58enc b) := by
  unfold HDKey.toBase58
  rw [hs]
  cases hp : k.key.isPrivate
  · simp only [kindText, hp, Bool.false_eq_true, if_false] at ht
    simp [ht, tPrv_ne_tPub.symm]
  · simp only [kindText, hp, if_true] at ht
    simp [ht, tPrv_ne_tPub]

end Embit.Keys
