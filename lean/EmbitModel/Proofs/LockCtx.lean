import EmbitModel.Model.LockCtx
import EmbitModel.Proofs.LockFair
/-
  C20, finer machine — helper lemmas: the machine with context contents (`Model/LockCtx.lean`) is SIMULATED by the
  coarse machine (`Model/Lock.lean`) on the erased programs as long as the threads follow the discipline: lock, buffers,
  results and program counters coincide, and on top of that the context is consistent whenever no native call is in
  flight, and the one call in flight (its thread holds the lock) has read a first word that matches the second.
  All theorems about the coarse machine transfer.
-/
namespace Embit.Model.LockCtx
open Embit.Model.Lock

structure Sim (cs : CState) (s : State) : Prop where
  lock : cs.lock = s.lock
  mid : ∀ t, cs.mid t = s.mid t
  bufs : ∀ b, cs.bufs b = s.bufs b
  res : ∀ t, cs.res t = s.res t
  rest : ∀ t, (cs.rest t).map erase = s.rest t
  /-- the call in flight has seen a first word that matches the present second word; the first word of the context is
      already the writer's seed when the call is a writer -/
  rd : ∀ t, cs.mid t = true → cs.seen t = cs.ctxB ∧
        ∃ f w outs r, cs.rest t = .native f w outs :: r ∧ cs.ctxA = w.getD cs.ctxB
  /-- no call in flight: the context is consistent -/
  quiet : (∀ t, cs.mid t = false) → cs.ctxA = cs.ctxB

theorem sim_init (progs : Tid → List CStep) : Sim (cinit progs) (init (eraseProgs progs)) := by
  refine ⟨rfl, fun _ => rfl, fun _ => rfl, fun _ => rfl, fun _ => rfl, ?_, fun _ => rfl⟩
  intro t h; simp [cinit] at h

theorem mid_holder {progs : Tid → List Step} {s : State} {ls : Tid → Local} (I : Inv progs s ls) {t : Tid}
    (h : s.mid t = true) : s.lock = some t := (I.lock t).1 (I.mid t h).2.1

theorem map_erase_upd (cs : CState) (s : State) (t : Tid) (r : List CStep)
    (h : ∀ t, (cs.rest t).map erase = s.rest t) :
    ∀ t', (upd cs.rest t r t').map erase = upd s.rest t (r.map erase) t' := by
  intro t'
  by_cases ht : t' = t
  · subst ht; simp [upd_same]
  · simp [upd_other _ _ ht, h t']

/-- both machines drop the head of `t`'s program, which is not a native call, and change lock and results alike; the two
    context clauses are kept because the stepping thread is not in flight -/
theorem Sim.advance {cs : CState} {s : State} (S : Sim cs s) {t : Tid} {st : CStep} {r : List CStep}
    (hrest : cs.rest t = st :: r) (hst : ∀ f w o, st ≠ .native f w o) {l l' : Option Tid} (hl : l = l')
    {res res' : Tid → List Val} (hres : ∀ t, res t = res' t) :
    Sim { cs with lock := l, res := res, rest := upd cs.rest t r }
      { s with lock := l', res := res', rest := upd s.rest t (r.map erase) } := by
  refine ⟨hl, S.mid, S.bufs, hres, map_erase_upd cs s t r S.rest, fun t' hm => ?_, S.quiet⟩
  obtain ⟨h1, f, w, o, r', h2, h3⟩ := S.rd t' hm
  by_cases ht : t' = t
  · subst ht; rw [hrest] at h2; cases h2; exact absurd rfl (hst f w o)
  · exact ⟨h1, f, w, o, r', (upd_other _ _ ht).trans h2, h3⟩

theorem sim_step {progs : Tid → List Step} {cs : CState} {s : State} {ls : Tid → Local} (t : Tid)
    (S : Sim cs s) (I : Inv progs s ls) : Sim (cstep t cs) (step t s) := by
  have hr := S.rest t
  cases hrest : cs.rest t with
  | nil =>
    rw [hrest] at hr
    simpa only [cstep, step, hrest, ← hr, List.map_nil] using S
  | cons st r =>
    rw [hrest] at hr
    have hr' : s.rest t = erase st :: r.map erase := hr.symm
    cases st with
    | acquire =>
      cases hl : cs.lock with
      | some o =>
        have hl' : s.lock = some o := S.lock ▸ hl
        simpa only [cstep, step, hrest, hr', erase, hl, hl'] using S
      | none =>
        have hl' : s.lock = none := S.lock ▸ hl
        simp only [cstep, step, hrest, hr', erase, hl, hl']
        exact S.advance hrest nofun rfl S.res
    | release =>
      simp only [cstep, step, hrest, hr', erase]
      exact S.advance hrest nofun rfl S.res
    | copyOut b =>
      simp only [cstep, step, hrest, hr', erase]
      refine S.advance hrest nofun S.lock fun t' => ?_
      by_cases ht : t' = t
      · subst ht; simp [upd_same, S.res, S.bufs]
      · simp [upd_other _ _ ht, S.res]
    | «local» =>
      simp only [cstep, step, hrest, hr', erase]
      exact S.advance hrest nofun S.lock S.res
    | native f w outs =>
      cases hm : cs.mid t with
      | true =>
        -- exit: the call has seen matching words, its output is clean; a writer completes the context
        have hm' : s.mid t = true := by rw [← S.mid]; exact hm
        obtain ⟨hseen, f', w', o', r', h2, hA⟩ := S.rd t hm
        rw [hrest] at h2
        cases h2
        simp only [cstep, step, hrest, hr', erase, hm, hm', hseen, (I.mid t hm').1, if_true, beq_self_eq_true]
        have nomid : ∀ t', upd cs.mid t false t' = false := fun t' => by
          by_cases ht : t' = t
          · rw [ht, upd_same]
          · rw [upd_other _ _ ht, S.mid, mid_false_of_hold_none I t' (I.hold_none (.inr (mid_holder I hm')) ht)]
        refine ⟨S.lock, ?_, ?_, S.res, map_erase_upd cs s t r S.rest, ?_, ?_⟩
        · intro t'
          by_cases ht : t' = t
          · subst ht; simp [upd_same]
          · simp [upd_other _ _ ht, S.mid]
        · intro b; exact writeAll_congr true outs _ _ b (Or.inr (S.bufs b))
        · intro t' hmt
          have hmt' : upd cs.mid t false t' = true := hmt
          rw [nomid t'] at hmt'; cases hmt'
        · intro _; exact hA
      | false =>
        -- entry: nobody else is in flight (the caller holds the lock), so the context is consistent
        have hm' : s.mid t = false := by rw [← S.mid]; exact hm
        simp only [cstep, step, hrest, hr', erase, hm, hm', Bool.false_eq_true, if_false]
        have hhold : (ls t).hold.isSome = true := by
          have := I.safe t
          rw [hr'] at this
          cases hh : (ls t).hold with
          | none => rw [hh] at this; simp [safe, erase] at this
          | some ws => rfl
        have hlock : s.lock = some t := (I.lock t).1 hhold
        have allquiet : ∀ t', cs.mid t' = false := fun t' => by
          by_cases ht : t' = t
          · rw [ht, hm]
          · rw [S.mid, mid_false_of_hold_none I t' (I.hold_none (.inr hlock) ht)]
        have hAB : cs.ctxA = cs.ctxB := S.quiet allquiet
        refine ⟨S.lock, ?_, S.bufs, S.res, S.rest, ?_, ?_⟩
        · intro t'
          by_cases ht : t' = t
          · subst ht; simp [upd_same]
          · simp [upd_other _ _ ht, S.mid]
        · intro t' hmt
          by_cases ht : t' = t
          · subst ht
            exact ⟨by simp [upd_same, hAB], f, w, outs, r, hrest, by simp [hAB]⟩
          · have hmt' : upd cs.mid t true t' = true := hmt
            rw [upd_other _ _ ht, allquiet t'] at hmt'; cases hmt'
        · intro hq
          have : upd cs.mid t true t = false := hq t
          rw [upd_same] at this; cases this

theorem crun_cons (t : Tid) (r : List Tid) (s : CState) : crun (t :: r) s = crun r (cstep t s) := rfl

theorem crun_append (a b : List Tid) (s : CState) : crun (a ++ b) s = crun b (crun a s) := by
  simp [crun, List.foldl_append]

theorem sim_run {progs : Tid → List Step} (sched : List Tid) :
    ∀ {cs : CState} {s : State} {ls : Tid → Local}, Sim cs s → Inv progs s ls →
      Sim (crun sched cs) (run sched s) := by
  induction sched with
  | nil => intro cs s ls S _; exact S
  | cons t r ih =>
    intro cs s ls S I
    rw [crun_cons, run_cons]
    exact ih (sim_step t S I) (inv_step t I)

theorem sim_of_safe (progs : Tid → List CStep) (hs : ∀ t, csafe t (progs t) = true) (sched : List Tid) :
    Sim (crun sched (cinit progs)) (run sched (init (eraseProgs progs))) :=
  sim_run sched (sim_init progs) (inv_init (eraseProgs progs) hs)

/-! ### the executed part of a program is a prefix of it (no discipline needed) -/

theorem cstep_suffix (t t' : Tid) (cs : CState) : ∃ d, cs.rest t' = d ++ (cstep t cs).rest t' := by
  -- a tick leaves the programs alone or removes the head of `t`'s
  have h : (cstep t cs).rest = cs.rest ∨ ∃ st r, cs.rest t = st :: r ∧ (cstep t cs).rest = upd cs.rest t r := by
    unfold cstep
    split <;> (try split) <;> first | exact .inl rfl | exact .inr ⟨_, _, ‹_›, rfl⟩
  rcases h with h | ⟨st, r, h1, h2⟩
  · exact ⟨[], by rw [h]; rfl⟩
  · rw [h2]
    by_cases ht : t' = t
    · subst ht; exact ⟨[st], by rw [upd_same, h1]; rfl⟩
    · exact ⟨[], by rw [upd_other _ _ ht]; rfl⟩

theorem crun_suffix (sched : List Tid) : ∀ (cs : CState) (t' : Tid), ∃ d, cs.rest t' = d ++ (crun sched cs).rest t' := by
  induction sched with
  | nil => intro cs t'; exact ⟨[], rfl⟩
  | cons t r ih =>
    intro cs t'
    obtain ⟨d1, h1⟩ := cstep_suffix t t' cs
    obtain ⟨d2, h2⟩ := ih (cstep t cs) t'
    exact ⟨d1 ++ d2, by rw [crun_cons, List.append_assoc, ← h2, ← h1]⟩

theorem results_prefix_ctx (progs : Tid → List CStep) (hs : ∀ t, csafe t (progs t) = true) (sched : List Tid) (t : Tid) :
    ∃ pre, progs t = pre ++ (crun sched (cinit progs)).rest t ∧ (crun sched (cinit progs)).res t = csolo pre := by
  have S := sim_of_safe progs hs sched
  obtain ⟨pre, hpre⟩ := crun_suffix sched (cinit progs) t
  have hpre' : progs t = pre ++ (crun sched (cinit progs)).rest t := hpre
  obtain ⟨pre', h1, h2⟩ := results_prefix_aux (progs := eraseProgs progs) hs sched t
  refine ⟨pre, hpre', ?_⟩
  rw [S.res t, h2]
  have : (eraseProgs progs) t = pre.map erase ++ (run sched (init (eraseProgs progs))).rest t := by
    show (progs t).map erase = _
    rw [hpre', List.map_append, S.rest t]
  rw [h1] at this
  rw [List.append_cancel_right this]
  rfl

theorem ccomplete_iff (progs : Tid → List CStep) (hs : ∀ t, csafe t (progs t) = true) (sched : List Tid) :
    ccomplete (crun sched (cinit progs)) ↔ complete (run sched (init (eraseProgs progs))) := by
  have S := sim_of_safe progs hs sched
  constructor
  · intro h t; rw [← S.rest t, h t]; rfl
  · intro h t
    have := S.rest t
    rw [h t] at this
    exact List.map_eq_nil_iff.1 this

theorem rest_ne_nil_iff (progs : Tid → List CStep) (hs : ∀ t, csafe t (progs t) = true) (sched : List Tid) (t : Tid) :
    (run sched (init (eraseProgs progs))).rest t ≠ [] ↔ (crun sched (cinit progs)).rest t ≠ [] := by
  have S := sim_of_safe progs hs sched
  rw [← S.rest t]
  simp

/-! ### compiled programs: erasing the compiled fine program gives the compiled coarse program -/

theorem erase_compileStepC (t op : Nat) (st : AStep) : erase (compileStepC t op st) = compileStep t op st := by
  cases st <;> rfl

theorem erase_compileOpsC (t : Nat) (ops : List (List AStep)) :
    ∀ op, (compileOpsC t op ops).map erase = compileOps t op ops := by
  induction ops with
  | nil => intro _; rfl
  | cons f r ih =>
    intro op
    simp only [compileOpsC, compileOps, List.map_append, ih (op + 1), compile, List.map_map]
    congr 1
    apply List.map_congr_left
    intro st _
    exact erase_compileStepC t op st

theorem erase_progsOfC (threads : List (List (List AStep))) : eraseProgs (progsOfC threads) = progsOf threads := by
  funext t
  simp only [eraseProgs, progsOfC, progsOf]
  cases threads[t]? with
  | none => rfl
  | some ops => exact erase_compileOpsC t ops 0

end Embit.Model.LockCtx
