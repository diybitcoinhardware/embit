import EmbitModel.Proofs.PsbtLossless
import EmbitModel.Model.ViewWrite
/-
  C05Y helpers (1/2): the invariant `Canon` of scope objects that were read from bytes: every typed field re-encodes
  to something its own reader accepts, keys of the dict-valued fields are valid and pairwise different, `unknown`
  holds only keys no typed field is written under.
  `Canon` is kept by `read_value` (every reader mode), by `update` (merging another canonical scope) and by
  `clear_metadata`. It says nothing about the two attributes of the memory-saving reader (`_utxo`, `_txhash`), which
  are never written: `InScope.NoHidden` / `InScope.erase` track those.
-/
namespace Embit
open Model

/-- a key no typed input field is read from or written under -/
def UnkKeyIn (k : Bytes) : Prop := ∃ k0 kr, k = k0 :: kr ∧ typedIn k0 = false ∧ txFieldKey k = false

def DictOK {β : Type} (P : Bytes → β → Prop) (l : List (Bytes × β)) : Prop :=
  (∀ x ∈ l, P x.1 x.2) ∧ (l.map Prod.fst).Nodup

theorem DictOK.nil {β : Type} (P : Bytes → β → Prop) : DictOK P ([] : List (Bytes × β)) := by
  simp [DictOK]

theorem DictOK.snoc {β : Type} {P : Bytes → β → Prop} {l : List (Bytes × β)} (h : DictOK P l) (k : Bytes) (v : β)
    (hn : lookup k l = none) (hp : P k v) : DictOK P (l ++ [(k, v)]) := by
  refine ⟨?_, ?_⟩
  · intro x hx
    rcases List.mem_append.mp hx with hx | hx
    · exact h.1 x hx
    · simp at hx; subst hx; exact hp
  · exact nodup_snoc l k v h.2 hn

theorem mem_setKey {β : Type} (k : Bytes) (v : β) : ∀ (l : List (Bytes × β)) (x : Bytes × β),
    x ∈ setKey k v l → x = (k, v) ∨ x ∈ l := by
  intro l
  induction l with
  | nil => intro x hx; simp [setKey] at hx; exact Or.inl hx
  | cons y ys ih =>
    intro x hx
    obtain ⟨k', v'⟩ := y
    simp only [setKey] at hx
    split at hx
    · rename_i hk
      simp at hx
      rcases hx with hx | hx
      · left; rw [hx, hk]
      · right; simp [hx]
    · simp at hx
      rcases hx with hx | hx
      · right; simp [hx]
      · rcases ih x hx with e | e
        · exact Or.inl e
        · right; simp [e]

theorem keys_setKey {β : Type} (k : Bytes) (v : β) : ∀ (l : List (Bytes × β)),
    (setKey k v l).map Prod.fst = if k ∈ l.map Prod.fst then l.map Prod.fst else l.map Prod.fst ++ [k] := by
  intro l
  induction l with
  | nil => simp [setKey]
  | cons y ys ih =>
    obtain ⟨k', v'⟩ := y
    simp only [setKey]
    by_cases hk : k = k'
    · simp [hk]
    · simp only [hk, if_false, List.map_cons, ih]
      have : ¬ k' = k := fun e => hk e.symm
      by_cases hm : k ∈ ys.map Prod.fst
      · simp [hm]
      · simp [hm, hk]

theorem DictOK.setKey {β : Type} {P : Bytes → β → Prop} {l : List (Bytes × β)} (h : DictOK P l) (k : Bytes) (v : β)
    (hp : P k v) : DictOK P (setKey k v l) := by
  refine ⟨?_, ?_⟩
  · intro x hx
    rcases mem_setKey k v l x hx with e | e
    · subst e; exact hp
    · exact h.1 x e
  · rw [keys_setKey]
    split
    · exact h.2
    · rename_i hm
      rw [List.nodup_append]
      refine ⟨h.2, by simp, ?_⟩
      intro a ha b hb
      simp at hb
      intro e; rw [e, hb] at ha; exact hm ha

theorem DictOK.dictUpdate {β : Type} {P : Bytes → β → Prop} {a b : List (Bytes × β)} (ha : DictOK P a)
    (hb : ∀ x ∈ b, P x.1 x.2) : DictOK P (dictUpdate a b) := by
  unfold Model.dictUpdate
  induction b generalizing a with
  | nil => simpa using ha
  | cons x xs ih =>
    simp only [List.foldl_cons]
    exact ih (ha.setKey x.1 x.2 (hb x (by simp))) (fun y hy => hb y (by simp [hy]))

structure InScope.Canon (ko : KeyOps) (s : InScope) : Prop where
  nwu : ∀ t, s.nonWitnessUtxo = some t → Tx.parse (Tx.ser t) = some t ∧ (Tx.ser t).length < 2^64
  wu : ∀ o, s.witnessUtxo = some o → parseAll TxOut.read (TxOut.ser o) = some o ∧ (TxOut.ser o).length < 2^64
  verified : s.verified = false
  psigs : DictOK (fun k v => ko.validSec k = true ∧ k.length + 1 < 2^64 ∧ v.length < 2^64) s.partialSigs
  sighash : ∀ n, s.sighashType = some n → n < 2^32
  redeem : ∀ r, s.redeemScript = some r → r.length < 2^64
  witness : ∀ r, s.witnessScript = some r → r.length < 2^64
  bip32 : DictOK (fun k d => ko.validSec k = true ∧ k.length + 1 < 2^64 ∧ Deriv.parse (Deriv.ser d) = some d
            ∧ (Deriv.ser d).length < 2^64) s.bip32
  fss : ∀ r, s.finalScriptSig = some r → r.length < 2^64
  fw : ∀ w, s.finalWitness = some w → parseAll witnessRead (witnessSer w) = some w ∧ (witnessSer w).length < 2^64
  txid : ∀ t, s.txid = some t → t.length = 32
  vout : ∀ n, s.vout = some n → n < 2^32
  seq : ∀ n, s.sequence = some n → n < 2^32
  tapSigs : DictOK (fun k v => k.length = 64 ∧ ko.validX (k.take 32) = true ∧ v.length < 2^64) s.tapSigs
  tapScripts : DictOK (fun k v => k.length + 1 < 2^64 ∧ v.length < 2^64) s.tapScripts
  tapBip32 : DictOK (fun k x => k.length = 32 ∧ ko.validX k = true ∧ tapDerivParse (tapDerivSer x) = some x
            ∧ (tapDerivSer x).length < 2^64) s.tapBip32
  tik : ∀ k, s.tapInternalKey = some k → k.length = 32 ∧ ko.validX k = true
  tmr : ∀ r, s.tapMerkleRoot = some r → r.length < 2^64
  unk : DictOK (fun k v => UnkKeyIn k ∧ k.length < 2^64 ∧ v.length < 2^64) s.unknown

theorem forall_eq_some {α : Type} {P : α → Prop} {x : α} (h : P x) : ∀ t, some x = some t → P t :=
  fun _ e => Option.some.inj e ▸ h

/-- `read_value` keeps the invariant in every reader mode: a field that is set holds a value that was parsed from `v`,
    so it re-encodes to `v`, which its reader accepts and which fits a length prefix -/
theorem InScope.addPair_canon_mode (ko : KeyOps) (sha : Bytes → Bytes) (c : Nat) (s s' : InScope) (k v : Bytes)
    (hc : InScope.Canon ko s) (hw : KVWF (k, v)) (h : InScope.addPair ko sha c s k v = some s') :
    InScope.Canon ko s' := by
  obtain ⟨_, hkl, hvl⟩ := hw
  cases InScope.addPair_step h with
  | sep => exact hc
  | dropped => exact hc
  | utxoStreamed => exact { hc with }
  | nonWitnessUtxo _ _ _ hp =>
    exact { hc with nwu := forall_eq_some (by rw [Props.C03.reencode _ _ hp]; exact ⟨hp, hvl⟩) }
  | witnessUtxo _ hp => exact { hc with wu := forall_eq_some (by rw [parseAll_TxOut_ser hp]; exact ⟨hp, hvl⟩) }
  | partialSig _ hs hn => exact { hc with psigs := hc.psigs.snoc _ v hn ⟨hs, hkl, hvl⟩ }
  | sighashType _ hl => exact { hc with sighash := forall_eq_some (ofLe_lt32 hl) }
  | redeemScript => exact { hc with redeem := forall_eq_some hvl }
  | witnessScript => exact { hc with witness := forall_eq_some hvl }
  | bip32 hs hn hp =>
    exact { hc with bip32 := hc.bip32.snoc _ _ hn ⟨hs, hkl, by rw [Deriv.ser_parse hp]; exact ⟨hp, hvl⟩⟩ }
  | finalScriptSig => exact { hc with fss := forall_eq_some hvl }
  | finalWitness _ _ hp => exact { hc with fw := forall_eq_some (by rw [parseAll_witness_ser hp]; exact ⟨hp, hvl⟩) }
  | txid _ hl => exact { hc with txid := forall_eq_some (by simpa using hl) }
  | vout _ hl => exact { hc with vout := forall_eq_some (ofLe_lt32 hl) }
  | sequence _ hl => exact { hc with seq := forall_eq_some (ofLe_lt32 hl) }
  | tapSig hl hx hn => exact { hc with tapSigs := hc.tapSigs.snoc _ v hn ⟨hl, hx, hvl⟩ }
  | tapScript hn => exact { hc with tapScripts := hc.tapScripts.snoc _ v hn ⟨hkl, hvl⟩ }
  | tapBip32 hl hx hn hp =>
    exact { hc with tapBip32 := hc.tapBip32.snoc _ _ hn ⟨hl, hx, by rw [tapDeriv_ser_parse hp]; exact ⟨hp, hvl⟩⟩ }
  | tapInternalKey _ hl hx => exact { hc with tik := forall_eq_some ⟨hl, hx⟩ }
  | tapMerkleRoot => exact { hc with tmr := forall_eq_some hvl }
  | unknown h0 hx hn =>
    have hu : UnkKeyIn _ := ⟨_, _, rfl, typedIn_eq_false.mpr h0, txFieldKey_eq_false.mpr hx⟩
    exact { hc with unk := hc.unk.snoc _ v hn ⟨hu, hkl, hvl⟩ }

theorem InScope.addPairs_canon_mode (ko : KeyOps) (sha : Bytes → Bytes) (c : Nat) :
    ∀ (kvs : List KV) (s s' : InScope), InScope.Canon ko s → (∀ kv ∈ kvs, KVWF kv) →
      InScope.addPairs ko sha c s kvs = some s' → InScope.Canon ko s' :=
  fun _ _ _ hc hw => InScope.addPairs_invariant (fun hkv hc h => InScope.addPair_canon_mode ko sha c _ _ _ _ hc hkv h) hw hc

theorem InScope.addPairs_canon (ko : KeyOps) (sha : Bytes → Bytes) :
    ∀ (kvs : List KV) (s s' : InScope), InScope.Canon ko s → (∀ kv ∈ kvs, KVWF kv) →
      InScope.addPairs ko sha 0 s kvs = some s' → InScope.Canon ko s' :=
  InScope.addPairs_canon_mode ko sha 0

def InScope.NoHidden (s : InScope) : Prop := s.utxoS = none ∧ s.txhash = none

theorem InScope.erase_of_noHidden (s : InScope) (h : InScope.NoHidden s) : s.erase = s := by
  obtain ⟨h1, h2⟩ := h
  cases s; simp_all [InScope.erase]

theorem InScope.erase_canon (ko : KeyOps) (s : InScope) (h : InScope.Canon ko s) : InScope.Canon ko s.erase :=
  { h with }

theorem InScope.pairs_erase (ver : Option Nat) (s : InScope) : s.erase.pairs ver = s.pairs ver := rfl

theorem InScope.addPair_hidden0 (ko : KeyOps) (sha : Bytes → Bytes) (s s' : InScope) (k v : Bytes)
    (h : InScope.addPair ko sha 0 s k v = some s') : s'.utxoS = s.utxoS ∧ s'.txhash = s.txhash := by
  cases InScope.addPair_step h with
  | utxoStreamed hc => simp at hc
  | _ => exact ⟨rfl, rfl⟩

theorem InScope.addPairs_hidden0 (ko : KeyOps) (sha : Bytes → Bytes) :
    ∀ (kvs : List KV) (s s' : InScope), (∀ kv ∈ kvs, kv.1 ≠ []) → InScope.addPairs ko sha 0 s kvs = some s' →
      s'.utxoS = s.utxoS ∧ s'.txhash = s.txhash := by
  intro kvs s s' hne h
  refine InScope.addPairs_invariant (P := fun x => x.utxoS = s.utxoS ∧ x.txhash = s.txhash) ?_ hne ⟨rfl, rfl⟩ h
  intro s0 k v s1 _ hp h1
  obtain ⟨a1, a2⟩ := InScope.addPair_hidden0 ko sha s0 s1 k v h1
  exact ⟨a1.trans hp.1, a2.trans hp.2⟩

theorem orOpt_cases {α : Type} (t : α → Bool) (a b : Option α) (x : α) (h : orOpt t a b = some x) :
    a = some x ∨ b = some x := by
  unfold orOpt at h
  cases a with
  | none => exact Or.inr h
  | some y =>
    simp only [] at h
    split at h
    · exact Or.inl h
    · exact Or.inr h

theorem notNoneOr_cases {α : Type} (a b : Option α) (x : α) (h : notNoneOr a b = some x) :
    a = some x ∨ b = some x := by
  unfold notNoneOr at h
  cases a with
  | none => exact Or.inr h
  | some y => exact Or.inl h

theorem InScope.update_canon (ko : KeyOps) (s o : InScope) (hs : InScope.Canon ko s) (ho : InScope.Canon ko o) :
    InScope.Canon ko (s.update o) := by
  unfold InScope.update
  refine
    { nwu := fun t h => ?_, wu := fun t h => ?_, verified := hs.verified,
      psigs := hs.psigs.dictUpdate ho.psigs.1, sighash := fun t h => ?_, redeem := fun t h => ?_,
      witness := fun t h => ?_, bip32 := hs.bip32.dictUpdate ho.bip32.1, fss := fun t h => ?_, fw := fun t h => ?_,
      txid := fun t h => ?_, vout := fun t h => ?_, seq := fun t h => ?_,
      tapSigs := hs.tapSigs.dictUpdate ho.tapSigs.1, tapScripts := hs.tapScripts.dictUpdate ho.tapScripts.1,
      tapBip32 := hs.tapBip32.dictUpdate ho.tapBip32.1, tik := fun t h => ?_, tmr := fun t h => ?_,
      unk := hs.unk.dictUpdate ho.unk.1 }
  · rcases notNoneOr_cases _ _ _ h with e | e
    · exact ho.nwu t e
    · exact hs.nwu t e
  · rcases notNoneOr_cases _ _ _ h with e | e
    · exact ho.wu t e
    · exact hs.wu t e
  · rcases notNoneOr_cases _ _ _ h with e | e
    · exact ho.sighash t e
    · exact hs.sighash t e
  · rcases orOpt_cases _ _ _ _ h with e | e
    · exact ho.redeem t e
    · exact hs.redeem t e
  · rcases orOpt_cases _ _ _ _ h with e | e
    · exact ho.witness t e
    · exact hs.witness t e
  · rcases orOpt_cases _ _ _ _ h with e | e
    · exact ho.fss t e
    · exact hs.fss t e
  · rcases orOpt_cases _ _ _ _ h with e | e
    · exact ho.fw t e
    · exact hs.fw t e
  · rcases orOpt_cases _ _ _ _ h with e | e
    · exact ho.txid t e
    · exact hs.txid t e
  · rcases notNoneOr_cases _ _ _ h with e | e
    · exact ho.vout t e
    · exact hs.vout t e
  · rcases notNoneOr_cases _ _ _ h with e | e
    · exact ho.seq t e
    · exact hs.seq t e
  · rcases notNoneOr_cases _ _ _ h with e | e
    · exact ho.tik t e
    · exact hs.tik t e
  · rcases orOpt_cases _ _ _ _ h with e | e
    · exact ho.tmr t e
    · exact hs.tmr t e

theorem InScope.clearMetadata_canon (ko : KeyOps) (s : InScope) (c : Nat) (hs : InScope.Canon ko s) :
    InScope.Canon ko (s.clearMetadata c) := by
  unfold InScope.clearMetadata
  by_cases h0 : c = 0
  · simp only [h0, if_true]; exact hs
  · simp only [h0, if_false]
    by_cases h1 : c = 1
    · simp only [h1, if_true]
      exact { hs with nwu := fun t h => by simp at h, wu := fun t h => by simp at h,
                      sighash := fun t h => by simp at h, redeem := fun t h => by simp at h,
                      witness := fun t h => by simp at h, bip32 := DictOK.nil _, tapBip32 := DictOK.nil _,
                      tik := fun t h => by simp at h, tmr := fun t h => by simp at h,
                      tapScripts := DictOK.nil _, unk := DictOK.nil _ }
    · simp only [h1, if_false]
      have hn : ∀ t, (if s.witnessUtxo.isSome = true then none else s.nonWitnessUtxo) = some t →
          Tx.parse (Tx.ser t) = some t ∧ (Tx.ser t).length < 2^64 := by
        intro t h
        split at h
        · simp at h
        · exact hs.nwu t h
      exact { hs with nwu := hn, bip32 := DictOK.nil _, tapBip32 := DictOK.nil _,
                      tik := fun t h => by simp at h, tmr := fun t h => by simp at h,
                      tapScripts := DictOK.nil _, unk := DictOK.nil _ }

/-- the empty scope (what `InputScope()` starts from when it reads an extra stream) -/
theorem InScope.canon_empty (ko : KeyOps) : InScope.Canon ko {} := by
  constructor <;> simp [DictOK]

def UnkKeyOut (k : Bytes) : Prop := ∃ k0 kr, k = k0 :: kr ∧ typedOut k0 = false ∧ txFieldKeyOut k = false

structure OutScope.Canon (ko : KeyOps) (s : OutScope) : Prop where
  redeem : ∀ r, s.redeemScript = some r → r.length < 2^64
  witness : ∀ r, s.witnessScript = some r → r.length < 2^64
  bip32 : DictOK (fun k d => ko.validSec k = true ∧ k.length + 1 < 2^64 ∧ Deriv.parse (Deriv.ser d) = some d
            ∧ (Deriv.ser d).length < 2^64) s.bip32
  value : ∀ n, s.value = some n → n < 2^64
  spk : ∀ r, s.spk = some r → r.length < 2^64
  tik : ∀ k, s.tapInternalKey = some k → k.length = 32 ∧ ko.validX k = true
  tapBip32 : DictOK (fun k x => k.length = 32 ∧ ko.validX k = true ∧ tapDerivParse (tapDerivSer x) = some x
            ∧ (tapDerivSer x).length < 2^64) s.tapBip32
  unk : DictOK (fun k v => UnkKeyOut k ∧ k.length < 2^64 ∧ v.length < 2^64) s.unknown

theorem OutScope.addPair_canon (ko : KeyOps) (s s' : OutScope) (k v : Bytes)
    (hc : OutScope.Canon ko s) (hw : KVWF (k, v)) (h : OutScope.addPair ko s k v = some s') :
    OutScope.Canon ko s' := by
  obtain ⟨_, hkl, hvl⟩ := hw
  cases OutScope.addPair_step h with
  | sep => exact hc
  | redeemScript => exact { hc with redeem := forall_eq_some hvl }
  | witnessScript => exact { hc with witness := forall_eq_some hvl }
  | bip32 hs hn hp =>
    exact { hc with bip32 := hc.bip32.snoc _ _ hn ⟨hs, hkl, by rw [Deriv.ser_parse hp]; exact ⟨hp, hvl⟩⟩ }
  | value _ hl => exact { hc with value := forall_eq_some (ofLe_lt64 hl) }
  | spk => exact { hc with spk := forall_eq_some hvl }
  | tapInternalKey _ hl hx => exact { hc with tik := forall_eq_some ⟨hl, hx⟩ }
  | tapBip32 hl hx hn hp =>
    exact { hc with tapBip32 := hc.tapBip32.snoc _ _ hn ⟨hl, hx, by rw [tapDeriv_ser_parse hp]; exact ⟨hp, hvl⟩⟩ }
  | unknown h0 hx hn =>
    have hu : UnkKeyOut _ := ⟨_, _, rfl, typedOut_eq_false.mpr h0, txFieldKeyOut_eq_false.mpr hx⟩
    exact { hc with unk := hc.unk.snoc _ v hn ⟨hu, hkl, hvl⟩ }

theorem OutScope.addPairs_canon (ko : KeyOps) :
    ∀ (kvs : List KV) (s s' : OutScope), OutScope.Canon ko s → (∀ kv ∈ kvs, KVWF kv) →
      OutScope.addPairs ko s kvs = some s' → OutScope.Canon ko s' :=
  fun _ _ _ hc hw => OutScope.addPairs_invariant (fun hkv hc h => OutScope.addPair_canon ko _ _ _ _ hc hkv h) hw hc

theorem OutScope.update_canon (ko : KeyOps) (s o : OutScope) (hs : OutScope.Canon ko s) (ho : OutScope.Canon ko o) :
    OutScope.Canon ko (s.update o) := by
  unfold OutScope.update
  refine
    { redeem := fun t h => ?_, witness := fun t h => ?_, bip32 := hs.bip32.dictUpdate ho.bip32.1,
      value := fun t h => ?_, spk := fun t h => ?_, tik := fun t h => ?_,
      tapBip32 := hs.tapBip32.dictUpdate ho.tapBip32.1, unk := hs.unk.dictUpdate ho.unk.1 }
  · rcases orOpt_cases _ _ _ _ h with e | e
    · exact ho.redeem t e
    · exact hs.redeem t e
  · rcases orOpt_cases _ _ _ _ h with e | e
    · exact ho.witness t e
    · exact hs.witness t e
  · rcases notNoneOr_cases _ _ _ h with e | e
    · exact ho.value t e
    · exact hs.value t e
  · rcases orOpt_cases _ _ _ _ h with e | e
    · exact ho.spk t e
    · exact hs.spk t e
  · rcases notNoneOr_cases _ _ _ h with e | e
    · exact ho.tik t e
    · exact hs.tik t e

theorem OutScope.clearMetadata_canon (ko : KeyOps) (s : OutScope) (c : Nat) (hs : OutScope.Canon ko s) :
    OutScope.Canon ko (s.clearMetadata c) := by
  unfold OutScope.clearMetadata
  by_cases h0 : c = 0
  · simp only [h0, if_true]; exact hs
  · simp only [h0, if_false]
    exact { hs with redeem := fun t h => by simp at h, witness := fun t h => by simp at h,
                    bip32 := DictOK.nil _, tapBip32 := DictOK.nil _, tik := fun t h => by simp at h,
                    unk := DictOK.nil _ }

theorem OutScope.canon_empty (ko : KeyOps) : OutScope.Canon ko {} := by
  constructor <;> simp [DictOK]

end Embit
