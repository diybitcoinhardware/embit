import EmbitModel.Proofs.Slip39Groups
import EmbitModel.Proofs.Slip39EndToEnd
/-
  Recovery from ANY sufficient set, two-level and (as the case of 1-of-1 groups) one-level: shares taken from a two-level split (group shares by
  `split_secret(ems, GT, G)`, member shares by `split_secret(group share, T_i, N_i)`) recover `decrypt(ems)` as
  soon as at least GT groups are present and every present group has at least its member threshold of shares —
  exact sets and supersets alike.
-/
namespace Embit.Model.Slip39
open Embit Embit.Spec.Slip39

theorem mapOpt_of_forall {α β : Type} (f : α → Option β) (l : List α) (h : ∀ a ∈ l, ∃ b, f a = some b) :
    ∃ r, mapOpt f l = some r := by
  induction l with
  | nil => exact ⟨[], rfl⟩
  | cons a l ih =>
    obtain ⟨b, hb⟩ := h a List.mem_cons_self
    obtain ⟨r, hr⟩ := ih (fun a' ha' => h a' (List.mem_cons_of_mem _ ha'))
    exact ⟨b :: r, by simp only [mapOpt, hb, hr]⟩

theorem nodup_members (l : List Share) (h : (l.map fun s => (s.groupIndex, s.memberIndex)).Nodup) (gi : Nat) :
    ((l.filter fun s => s.groupIndex == gi).map (·.memberIndex)).Nodup := by
  have h1 : ((l.filter fun s => s.groupIndex == gi).map fun s => (s.groupIndex, s.memberIndex)).Nodup :=
    List.Nodup.sublist (List.Sublist.map _ List.filter_sublist) h
  have h2 : ((l.filter fun s => s.groupIndex == gi).map fun s => (s.groupIndex, s.memberIndex)) =
      ((l.filter fun s => s.groupIndex == gi).map (·.memberIndex)).map fun m => (gi, m) := by
    rw [List.map_map]
    apply List.map_congr_left
    intro s hs
    have := (List.mem_filter.mp hs).2
    simp only [beq_iff_eq] at this
    simp [this]
  rw [h2] at h1
  exact List.Nodup.of_map _ h1

theorem two_level_recover (P : Prims) (hH : ∀ key msg, 4 ≤ (P.hmac key msg).length)
    (ems : Bytes) (GT G : Nat) (tape0 : List Nat) (gsh : List (Nat × Bytes))
    (hg : splitSecret P ems GT G tape0 = some gsh)
    (Tof Nof : Nat → Nat) (tapeOf : Nat → List Nat) (msOf : Nat → List (Nat × Bytes))
    (hm : ∀ g ∈ gsh, splitSecret P g.2 (Tof g.1) (Nof g.1) (tapeOf g.1) = some (msOf g.1))
    (id e : Nat) (shares : List Share)
    (hsh : ∀ s ∈ shares, s.id = id ∧ s.exponent = e ∧ s.groupThreshold = GT ∧ s.groupCount = G ∧
        s.shareBitLength = 8 * ems.length ∧ s.groupIndex < G ∧ s.memberThreshold = Tof s.groupIndex ∧
        (s.memberIndex, s.bytes) ∈ msOf s.groupIndex)
    (hnd : (shares.map fun s => (s.groupIndex, s.memberIndex)).Nodup)
    (hfull : ∀ s ∈ shares, s.memberThreshold ≤ (shares.filter fun t => t.groupIndex == s.groupIndex).length)
    (D : List Nat) (hDnd : D.Nodup) (hD : ∀ d ∈ D, ∃ s ∈ shares, s.groupIndex = d) (hGT : GT ≤ D.length)
    (pass : Bytes) :
    (ShareSet.new? shares).bind (fun ss => ss.recover P pass) = decrypt P ems id e pass := by
  obtain ⟨hx, hGT1, hGTG, hG16, _, _, hk1⟩ := splitSecret_shape P hH ems GT G tape0 gsh hg
  have hgsh : ∀ i, i < G → ∃ v, (i, v) ∈ gsh := by
    intro i hi
    have : i ∈ gsh.map (·.1) := by rw [hx]; exact List.mem_range.mpr hi
    obtain ⟨d, hd, rfl⟩ := List.mem_map.mp this
    exact ⟨d.2, hd⟩
  cases shares with
  | nil =>
    exfalso
    cases D with
    | nil => simp at hGT; omega
    | cons d _ => obtain ⟨s, hs, _⟩ := hD d List.mem_cons_self; simp at hs
  | cons s0 rest =>
    have h0 := hsh s0 List.mem_cons_self
    have hnew : ShareSet.new? (s0 :: rest) = some ⟨s0 :: rest, id, e, GT, G, 8 * ems.length⟩ :=
      ShareSet.new?_eq_some _ (by simp) id e GT G _
        (fun s hs => ⟨(hsh s hs).1, (hsh s hs).2.1, (hsh s hs).2.2.1, (hsh s hs).2.2.2.1, (hsh s hs).2.2.2.2.1⟩) hGTG hnd
    rw [hnew, Option.bind_some]
    generalize hS : s0 :: rest = shares at *
    generalize hGIs : ((List.range G).filter fun i => shares.any fun s => s.groupIndex == i) = GIs
    have hGImem : ∀ gi, gi ∈ GIs ↔ gi < G ∧ ∃ s ∈ shares, s.groupIndex = gi := by
      intro gi
      rw [← hGIs, List.mem_filter, List.mem_range, List.any_eq_true]
      simp only [beq_iff_eq]
    -- every present group yields its group share
    have hgroup : ∀ gi ∈ GIs, ∃ d, groupData P (gi, shares.filter fun s => s.groupIndex == gi) = some d ∧
        d ∈ gsh ∧ d.1 = gi := by
      intro gi hgi
      obtain ⟨hgiG, s1, hs1, hs1g⟩ := (hGImem gi).mp hgi
      obtain ⟨v, hv⟩ := hgsh gi hgiG
      have hsplit := hm (gi, v) hv
      simp only at hsplit
      obtain ⟨_, hT1, _, _, _, _, hTk1⟩ := splitSecret_shape P hH v (Tof gi) (Nof gi) (tapeOf gi) (msOf gi) hsplit
      refine ⟨(gi, v), ?_, hv, rfl⟩
      have hin : s1 ∈ shares.filter (fun s => s.groupIndex == gi) := List.mem_filter.mpr ⟨hs1, by simp [hs1g]⟩
      have hgrp : ∀ s ∈ shares.filter (fun s => s.groupIndex == gi), s ∈ shares ∧ s.groupIndex = gi := by
        intro s hs
        have := List.mem_filter.mp hs
        exact ⟨this.1, by simpa using this.2⟩
      have hndm := nodup_members shares hnd gi
      cases hf : shares.filter (fun s => s.groupIndex == gi) with
      | nil => rw [hf] at hin; simp at hin
      | cons g0 grest =>
        rw [hf] at hgrp hndm
        have hg0 := hgrp g0 List.mem_cons_self
        have hmtall : ∀ s ∈ g0 :: grest, s.memberThreshold = Tof gi := by
          intro s hs; rw [(hsh s (hgrp s hs).1).2.2.2.2.2.2.1, (hgrp s hs).2]
        have hall : (g0 :: grest).all (fun s => s.memberThreshold == g0.memberThreshold) = true := by
          rw [List.all_eq_true]; intro s hs
          simp only [beq_iff_eq]; rw [hmtall s hs, hmtall g0 List.mem_cons_self]
        have hmem : ∀ s ∈ g0 :: grest, (s.memberIndex, s.bytes) ∈ msOf gi := by
          intro s hs
          have := (hsh s (hgrp s hs).1).2.2.2.2.2.2.2
          rwa [(hgrp s hs).2] at this
        by_cases h1 : Tof gi = 1
        · have hmt1 : g0.memberThreshold = 1 := by rw [hmtall g0 List.mem_cons_self, h1]
          have hall1 := hall
          rw [hmt1] at hall1
          have hb : g0.bytes = v := hTk1 h1 _ (hmem g0 List.mem_cons_self)
          simp only [groupData, recoverGroup, hmt1, hall1, Bool.not_true, Bool.false_eq_true, if_false, if_true, hb]
        · have hmtne : g0.memberThreshold ≠ 1 := by rw [hmtall g0 List.mem_cons_self]; exact h1
          have hlen : ¬ g0.memberThreshold > (g0 :: grest).length := by
            have := hfull g0 hg0.1
            rw [hg0.2, hf] at this
            omega
          have hrec : recoverSecret P ((g0 :: grest).map fun s => (s.memberIndex, s.bytes)) = some v := by
            apply recoverSecret_of_split P hH v (Tof gi) (Nof gi) (tapeOf gi) (msOf gi) hsplit (by omega)
            · intro t ht
              obtain ⟨s, hs, rfl⟩ := List.mem_map.mp ht
              exact hmem s hs
            · rw [List.map_map]; exact hndm
            · rw [List.length_map, ← hmtall g0 List.mem_cons_self]; omega
          simp only [groupData, recoverGroup, hall, Bool.not_true, Bool.false_eq_true, if_false, hmtne, hlen, hrec]
    obtain ⟨sd, hsd⟩ := mapOpt_of_forall _ GIs (fun gi hgi => by
      obtain ⟨d, hd, _⟩ := hgroup gi hgi; exact ⟨d, hd⟩)
    have hsd_mem : ∀ d ∈ sd, d ∈ gsh := by
      intro d hd
      obtain ⟨gi, hgi, hfa⟩ := mapOpt_mem _ _ _ hsd d hd
      obtain ⟨d', hd', hin, _⟩ := hgroup gi hgi
      rw [hfa] at hd'; simp only [Option.some.injEq] at hd'; rw [hd']; exact hin
    have hsd_fst : sd.map (·.1) = GIs := by
      apply mapOpt_fst _ _ _ hsd
      intro gi hgi b hb
      obtain ⟨d', hd', _, h1⟩ := hgroup gi hgi
      rw [hb] at hd'; simp only [Option.some.injEq] at hd'; rw [hd']; exact h1
    have hsd_len : GT ≤ sd.length := by
      rw [mapOpt_length _ _ _ hsd]
      have hsub : ∀ d ∈ D, d ∈ GIs := by
        intro d hd
        obtain ⟨s, hs, hsg⟩ := hD d hd
        exact (hGImem d).mpr ⟨by rw [← hsg]; exact (hsh s hs).2.2.2.2.2.1, s, hs, hsg⟩
      have := (List.subperm_of_subset hDnd hsub).length_le
      omega
    have hsd_nd : (sd.map (·.1)).Nodup := by
      rw [hsd_fst, ← hGIs]; exact List.Nodup.sublist List.filter_sublist List.nodup_range
    have hidx : (shares.any fun s => decide (s.groupIndex ≥ G)) = false := by
      rw [List.any_eq_false]
      intro s hs
      have := (hsh s hs).2.2.2.2.2.1
      simp only [decide_eq_true_eq]; omega
    unfold ShareSet.recover
    simp only [hidx, Bool.false_eq_true, if_false, gather_range, hGIs, hsd]
    by_cases hgt1 : GT = 1
    · simp only [hgt1, if_true]
      cases sd with
      | nil => simp at hsd_len; omega
      | cons d _ =>
        simp only
        rw [hk1 hgt1 d (hsd_mem d List.mem_cons_self)]
    · simp only [hgt1, if_false]
      rw [if_neg (by omega),
        recoverSecret_of_split P hH ems GT G tape0 gsh hg (by omega) sd hsd_mem hsd_nd hsd_len]

/-- **generate, then recover from any k or more of the n mnemonics**: `generate_shares` is the two-level scheme
    with every group split 1-of-1 (member index 0, member threshold 1) -/
theorem generate_recover (P : Prims) (hF : ∀ pw s it n, (P.pbkdf2 pw s it n).length = n)
    (hH : ∀ key msg, 4 ≤ (P.hmac key msg).length)
    (secret : Bytes) (k n : Nat) (pass : Bytes) (e : Nat) (tape : List Nat) (ms : List (List Nat))
    (hgen : generateShares P secret k n pass e tape = some ms)
    (hid : ∀ id rest, tape = id :: rest → id < 2 ^ 15) (he : e < 32)
    (sub : List (List Nat)) (hsub : ∀ m ∈ sub, m ∈ ms) (hnd : sub.Nodup) (hk : k ≤ sub.length) :
    recoverShares P sub pass = some secret := by
  obtain ⟨id, tape1, enc, data, rfl, hsz, henc, hdata, rfl, hinit⟩ :=
    generateShares_structure P secret k n pass e _ ms hgen
  have hid' : id < 2 ^ 15 := hid id tape1 rfl
  have hsne : secret ≠ [] := by intro h; rw [h] at hsz; simp at hsz
  obtain ⟨henclen, hdec⟩ := decrypt_encrypt P hF secret id e pass (by omega) hsne (by omega) enc henc
  obtain ⟨hx, hk1, hkn, hn, _, hlen, _⟩ := splitSecret_shape P hH enc k n tape1 data hdata
  have hxnd : (data.map (·.1)).Nodup := by rw [hx]; exact List.nodup_range
  -- the chosen mnemonics come from a list T of split entries, and parse back to the shares built from them
  obtain ⟨T, hT, rfl⟩ := preimage_list _ data sub hsub
  have hTx : (T.map (·.1)).Nodup :=
    List.Nodup.map_on (fun a ha b hb h => List.inj_on_of_nodup_map hxnd (hT a ha) (hT b hb) h) (List.Nodup.of_map _ hnd)
  have hparse : ∀ t ∈ T, Share.parse ((shareOf (secret.length * 8) id e k n t).mnemonic) =
      some (shareOf (secret.length * 8) id e k n t) := fun t ht =>
    share_text_roundtrip _ ⟨hinit t (hT t ht), hid', he, by simp only [shareOf]; omega, by simp only [shareOf]; omega⟩
  have hbytes : ∀ t ∈ T, (shareOf (secret.length * 8) id e k n t).bytes = t.2 := by
    intro t ht
    simp only [Share.bytes, shareOf]
    rw [show secret.length * 8 / 8 = t.2.length by rw [hlen t (hT t ht), henclen]; omega, beN_ofBe]
  -- group i is the 1-of-1 split of the i-th share of `split_secret`
  have htwo := two_level_recover P hH enc k n tape1 data hdata (fun _ => 1) (fun _ => 1) (fun _ => [])
    (fun i => (data.filter fun g => g.1 == i).map fun g => (0, g.2))
    (fun g hg => by
      rw [filter_fst_singleton data hxnd g hg, splitSecret_def,
        if_pos ⟨Nat.le_refl 1, Nat.le_refl 1, by decide, by rw [hlen g hg, henclen]; exact hsz⟩, if_pos rfl]
      rfl)
    id e (T.map (shareOf (secret.length * 8) id e k n))
    (fun s hs => by
      obtain ⟨t, ht, rfl⟩ := List.mem_map.mp hs
      have hlt : t.1 < n := by
        have : t.1 ∈ data.map (·.1) := List.mem_map_of_mem (hT t ht)
        rwa [hx, List.mem_range] at this
      refine ⟨rfl, rfl, rfl, rfl, by show secret.length * 8 = 8 * enc.length; omega, hlt, rfl, ?_⟩
      rw [hbytes t ht]
      show ((0 : Nat), t.2) ∈ (data.filter fun g => g.1 == t.1).map fun g => (0, g.2)
      rw [filter_fst_singleton data hxnd t (hT t ht)]
      exact List.mem_singleton.mpr rfl)
    (by
      rw [List.map_map]
      have := List.Nodup.map (f := fun i : Nat => (i, 0)) (fun a b h => by simpa using h) hTx
      rwa [List.map_map] at this)
    (fun s hs => by
      obtain ⟨t, ht, rfl⟩ := List.mem_map.mp hs
      exact List.length_pos_iff.mpr (List.ne_nil_of_mem (List.mem_filter.mpr ⟨hs, by simp⟩)))
    (T.map (·.1)) hTx
    (fun d hd => by
      obtain ⟨t, ht, rfl⟩ := List.mem_map.mp hd
      exact ⟨_, List.mem_map_of_mem ht, rfl⟩)
    (by simpa using hk) pass
  unfold recoverShares
  rw [mapM_map_some Share.parse _ _ T hparse]
  rw [hdec] at htwo
  show (match ShareSet.new? (T.map (shareOf (secret.length * 8) id e k n)) with
    | none => none
    | some ss => ss.recover P pass) = some secret
  cases hnew : ShareSet.new? (T.map (shareOf (secret.length * 8) id e k n)) with
  | none => rw [hnew] at htwo; simp at htwo
  | some ss => rw [hnew] at htwo; exact htwo

end Embit.Model.Slip39
