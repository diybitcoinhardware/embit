import EmbitModel.Spec.Bip39Spec
import EmbitModel.Proofs.BasicBytes
import EmbitModel.Proofs.BasicList
import EmbitModel.Proofs.DigitsBridge
import Mathlib.Tactic.Ring
import Mathlib.Tactic.IntervalCases
import Mathlib.Data.List.Induction
/-
  Bit-string lemmas for the BIP39 specification: `bitsOfNat`/`natOfBits` are mutually inverse, bytes ↔ bits,
  grouping. The positional facts are those of `Digits`, carried over by `bitsOfNat_eq` / `natOfBits_eq`.
-/
namespace Embit.Spec.Bip39
open Embit.Digits

@[simp] theorem bitsOfNat_length (w n : Nat) : (bitsOfNat w n).length = w := by
  rw [bitsOfNat_eq, List.length_map, fixedBE_length]

theorem bitsOfNat_append (a b x y : Nat) (hy : y < 2 ^ b) :
    bitsOfNat (a + b) (x * 2 ^ b + y) = bitsOfNat a x ++ bitsOfNat b y := by
  rw [bitsOfNat_eq, bitsOfNat_eq, bitsOfNat_eq, fixedBE_mul_add _ _ _ _ hy, List.map_append]

theorem bitsOfNat_split (a b x : Nat) : bitsOfNat (a + b) x = bitsOfNat a (x / 2 ^ b) ++ bitsOfNat b (x % 2 ^ b) := by
  rw [bitsOfNat_eq, bitsOfNat_eq, bitsOfNat_eq, fixedBE_add, fixedBE_mod, List.map_append]

theorem bitsOfNat_mod (w x : Nat) : bitsOfNat w (x % 2 ^ w) = bitsOfNat w x := by
  rw [bitsOfNat_eq, bitsOfNat_eq, fixedBE_mod]

theorem bitsOfNat_zero (w : Nat) : bitsOfNat w 0 = List.replicate w false := by
  induction w with
  | zero => rfl
  | succ w ih => simp [bitsOfNat, ih, List.replicate_succ']

theorem bitsOfNat_shift (a p x : Nat) :
    bitsOfNat (a + p) (x * 2 ^ p) = bitsOfNat a x ++ List.replicate p false := by
  rw [← bitsOfNat_zero, ← bitsOfNat_append a p x 0 (Nat.two_pow_pos p), Nat.add_zero]

theorem getElem?_bitsOfNat (w x j : Nat) (h : j < w) : (bitsOfNat w x)[j]? = some (x.testBit (w - 1 - j)) := by
  rw [bitsOfNat_eq_testBit, List.getElem?_map, List.getElem?_range h]; rfl

theorem natOfBits_append (a b : List Bool) :
    natOfBits (a ++ b) = natOfBits a * 2 ^ b.length + natOfBits b := by
  rw [natOfBits_eq, natOfBits_eq, natOfBits_eq, List.map_append, ofBE_append, List.length_map]

theorem natOfBits_lt (a : List Bool) : natOfBits a < 2 ^ a.length := by
  have := ofBE_lt (by decide : 0 < 2) _ (ofBit_lt a)
  rwa [List.length_map, ← natOfBits_eq] at this

theorem natOfBits_bitsOfNat (w n : Nat) (h : n < 2 ^ w) : natOfBits (bitsOfNat w n) = n := by
  rw [natOfBits_eq, bitsOfNat_eq, map_ofBit_toBit _ (fixedBE_lt (by decide) w n), ofBE_fixedBE, Nat.mod_eq_of_lt h]

theorem bitsOfNat_natOfBits (l : List Bool) : bitsOfNat l.length (natOfBits l) = l := by
  have := fixedBE_ofBE (by decide : 0 < 2) _ (ofBit_lt l)
  rw [List.length_map] at this
  rw [bitsOfNat_eq, natOfBits_eq, this, map_toBit_ofBit]

/-- regrouping: `k`-bit digits written out bit by bit are the bits of the number the digits spell -/
theorem flatMap_bitsOfNat (k : Nat) (ds : List Nat) (h : ∀ d ∈ ds, d < 2 ^ k) :
    ds.flatMap (bitsOfNat k) = bitsOfNat (k * ds.length) (ofBE (2 ^ k) ds) := by
  have := fixedBE_flatMap 2 k ds.length (ofBE (2 ^ k) ds)
  rw [fixedBE_ofBE (Nat.two_pow_pos k) ds h] at this
  rw [bitsOfNat_eq, ← this, List.map_flatMap]
  exact flatMap_congr_mem _ _ _ fun x _ => bitsOfNat_eq k x

theorem flatMap_bitsOfNat_length (k : Nat) (ds : List Nat) : (ds.flatMap (bitsOfNat k)).length = k * ds.length := by
  induction ds with
  | nil => rfl
  | cons d ds ih => rw [List.flatMap_cons, List.length_append, ih, bitsOfNat_length, List.length_cons, Nat.mul_succ, Nat.add_comm]

/-- and every bit string of length `k * m` is such an expansion, of the base-`2 ^ k` digits of its number -/
theorem bits_eq_flatMap (k m : Nat) (l : List Bool) (h : l.length = k * m) :
    l = (fixedBE (2 ^ k) m (natOfBits l)).flatMap (bitsOfNat k) := by
  rw [flatMap_bitsOfNat k _ (fixedBE_lt (Nat.two_pow_pos k) m _), fixedBE_length, ofBE_fixedBE, ← Nat.pow_mul,
    bitsOfNat_mod, ← h, bitsOfNat_natOfBits]

@[simp] theorem bytesToBits_nil : bytesToBits [] = [] := rfl

@[simp] theorem bytesToBits_cons (x : UInt8) (xs : Bytes) :
    bytesToBits (x :: xs) = bitsOfNat 8 x.toNat ++ bytesToBits xs := by
  simp [bytesToBits]

@[simp] theorem bytesToBits_append (a b : Bytes) : bytesToBits (a ++ b) = bytesToBits a ++ bytesToBits b := by
  simp [bytesToBits]

@[simp] theorem bytesToBits_length (b : Bytes) : (bytesToBits b).length = 8 * b.length := by
  induction b with
  | nil => rfl
  | cons x xs ih => simp [ih]; omega

theorem bytesToBits_take (b : Bytes) (m : Nat) : bytesToBits (b.take m) = (bytesToBits b).take (8 * m) := by
  induction b generalizing m with
  | nil => simp
  | cons x xs ih =>
    cases m with
    | zero => simp
    | succ m =>
      simp only [List.take_succ_cons, bytesToBits_cons, ih]
      have : 8 * (m + 1) = (bitsOfNat 8 x.toNat).length + 8 * m := by simp; omega
      rw [this, List.take_length_add_append]

theorem bytesToBits_drop (b : Bytes) (m : Nat) : bytesToBits (b.drop m) = (bytesToBits b).drop (8 * m) := by
  induction b generalizing m with
  | nil => simp
  | cons x xs ih =>
    cases m with
    | zero => simp
    | succ m =>
      simp only [List.drop_succ_cons, bytesToBits_cons, ih]
      have : 8 * (m + 1) = (bitsOfNat 8 x.toNat).length + 8 * m := by simp; omega
      rw [this, List.drop_length_add_append]

theorem ofBe_snoc (l : Bytes) (a : UInt8) : ofBe (l ++ [a]) = ofBe l * 256 + a.toNat := by
  simp [ofBe, ofLe]; ring

theorem bytesToBits_eq_bitsOfNat (b : Bytes) : bytesToBits b = bitsOfNat (8 * b.length) (ofBe b) := by
  have := flatMap_bitsOfNat 8 (b.map UInt8.toNat) fun v hv => by
    obtain ⟨x, _, rfl⟩ := List.mem_map.mp hv; exact x.toNat_lt
  rwa [List.flatMap_map, List.length_map, show (2 : Nat) ^ 8 = 256 from rfl, ← Model.Base58.ofBe_eq] at this

theorem groupsAux_fuel {α : Type} (n : Nat) (hn : 0 < n) (f : Nat) (l : List α) (h : l.length ≤ f) :
    groupsAux n f l = groupsAux n l.length l := by
  induction f using Nat.strongRecOn generalizing l with
  | _ f ih =>
    cases l with
    | nil => cases f <;> simp [groupsAux]
    | cons a as =>
      cases f with
      | zero => simp at h
      | succ f =>
        simp only [groupsAux, List.length_cons, List.isEmpty_cons, Bool.false_eq_true, if_false]
        congr 1
        have h1 : ((a :: as).drop n).length ≤ as.length := by simp; omega
        have h2 : ((a :: as).drop n).length ≤ f := by simp at h; omega
        rw [ih f (by omega) _ h2, ih as.length (by simp at h; omega) _ h1]

@[simp] theorem groups_nil {α : Type} (n : Nat) : groups n ([] : List α) = [] := rfl

theorem groups_append {α : Type} (n : Nat) (hn : 0 < n) (g rest : List α) (hg : g.length = n) :
    groups n (g ++ rest) = g :: groups n rest := by
  unfold groups
  cases g with
  | nil => simp at hg; omega
  | cons a as =>
    simp only [List.length_append, List.length_cons]
    have : as.length + 1 + rest.length = (as.length + rest.length) + 1 := by omega
    rw [this]
    simp only [groupsAux, List.cons_append, List.isEmpty_cons, Bool.false_eq_true, if_false]
    have t : (a :: (as ++ rest)).take n = a :: as := by
      rw [← List.cons_append, List.take_append_of_le_length (by simp [← hg])]
      simp [← hg]
    have d : (a :: (as ++ rest)).drop n = rest := by
      rw [← List.cons_append, ← hg]; simp
    rw [t, d, groupsAux_fuel n hn _ rest (by omega)]

theorem groups_eq_map_range {α : Type} (n : Nat) (hn : 0 < n) (k : Nat) (l : List α) (h : l.length = n * k) :
    groups n l = (List.range k).map fun i => (l.drop (n * i)).take n := by
  induction k generalizing l with
  | zero => simp at h; subst h; simp
  | succ k ih =>
    have hl : l = l.take n ++ l.drop n := (List.take_append_drop n l).symm
    have htl : (l.take n).length = n := by simp [h]; rw [Nat.mul_succ]; omega
    have hdl : (l.drop n).length = n * k := by simp [h]; rw [Nat.mul_succ]; omega
    rw [hl, groups_append n hn _ _ htl, ih _ hdl, List.range_succ_eq_map]
    simp only [List.map_cons, List.map_map, Nat.mul_zero, List.drop_zero]
    congr 1
    · rw [← hl]
    · apply List.map_congr_left
      intro i _
      simp only [Function.comp, Nat.succ_eq_add_one, List.drop_drop]
      rw [← hl]
      congr 2; ring

/-- chunking undoes `flatMap` of pieces of equal length -/
theorem groups_flatMap {α β : Type} (n : Nat) (hn : 0 < n) (f : α → List β) (l : List α)
    (h : ∀ a ∈ l, (f a).length = n) : groups n (l.flatMap f) = l.map f := by
  induction l with
  | nil => rfl
  | cons a as ih =>
    rw [List.flatMap_cons, groups_append n hn _ _ (h a (by simp)), ih (fun b hb => h b (by simp [hb])), List.map_cons]

theorem map_natOfBits_bitsOfNat (k : Nat) (ds : List Nat) (h : ∀ d ∈ ds, d < 2 ^ k) :
    (ds.map (bitsOfNat k)).map natOfBits = ds := by
  rw [List.map_map]; conv => rhs; rw [← List.map_id ds]
  exact List.map_congr_left fun d hd => natOfBits_bitsOfNat k d (h d hd)

/-- the bytes of a bit string are the big-endian bytes of the number it spells -/
theorem bitsToBytes_eq (m : Nat) (l : List Bool) (h : l.length = 8 * m) : bitsToBytes l = beN m (natOfBits l) := by
  have hd := fixedBE_lt (B := 2 ^ 8) (by decide) m (natOfBits l)
  rw [beN_eq]
  show _ = (fixedBE (2 ^ 8) m (natOfBits l)).map UInt8.ofNat
  rw [← map_natOfBits_bitsOfNat 8 _ hd, List.map_map,
    ← groups_flatMap 8 (by decide) _ _ (fun _ _ => bitsOfNat_length _ _), ← bits_eq_flatMap 8 m l h]
  rfl

theorem bitsToBytes_bytesToBits (b : Bytes) : bitsToBytes (bytesToBits b) = b := by
  rw [bitsToBytes_eq b.length _ (bytesToBits_length b), bytesToBits_eq_bitsOfNat,
    natOfBits_bitsOfNat _ _ (by rw [← pow256]; exact ofBe_lt b), beN_ofBe]

theorem bytesToBits_inj {a b : Bytes} (h : bytesToBits a = bytesToBits b) : a = b := by
  rw [← bitsToBytes_bytesToBits a, ← bitsToBytes_bytesToBits b, h]

theorem bytesToBits_bitsToBytes (m : Nat) (l : List Bool) (h : l.length = 8 * m) :
    bytesToBits (bitsToBytes l) = l ∧ (bitsToBytes l).length = m := by
  have hlt : natOfBits l < 256 ^ m := by rw [pow256, ← h]; exact natOfBits_lt l
  rw [bitsToBytes_eq m l h, bytesToBits_eq_bitsOfNat, beN_length, ofBe_beN m _ hlt, ← h, bitsOfNat_natOfBits]
  exact ⟨rfl, rfl⟩

/-- the word indices of an entropy are the base-2048 digits of the number its code bits spell -/
theorem encodeIdx_eq (H : Bytes → Bytes) (e : Bytes) (m : Nat) (hl : (codeBits H e).length = 11 * m) :
    encodeIdx H e = fixedBE 2048 m (natOfBits (codeBits H e)) := by
  have hd := fixedBE_lt (B := 2 ^ 11) (by decide) m (natOfBits (codeBits H e))
  rw [encodeIdx, bits_eq_flatMap 11 m _ hl, groups_flatMap 11 (by decide) _ _ (fun _ _ => bitsOfNat_length _ _),
    map_natOfBits_bitsOfNat 11 _ hd, ← bits_eq_flatMap 11 m _ hl]
  rfl

end Embit.Spec.Bip39
