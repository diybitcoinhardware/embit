import EmbitModel.Proofs.PsbtTop
/-
  C05 helper lemmas, the `PSBT.parse` side of the refinement (the view side is Proofs/ViewScan.lean): what a
  last-match-wins scan remembers about a key, the transaction fields of a scope in terms of its pairs, the global
  fold and `parse_unknowns` (the decomposition `PSBT.parse` performs is `parse_frame` in Proofs/PsbtTop.lean).
-/
set_option linter.unusedSimpArgs false
set_option linter.unusedVariables false
namespace Embit
open Model Spec.Wire

/-- value remembered for `key` after walking over `g` when every occurrence overwrites the previous one -/
def lastFold {α : Type} (key : Bytes) (f : Bytes → Option α) (a : Option α) (g : List KV) : Option α :=
  g.foldl (fun a kv => if kv.1 = key then f kv.2 else a) a

theorem lastFold_nil {α : Type} (key : Bytes) (f : Bytes → Option α) (a : Option α) :
    lastFold key f a [] = a := rfl

theorem lastFold_cons {α : Type} (key : Bytes) (f : Bytes → Option α) (a : Option α) (kv : KV) (g : List KV) :
    lastFold key f a (kv :: g) = lastFold key f (if kv.1 = key then f kv.2 else a) g := rfl

theorem lastFold_append {α : Type} (key : Bytes) (f : Bytes → Option α) (a : Option α) (g1 g2 : List KV) :
    lastFold key f a (g1 ++ g2) = lastFold key f (lastFold key f a g1) g2 := by
  simp [lastFold, List.foldl_append]

theorem lastFold_char {α : Type} (key : Bytes) (f : Bytes → Option α) (x : Option α) :
    ∀ (g : List KV) (a : Option α), (∀ kv ∈ g, kv.1 = key → f kv.2 = x) → ((∀ kv ∈ g, kv.1 ≠ key) → a = x) →
      lastFold key f a g = x := by
  intro g
  induction g with
  | nil => intro a _ h; exact h (by simp)
  | cons kv g ih =>
    intro a h1 h2
    rw [lastFold_cons]
    apply ih
    · intro x hx; exact h1 x (by simp [hx])
    · intro hno
      by_cases hk : kv.1 = key
      · simp only [hk, if_true]; exact h1 kv (by simp) hk
      · simp only [hk, if_false]
        apply h2
        intro y hy; simp at hy
        rcases hy with rfl | hy
        · exact hk
        · exact hno y hy

theorem lastFold_absent {α : Type} (key : Bytes) (f : Bytes → Option α) (a : Option α) (g : List KV)
    (h : ∀ kv ∈ g, kv.1 ≠ key) : lastFold key f a g = a :=
  lastFold_char key f a g a (fun kv hkv e => absurd e (h kv hkv)) (fun _ => rfl)

theorem lastFold_mem {α : Type} (key : Bytes) (f : Bytes → Option α) :
    ∀ (g : List KV) (a : Option α), lastFold key f a g = a ∨ ∃ kv ∈ g, kv.1 = key ∧ lastFold key f a g = f kv.2 := by
  intro g
  induction g with
  | nil => intro a; exact Or.inl rfl
  | cons kv g ih =>
    intro a
    rw [lastFold_cons]
    rcases ih (if kv.1 = key then f kv.2 else a) with h | ⟨x, hx, hk, he⟩
    · by_cases hk : kv.1 = key
      · simp only [hk, if_true] at h ⊢
        exact Or.inr ⟨kv, by simp, hk, h⟩
      · simp only [hk, if_false] at h ⊢
        exact Or.inl h
    · exact Or.inr ⟨x, by simp [hx], hk, he⟩

theorem lookup_mem {β : Type} (k : Bytes) : ∀ (l : List (Bytes × β)) (v : β), lookup k l = some v → (k, v) ∈ l := by
  intro l
  induction l with
  | nil => intro v h; simp [lookup] at h
  | cons x xs ih =>
    intro v h
    obtain ⟨k', v'⟩ := x
    by_cases hk : k = k'
    · subst hk; simp [lookup] at h; subst h; simp
    · simp [lookup, hk] at h; simp [ih v h]

theorem lookup_none_of {β : Type} (k : Bytes) (l : List (Bytes × β)) (h : ∀ p ∈ l, p.1 ≠ k) : lookup k l = none := by
  have := (lookup_none_iff k l).mpr h
  simpa using this

theorem lookup_none_not_mem {β : Type} (k : Bytes) (l : List (Bytes × β)) (h : lookup k l = none) :
    ∀ p ∈ l, p.1 ≠ k := (lookup_none_iff k l).mp (by simp [h])

/-- a field that is set by exactly one key, once: after a whole scope it is the seed's value, or (seed unset) the
    value stored under that key -/
theorem InScope.addPairs_field {α : Type} (ko : KeyOps) (sha : Bytes → Bytes) (c : Nat) (φ : InScope → Option α)
    (key : Bytes) (f : Bytes → α)
    (step : ∀ s s' k v, InScope.addPair ko sha c s k v = some s' →
      φ s' = (if k = key then some (f v) else φ s) ∧ (k = key → φ s = none)) :
    ∀ (kvs : List KV) (s s' : InScope), InScope.addPairs ko sha c s kvs = some s' →
      (φ s = none → φ s' = (lookup key kvs).map f) ∧ (∀ a, φ s = some a → φ s' = some a) := by
  intro kvs
  induction kvs with
  | nil => intro s s' h; simp [InScope.addPairs] at h; subst h; simp [lookup]
  | cons kv kvs ih =>
    intro s s' h
    obtain ⟨k, v⟩ := kv
    simp only [InScope.addPairs] at h
    split at h
    · simp at h
    · rename_i s1 h1
      obtain ⟨e1, e2⟩ := step s s1 k v h1
      obtain ⟨r1, r2⟩ := ih s1 s' h
      by_cases hk : k = key
      · simp only [hk, if_true] at e1
        refine ⟨fun _ => ?_, fun a ha => ?_⟩
        · rw [r2 _ e1]; simp [lookup, hk]
        · rw [e2 hk] at ha; simp at ha
      · simp only [hk, if_false] at e1
        have hk' : ¬ key = k := fun e => hk e.symm
        refine ⟨fun hn => ?_, fun a ha => ?_⟩
        · rw [r1 (by rw [e1]; exact hn)]; simp [lookup, hk']
        · exact r2 a (by rw [e1]; exact ha)

theorem OutScope.addPairs_field {α : Type} (ko : KeyOps) (φ : OutScope → Option α)
    (key : Bytes) (f : Bytes → α)
    (step : ∀ s s' k v, OutScope.addPair ko s k v = some s' →
      φ s' = (if k = key then some (f v) else φ s) ∧ (k = key → φ s = none)) :
    ∀ (kvs : List KV) (s s' : OutScope), OutScope.addPairs ko s kvs = some s' →
      (φ s = none → φ s' = (lookup key kvs).map f) ∧ (∀ a, φ s = some a → φ s' = some a) := by
  intro kvs
  induction kvs with
  | nil => intro s s' h; simp [OutScope.addPairs] at h; subst h; simp [lookup]
  | cons kv kvs ih =>
    intro s s' h
    obtain ⟨k, v⟩ := kv
    simp only [OutScope.addPairs] at h
    split at h
    · simp at h
    · rename_i s1 h1
      obtain ⟨e1, e2⟩ := step s s1 k v h1
      obtain ⟨r1, r2⟩ := ih s1 s' h
      by_cases hk : k = key
      · simp only [hk, if_true] at e1
        refine ⟨fun _ => ?_, fun a ha => ?_⟩
        · rw [r2 _ e1]; simp [lookup, hk]
        · rw [e2 hk] at ha; simp at ha
      · simp only [hk, if_false] at e1
        have hk' : ¬ key = k := fun e => hk e.symm
        refine ⟨fun hn => ?_, fun a ha => ?_⟩
        · rw [r1 (by rw [e1]; exact hn)]; simp [lookup, hk']
        · exact r2 a (by rw [e1]; exact ha)

/-- a value accepted under the sequence key has four bytes -/
theorem InScope.addPairs_seqlen (ko : KeyOps) (sha : Bytes → Bytes) (c : Nat) :
    ∀ (kvs : List KV) (s s' : InScope), InScope.addPairs ko sha c s kvs = some s' →
      ∀ v, ([0x10], v) ∈ kvs → v.length = 4 := by
  intro kvs
  induction kvs with
  | nil => intro s s' _ v hv; simp at hv
  | cons kv kvs ih =>
    intro s s' h v hv
    obtain ⟨k, w⟩ := kv
    simp only [InScope.addPairs] at h
    split at h
    · simp at h
    · rename_i s1 h1
      simp at hv
      rcases hv with ⟨rfl, rfl⟩ | hv
      · exact ((InScope.addPair_txfields ko sha c s s1 _ _ h1).2.2.2.2.2 rfl).2
      · exact ih s1 s' h v hv

theorem InScope.addPairs_txid (ko : KeyOps) (sha : Bytes → Bytes) (c : Nat) (kvs : List KV) (s s' : InScope)
    (h : InScope.addPairs ko sha c s kvs = some s') :
    (s.txid = none → s'.txid = (lookup [0x0e] kvs).map List.reverse) ∧ (∀ a, s.txid = some a → s'.txid = some a) :=
  InScope.addPairs_field ko sha c (·.txid) [0x0e] List.reverse (fun s s' k v hh =>
    have t := InScope.addPair_txfields ko sha c s s' k v hh
    ⟨t.1, t.2.2.2.1⟩) kvs s s' h

theorem InScope.addPairs_vout (ko : KeyOps) (sha : Bytes → Bytes) (c : Nat) (kvs : List KV) (s s' : InScope)
    (h : InScope.addPairs ko sha c s kvs = some s') :
    (s.vout = none → s'.vout = (lookup [0x0f] kvs).map ofLe) ∧ (∀ a, s.vout = some a → s'.vout = some a) :=
  InScope.addPairs_field ko sha c (·.vout) [0x0f] ofLe (fun s s' k v hh =>
    have t := InScope.addPair_txfields ko sha c s s' k v hh
    ⟨t.2.1, fun e => (t.2.2.2.2.1 e).1⟩) kvs s s' h

theorem InScope.addPairs_sequence (ko : KeyOps) (sha : Bytes → Bytes) (c : Nat) (kvs : List KV) (s s' : InScope)
    (h : InScope.addPairs ko sha c s kvs = some s') :
    (s.sequence = none → s'.sequence = (lookup [0x10] kvs).map ofLe)
    ∧ (∀ a, s.sequence = some a → s'.sequence = some a) :=
  InScope.addPairs_field ko sha c (·.sequence) [0x10] ofLe (fun s s' k v hh =>
    have t := InScope.addPair_txfields ko sha c s s' k v hh
    ⟨t.2.2.1, fun e => (t.2.2.2.2.2 e).1⟩) kvs s s' h

theorem OutScope.addPairs_value (ko : KeyOps) (kvs : List KV) (s s' : OutScope)
    (h : OutScope.addPairs ko s kvs = some s') :
    (s.value = none → s'.value = (lookup [0x03] kvs).map ofLe) ∧ (∀ a, s.value = some a → s'.value = some a) :=
  OutScope.addPairs_field ko (·.value) [0x03] ofLe (fun s s' k v hh =>
    have t := OutScope.addPair_txfields ko s s' k v hh
    ⟨t.1, fun e => (t.2.2.1 e).1⟩) kvs s s' h

theorem OutScope.addPairs_spk (ko : KeyOps) (kvs : List KV) (s s' : OutScope)
    (h : OutScope.addPairs ko s kvs = some s') :
    (s.spk = none → s'.spk = (lookup [0x04] kvs).map id) ∧ (∀ a, s.spk = some a → s'.spk = some a) :=
  OutScope.addPairs_field ko (·.spk) [0x04] id (fun s s' k v hh =>
    have t := OutScope.addPair_txfields ko s s' k v hh
    ⟨t.2.1, t.2.2.2⟩) kvs s s' h

/-- PSBTv2 (empty seed): the transaction input a scope describes is made of the values stored under 0e / 0f / 10 -/
theorem InScope.addPairs_v2_fields (ko : KeyOps) (sha : Bytes → Bytes) (c : Nat) (kvs : List KV) (s : InScope)
    (h : InScope.addPairs ko sha c {} kvs = some s) :
    s.txid = (lookup [0x0e] kvs).map List.reverse ∧ s.vout = (lookup [0x0f] kvs).map ofLe
    ∧ s.sequence = (lookup [0x10] kvs).map ofLe ∧ (∀ v, lookup [0x10] kvs = some v → v.length = 4) :=
  ⟨(InScope.addPairs_txid ko sha c kvs {} s h).1 rfl, (InScope.addPairs_vout ko sha c kvs {} s h).1 rfl,
    (InScope.addPairs_sequence ko sha c kvs {} s h).1 rfl,
    fun v hv => InScope.addPairs_seqlen ko sha c kvs {} s h v (lookup_mem _ _ _ hv)⟩

theorem OutScope.addPairs_v2_fields (ko : KeyOps) (kvs : List KV) (s : OutScope)
    (h : OutScope.addPairs ko {} kvs = some s) :
    s.value = (lookup [0x03] kvs).map ofLe ∧ s.spk = lookup [0x04] kvs :=
  ⟨(OutScope.addPairs_value ko kvs {} s h).1 rfl, by simpa using (OutScope.addPairs_spk ko kvs {} s h).1 rfl⟩

theorem InScope.addPairs_keeps_seed (ko : KeyOps) (sha : Bytes → Bytes) (c : Nat) (kvs : List KV) (s s' : InScope)
    (h : InScope.addPairs ko sha c s kvs = some s') (x : Bytes) (y z : Nat)
    (h1 : s.txid = some x) (h2 : s.vout = some y) (h3 : s.sequence = some z) :
    s'.txid = some x ∧ s'.vout = some y ∧ s'.sequence = some z :=
  ⟨(InScope.addPairs_txid ko sha c kvs s s' h).2 x h1, (InScope.addPairs_vout ko sha c kvs s s' h).2 y h2,
    (InScope.addPairs_sequence ko sha c kvs s s' h).2 z h3⟩

theorem OutScope.addPairs_keeps_seed (ko : KeyOps) (kvs : List KV) (s s' : OutScope)
    (h : OutScope.addPairs ko s kvs = some s') (x : Nat) (y : Bytes)
    (h1 : s.value = some x) (h2 : s.spk = some y) : s'.value = some x ∧ s'.spk = some y :=
  ⟨(OutScope.addPairs_value ko kvs s s' h).2 x h1, (OutScope.addPairs_spk ko kvs s s' h).2 y h2⟩

theorem lastFold_filter {α : Type} (key : Bytes) (f : Bytes → Option α) (p : KV → Bool)
    (hp : ∀ kv : KV, kv.1 = key → p kv = true) :
    ∀ (g : List KV) (a : Option α), lastFold key f a (g.filter p) = lastFold key f a g := by
  intro g
  induction g with
  | nil => intro a; rfl
  | cons kv g ih =>
    intro a
    by_cases h : p kv = true
    · simp only [List.filter_cons, h, if_true, lastFold_cons]; exact ih _
    · have hk : ¬ kv.1 = key := fun e => h (hp kv e)
      simp only [List.filter_cons, h, lastFold_cons, hk, if_false]
      exact ih _

theorem nodup_keys_unique {β : Type} : ∀ (l : List (Bytes × β)) (k : Bytes) (v v' : β),
    (l.map Prod.fst).Nodup → (k, v) ∈ l → (k, v') ∈ l → v = v' := by
  intro l
  induction l with
  | nil => intro k v v' _ h; simp at h
  | cons x xs ih =>
    intro k v v' hn h1 h2
    simp only [List.map_cons, List.nodup_cons] at hn
    simp only [List.mem_cons] at h1 h2
    rcases h1 with h1 | h1 <;> rcases h2 with h2 | h2
    · rw [← h2] at h1; exact (Prod.mk.inj h1).2
    · exfalso; apply hn.1; rw [← h1]; exact List.mem_map.mpr ⟨(k, v'), h2, rfl⟩
    · exfalso; apply hn.1; rw [← h2]; exact List.mem_map.mpr ⟨(k, v), h1, rfl⟩
    · exact ih k v v' hn.2 h1 h2

/-- the pairs the global fold hands on to `parse_unknowns`: everything except keys 00 and fb, in order -/
def notTxVer (kv : KV) : Bool := !(kv.1 == [0x00]) && !(kv.1 == [0xfb])

/-- one pair of the global fold: key 00 sets the (parsed, unsigned) transaction, key fb the version, any other
    key is handed on -/
theorem globalFold_step (k v : Bytes) (g : List KV) (tx : Option Tx) (ver : Option Nat) (unk : List KV)
    (r : Option Tx × Option Nat × List KV) (h : globalFold tx ver unk ((k, v) :: g) = some r) :
    (k = [0x00] ∧ tx = none ∧ ∃ t, Tx.parse v = some t ∧ Unsigned t ∧ globalFold (some t) ver unk g = some r)
    ∨ (k ≠ [0x00] ∧ k = [0xfb] ∧ globalFold tx (some (ofLe v)) unk g = some r)
    ∨ (k ≠ [0x00] ∧ k ≠ [0xfb] ∧ globalFold tx ver (unk ++ [(k, v)]) g = some r) := by
  simp only [globalFold] at h
  split at h
  · rename_i hk0
    split at h
    · simp at h
    rename_i htx
    split at h
    · simp at h
    rename_i t ht
    split at h
    · simp at h
    rename_i hun
    refine Or.inl ⟨hk0, by simpa using htx, t, ht, ?_, h⟩
    intro i hi
    simp only [List.any_eq_true, not_exists] at hun
    have := hun i
    simp [hi] at this
    exact this
  · rename_i hk0
    split at h
    · rename_i hkfb
      split at h
      · simp at h
      split at h
      · simp at h
      exact Or.inr (Or.inl ⟨hk0, hkfb, h⟩)
    · rename_i hkfb
      split at h
      · simp at h
      exact Or.inr (Or.inr ⟨hk0, hkfb, h⟩)

theorem globalFold_unk : ∀ (g : List KV) (tx : Option Tx) (ver : Option Nat) (unk : List KV)
    (tx' : Option Tx) (ver' : Option Nat) (unk' : List KV),
    globalFold tx ver unk g = some (tx', ver', unk') → unk' = unk ++ g.filter notTxVer := by
  intro g
  induction g with
  | nil => intro tx ver unk tx' ver' unk' h; simp [globalFold] at h; obtain ⟨rfl, rfl, rfl⟩ := h; simp
  | cons kv g ih =>
    intro tx ver unk tx' ver' unk' h
    obtain ⟨k, v⟩ := kv
    rcases globalFold_step k v g tx ver unk _ h with ⟨hk0, _, t, _, _, h'⟩ | ⟨_, hkfb, h'⟩ | ⟨hk0, hkfb, h'⟩
    · rw [ih _ _ _ _ _ _ h']; simp [notTxVer, hk0]
    · rw [ih _ _ _ _ _ _ h']; simp [notTxVer, hkfb]
    · have hp : notTxVer (k, v) = true := by simp [notTxVer, hk0, hkfb]
      rw [ih _ _ _ _ _ _ h']; simp [List.filter_cons, hp]

theorem globalFold_ver : ∀ (g : List KV) (tx : Option Tx) (ver : Option Nat) (unk : List KV)
    (tx' : Option Tx) (ver' : Option Nat) (unk' : List KV),
    globalFold tx ver unk g = some (tx', ver', unk') →
      (∀ kv ∈ g, kv.1 = [0xfb] → ver' = some (ofLe kv.2)) ∧ ((∀ kv ∈ g, kv.1 ≠ [0xfb]) → ver' = ver) := by
  intro g
  induction g with
  | nil => intro tx ver unk tx' ver' unk' h; simp [globalFold] at h; obtain ⟨rfl, rfl, rfl⟩ := h; simp
  | cons kv g ih =>
    intro tx ver unk tx' ver' unk' h
    obtain ⟨k, v⟩ := kv
    rcases globalFold_step k v g tx ver unk _ h with ⟨hk0, _, t, _, _, h'⟩ | ⟨_, hkfb, h'⟩ | ⟨_, hkfb, h'⟩
    all_goals obtain ⟨r1, r2⟩ := ih _ _ _ _ _ _ h'
    · refine ⟨?_, fun hh => r2 (fun x hx => hh x (by simp [hx]))⟩
      intro x hx hxk; simp at hx
      rcases hx with rfl | hx
      · simp [hk0] at hxk
      · exact r1 x hx hxk
    · -- a version that is already there is kept by the rest of the fold
      have hp := (globalFold_spec g _ _ _ _ _ _ h').2.1 _ rfl
      refine ⟨?_, fun hh => absurd hkfb (hh (k, v) (by simp))⟩
      intro x hx hxk; simp at hx
      rcases hx with rfl | hx
      · exact hp
      · exact r1 x hx hxk
    · refine ⟨?_, fun hh => r2 (fun x hx => hh x (by simp [hx]))⟩
      intro x hx hxk; simp at hx
      rcases hx with rfl | hx
      · exact absurd hxk hkfb
      · exact r1 x hx hxk

theorem globalFold_no00 (g : List KV) (t0 : Tx) (ver : Option Nat) (unk : List KV)
    (tx' : Option Tx) (ver' : Option Nat) (unk' : List KV)
    (h : globalFold (some t0) ver unk g = some (tx', ver', unk')) : ∀ kv ∈ g, kv.1 ≠ [0x00] := by
  intro kv hkv
  rcases (globalFold_spec g _ _ _ _ _ _ h).2.2.2.2 kv hkv with ⟨_, _, _, _, _, hn⟩ | ⟨e, _⟩ | ⟨_, e, _⟩
  · simp at hn
  · rw [e]; decide
  · exact e

theorem globalFold_split : ∀ (g : List KV) (ver : Option Nat) (unk : List KV)
    (t : Tx) (ver' : Option Nat) (unk' : List KV),
    globalFold none ver unk g = some (some t, ver', unk') →
      ∃ g1 v g2, g = g1 ++ ([0x00], v) :: g2 ∧ (∀ kv ∈ g1, kv.1 ≠ [0x00]) ∧ (∀ kv ∈ g2, kv.1 ≠ [0x00])
        ∧ Tx.parse v = some t ∧ Unsigned t := by
  intro g
  induction g with
  | nil => intro ver unk t ver' unk' h; simp [globalFold] at h
  | cons kv g ih =>
    intro ver unk t ver' unk' h
    obtain ⟨k, v⟩ := kv
    have later : ∀ ver1 unk1, k ≠ [0x00] → globalFold none ver1 unk1 g = some (some t, ver', unk') →
        ∃ g1 w g2, (k, v) :: g = g1 ++ ([0x00], w) :: g2 ∧ (∀ kv ∈ g1, kv.1 ≠ [0x00]) ∧ (∀ kv ∈ g2, kv.1 ≠ [0x00])
          ∧ Tx.parse w = some t ∧ Unsigned t := fun ver1 unk1 hk0 h' => by
      obtain ⟨g1, w, g2, e, a1, a2, a3, a4⟩ := ih _ _ _ _ _ h'
      refine ⟨(k, v) :: g1, w, g2, by simp [e], ?_, a2, a3, a4⟩
      intro x hx; simp at hx
      rcases hx with rfl | hx
      · exact hk0
      · exact a1 x hx
    rcases globalFold_step k v g none ver unk _ h with ⟨hk0, _, t0, ht0, hun, h'⟩ | ⟨hk0, _, h'⟩ | ⟨hk0, _, h'⟩
    · have e := (globalFold_spec g _ _ _ _ _ _ h').1 t0 rfl
      simp at e; subst e
      exact ⟨[], v, g, by simp [hk0], by simp, globalFold_no00 g _ _ _ _ _ _ h', ht0, hun⟩
    · exact later _ _ hk0 h'
    · exact later _ _ hk0 h'

/-- PSBTv2, one pair of `parse_unknowns`: each of the keys 02 / 03 / 04 / 05 overwrites its own field (a tx-version
    or locktime value must have four bytes, a count value must be a canonical CompactSize), every other key leaves
    the four fields alone -/
theorem parseUnknowns_pair (ko : KeyOps) (k v : Bytes) (unk : List KV) (g g' : GState)
    (h : parseUnknowns ko true g ((k, v) :: unk) = some g') :
    ∃ g1, parseUnknowns ko true g1 unk = some g'
      ∧ g1.txVersion = (if k = [0x02] then some (ofLe v) else g.txVersion)
      ∧ g1.locktime = (if k = [0x03] then some (ofLe v) else g.locktime)
      ∧ g1.nin = (if k = [0x04] then parseAll Compact.read v else g.nin)
      ∧ g1.nout = (if k = [0x05] then parseAll Compact.read v else g.nout)
      ∧ (k = [0x04] ∨ k = [0x05] → (parseAll Compact.read v).isSome)
      ∧ (k = [0x02] ∨ k = [0x03] → v.length = 4) := by
  obtain ⟨g1, hs, h1⟩ := parseUnknowns_cons h
  refine ⟨g1, h1, ?_⟩
  cases hs with
  | xpub => simp
  | txVersion _ hl => simp [hl]
  | locktime _ hl => simp [hl]
  | nin _ hp => simp [hp]
  | nout _ hp => simp [hp]
  | unknown _ h2 =>
    have := h2 rfl
    simp only [List.mem_cons, List.not_mem_nil, or_false, not_or] at this
    simp [this]

/-- PSBTv2: what `parse_unknowns` remembers about the keys 02 / 03 / 04 / 05 — the last occurrence wins, exactly
    like in the view's scan — and every count value is a canonical CompactSize -/
theorem parseUnknowns_fold (ko : KeyOps) : ∀ (unk : List KV) (g g' : GState),
    parseUnknowns ko true g unk = some g' →
      g'.txVersion = lastFold [0x02] (fun v => some (ofLe v)) g.txVersion unk
      ∧ g'.locktime = lastFold [0x03] (fun v => some (ofLe v)) g.locktime unk
      ∧ g'.nin = lastFold [0x04] (parseAll Compact.read) g.nin unk
      ∧ g'.nout = lastFold [0x05] (parseAll Compact.read) g.nout unk
      ∧ (∀ kv ∈ unk, kv.1 = [0x04] ∨ kv.1 = [0x05] → (parseAll Compact.read kv.2).isSome) := by
  intro unk
  induction unk with
  | nil => intro g g' h; simp [parseUnknowns] at h; subst h; simp [lastFold_nil]
  | cons kv unk ih =>
    intro g g' h
    obtain ⟨k, v⟩ := kv
    obtain ⟨g1, h', e1, e2, e3, e4, e5, _⟩ := parseUnknowns_pair ko k v unk g g' h
    obtain ⟨a1, a2, a3, a4, a5⟩ := ih g1 g' h'
    refine ⟨by rw [a1, e1, lastFold_cons], by rw [a2, e2, lastFold_cons], by rw [a3, e3, lastFold_cons],
      by rw [a4, e4, lastFold_cons], ?_⟩
    intro x hx hxk
    rcases List.mem_cons.mp hx with rfl | hx
    · exact e5 hxk
    · exact a5 x hx hxk

theorem lastFold_occ {α : Type} (key : Bytes) (f : Bytes → Option α) :
    ∀ (g : List KV) (a : Option α), (∃ kv ∈ g, kv.1 = key) →
      ∃ kv ∈ g, kv.1 = key ∧ lastFold key f a g = f kv.2 := by
  intro g
  induction g with
  | nil => intro a h; simp at h
  | cons kv g ih =>
    intro a h
    rw [lastFold_cons]
    by_cases hg : ∃ x ∈ g, x.1 = key
    · obtain ⟨x, hx, hk, e⟩ := ih (if kv.1 = key then f kv.2 else a) hg
      exact ⟨x, by simp [hx], hk, e⟩
    · have hno : ∀ x ∈ g, x.1 ≠ key := fun x hx e => hg ⟨x, hx, e⟩
      obtain ⟨x, hx, hk⟩ := h
      simp at hx
      rcases hx with rfl | hx
      · refine ⟨x, by simp, hk, ?_⟩
        rw [lastFold_absent key f _ g hno]; simp [hk]
      · exact absurd hk (hno x hx)

/-- PSBTv2: a global field that `parse_unknowns` takes from the (duplicate-free) unknown map is the value the
    view finds under that key in the global scope -/
theorem v2_field_lookup (g unk : List KV) (hunk : unk = g.filter notTxVer) (hnd : (unk.map Prod.fst).Nodup)
    (key : Bytes) (hkey : ∀ kv : KV, kv.1 = key → notTxVer kv = true) (f : Bytes → Nat) :
    lastFold key (fun v => some (f v)) none unk = (lookup key g).map f := by
  cases hl : lookup key g with
  | none =>
    have hno := lookup_none_not_mem key g hl
    rw [lastFold_absent key _ none unk (fun kv hkv => hno kv (by rw [hunk] at hkv; exact (List.mem_filter.mp hkv).1))]
    rfl
  | some x =>
    have hm : (key, x) ∈ unk := by
      rw [hunk]; exact List.mem_filter.mpr ⟨lookup_mem key g x hl, hkey _ rfl⟩
    apply lastFold_char
    · intro kv hkv hk
      have : (key, kv.2) ∈ unk := by rw [← hk]; exact hkv
      rw [nodup_keys_unique unk key kv.2 x hnd this hm]; rfl
    · intro hno; exact absurd rfl (hno _ hm)

end Embit
