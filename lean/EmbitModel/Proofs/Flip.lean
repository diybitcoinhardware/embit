import EmbitModel.Proofs.Contract
/-
  For the theorem that every alteration of `s` is rejected (`Props/C07`): the hypothesis `xUniqueAt` (only `±R`
  have an x coordinate in the class of `r`) and the scalar algebra in `ZMod n`.
-/
namespace Embit
open Embit.Model Embit.Model.Der Embit.Model.PySecp

variable {E : EcOps}

def xUniqueAt (E : EcOps) (R : E.Pt) (r : Nat) : Prop :=
  ∀ Q x y, E.xy Q = some (x, y) → x % E.n = r → Q = R ∨ Q = E.neg R

theorem flip_alg {n : Nat} (k ki z d r w' s' s0 e : ZMod n) (h1 : k * ki = 1) (hs0 : s0 = ki * (z + d * r))
    (hw : w' * s' = 1) (hR : z * w' + r * w' * d = e * k) : s0 = e * s' := by
  have hX : w' * s0 = e := by
    subst hs0
    linear_combination ki * hR + e * h1
  linear_combination (-s0) * hw + s' * hX

theorem eq_of_cast_eq {n : Nat} (a b : Nat) (ha : a < n) (hb : b < n) (h : (a : ZMod n) = (b : ZMod n)) : a = b := by
  have := mod_eq_of_cast a b h
  rwa [Nat.mod_eq_of_lt ha, Nat.mod_eq_of_lt hb] at this

end Embit
