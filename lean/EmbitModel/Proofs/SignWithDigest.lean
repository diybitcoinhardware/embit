import EmbitModel.Proofs.SignWithDefs
/-
  `PSBT.sighash` does not read the signature fields: the digest of a PSBT is the digest of its `pcore`, so every
  digest computed while signing equals the digest of the PSBT as it was handed in (Mathlib-free).
-/
namespace Embit.Model.SignWith
open Embit Embit.Model

theorem core_vin (s : InScope) : (core s).vin = s.vin := rfl
theorem core_utxo (s : InScope) : (core s).utxo = s.utxo := rfl

theorem pcore_tx (p : Psbt) : (pcore p).tx = p.tx := by
  unfold Psbt.tx pcore
  simp only [List.map_map]
  have : (InScope.vin ∘ core) = InScope.vin := by funext s; rfl
  rw [this]

theorem pcore_utxos (p : Psbt) : (pcore p).inputs.map InScope.utxo = p.inputs.map InScope.utxo := by
  unfold pcore
  simp only [List.map_map]
  have : (InScope.utxo ∘ core) = InScope.utxo := by funext s; rfl
  rw [this]

theorem psbtSighash_pcore (sha : Bytes → Bytes) (p : Psbt) (i f : Nat) (leaf : Option (Bytes × Nat)) :
    psbtSighash sha (pcore p) i f leaf = psbtSighash sha p i f leaf := by
  unfold psbtSighash
  rw [pcore_tx, pcore_utxos]
  have hget : (pcore p).inputs[i]? = (p.inputs[i]?).map core := by simp [pcore]
  rw [hget]
  cases hi : p.inputs[i]? with
  | none => rfl
  | some s => rfl

theorem psbtSighash_congr (sha : Bytes → Bytes) (p q : Psbt) (h : pcore p = pcore q) (i f : Nat)
    (leaf : Option (Bytes × Nat)) : psbtSighash sha p i f leaf = psbtSighash sha q i f leaf := by
  rw [← psbtSighash_pcore sha p, ← psbtSighash_pcore sha q, h]

theorem digest_setInput (sha : Bytes → Bytes) (p : Psbt) (i : Nat) (s t : InScope) (hs : p.inputs[i]? = some s)
    (hc : core t = core s) (f : Nat) (leaf : Option (Bytes × Nat)) :
    psbtSighash sha (Psbt.setInput p i t) i f leaf = psbtSighash sha p i f leaf :=
  psbtSighash_congr sha _ _ (pcore_setInput p i s t hs hc) i f leaf

end Embit.Model.SignWith
