import EmbitModel.Model.Miniscript
import EmbitModel.Spec.MiniscriptSpec
/-
  C13 helper lemmas, part 1: embit's `verify` / `type` / `properties` (model) against the published type table
  (spec), rule by rule, then for every expression by structural induction:

      typeOf ctx (desugar e) = if constructible ctx e && verify ctx e then some (type e, props ctx e) else none

  Both sides are chains of "check, then result": the specification's `typeOf` fails as soon as a sub-expression or a
  rule fails, embit's side is one conjunction of all checks. `guard_bind` / `guard_guard` turn the first into the second.
-/
namespace Embit.Miniscript
open Embit.Model.Miniscript Embit.Spec.Miniscript

/-- structural induction with a motive of its own for the argument list of `thresh`: the recursor of the nested
    type, which is what the `mutual` definitions (`props`/`propsL`, `compile`/`compileL`, ...) recurse along -/
theorem Ms.ind₂ {P : Ms → Prop} {Q : List Ms → Prop}
    (key : ∀ f a, P (.key f a)) (time : ∀ f n, P (.time f n)) (hash : ∀ f h, P (.hash f h))
    (andor : ∀ x y z, P x → P y → P z → P (.andor x y z))
    (bin : ∀ f x y, P x → P y → P (.bin f x y))
    (thresh : ∀ k xs, Q xs → P (.thresh k xs))
    (multi : ∀ f k keys, P (.multi f k keys))
    (wrap : ∀ w x, P x → P (.wrap w x))
    (nil : Q []) (cons : ∀ x xs, P x → Q xs → Q (x :: xs)) : ∀ e, P e :=
  fun e => Ms.rec (motive_1 := P) (motive_2 := Q) key time hash andor bin thresh multi wrap nil cons e

theorem guard_bind {α β : Type} (c : Bool) (v : α) (f : α → Option β) :
    (if c then some v else none).bind f = if c then f v else none := by cases c <;> rfl

theorem guard_guard {α : Type} (a b : Bool) (t : α) :
    (if a then (if b then some t else none) else none) = if a && b then some t else none := by
  cases a <;> rfl

/-- the same result under equal checks; the results need to agree only where the check passes -/
theorem guard_congr' {α : Type} {a b : Bool} {t t' : α} (h : a = b) (ht : a = true → t = t') :
    (if a then some t else none) = if b then some t' else none := by
  subst h
  cases a
  · rfl
  · rw [ht rfl]

theorem guard_congr {α : Type} {a b : Bool} (h : a = b) (t : α) :
    (if a then some t else none) = if b then some t else none :=
  guard_congr' h fun _ => rfl

theorem typeOf_andor (ctx : Ctx) (x y z : Frag) : typeOf ctx (.andor x y z) =
    (typeOf ctx x).bind fun X => (typeOf ctx y).bind fun Y => (typeOf ctx z).bind fun Z => andorRule X Y Z := by
  simp only [typeOf]
  cases typeOf ctx x <;> cases typeOf ctx y <;> cases typeOf ctx z <;> rfl

theorem typeOf_bin (ctx : Ctx) (g : CoreBin) (x y : Frag) : typeOf ctx (.bin g x y) =
    (typeOf ctx x).bind fun X => (typeOf ctx y).bind fun Y => binRule g X Y := by
  simp only [typeOf]
  cases typeOf ctx x <;> cases typeOf ctx y <;> rfl

theorem typeOf_wrap (ctx : Ctx) (g : CoreWrap) (x : Frag) :
    typeOf ctx (.wrap g x) = (typeOf ctx x).bind fun X => wrapRule ctx g X := by
  simp only [typeOf]
  cases typeOf ctx x <;> rfl

theorem typeOf_thresh (ctx : Ctx) (k : Nat) (xs : List Frag) :
    typeOf ctx (.thresh k xs) = (typeOfL ctx xs).bind (threshRule k) := by
  simp only [typeOf]
  cases typeOfL ctx xs <;> rfl

theorem typeOfL_cons (ctx : Ctx) (x : Frag) (xs : List Frag) : typeOfL ctx (x :: xs) =
    (typeOf ctx x).bind fun X => (typeOfL ctx xs).bind fun Xs => some (X :: Xs) := by
  simp only [typeOfL]
  cases typeOf ctx x <;> cases typeOfL ctx xs <;> rfl

theorem typeOf_zero (ctx : Ctx) : typeOf ctx .zero = some (.B, { z := true, u := true, d := true }) := rfl
theorem typeOf_one (ctx : Ctx) : typeOf ctx .one = some (.B, { z := true, u := true }) := rfl

/-! ### rule-by-rule agreement (no recursion)

  Each rule of the table and embit's `verify` + `type` + `properties` for the fragment are one check and one result.
  The results are written alike and agree by unfolding; the checks are the same conjunction up to the grouping (and
  for `or_c`, `or_d` the order) of the conjuncts. -/

theorem andorRule_agree (X Y Z : TP) :
    andorRule X Y Z =
      if andorVerify X.1 X.2 Y.1 Z.1 then some (Y.1, andorProps X.2 Y.2 Z.2) else none :=
  guard_congr (by simp only [andorVerify, Spec.Miniscript.isBKV, Model.Miniscript.isBKV, Bool.and_assoc]) _

/-- the core two-argument fragments as embit fragments -/
def ofCoreBin : CoreBin → BinFrag
  | .and_v => .and_v | .and_b => .and_b | .or_b => .or_b | .or_c => .or_c | .or_d => .or_d | .or_i => .or_i

theorem binRule_agree (g : CoreBin) (X Y : TP) :
    binRule g X Y =
      if binVerify (ofCoreBin g) X.1 X.2 Y.1 Y.2
      then some (binType (ofCoreBin g) X.1 Y.1, binProps (ofCoreBin g) X.2 Y.2) else none := by
  cases g <;>
    exact guard_congr
      (by simp only [binVerify, ofCoreBin, Spec.Miniscript.isBKV, Model.Miniscript.isBKV] <;> ac_rfl) _

theorem isBKV_of_B (t : Ty) : (t == .B && Spec.Miniscript.isBKV t) = (t == .B) := by cases t <;> rfl

/-- and_n(X,Y) = andor(X,Y,0) -/
theorem and_n_agree (X Y : TP) :
    andorRule X Y (.B, { z := true, u := true, d := true }) =
      if binVerify .and_n X.1 X.2 Y.1 Y.2 then some (binType .and_n X.1 Y.1, binProps .and_n X.2 Y.2)
      else none :=
  guard_congr (by simp only [binVerify, isBKV_of_B, Bool.and_assoc]) _

def ofCoreWrap : CoreWrap → Wrap
  | .a => .a | .s => .s | .c => .c | .d => .d | .v => .v | .j => .j | .n => .n

theorem wrapRule_agree (ctx : Ctx) (g : CoreWrap) (X : TP) :
    wrapRule ctx g X =
      if wrapVerify (ofCoreWrap g) X.1 X.2
      then some (Gen.Ms.wrapType (ofCoreWrap g), wrapProps (ctx == .tap) (ofCoreWrap g) X.2) else none := by
  cases g
  case d =>
    -- the table gives `d:X` the property o outright; embit takes it from z of X, which the check demands
    refine guard_congr' rfl fun h => ?_
    rw [Bool.and_eq_true] at h
    simp only [wrapProps, ofCoreWrap, h.2]
    rfl
  all_goals exact guard_congr rfl _

/-- t:X = and_v(X,1) -/
theorem wrap_t_agree (ctx : Ctx) (X : TP) :
    binRule .and_v X (.B, { z := true, u := true }) =
      if wrapVerify .t X.1 X.2 then some (Gen.Ms.wrapType .t, wrapProps (ctx == .tap) .t X.2) else none :=
  guard_congr (Bool.and_true _) _

/-- l:X = or_i(0,X) -/
theorem wrap_l_agree (ctx : Ctx) (X : TP) :
    binRule .or_i (.B, { z := true, u := true, d := true }) X =
      if wrapVerify .l X.1 X.2 then some (Gen.Ms.wrapType .l, wrapProps (ctx == .tap) .l X.2) else none := by
  obtain ⟨tx, px⟩ := X
  cases tx <;> rfl

/-- u:X = or_i(X,0) -/
theorem wrap_u_agree (ctx : Ctx) (X : TP) :
    binRule .or_i X (.B, { z := true, u := true, d := true }) =
      if wrapVerify .u X.1 X.2 then some (Gen.Ms.wrapType .u, wrapProps (ctx == .tap) .u X.2) else none := by
  obtain ⟨tx, px⟩ := X
  cases tx <;> simp [binRule, wrapVerify, wrapProps, Gen.Ms.wrapType, Spec.Miniscript.isBKV]

/-- every two-argument fragment, sugar removed: the types of the arguments, then embit's check and result -/
theorem typeOf_desugar_bin (ctx : Ctx) (f : BinFrag) (x y : Ms) :
    typeOf ctx (desugar (.bin f x y)) =
      (typeOf ctx (desugar x)).bind fun X => (typeOf ctx (desugar y)).bind fun Y =>
        if binVerify f X.1 X.2 Y.1 Y.2 then some (binType f X.1 Y.1, binProps f X.2 Y.2) else none := by
  cases f <;>
    simp only [desugar, typeOf_bin, typeOf_andor, typeOf_zero, Option.bind_some, binRule_agree, and_n_agree,
      ofCoreBin] <;> rfl   -- `simp` does not rewrite `ofCoreBin g` inside the `Decidable` instance of the `if`

/-- every wrapper, sugar removed -/
theorem typeOf_desugar_wrap (ctx : Ctx) (w : Wrap) (x : Ms) :
    typeOf ctx (desugar (.wrap w x)) =
      (typeOf ctx (desugar x)).bind fun X =>
        if wrapVerify w X.1 X.2 then some (Gen.Ms.wrapType w, wrapProps (ctx == .tap) w X.2) else none := by
  cases w <;>
    simp only [desugar, typeOf_bin, typeOf_wrap, typeOf_zero, typeOf_one, Option.bind_some, wrapRule_agree,
      wrap_t_agree ctx, wrap_l_agree ctx, wrap_u_agree ctx, ofCoreWrap] <;> rfl

theorem insertSorted_length (x : Bytes) (l : List Bytes) : (insertSorted x l).length = l.length + 1 := by
  induction l with
  | nil => rfl
  | cons y ys ih => unfold insertSorted; split <;> simp [ih]

theorem sortBytes_length (l : List Bytes) : (sortBytes l).length = l.length := by
  induction l with
  | nil => rfl
  | cons x xs ih => simp [sortBytes, insertSorted_length, ih]

theorem multi_agree (ctx : Ctx) (f : MultiFrag) (k : Nat) (keys : List Bytes) :
    typeOf ctx (desugar (.multi f k keys)) =
      if (Gen.Ms.multiTaproot f == (ctx == .tap)) && multiVerify f k keys.length
      then some (Gen.Ms.multiType f, Gen.Ms.multiProps f) else none := by
  cases f <;> cases ctx <;>
    simp [desugar, typeOf, multiRule, multiARule, multiVerify, Gen.Ms.multiTaproot, Gen.Ms.multiMaxKeys,
      Gen.Ms.multiType, Gen.Ms.multiProps, sortBytes_length, Nat.one_le_iff_ne_zero]

theorem time_agree (ctx : Ctx) (f : TimeFrag) (n : Nat) :
    typeOf ctx (desugar (.time f n)) =
      if !(n < 1 || n ≥ 0x80000000) then some (Gen.Ms.timeType f, Gen.Ms.timeProps f) else none := by
  cases f <;> simp [desugar, typeOf, Gen.Ms.timeType, Gen.Ms.timeProps, Nat.one_le_iff_ne_zero]

theorem key_agree (ctx : Ctx) (f : KeyFrag) (a : Bytes) :
    typeOf ctx (desugar (.key f a)) = some (Gen.Ms.keyType f, Gen.Ms.keyProps f) := by
  cases f <;> simp [desugar, typeOf, wrapRule, Gen.Ms.keyType, Gen.Ms.keyProps]

theorem hash_agree (ctx : Ctx) (f : HashFrag) (a : Bytes) :
    typeOf ctx (desugar (.hash f a)) = some (Gen.Ms.hashType f, Gen.Ms.hashProps f) := by
  cases f <;> simp [desugar, typeOf, Gen.Ms.hashType, Gen.Ms.hashProps]

theorem costSum_eq_zero (ts : List TP) :
    (costSum ts == 0) = (((ts.map (·.2)).filter (·.z)).length == (ts.map (·.2)).length) := by
  induction ts with
  | nil => rfl
  | cons t ts ih =>
    have hle := List.length_filter_le (fun p : Props => p.z) (ts.map (·.2))
    cases hz : t.2.z
    · have : argCost t.2 ≥ 1 := by unfold argCost; simp [hz]; split <;> omega
      simp only [costSum, List.map_cons, List.filter_cons, hz, List.length_cons]
      simp only [List.length_map] at hle ⊢
      rw [Bool.eq_iff_iff]; simp; omega
    · have : argCost t.2 = 0 := by unfold argCost; simp [hz]
      simp only [costSum, List.map_cons, List.filter_cons, hz, List.length_cons, this]
      rw [Bool.eq_iff_iff] at ih ⊢; simp at ih ⊢; omega

/-- cost of the arguments that are not `z` -/
def costNZ : List Props → Nat
  | [] => 0
  | p :: r => (if p.o then 1 else 2) + costNZ r

theorem costSum_eq_costNZ (ts : List TP) :
    costSum ts = costNZ ((ts.map (·.2)).filter (fun p => !p.z)) := by
  induction ts with
  | nil => rfl
  | cons t ts ih =>
    cases hz : t.2.z <;> simp [costSum, argCost, hz, costNZ, ih]

theorem costNZ_ge (l : List Props) : l.length ≤ costNZ l := by
  induction l with
  | nil => simp [costNZ]
  | cons p r ih => simp only [costNZ, List.length_cons]; split <;> omega

theorem costNZ_eq_one (l : List Props) :
    (costNZ l == 1) = (match l with | [p] => p.o | _ => false) := by
  match l with
  | [] => rfl
  | [p] => cases h : p.o <;> simp [costNZ, h]
  | p :: q :: r =>
    have := costNZ_ge (p :: q :: r)
    simp only [List.length_cons] at this
    simp; omega

theorem threshRule_agree (k : Nat) (ts : List TP) :
    threshRule k ts =
      if threshVerify k ts then some (Gen.Ms.threshType, threshProps (ts.map (·.2))) else none := by
  cases ts with
  | nil => simp [threshRule, threshVerify]
  | cons t rest =>
    obtain ⟨t1, p1⟩ := t
    have hz := costSum_eq_zero ((t1, p1) :: rest)
    have ho : (costSum ((t1, p1) :: rest) == 1) = _ :=
      (congrArg (· == 1) (costSum_eq_costNZ ((t1, p1) :: rest))).trans (costNZ_eq_one _)
    simp only [threshRule, hz, ho]
    refine guard_congr' ?_ fun _ => rfl
    -- the same conjuncts, grouped differently, and the bounds on `k` written the other way round
    have hk : (decide (1 ≤ k) && decide (k ≤ rest.length + 1)) = !(decide (k < 1) || decide (k ≥ rest.length + 1 + 1)) := by
      rw [Bool.eq_iff_iff]; simp; omega
    simp only [threshVerify, List.length_cons, ← hk, Bool.and_assoc]

theorem propsL_eq (ctx : Ctx) (xs : List Ms) : propsL ctx xs = (tpL ctx xs).map (·.2) := by
  induction xs with
  | nil => rfl
  | cons x xs ih => simp [propsL, tpL, ih]

theorem tpL_length (ctx : Ctx) (xs : List Ms) : (tpL ctx xs).length = xs.length := by
  induction xs with
  | nil => rfl
  | cons x xs ih => simp [tpL, ih]

def Agrees (ctx : Ctx) (e : Ms) : Prop :=
  typeOf ctx (desugar e) = if constructible ctx e && verify ctx e then some (type e, props ctx e) else none

theorem typeOf_desugar (ctx : Ctx) : ∀ e, Agrees ctx e := by
  intro e
  induction e using Ms.ind₂
    (Q := fun xs => typeOfL ctx (desugarL xs) =
      if constructibleL ctx xs && verifyL ctx xs then some (tpL ctx xs) else none) with
  | key f a => simp [Agrees, key_agree, constructible, verify, type, props]
  | time f n => simp only [Agrees, time_agree, constructible, verify, type, props, Bool.true_and]
  | hash f h => simp [Agrees, hash_agree, constructible, verify, type, props]
  | andor x y z ihx ihy ihz =>
    unfold Agrees at *
    simp only [desugar, typeOf_andor, ihx, ihy, ihz, guard_bind, andorRule_agree, guard_guard, constructible, verify,
      type, props]
    exact guard_congr (by ac_rfl) _
  | bin f x y ihx ihy =>
    unfold Agrees at *
    simp only [typeOf_desugar_bin, ihx, ihy, guard_bind, guard_guard, constructible, verify, type, props]
    exact guard_congr (by ac_rfl) _
  | thresh k xs ih =>
    unfold Agrees
    simp only [desugar, typeOf_thresh, ih, guard_bind, threshRule_agree, guard_guard, constructible, verify, type,
      props, propsL_eq]
    exact guard_congr (by ac_rfl) _
  | multi f k keys => simp only [Agrees, multi_agree, constructible, verify, type, props] <;> rfl
  | wrap w x ih =>
    unfold Agrees at *
    simp only [typeOf_desugar_wrap, ih, guard_bind, guard_guard, constructible, verify, type, props]
    exact guard_congr (by ac_rfl) _
  | nil => rfl
  | cons x xs ihx ihxs =>
    unfold Agrees at ihx
    simp only [desugarL, typeOfL_cons, ihx, ihxs, guard_bind, guard_guard, constructibleL, verifyL, tpL]
    exact guard_congr (by ac_rfl) _

end Embit.Miniscript
