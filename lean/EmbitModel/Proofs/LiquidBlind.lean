import EmbitModel.Model.Liquid
/-
  C18 helper lemmas about the data flow of `PSET.blind`: element-wise characterisation of the three passes over the
  outputs (hash-derived factors, last value blinding factor, commitments / proofs), and their composition
  (`blind_pointwise`): what a successful `blind` returns at each index.
-/
namespace Embit
open Model

/-- the factors pass on one output with index `i` -/
def withFactors (sha : Bytes → Bytes) (ts : Bytes) (i : Nat) (o : BlindOut) : BlindOut :=
  if o.selected then
    { o with abf := some (taggedHash sha "liquid/abf" (ts ++ idx4 i)),
             vbf := some (taggedHash sha "liquid/vbf" (ts ++ idx4 i)) }
  else o

theorem withFactors_selected (sha : Bytes → Bytes) (ts : Bytes) (i : Nat) (o : BlindOut) :
    (withFactors sha ts i o).selected = o.selected := by
  unfold withFactors; split <;> simp [BlindOut.selected]

theorem assignFactors_get (sha : Bytes → Bytes) (ts : Bytes) (l : List BlindOut) (k i : Nat) :
    (assignFactors sha ts k l)[i]? = (l[i]?).map (withFactors sha ts (k + i)) := by
  induction l generalizing k i with
  | nil => simp [assignFactors]
  | cons o r ih =>
    cases i with
    | zero => simp [assignFactors, withFactors]
    | succ j =>
      simp only [assignFactors, List.getElem?_cons_succ]
      rw [ih (k+1) j]
      congr 2; omega

theorem mem_assignFactors (sha : Bytes → Bytes) (ts : Bytes) (l : List BlindOut) (k : Nat) (o : BlindOut)
    (h : o ∈ assignFactors sha ts k l) : ∃ j oo, oo ∈ l ∧ o = withFactors sha ts (k + j) oo := by
  obtain ⟨j, hj⟩ := List.getElem?_of_mem h
  rw [assignFactors_get] at hj
  cases hoj : l[j]? with
  | none => simp [hoj] at hj
  | some oo => exact ⟨j, oo, List.mem_of_getElem? hoj, by simpa [hoj] using hj.symm⟩

theorem assignFactors_selected (sha : Bytes → Bytes) (ts : Bytes) (l : List BlindOut) (k : Nat) :
    (assignFactors sha ts k l).map BlindOut.selected = l.map BlindOut.selected := by
  induction l generalizing k with
  | nil => simp [assignFactors]
  | cons o r ih =>
    have := withFactors_selected sha ts k o
    simp only [assignFactors, List.map_cons, ih (k+1)]
    congr 1

theorem assignFactors_length (sha : Bytes → Bytes) (ts : Bytes) (l : List BlindOut) (k : Nat) :
    (assignFactors sha ts k l).length = l.length := by
  have := congrArg List.length (assignFactors_selected sha ts l k)
  simpa using this

theorem any_selected_of_map {l l' : List BlindOut} (h : l.map BlindOut.selected = l'.map BlindOut.selected) :
    l.any BlindOut.selected = l'.any BlindOut.selected := by
  have e : ∀ x : List BlindOut, x.any BlindOut.selected = (x.map BlindOut.selected).any id := by
    intro x; simp [List.any_map]
  rw [e l, e l', h]

def isLastSelected (l : List BlindOut) (i : Nat) : Bool :=
  match l[i]? with
  | some o => o.selected && !((l.drop (i+1)).any BlindOut.selected)
  | none => false

theorem setLastVbf_get (v : Bytes) (l : List BlindOut) (i : Nat) :
    (setLastVbf v l)[i]? = (l[i]?).map (fun o => if isLastSelected l i then { o with vbf := some v } else o) := by
  induction l generalizing i with
  | nil => simp [setLastVbf]
  | cons o r ih =>
    simp only [setLastVbf]
    split
    · rename_i hc
      simp only [Bool.and_eq_true, Bool.not_eq_true'] at hc
      cases i with
      | zero => simp [isLastSelected, hc.1, hc.2]
      | succ j =>
        simp only [List.getElem?_cons_succ]
        cases hj : r[j]? with
        | none => simp
        | some x =>
          have hx : x.selected = false := by
            have := hc.2
            rw [List.any_eq_false] at this
            simpa using this x (List.mem_of_getElem? hj)
          simp [isLastSelected, hj, hx]
    · rename_i hc
      cases i with
      | zero =>
        have : isLastSelected (o :: r) 0 = false := by
          simp only [isLastSelected, List.getElem?_cons_zero, List.drop_succ_cons, List.drop_zero]
          simpa using hc
        simp [this]
      | succ j =>
        have e : isLastSelected (o :: r) (j+1) = isLastSelected r j := by simp [isLastSelected]
        simp only [List.getElem?_cons_succ, ih j, e]

theorem setLastVbf_of_none (v : Bytes) (l : List BlindOut) (h : l.any BlindOut.selected = false) :
    setLastVbf v l = l := by
  induction l with
  | nil => rfl
  | cons a r ih =>
    simp only [List.any_cons, Bool.or_eq_false_iff] at h
    simp [setLastVbf, h.1, ih h.2]

/-- `setLastVbf` rewrites exactly one element, the last selected one -/
theorem setLastVbf_split (v : Bytes) (l : List BlindOut) (h : l.any BlindOut.selected = true) :
    ∃ pre o post, l = pre ++ o :: post ∧ o.selected = true ∧ post.any BlindOut.selected = false
      ∧ setLastVbf v l = pre ++ { o with vbf := some v } :: post := by
  induction l with
  | nil => simp at h
  | cons a r ih =>
    by_cases hc : a.selected = true ∧ r.any BlindOut.selected = false
    · exact ⟨[], a, r, rfl, hc.1, hc.2, by simp [setLastVbf, hc.1, hc.2]⟩
    · have hr : r.any BlindOut.selected = true := by
        cases ha : a.selected <;> simp [ha] at hc h ⊢ <;> assumption
      obtain ⟨pre, o, post, e, hs, hp, hv⟩ := ih hr
      refine ⟨a :: pre, o, post, by rw [e]; rfl, hs, hp, ?_⟩
      simp only [setLastVbf, hr, Bool.not_true, Bool.and_false, Bool.false_eq_true, if_false, hv, List.cons_append]

theorem setLastVbf_selected (v : Bytes) (l : List BlindOut) :
    (setLastVbf v l).map BlindOut.selected = l.map BlindOut.selected := by
  cases h : l.any BlindOut.selected with
  | false => rw [setLastVbf_of_none v l h]
  | true =>
    obtain ⟨pre, o, post, rfl, _, _, hv⟩ := setLastVbf_split v l h
    simp only [hv, List.map_append, List.map_cons]
    rfl

theorem blindEach_get (Z : Zkp) (sha : Bytes → Bytes) (ts : Bytes) (tags gens abfs : List Bytes)
    (l res : List BlindOut) (k : Nat) (h : blindEach Z sha ts tags gens abfs k l = some res) :
    res.length = l.length ∧ ∀ i o, l[i]? = some o → ∃ r, res[i]? = some r ∧ blindOne Z sha ts tags gens abfs (k + i) o = some r := by
  induction l generalizing k res with
  | nil =>
    simp [blindEach] at h; subst h; simp
  | cons o r ih =>
    simp only [blindEach] at h
    split at h
    · simp at h
    · rename_i o' ho'
      split at h
      · simp at h
      · rename_i r' hr'
        simp at h; subst h
        obtain ⟨hl, hall⟩ := ih r' (k+1) hr'
        refine ⟨by simp [hl], ?_⟩
        intro i x hx
        cases i with
        | zero =>
          simp at hx; subst hx
          exact ⟨o', by simp, by simpa using ho'⟩
        | succ j =>
          simp at hx
          obtain ⟨y, hy1, hy2⟩ := hall j x hx
          refine ⟨y, by simpa using hy1, ?_⟩
          rw [← hy2]; congr 1; omega

/-- what the third pass writes into a selected output: everything is a library function of the output's own
    (value, asset, abf, vbf, blinding key, script), of the hash-derived nonces for its index, and of the inputs -/
structure BlindOneSpec (Z : Zkp) (sha : Bytes → Bytes) (ts : Bytes) (i : Nat) (o r : BlindOut) : Prop where
  same : r.spk = o.spk ∧ r.value = o.value ∧ r.asset = o.asset ∧ r.blindingPubkey = o.blindingPubkey
         ∧ r.abf = o.abf ∧ r.vbf = o.vbf
  commitments : ∃ asset value abf vbf gen vc, o.asset = some asset ∧ o.value = some value ∧ o.abf = some abf
      ∧ o.vbf = some vbf
      ∧ Z.generatorGenerateBlinded asset abf = some gen ∧ Z.generatorSerialize gen = r.assetCommitment
      ∧ Z.pedersenCommit vbf value gen = some vc ∧ Z.pedersenCommitmentSerialize vc = r.valueCommitment
  ecdh : r.ecdhPubkey = Z.pubkeyOfSecret (taggedHash sha "liquid/range_proof" (ts ++ idx4 i))
  proofsPresent : r.rangeProof.isSome ∧ r.surjProof.isSome ∧ r.assetProof.isSome ∧ r.valueProof.isSome

/-- `BlindOneSpec` with the two serialisations named: both commitments are stored (not `none`) -/
structure BlindOneStored (Z : Zkp) (sha : Bytes → Bytes) (ts : Bytes) (i : Nat) (o r : BlindOut) : Prop where
  same : r.spk = o.spk ∧ r.value = o.value ∧ r.asset = o.asset ∧ r.blindingPubkey = o.blindingPubkey
         ∧ r.abf = o.abf ∧ r.vbf = o.vbf
  commitments : ∃ asset value abf vbf gen vc sa sv, o.asset = some asset ∧ o.value = some value ∧ o.abf = some abf
      ∧ o.vbf = some vbf
      ∧ Z.generatorGenerateBlinded asset abf = some gen ∧ Z.generatorSerialize gen = some sa
      ∧ r.assetCommitment = some sa
      ∧ Z.pedersenCommit vbf value gen = some vc ∧ Z.pedersenCommitmentSerialize vc = some sv
      ∧ r.valueCommitment = some sv
  ecdh : r.ecdhPubkey = Z.pubkeyOfSecret (taggedHash sha "liquid/range_proof" (ts ++ idx4 i))
  proofsPresent : r.rangeProof.isSome ∧ r.surjProof.isSome ∧ r.assetProof.isSome ∧ r.valueProof.isSome

theorem BlindOneStored.spec {Z : Zkp} {sha : Bytes → Bytes} {ts : Bytes} {i : Nat} {o r : BlindOut}
    (h : BlindOneStored Z sha ts i o r) : BlindOneSpec Z sha ts i o r := by
  obtain ⟨asset, value, abf, vbf, gen, vc, sa, sv, h1, h2, h3, h4, h5, h6, h7, h8, h9, h10⟩ := h.commitments
  exact ⟨h.same, ⟨asset, value, abf, vbf, gen, vc, h1, h2, h3, h4, h5, h6.trans h7.symm, h8, h9.trans h10.symm⟩,
    h.ecdh, h.proofsPresent⟩

theorem blindOne_stored (Z : Zkp) (sha : Bytes → Bytes) (ts : Bytes) (tags gens abfs : List Bytes) (i : Nat)
    (o r : BlindOut) (h : blindOne Z sha ts tags gens abfs i o = some r) :
    (o.selected = false ∨ o.abf = none → r = o)
    ∧ (o.selected = true → o.abf.isSome = true → BlindOneStored Z sha ts i o r) := by
  unfold blindOne at h
  split at h
  · rename_i bpk value abf hb hv ha
    refine ⟨?_, ?_⟩
    · intro hc
      rcases hc with hc | hc
      · simp [BlindOut.selected, hb, hv] at hc
      · simp [ha] at hc
    · intro _ _
      simp only [] at h
      -- one `split` per library call; every failing branch contradicts `h`
      repeat' (split at h)
      all_goals (try (simp at h; done))
      all_goals (
        obtain rfl := Option.some.inj h
        have hA := ‹o.asset = some _›
        have hG := ‹Z.generatorGenerateBlinded _ abf = some _›
        rw [hA] at hG
        refine ⟨⟨rfl, rfl, rfl, rfl, rfl, rfl⟩, ?_, ?_, ⟨rfl, rfl, rfl, rfl⟩⟩
        · exact ⟨_, _, _, _, _, _, _, _, hA, hv, ha, ‹o.vbf = some _›, by simpa using hG,
            ‹Z.generatorSerialize _ = some _›, rfl, ‹Z.pedersenCommit _ value _ = some _›,
            ‹Z.pedersenCommitmentSerialize _ = some _›, rfl⟩
        · simpa using (‹Z.pubkeyOfSecret _ = some _›).symm)
  · rename_i hno
    simp at h; subst h
    refine ⟨fun _ => rfl, ?_⟩
    intro hs ha
    exfalso
    simp only [BlindOut.selected, Bool.and_eq_true, Option.isSome_iff_exists] at hs
    obtain ⟨⟨b, hb⟩, ⟨v, hv⟩⟩ := hs
    obtain ⟨a, ha'⟩ := Option.isSome_iff_exists.mp ha
    exact hno b v a hb hv ha'

theorem blindOne_spec (Z : Zkp) (sha : Bytes → Bytes) (ts : Bytes) (tags gens abfs : List Bytes) (i : Nat)
    (o r : BlindOut) (h : blindOne Z sha ts tags gens abfs i o = some r) :
    (o.selected = false ∨ o.abf = none → r = o)
    ∧ (o.selected = true → o.abf.isSome = true → BlindOneSpec Z sha ts i o r) :=
  ⟨(blindOne_stored Z sha ts tags gens abfs i o r h).1,
    fun hs ha => ((blindOne_stored Z sha ts tags gens abfs i o r h).2 hs ha).spec⟩

/-- the third pass writes commitments and proofs only -/
theorem blindOne_frame (Z : Zkp) (sha : Bytes → Bytes) (ts : Bytes) (tags gens abfs : List Bytes) (i : Nat)
    (o r : BlindOut) (h : blindOne Z sha ts tags gens abfs i o = some r) :
    r.spk = o.spk ∧ r.value = o.value ∧ r.asset = o.asset ∧ r.blindingPubkey = o.blindingPubkey
      ∧ r.abf = o.abf ∧ r.vbf = o.vbf := by
  obtain ⟨h1, h2⟩ := blindOne_stored Z sha ts tags gens abfs i o r h
  by_cases hc : o.selected = true ∧ o.abf.isSome = true
  · exact (h2 hc.1 hc.2).same
  · have e : r = o := h1 (by
      cases hs : o.selected <;> cases ha : o.abf <;> simp [hs, ha] at hc ⊢)
    simp [e]

def lastSelB (bs : List Bool) (i : Nat) : Bool :=
  match bs[i]? with
  | some b => b && !((bs.drop (i+1)).any id)
  | none => false

theorem isLastSelected_eq (l : List BlindOut) (i : Nat) :
    isLastSelected l i = lastSelB (l.map BlindOut.selected) i := by
  unfold isLastSelected lastSelB
  cases h : l[i]? with
  | none => simp [h]
  | some o =>
    simp only [h, List.getElem?_map, Option.map_some]
    rw [← List.map_drop, List.any_map]
    rfl

theorem isLastSelected_congr {l l' : List BlindOut} (h : l.map BlindOut.selected = l'.map BlindOut.selected) (i : Nat) :
    isLastSelected l i = isLastSelected l' i := by
  rw [isLastSelected_eq, isLastSelected_eq, h]

theorem blind_unfold (Z : Zkp) (sha : Bytes → Bytes) (seed : Bytes) (ins : List BlindIn) (outs res : List BlindOut)
    (h : blind Z sha seed ins outs = some res) :
    (assignFactors sha (txseed sha seed ins outs) 0 outs).any BlindOut.selected = true
    ∧ ∃ a lastVbf tags gens,
      sumArgs ins (assignFactors sha (txseed sha seed ins outs) 0 outs) = some a
      ∧ Z.blindSum a.vals a.abfs a.vbfs a.nIn = some lastVbf
      ∧ surjInputs Z ins = some (tags, gens)
      ∧ blindEach Z sha (txseed sha seed ins outs) tags gens a.abfs 0
          (setLastVbf lastVbf (assignFactors sha (txseed sha seed ins outs) 0 outs)) = some res := by
  unfold blind at h
  simp only [] at h
  split at h
  · simp at h
  · rename_i hany
    split at h
    · simp at h
    · rename_i a ha
      split at h
      · simp at h
      · rename_i lv hlv
        split at h
        · simp at h
        · rename_i tags gens hs
          exact ⟨by simpa using hany, a, lv, tags, gens, ha, hlv, hs, h⟩

/-- the output handed to the third pass at index `i`, for a selected `o` -/
def factored (sha : Bytes → Bytes) (ts lv : Bytes) (outs : List BlindOut) (i : Nat) (o : BlindOut) : BlindOut :=
  { o with abf := some (taggedHash sha "liquid/abf" (ts ++ idx4 i)),
           vbf := some (if isLastSelected outs i then lv else taggedHash sha "liquid/vbf" (ts ++ idx4 i)) }

/-- a successful `blind`, output by output: the three passes composed at index `i` -/
theorem blind_pointwise (Z : Zkp) (sha : Bytes → Bytes) (seed : Bytes) (ins : List BlindIn)
    (outs res : List BlindOut) (h : blind Z sha seed ins outs = some res) :
    res.length = outs.length ∧
    ∃ a lv, sumArgs ins (assignFactors sha (txseed sha seed ins outs) 0 outs) = some a
      ∧ Z.blindSum a.vals a.abfs a.vbfs a.nIn = some lv ∧
    ∀ i o, outs[i]? = some o → ∃ r, res[i]? = some r ∧
      (o.selected = false → r = o) ∧
      (o.selected = true →
        BlindOneStored Z sha (txseed sha seed ins outs) i (factored sha (txseed sha seed ins outs) lv outs i o) r) := by
  obtain ⟨_, a, lv, tags, gens, ha, hlv, hs, he⟩ := blind_unfold Z sha seed ins outs res h
  generalize hts : txseed sha seed ins outs = ts at *
  obtain ⟨hlen, hall⟩ := blindEach_get Z sha ts tags gens a.abfs _ res 0 he
  have hsel1 := assignFactors_selected sha ts outs 0
  have hsel2 := setLastVbf_selected lv (assignFactors sha ts 0 outs)
  refine ⟨?_, a, lv, ha, hlv, ?_⟩
  · have := congrArg List.length (hsel2.trans hsel1)
    simp at this
    omega
  intro i o ho
  have hget : (setLastVbf lv (assignFactors sha ts 0 outs))[i]?
      = some (if isLastSelected outs i then { withFactors sha ts i o with vbf := some lv } else withFactors sha ts i o) := by
    rw [setLastVbf_get, assignFactors_get, ho, isLastSelected_congr hsel1]
    simp
  obtain ⟨r, hr, hone⟩ := hall i _ hget
  simp only [Nat.zero_add] at hone
  refine ⟨r, hr, ?_, ?_⟩
  · intro hns
    have hw : withFactors sha ts i o = o := by simp [withFactors, hns]
    have hl : isLastSelected outs i = false := by simp [isLastSelected, ho, hns]
    rw [hw, hl] at hone
    exact (blindOne_stored Z sha ts tags gens a.abfs i o r hone).1 (Or.inl hns)
  · intro hsel
    have hw : (if isLastSelected outs i then { withFactors sha ts i o with vbf := some lv } else withFactors sha ts i o)
        = factored sha ts lv outs i o := by
      unfold factored; split <;> simp [withFactors, hsel]
    rw [hw] at hone
    exact (blindOne_stored Z sha ts tags gens a.abfs i _ r hone).2 (by simpa [BlindOut.selected, factored] using hsel) rfl

/-- a blinded output of the result, with the output it came from -/
theorem blind_selected_of_mem {Z : Zkp} {sha : Bytes → Bytes} {seed : Bytes} {ins : List BlindIn}
    {outs res : List BlindOut} (h : blind Z sha seed ins outs = some res) {r : BlindOut} (hr : r ∈ res)
    (hs : r.selected = true) :
    ∃ i o lv, o ∈ outs ∧ BlindOneStored Z sha (txseed sha seed ins outs) i
      (factored sha (txseed sha seed ins outs) lv outs i o) r := by
  obtain ⟨hlen, _, lv, _, _, hall⟩ := blind_pointwise Z sha seed ins outs res h
  obtain ⟨i, hi, rfl⟩ := List.getElem_of_mem hr
  obtain ⟨r', hr', hns, hsel⟩ := hall i outs[i] (List.getElem?_eq_getElem (hlen ▸ hi))
  obtain rfl : res[i] = r' := by simpa [List.getElem?_eq_getElem hi] using hr'
  refine ⟨i, _, lv, List.getElem_mem _, hsel ?_⟩
  cases ho : (outs[i]'(hlen ▸ hi)).selected with
  | true => rfl
  | false => rw [hns ho] at hs; exact (ho ▸ hs)

end Embit
