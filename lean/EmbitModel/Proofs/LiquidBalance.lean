import EmbitModel.Proofs.LiquidBlind
import Mathlib.Algebra.Module.Basic
import Mathlib.Tactic.Abel
import Mathlib.Tactic.Ring
/-
  C18: balance of the commitments, RELATIVE to an explicit algebraic reading of the library (`ZkpAlg`, `ZkpLaws`).
  Nothing here is an axiom: the laws are hypotheses of the theorems. That libsecp256k1-zkp satisfies them (the curve
  points form a module over the scalars mod n, `pedersen_commit(r, v, A) = v·A + r·G`,
  `generator_generate_blinded(t, r) = H(t) + r·G`, and `pedersen_blind_generator_blind_sum` returns the last factor
  that makes the blinding terms cancel) is its documented contract — observed in the differential runs through
  `pedersen_verify_tally`, not proved.
-/
namespace Embit
open Model

/-- algebraic reading: scalars `R` (ℤ/n), points `M` (a module over `R`), the blinding generator `G`, the hash-to-
    curve map `H` from asset tags to generators, and decoders for scalars / internal point representations -/
structure ZkpAlg (R M : Type) [CommRing R] [AddCommGroup M] [Module R M] where
  G : M
  H : Bytes → M
  scalar : Bytes → R
  point : Bytes → M

variable {R M : Type} [CommRing R] [AddCommGroup M] [Module R M]

/-- one amount: value, asset tag, decoded asset / value blinding factors -/
structure Entry (R : Type) where
  v : Nat
  asset : Bytes
  abf : R
  vbf : R

def Entry.term (e : Entry R) : R := (e.v : R) * e.abf + e.vbf
/-- the Pedersen commitment `v·(H(asset) + abf·G) + vbf·G` -/
def Entry.commit (A : ZkpAlg R M) (e : Entry R) : M := (e.v : R) • (A.H e.asset + e.abf • A.G) + e.vbf • A.G
/-- the unblinded amount `v·H(asset)` (how an explicit output or the fee enters the balance) -/
def Entry.plain (A : ZkpAlg R M) (e : Entry R) : M := (e.v : R) • A.H e.asset

theorem Entry.commit_eq (A : ZkpAlg R M) (e : Entry R) : e.commit A = e.plain A + e.term • A.G := by
  simp only [Entry.commit, Entry.plain, Entry.term, smul_add, add_smul, mul_smul]
  abel

theorem sum_commit (A : ZkpAlg R M) (l : List (Entry R)) :
    (l.map (Entry.commit A)).sum = (l.map (Entry.plain A)).sum + (l.map Entry.term).sum • A.G := by
  induction l with
  | nil => simp
  | cons e r ih =>
    simp only [List.map_cons, List.sum_cons, ih, Entry.commit_eq, add_smul]
    abel

/-- balance, the algebra: when the blinding terms of inputs and blinded outputs cancel, the difference of the
    commitment sums is the difference of the plain amounts -/
theorem balance_algebra (A : ZkpAlg R M) (ins outs : List (Entry R))
    (h : (ins.map Entry.term).sum = (outs.map Entry.term).sum) :
    (ins.map (Entry.commit A)).sum - (outs.map (Entry.commit A)).sum
      = (ins.map (Entry.plain A)).sum - (outs.map (Entry.plain A)).sum := by
  rw [sum_commit, sum_commit, h]
  abel

/-- … hence with value conservation (inputs = blinded outputs + explicit outputs + fee, per asset generator):
    Σ commit(inputs) = Σ commit(blinded outputs) + Σ v·H(asset) over the explicit outputs and the fee -/
theorem balance_with_fee (A : ZkpAlg R M) (ins outs explicit : List (Entry R))
    (h : (ins.map Entry.term).sum = (outs.map Entry.term).sum)
    (hv : (ins.map (Entry.plain A)).sum = (outs.map (Entry.plain A)).sum + (explicit.map (Entry.plain A)).sum) :
    (ins.map (Entry.commit A)).sum = (outs.map (Entry.commit A)).sum + (explicit.map (Entry.plain A)).sum := by
  have := balance_algebra A ins outs h
  rw [hv, add_sub_cancel_left] at this
  exact sub_eq_iff_eq_add'.mp this

def mkEntries (A : ZkpAlg R M) : List Nat → List Bytes → List Bytes → List Bytes → List (Entry R)
  | v :: vs, t :: ts, a :: as, b :: bs => { v := v, asset := t, abf := A.scalar a, vbf := A.scalar b } :: mkEntries A vs ts as bs
  | _, _, _, _ => []

def termsOf (A : ZkpAlg R M) : List Nat → List Bytes → List Bytes → List R
  | v :: vs, a :: as, b :: bs => ((v : R) * A.scalar a + A.scalar b) :: termsOf A vs as bs
  | _, _, _ => []

theorem mkEntries_terms (A : ZkpAlg R M) (vals : List Nat) (assets abfs vbfs : List Bytes)
    (hl : assets.length = vals.length) :
    (mkEntries A vals assets abfs vbfs).map Entry.term = termsOf A vals abfs vbfs := by
  induction vals generalizing assets abfs vbfs with
  | nil => cases assets <;> simp [mkEntries, termsOf]
  | cons v vs ih =>
    cases assets with
    | nil => simp at hl
    | cons t ts =>
      cases abfs with
      | nil => simp [mkEntries, termsOf]
      | cons a as =>
        cases vbfs with
        | nil => simp [mkEntries, termsOf]
        | cons b bs =>
          simp only [mkEntries, termsOf, List.map_cons, Entry.term]
          rw [ih ts as bs (by simpa using hl)]

/-- replace the last element (the library overwrites the last blinding factor) -/
def setLast (l : List Bytes) (r : Bytes) : List Bytes := l.dropLast ++ [r]

/-- the SPECIFIED behaviour of the library, as laws over an algebraic reading `A` -/
structure ZkpLaws (Z : Zkp) (A : ZkpAlg R M) : Prop where
  /-- `generator_generate_blinded(asset, abf)` is `H(asset) + abf·G` -/
  generator : ∀ asset abf g, Z.generatorGenerateBlinded asset abf = some g → A.point g = A.H asset + A.scalar abf • A.G
  /-- `pedersen_commit(vbf, v, gen)` is `v·gen + vbf·G` -/
  commit : ∀ vbf v gen c, Z.pedersenCommit vbf v gen = some c → A.point c = (v : R) • A.point gen + A.scalar vbf • A.G
  /-- `pedersen_blind_generator_blind_sum(values, abfs, vbfs, n_inputs)` returns the LAST value blinding factor for
      which Σ_{inputs} (v·abf + vbf) = Σ_{outputs} (v·abf + vbf) -/
  blindSum : ∀ vals abfs vbfs nIn r, Z.blindSum vals abfs vbfs nIn = some r →
    ((termsOf A vals abfs (setLast vbfs r)).take nIn).sum = ((termsOf A vals abfs (setLast vbfs r)).drop nIn).sum

/-- what a commitment made by `blind` decodes to -/
theorem commit_decodes {Z : Zkp} {A : ZkpAlg R M} (L : ZkpLaws Z A) (asset abf vbf gen c : Bytes) (v : Nat)
    (hg : Z.generatorGenerateBlinded asset abf = some gen) (hc : Z.pedersenCommit vbf v gen = some c) :
    A.point c = Entry.commit A { v := v, asset := asset, abf := A.scalar abf, vbf := A.scalar vbf } := by
  rw [L.commit vbf v gen c hc, L.generator asset abf gen hg]
  rfl

/-- MAIN (balance of a blinded PSET, relative to `ZkpLaws`): for the values / factors `a` that `blind` hands to the
    library and the factor `lastVbf` it gets back, the commitments of the first `a.nIn` entries (the unblinded
    inputs) minus the commitments of the remaining entries (the blinded outputs, the last one under `lastVbf`) equal
    the plain amounts: all blinding cancels. `assets` are the asset tags of the entries. -/
theorem balance_of_blind {Z : Zkp} {A : ZkpAlg R M} (L : ZkpLaws Z A) (sha : Bytes → Bytes) (seed : Bytes)
    (ins : List BlindIn) (outs res : List BlindOut) (h : blind Z sha seed ins outs = some res) (assets : List Bytes) :
    ∃ a lastVbf, sumArgs ins (assignFactors sha (txseed sha seed ins outs) 0 outs) = some a
      ∧ Z.blindSum a.vals a.abfs a.vbfs a.nIn = some lastVbf
      ∧ (assets.length = a.vals.length →
          let es : List (Entry R) := mkEntries A a.vals assets a.abfs (setLast a.vbfs lastVbf)
          ((es.take a.nIn).map (Entry.commit A)).sum - ((es.drop a.nIn).map (Entry.commit A)).sum
            = ((es.take a.nIn).map (Entry.plain A)).sum - ((es.drop a.nIn).map (Entry.plain A)).sum) := by
  obtain ⟨_, a, lv, tags, gens, ha, hlv, _, _⟩ := blind_unfold Z sha seed ins outs res h
  refine ⟨a, lv, ha, hlv, ?_⟩
  intro hl
  apply balance_algebra
  have hs := L.blindSum a.vals a.abfs a.vbfs a.nIn lv hlv
  rw [← mkEntries_terms A a.vals assets a.abfs (setLast a.vbfs lv) hl] at hs
  rw [List.map_take, List.map_drop]
  exact hs

end Embit
