import EmbitModel.Proofs.DescScripts
/-
  C12, descriptor level: `script_pubkey()` as a function of a small view of the descriptor (flags, compiled
  miniscript, SEC bytes of the key, tap tweak); the specified script through the same view; the script of a derived
  descriptor against the specification (`script_eq_spec_core`).
-/
namespace Embit.Model.Descriptor
open Embit Embit.Miniscript Embit.Spec.Descriptor Embit.Model.Miniscript

variable {K : Type}

def Desc.exprs (d : Desc K) : List (DMs K) :=
  match d.miniscript with
  | some ms => [ms]
  | none => d.taptree.leaves

def compiledTree (ops : KeyOps K) (h : Hashes) : TapTree K → Option STree
  | .empty => none
  | .leaf ms => (compileMs ops h true ms).map STree.leaf
  | .node l r =>
    match compiledTree ops h l, compiledTree ops h r with
    | some a, some b => some (.node a b)
    | _, _ => none

theorem keyBytes_derived {ops : KeyOps K} {h : Hashes} {tweakAdd : Bytes → Bytes → Option Bytes}
    (laws : KeyLaws ops h tweakAdd) (k k' : KeyExpr K) (i b : Nat) (hi : i < 2 ^ 31)
    (hd : k.derive ops h (some i) (some b) = some k') :
    (k'.obj?).map ops.sec = deriveKey ops k i b := by
  have := payload_agree laws k k' i b hi hd false .pk_k
  simp only [fragPayload, argBytes, Bool.false_eq_true, if_false] at this
  cases hk : k'.key with
  | obj key =>
    simp only [keyBytes, hk, Bool.false_eq_true, if_false] at this
    simp only [KeyExpr.obj?, hk, Option.map_some]
    rw [this]
    cases deriveKey ops k i b <;> rfl
  | raw s =>
    simp only [keyBytes, hk] at this
    simp only [KeyExpr.obj?, hk, Option.map_none]
    rw [this]
    cases deriveKey ops k i b <;> rfl

theorem TapTree.mapKeys_empty_iff (f : KeyExpr K → Option (KeyExpr K)) (t t' : TapTree K)
    (h : t.mapKeys f = some t') : (t' = .empty ↔ t = .empty) := by
  cases t with
  | empty => simp [TapTree.mapKeys] at h; subst h; simp
  | leaf ms =>
    simp only [TapTree.mapKeys] at h
    cases hm : ms.mapKeys f with
    | none => simp [hm] at h
    | some ms' =>
      simp only [hm] at h
      split at h
      · cases h; simp
      · cases h
  | node l r =>
    simp only [TapTree.mapKeys] at h
    cases hl : l.mapKeys f with
    | none => simp [hl] at h
    | some l' =>
      cases hr : r.mapKeys f with
      | none => simp [hl, hr] at h
      | some r' => simp [hl, hr] at h; subst h; simp

theorem tree_tweak_derived {ops : KeyOps K} {h : Hashes} {tweakAdd : Bytes → Bytes → Option Bytes}
    (laws : KeyLaws ops h tweakAdd) (t t' : TapTree K) (i b : Nat) (hi : i < 2 ^ 31)
    (ht : t.mapKeys (fun k => k.derive ops h (some i) (some b)) = some t') (hne : t ≠ .empty)
    (hargs : ∀ e ∈ t.leaves, ∀ m, e.toMs (argBytes h true (fun k => deriveKey ops k i b)) = some m →
      m.argsOk = true) :
    t'.tweak ops h = (resolveTree h (fun k => deriveKey ops k i b) t).map (merkleRoot h) := by
  have hne' : t' ≠ .empty := fun he => hne ((TapTree.mapKeys_empty_iff _ t t' ht).mp he)
  have htw : t'.tweak ops h = (tweakHelper ops h t').map (·.2) := by
    cases t' with
    | empty => exact absurd rfl hne'
    | leaf _ => rfl
    | node _ _ => rfl
  rw [htw, tweakHelper_root, treeRoot_mapKeys h _ _ t t' ht, resolveTree_root]
  apply treeRoot_congr
  intro ms hms
  obtain ⟨ms', hm', hacc⟩ := TapTree.mapKeys_leaves _ t t' ht ms hms
  rw [hm', Option.bind_some]
  exact compile_derived_eq laws true ms ms' i b hi hm' (by simpa [ctxOf, leafAccepted] using hacc)
    (hargs ms hms)

/-- `script_pubkey()` from: the four flags, the compiled miniscript (outer `none`: no miniscript; inner: compile
    raised), the SEC bytes of the key object (if there is one), the tap tree's tweak -/
def scriptFromView (h : Hashes) (tweakAdd : Bytes → Bytes → Option Bytes)
    (taproot sh wsh wpkh : Bool) (ms : Option (Option Bytes)) (keySec : Option Bytes) (tw : Option Bytes) :
    Option Bytes :=
  if taproot then
    match keySec, tw with
    | some sec, some t =>
      (tweakAdd (xonlyOf sec) (h.tagged "TapTweak" (xonlyOf sec ++ t))).map fun x => [0x51, 0x20] ++ x
    | _, _ => none
  else if sh then
    match ms with
    | some c => (match c with
      | some sc => if !wsh then some (p2shOf h sc) else some (p2shOf h (p2wshOf h sc))
      | none => none)
    | none => keySec.map fun sec => p2shOf h (p2wpkhOf h sec)
  else if wsh then
    match ms with
    | some (some sc) => some (p2wshOf h sc)
    | _ => none
  else
    match ms with
    | some c => c
    | none => keySec.map fun sec => if wpkh then p2wpkhOf h sec else p2pkhOf h sec

theorem scriptPubkey_eq_view {ops : KeyOps K} {h : Hashes} {tweakAdd : Bytes → Bytes → Option Bytes}
    (laws : KeyLaws ops h tweakAdd) (d : Desc K) :
    d.scriptPubkey ops h = scriptFromView h tweakAdd d.taproot d.sh d.wsh d.wpkh
      (d.miniscript.map (compileMs ops h d.taproot)) ((d.key.bind KeyExpr.obj?).map ops.sec)
      (d.taptree.tweak ops h) := by
  unfold Desc.scriptPubkey scriptFromView Desc.redeemScript Desc.witnessScript
  cases d.taproot
  case true =>
    cases d.key.bind KeyExpr.obj? <;> cases d.taptree.tweak ops h <;> simp [laws.tweak_eq]
  cases d.sh
  case true =>
    cases d.miniscript with
    | none => cases d.key.bind KeyExpr.obj? <;> simp
    | some ms => simp only [Option.map_some]; cases compileMs ops h false ms <;> cases d.wsh <;> simp
  cases d.wsh
  case true =>
    cases d.miniscript with
    | none => simp
    | some ms => simp only [Option.map_some]; cases compileMs ops h false ms <;> simp
  cases d.miniscript <;> cases d.key.bind KeyExpr.obj? <;> cases d.wpkh <;> simp

/-- the tap tree's part of the taproot tweak as the specification has it: `b""`, or the merkle root -/
def specTweak (h : Hashes) (kb : KeyExpr K → Option Bytes) : TapTree K → Option Bytes
  | .empty => some []
  | t => (resolveTree h kb t).map (merkleRoot h)

/-- the specified script through the same view (the seven forms against the flags); no law of the keys is used -/
theorem scriptAt_eq_view (ops : KeyOps K) (h : Hashes) (tweakAdd : Bytes → Bytes → Option Bytes) (d : Desc K)
    (fm : Form K) (i b : Nat) (hform : formOf d = some fm) :
    scriptAt ops h tweakAdd d i b = scriptFromView h tweakAdd d.taproot d.sh d.wsh d.wpkh
      (d.miniscript.map fun e =>
        (e.toMs (argBytes h d.taproot fun k => deriveKey ops k i b)).map Spec.Miniscript.scriptBytes)
      (d.key.bind fun k => deriveKey ops k i b) (specTweak h (fun k => deriveKey ops k i b) d.taptree) := by
  unfold scriptAt
  rw [hform]
  generalize (fun k => deriveKey ops k i b) = kb
  unfold formOf at hform
  unfold scriptFromView
  cases htap : d.taproot with
  | true =>
    simp only [htap, if_true] at hform ⊢
    cases hkey : d.key with
    | none => simp [hkey] at hform
    | some k =>
      simp only [hkey, Option.map_some, Option.some.injEq] at hform
      subst hform
      simp only [Option.bind_some, resolve]
      cases kb k with
      | none => rfl
      | some sec =>
        cases hte : d.taptree with
        | empty => simp [specTweak, SExpr.script, xonlyOf, OP_1]
        | leaf _ | node _ _ =>
          cases hrt : resolveTree h kb d.taptree <;> rw [hte] at hrt <;>
            simp [specTweak, hrt, SExpr.script, xonlyOf, OP_1]
  | false =>
    simp only [htap, Bool.false_eq_true, if_false] at hform ⊢
    cases hms : d.miniscript with
    | some ms =>
      simp only [hms] at hform
      cases hw : d.wsh <;> cases hsh : d.sh <;> simp [hw, hsh] at hform <;> subst hform <;>
        simp only [Option.map_some, resolve, Bool.false_eq_true, if_false, if_true, Bool.not_true, Bool.not_false] <;>
        cases ms.toMs (argBytes h false kb) <;>
        simp [SExpr.script, p2shOf, p2wshOf, OP_HASH160, OP_EQUAL, OP_0]
    | none =>
      cases hkey : d.key with
      | none => simp [hms, hkey] at hform
      | some k =>
        simp only [hms, hkey] at hform
        cases hw : d.wpkh <;> cases hsh : d.sh <;> cases hwsh : d.wsh <;> simp [hw, hsh, hwsh] at hform <;>
          subst hform <;>
          simp only [Option.map_none, Option.bind_some, resolve, Bool.false_eq_true, if_false, if_true] <;>
          cases kb k <;>
          simp [SExpr.script, p2shOf, p2wpkhOf, p2pkhOf, OP_HASH160, OP_EQUAL, OP_0, OP_DUP, OP_EQUALVERIFY,
            OP_CHECKSIG]

/-- SCRIPT = SPEC, success form: whenever `derive(i, b)` succeeds, `script_pubkey()` of the result is the script
    BIP380–386 prescribe for the descriptor's form from the `deriveKey` public keys -/
theorem script_eq_spec_core {ops : KeyOps K} {h : Hashes} {tweakAdd : Bytes → Bytes → Option Bytes}
    (laws : KeyLaws ops h tweakAdd) (d d' : Desc K) (fm : Form K) (i b : Nat) (hi : i < 2 ^ 31)
    (hs : d.Shaped) (hform : formOf d = some fm)
    (hd : d.derive ops h i (some b) = some d')
    (hargs : ∀ e ∈ d.exprs, ∀ m,
      e.toMs (argBytes h d.taproot (fun k => deriveKey ops k i b)) = some m → m.argsOk = true) :
    d'.scriptPubkey ops h = scriptAt ops h tweakAdd d i b := by
  rw [scriptPubkey_eq_view laws d', scriptAt_eq_view ops h tweakAdd d fm i b hform]
  cases hms : d.miniscript with
  | some ms =>
    obtain ⟨ms', hm, hacc, rfl⟩ := Desc.mapKeys_ms hms hd
    have hk : d.key = none ∧ d.taptree = .empty := hs.resolve_left (by simp [hms])
    simp only [msAccepted, Bool.and_eq_true] at hacc
    have hc := compile_derived_eq laws d.taproot ms ms' i b hi hm hacc.1 (hargs ms (by simp [Desc.exprs, hms]))
    simp only [hk.1, hk.2, Option.map_some, hc, Option.bind_none, Option.map_none, TapTree.tweak, specTweak]
  | none =>
    obtain ⟨k, k', t', hkey, hfk, htt, rfl⟩ := Desc.mapKeys_key hms hd
    have hkb := keyBytes_derived laws k k' i b hi hfk
    simp only [hkey, Option.map_none, Option.bind_some, hkb]
    cases htap : d.taproot with
    | false => rfl  -- the tree's tweak is not read
    | true =>
      congr 1
      cases hte : d.taptree with
      | empty => rw [hte] at htt; cases htt; rfl
      | leaf _ | node _ _ =>
        have := tree_tweak_derived laws d.taptree t' i b hi htt (by simp [hte])
          fun e he => htap ▸ hargs e (by simpa [Desc.exprs, hms] using he)
        rw [hte] at this
        exact this

end Embit.Model.Descriptor
