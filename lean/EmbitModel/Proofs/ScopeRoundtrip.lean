import EmbitModel.Proofs.ScopeCanon
import EmbitModel.Proofs.PsbtSerScope
/-
  C04 / C05Y helpers: the two invariants of parsed scopes are one. A canonical scope (`Canon`) without the never-written
  `_utxo` / `_txhash` attributes is a well-formed one (`InWF`) and conversely, so `read_value` (KEEP_ALL) preserves
  well-formedness because it preserves `Canon`, and a canonical scope object survives `write_to` followed by `read_from`
  unchanged: `InScope.addPairs seed (s.pairs ver) = some s` is the serialise-then-parse theorem of `PsbtSerScope`.
-/
namespace Embit
open Model Spec.Wire

theorem OptP.of_forall {α : Type} {P : α → Prop} {o : Option α} (h : ∀ x, o = some x → P x) : OptP P o := by
  cases o with
  | none => trivial
  | some x => exact h x rfl

/-- the two invariants of parsed scopes agree: `Canon` asks of a typed field that its encoding is read back as the
    field, `InWF` asks for the bounds under which that holds. The readers' soundness lemmas give the second from the
    first (here); the codecs' `parse_ser` lemmas give the first from the second (`InWF.canon`). -/
theorem InScope.Canon.wf {ko : KeyOps} {s : InScope} (hc : InScope.Canon ko s) (hh : InScope.NoHidden s) :
    InWF ko s where
  utxoS := hh.1
  txhash := hh.2
  verified := hc.verified
  txid := .of_forall hc.txid
  vout := .of_forall hc.vout
  sequence := .of_forall hc.seq
  nwu := .of_forall fun t ht => ⟨(Props.C03.parse_sound _ _ (hc.nwu t ht).1).1, (hc.nwu t ht).2⟩
  wu := .of_forall fun o ho => ⟨parseAll_TxOut_wf (hc.wu o ho).1, (hc.wu o ho).2⟩
  psigs := hc.psigs.1
  psigsNodup := hc.psigs.2
  sighash := .of_forall hc.sighash
  redeem := .of_forall hc.redeem
  wscript := .of_forall hc.witness
  bip32 := fun e he =>
    have h := hc.bip32.1 e he
    ⟨h.1, h.2.1, Deriv.parse_wf h.2.2.1 h.2.2.2⟩
  bip32Nodup := hc.bip32.2
  fsig := .of_forall hc.fss
  fwit := .of_forall fun w hw =>
    have h := hc.fw w hw
    ⟨(parseAll_witness_wf h.1).1, (parseAll_witness_wf h.1).2, h.2⟩
  tapSigs := hc.tapSigs.1
  tapSigsNodup := hc.tapSigs.2
  tapScripts := hc.tapScripts.1
  tapScriptsNodup := hc.tapScripts.2
  tapBip32 := fun e he =>
    have h := hc.tapBip32.1 e he
    ⟨h.1, h.2.1, tapDerivParse_wf h.2.2.1 h.2.2.2⟩
  tapBip32Nodup := hc.tapBip32.2
  tapIK := .of_forall hc.tik
  tapMR := .of_forall hc.tmr
  unknown := fun kv hkv => by
    obtain ⟨⟨k0, kr, e, ht, hx⟩, hl, hv⟩ := hc.unk.1 kv hkv
    rw [e] at hx
    exact ⟨⟨e ▸ List.cons_ne_nil _ _, hl, hv⟩, by rw [e]; simp [unkKeyIn, ht, hx]⟩
  unknownNodup := hc.unk.2

theorem InWF.canon {ko : KeyOps} {s : InScope} (h : InWF ko s) : InScope.Canon ko s where
  nwu := fun t e => have w := h.nwu.of_eq e; ⟨Props.C03.parse_ser t w.1, w.2⟩
  wu := fun o e => have w := h.wu.of_eq e
    ⟨parseAll_eq_some.mpr (by simpa using TxOut.read_ser o [] w.1), w.2⟩
  verified := h.verified
  psigs := ⟨fun e he => have w := h.psigs e he; ⟨w.1, by simpa [Fits] using w.2.1, w.2.2⟩, h.psigsNodup⟩
  sighash := fun _ e => h.sighash.of_eq e
  redeem := fun _ e => h.redeem.of_eq e
  witness := fun _ e => h.wscript.of_eq e
  bip32 := ⟨fun e he => have w := h.bip32 e he
    ⟨w.1, by simpa [Fits] using w.2.1, Deriv.parse_ser _ w.2.2, w.2.2.2.2⟩, h.bip32Nodup⟩
  fss := fun _ e => h.fsig.of_eq e
  fw := fun w e => have x := h.fwit.of_eq e
    ⟨parseAll_eq_some.mpr (by simpa using witnessRead_ser w [] x.1 x.2.1), x.2.2⟩
  txid := fun _ e => h.txid.of_eq e
  vout := fun _ e => h.vout.of_eq e
  seq := fun _ e => h.sequence.of_eq e
  tapSigs := ⟨h.tapSigs, h.tapSigsNodup⟩
  tapScripts := ⟨fun e he => have w := h.tapScripts e he; ⟨by simpa [Fits] using w.1, w.2⟩, h.tapScriptsNodup⟩
  tapBip32 := ⟨fun e he => have w := h.tapBip32 e he
    ⟨w.1, w.2.1, tapDerivParse_ser _ w.2.2, w.2.2.2.2.2⟩, h.tapBip32Nodup⟩
  tik := fun _ e => h.tapIK.of_eq e
  tmr := fun _ e => h.tapMR.of_eq e
  unk := ⟨fun kv hkv => by
    obtain ⟨⟨hk, hl, hv⟩, hu⟩ := h.unknown kv hkv
    cases hkk : kv.1 with
    | nil => exact absurd hkk hk
    | cons k0 kr =>
      rw [hkk] at hu hl
      simp only [unkKeyIn, Bool.and_eq_true, Bool.not_eq_true'] at hu
      exact ⟨⟨k0, kr, rfl, hu.1, hu.2⟩, hl, hv⟩, h.unknownNodup⟩

theorem OutScope.Canon.wf {ko : KeyOps} {s : OutScope} (hc : OutScope.Canon ko s) : OutWF ko s where
  value := .of_forall hc.value
  spk := .of_forall hc.spk
  redeem := .of_forall hc.redeem
  wscript := .of_forall hc.witness
  bip32 := fun e he =>
    have h := hc.bip32.1 e he
    ⟨h.1, h.2.1, Deriv.parse_wf h.2.2.1 h.2.2.2⟩
  bip32Nodup := hc.bip32.2
  tapBip32 := fun e he =>
    have h := hc.tapBip32.1 e he
    ⟨h.1, h.2.1, tapDerivParse_wf h.2.2.1 h.2.2.2⟩
  tapBip32Nodup := hc.tapBip32.2
  tapIK := .of_forall hc.tik
  unknown := fun kv hkv => by
    obtain ⟨⟨k0, kr, e, ht, hx⟩, hl, hv⟩ := hc.unk.1 kv hkv
    rw [e] at hx
    exact ⟨⟨e ▸ List.cons_ne_nil _ _, hl, hv⟩, by rw [e]; simp [unkKeyOut, ht, hx]⟩
  unknownNodup := hc.unk.2

theorem OutWF.canon {ko : KeyOps} {s : OutScope} (h : OutWF ko s) : OutScope.Canon ko s where
  redeem := fun _ e => h.redeem.of_eq e
  witness := fun _ e => h.wscript.of_eq e
  bip32 := ⟨fun e he => have w := h.bip32 e he
    ⟨w.1, by simpa [Fits] using w.2.1, Deriv.parse_ser _ w.2.2, w.2.2.2.2⟩, h.bip32Nodup⟩
  value := fun _ e => h.value.of_eq e
  spk := fun _ e => h.spk.of_eq e
  tik := fun _ e => h.tapIK.of_eq e
  tapBip32 := ⟨fun e he => have w := h.tapBip32 e he
    ⟨w.1, w.2.1, tapDerivParse_ser _ w.2.2, w.2.2.2.2.2⟩, h.tapBip32Nodup⟩
  unk := ⟨fun kv hkv => by
    obtain ⟨⟨hk, hl, hv⟩, hu⟩ := h.unknown kv hkv
    cases hkk : kv.1 with
    | nil => exact absurd hkk hk
    | cons k0 kr =>
      rw [hkk] at hu hl
      simp only [unkKeyOut, Bool.and_eq_true, Bool.not_eq_true'] at hu
      exact ⟨⟨k0, kr, rfl, hu.1, hu.2⟩, hl, hv⟩, h.unknownNodup⟩

/-- C04 (deepening): one step of `read_value` (KEEP_ALL) preserves scope well-formedness, hence every scope
    `read_from` returns is well-formed; `Canon` is preserved in every reader mode, `InWF` is `Canon` without the
    attributes the other modes set -/
theorem InScope.addPair_wf (ko : KeyOps) (sha : Bytes → Bytes) (s s' : InScope) (k v : Bytes)
    (hkv : KVWF (k, v)) (hw : InWF ko s) (h : InScope.addPair ko sha 0 s k v = some s') : InWF ko s' :=
  have ⟨a, b⟩ := InScope.addPair_hidden0 ko sha s s' k v h
  (InScope.addPair_canon_mode ko sha 0 s s' k v hw.canon hkv h).wf ⟨a.trans hw.utxoS, b.trans hw.txhash⟩

theorem OutScope.addPair_wf (ko : KeyOps) (s s' : OutScope) (k v : Bytes)
    (hkv : KVWF (k, v)) (hw : OutWF ko s) (h : OutScope.addPair ko s k v = some s') : OutWF ko s' :=
  (OutScope.addPair_canon ko s s' k v hw.canon hkv h).wf

theorem InScope.addPairs_wf (ko : KeyOps) (sha : Bytes → Bytes) : ∀ (kvs : List KV) (s s' : InScope),
    (∀ kv ∈ kvs, KVWF kv) → InWF ko s → InScope.addPairs ko sha 0 s kvs = some s' → InWF ko s' :=
  fun _ _ _ => InScope.addPairs_invariant (InScope.addPair_wf ko sha _ _ _ _)

theorem OutScope.addPairs_wf (ko : KeyOps) : ∀ (kvs : List KV) (s s' : OutScope),
    (∀ kv ∈ kvs, KVWF kv) → OutWF ko s → OutScope.addPairs ko s kvs = some s' → OutWF ko s' :=
  fun _ _ _ => OutScope.addPairs_invariant (OutScope.addPair_wf ko _ _ _ _)

theorem InWF_empty (ko : KeyOps) : InWF ko {} := (InScope.canon_empty ko).wf ⟨rfl, rfl⟩
theorem OutWF_empty (ko : KeyOps) : OutWF ko {} := (OutScope.canon_empty ko).wf

theorem seedIn_wf (ko : KeyOps) (tx : Option Tx) (htx : OptP WF tx) (i : Nat) : InWF ko (seedIn tx i) := by
  unfold seedIn
  cases tx with
  | none => exact InWF_empty ko
  | some t =>
    simp only
    cases hi : t.vin[i]? with
    | none => exact InWF_empty ko
    | some vi =>
      have hwi : WFIn vi := (show WF t from htx).ins vi (List.mem_of_getElem? hi)
      exact { InWF_empty ko with txid := hwi.txid, vout := hwi.vout, sequence := hwi.sequence }

theorem seedOut_wf (ko : KeyOps) (tx : Option Tx) (htx : OptP WF tx) (i : Nat) : OutWF ko (seedOut tx i) := by
  unfold seedOut
  cases tx with
  | none => exact OutWF_empty ko
  | some t =>
    simp only
    cases hi : t.vout[i]? with
    | none => exact OutWF_empty ko
    | some vo =>
      have hwo : WFOut vo := (show WF t from htx).outs vo (List.mem_of_getElem? hi)
      exact { OutWF_empty ko with value := hwo.value, spk := hwo.script }

theorem InScope.canon_roundtrip (ko : KeyOps) (sha : Bytes → Bytes) (ver : Option Nat) (s : InScope)
    (a : Option Bytes) (b c : Option Nat) (hc : InScope.Canon ko s) (hh : InScope.NoHidden s)
    (htx : if ver = some 2 then (a = none ∧ b = none ∧ c = none) else (s.txid = a ∧ s.vout = b ∧ s.sequence = c)) :
    InScope.addPairs ko sha 0 { txid := a, vout := b, sequence := c } (s.pairs ver) = some s := by
  have seed : ({ txid := a, vout := b, sequence := c } : InScope) = InScope.seedOf ver s := by
    unfold InScope.seedOf
    split at htx <;> rename_i hv <;> obtain ⟨rfl, rfl, rfl⟩ := htx
    · rw [if_pos hv]
    · rw [if_neg hv]
  rw [seed]
  exact InScope.addPairs_pairs ko sha ver s (hc.wf hh)

theorem OutScope.canon_roundtrip (ko : KeyOps) (ver : Option Nat) (s : OutScope) (a : Option Nat) (b : Option Bytes)
    (hc : OutScope.Canon ko s)
    (htx : if ver = some 2 then (a = none ∧ b = none) else (s.value = a ∧ s.spk = b)) :
    OutScope.addPairs ko { value := a, spk := b } (s.pairs ver) = some s := by
  have seed : ({ value := a, spk := b } : OutScope) = OutScope.seedOf ver s := by
    unfold OutScope.seedOf
    split at htx <;> rename_i hv <;> obtain ⟨rfl, rfl⟩ := htx
    · rw [if_pos hv]
    · rw [if_neg hv]
  rw [seed]
  exact OutScope.addPairs_pairs ko ver s hc.wf

theorem InScope.canon_pairs_wf (ko : KeyOps) (ver : Option Nat) (s : InScope) (hc : InScope.Canon ko s) :
    ∀ kv ∈ s.pairs ver, KVWF kv :=
  InScope.pairs_wf ko ver s.erase ((InScope.erase_canon ko s hc).wf ⟨rfl, rfl⟩)

theorem OutScope.canon_pairs_wf (ko : KeyOps) (ver : Option Nat) (s : OutScope) (hc : OutScope.Canon ko s) :
    ∀ kv ∈ s.pairs ver, KVWF kv :=
  OutScope.pairs_wf ko ver s hc.wf

end Embit
