import EmbitModel.Model.Blech32
import EmbitModel.Proofs.PolymodLinear
import EmbitModel.Proofs.ConvertBits
/-
  Proofs about the blech32 model (embit/liquid/blech32.py). Core Lean only (no Mathlib).

  The checksum step is `Polymod.step 5 55 gsel` (Proofs/PolymodLinear.lean), so a created checksum verifies for every
  `hrp` and `data`; the round trips follow. `convertBits` is `convertbits` of the bech32 model (Proofs/ConvertBits.lean).
-/
namespace Embit.Blech32
open Embit.Model.Blech32 Embit.Digits Embit.Polymod

def genTerm (top i g : Nat) : Nat := if (top >>> i) &&& 1 ≠ 0 then g else 0

/-- what the `for i in range(5)` loop XORs in -/
def gsel (top : Nat) : Nat :=
  genTerm top 0 0x7D52FBA40BD886 ^^^ genTerm top 1 0x5E8DBF1A03950C ^^^ genTerm top 2 0x1C3A3C74072A18
    ^^^ genTerm top 3 0x385D72FA0E5139 ^^^ genTerm top 4 0x7093E5A608865B

theorem polymodStep_eq (chk v : Nat) : polymodStep chk v = step 5 55 gsel chk v := by
  show ((chk &&& 0x7FFFFFFFFFFFFF) <<< 5) ^^^ v ^^^ genTerm (chk >>> 55) 0 0x7D52FBA40BD886
      ^^^ genTerm (chk >>> 55) 1 0x5E8DBF1A03950C ^^^ genTerm (chk >>> 55) 2 0x1C3A3C74072A18
      ^^^ genTerm (chk >>> 55) 3 0x385D72FA0E5139 ^^^ genTerm (chk >>> 55) 4 0x7093E5A608865B = _
  simp only [step, gsel, Nat.xor_assoc, Nat.reducePow, Nat.reduceSub]

theorem polymod_eq (vs : List Nat) : polymod vs = vs.foldl (step 5 55 gsel) 1 := by
  rw [polymod, show polymodStep = step 5 55 gsel from funext fun c => funext (polymodStep_eq c)]

theorem genTerm_testBit (top i g : Nat) : genTerm top i g = if top.testBit i then g else 0 := by
  unfold genTerm Nat.testBit
  rw [Nat.and_comm]
  by_cases h : 1 &&& top >>> i = 0 <;> simp [h]

theorem genTerm_xor (s t i g : Nat) : genTerm (s ^^^ t) i g = genTerm s i g ^^^ genTerm t i g := by
  simp only [genTerm_testBit, Nat.testBit_xor]
  cases s.testBit i <;> cases t.testBit i <;> simp

theorem genTerm_lt (top i : Nat) {g : Nat} (hg : g < 2 ^ 60) : genTerm top i g < 2 ^ 60 := by
  unfold genTerm; split
  · exact hg
  · exact Nat.two_pow_pos 60

theorem gsel_sel : Sel 5 55 gsel where
  xor s t := by
    simp only [gsel, genTerm_xor]
    ac_rfl
  lt t := by
    have hx := @Nat.xor_lt_two_pow
    exact hx (hx (hx (hx (genTerm_lt _ _ (by decide)) (genTerm_lt _ _ (by decide))) (genTerm_lt _ _ (by decide)))
      (genTerm_lt _ _ (by decide))) (genTerm_lt _ _ (by decide))

theorem foldl_polymodStep_zero (n : Nat) : (List.replicate n 0).foldl polymodStep 0 = 0 := by
  induction n with
  | zero => rfl
  | succ n ih => rw [List.replicate_succ, List.foldl_cons, show polymodStep 0 0 = 0 by decide, ih]

/-- the twelve symbols cut out by `bech32_create_checksum` are the base-32 digits of the 60-bit register -/
theorem createChecksum_eq (hrp data : List Nat) :
    createChecksum hrp data = fixedBE (2 ^ 5) 12 (polymod (hrpExpand hrp ++ data ++ List.replicate 12 0) ^^^ 1) := by
  have h31 : ∀ x : Nat, x &&& 0x1F = x % 32 := fun x => Nat.and_two_pow_sub_one_eq_mod x 5
  simp only [createChecksum, List.range, List.range.loop, List.map_cons, List.map_nil, fixedBE, h31,
    Nat.shiftRight_eq_div_pow, List.nil_append, List.cons_append]
  simp only [Nat.reduceMul, Nat.reduceSub, Nat.reducePow, Nat.div_div_eq_div_mul, Nat.div_one]

theorem createChecksum_length (hrp data : List Nat) : (createChecksum hrp data).length = 12 := by
  rw [createChecksum_eq, fixedBE_length]

theorem createChecksum_lt (hrp data : List Nat) : ∀ d ∈ createChecksum hrp data, d < 32 := by
  rw [createChecksum_eq]; exact fixedBE_lt (by decide) 12 _

/-- a created checksum verifies — for every `hrp` and `data`, no side condition: appending the digits of
    `P ^^^ 1`, where `P` is the register after twelve zero symbols, XORs `P ^^^ 1` into `P` -/
theorem create_verify (hrp data : List Nat) :
    verifyChecksum hrp (data ++ createChecksum hrp data) = true := by
  rw [createChecksum_eq, verifyChecksum, ← List.append_assoc]
  simp only [polymod_eq, List.foldl_append]
  rw [foldl_step_checksum gsel_sel _ 1 12 (by decide) (by decide) (by decide)]
  rfl

theorem charAt_table : ∀ d, d < 32 →
    (33 ≤ charAt d ∧ charAt d ≤ 126) ∧ lowerC (charAt d) = charAt d ∧ charAt d ≠ 49 ∧
    charset.contains (charAt d) = true ∧ charIdx (charAt d) = d := by
  decide +kernel

theorem rfind_none (c : Nat) (l : List Nat) (h : c ∉ l) : rfind c l = none := by
  induction l with
  | nil => rfl
  | cons x xs ih =>
    simp only [List.mem_cons, not_or] at h
    simp only [rfind, ih h.2]
    simp [Ne.symm h.1]

theorem rfind_sep (c : Nat) (h t : List Nat) (ht : c ∉ t) : rfind c (h ++ c :: t) = some h.length := by
  induction h with
  | nil => simp [rfind, rfind_none c t ht]
  | cons x xs ih => simp [rfind, ih]

/-- well-formed human-readable part for `bech32_decode`: non-empty, printable ASCII, no upper case -/
def HrpOk (hrp : List Nat) : Prop :=
  hrp ≠ [] ∧ ∀ c ∈ hrp, 33 ≤ c ∧ c ≤ 126 ∧ ¬ (65 ≤ c ∧ c ≤ 90)

instance (hrp : List Nat) : Decidable (HrpOk hrp) := by unfold HrpOk; infer_instance

theorem map_id_of_forall {f : Nat → Nat} (l : List Nat) (hl : ∀ x ∈ l, f x = x) : l.map f = l := by
  induction l with
  | nil => rfl
  | cons d ds ih => simp [hl d (by simp), ih (fun d hd => hl d (by simp [hd]))]

theorem bech32Decode_sep (hrp S : List Nat) (hh : HrpOk hrp) (hS : ∀ x ∈ S, x ∈ charset)
    (hlen : 6 ≤ S.length) :
    bech32Decode (hrp ++ [49] ++ S)
      = if verifyChecksum hrp (S.map charIdx) then some (hrp, (S.map charIdx).take (S.length - 12))
        else none := by
  obtain ⟨hne, hc⟩ := hh
  have hS_tab : ∀ x ∈ S, (33 ≤ x ∧ x ≤ 126) ∧ lowerC x = x ∧ x ≠ 49 := by
    have : ∀ x ∈ charset, (33 ≤ x ∧ x ≤ 126) ∧ lowerC x = x ∧ x ≠ 49 := by decide
    exact fun x hx => this x (hS x hx)
  have hlow : (hrp ++ [49] ++ S).map lowerC = hrp ++ [49] ++ S := by
    apply map_id_of_forall
    intro x hx
    simp only [List.mem_append, List.mem_singleton] at hx
    rcases hx with (hx | hx) | hx
    · have := hc x hx; unfold lowerC; rw [if_neg this.2.2]
    · subst hx; decide
    · exact (hS_tab x hx).2.1
  have hrange : (hrp ++ [49] ++ S).any (fun x => x < 33 || x > 126) = false := by
    rw [List.any_eq_false]
    intro x hx
    simp only [List.mem_append, List.mem_singleton] at hx
    have : 33 ≤ x ∧ x ≤ 126 := by
      rcases hx with (hx | hx) | hx
      · have := hc x hx; exact ⟨this.1, this.2.1⟩
      · subst hx; decide
      · exact (hS_tab x hx).1
    simp; omega
  have hfind : rfind 49 (hrp ++ [49] ++ S) = some hrp.length := by
    rw [List.append_assoc]
    exact rfind_sep 49 hrp S (fun h => (hS_tab 49 h).2.2 rfl)
  have hpos : 1 ≤ hrp.length := by
    cases hrp with
    | nil => exact absurd rfl hne
    | cons _ _ => simp
  have hdrop : (hrp ++ [49] ++ S).drop (hrp.length + 1) = S := by
    have : (hrp ++ [49]).length = hrp.length + 1 := by simp
    rw [← this, List.drop_left]
  have htake : (hrp ++ [49] ++ S).take hrp.length = hrp := by
    rw [List.append_assoc, List.take_left]
  have hall : S.all (fun x => charset.contains x) = true := by
    rw [List.all_eq_true]; intro x hx; simpa using hS x hx
  have h1 : (decide (hrp.length < 1) || decide (hrp.length + 7 > (hrp ++ [49] ++ S).length)) = false := by
    simp only [List.length_append, List.length_singleton, Bool.or_eq_false_iff, decide_eq_false_iff_not]
    omega
  unfold bech32Decode
  simp only [hrange, hlow, bne_self_eq_false, Bool.false_and, Bool.or_self, Bool.false_eq_true, ↓reduceIte, hfind,
    hdrop, htake, hall, Bool.not_true, h1, List.length_map]
  cases verifyChecksum hrp (S.map charIdx) <;> simp

theorem bech32Decode_encode (hrp data : List Nat) (hh : HrpOk hrp) (hd : ∀ d ∈ data, d < 32) :
    bech32Decode (bech32Encode hrp data) = some (hrp, data) := by
  have hcs : ∀ d ∈ data ++ createChecksum hrp data, d < 32 := by
    intro d hd'
    rcases List.mem_append.1 hd' with h | h
    · exact hd d h
    · exact createChecksum_lt hrp data d h
  have hlen := createChecksum_length hrp data
  have hver := create_verify hrp data
  have hidx : (List.map charAt (data ++ createChecksum hrp data)).map charIdx
      = data ++ createChecksum hrp data := by
    rw [List.map_map]
    exact map_id_of_forall _ (fun d hd => (charAt_table d (hcs d hd)).2.2.2.2)
  unfold bech32Encode
  simp only
  rw [bech32Decode_sep hrp _ hh]
  · rw [hidx, hver]
    simp [hlen]
  · intro x hx
    obtain ⟨d, hd', rfl⟩ := List.mem_map.1 hx
    simpa using (charAt_table d (hcs d hd')).2.2.2.1
  · simp [hlen]

def bitsBE : Nat → Nat → List Bool
  | 0, _ => []
  | w + 1, x => x.testBit w :: bitsBE w x

def bitsOf (w : Nat) (xs : List Nat) : List Bool := xs.flatMap (bitsBE w)

@[simp] theorem bitsOf_nil (w : Nat) : bitsOf w [] = [] := rfl

theorem decode_encode (hrp : List Nat) (witver : Nat) (witprog : List Nat) (hh : HrpOk hrp)
    (hv : witver < 32) (hp : ∀ b ∈ witprog, b < 256) :
    ∃ conv, convertBits witprog 8 5 true = some conv ∧
      decode hrp (bech32Encode hrp ([witver] ++ conv)) = some (witver, some witprog) ∧
      encode hrp witver witprog = some (bech32Encode hrp ([witver] ++ conv)) := by
  obtain ⟨conv, h1, h2, -, -, h3⟩ := Model.Bech32.convertbits_8_5_8 witprog hp
  rw [← Model.Bech32.blech_convertBits_eq _ _ _ (by decide)] at h1 h3
  have hdec : decode hrp (bech32Encode hrp ([witver] ++ conv)) = some (witver, some witprog) := by
    unfold decode
    rw [bech32Decode_encode hrp _ hh (by
      intro d hd
      rcases List.mem_append.1 hd with h | h
      · rw [List.mem_singleton.1 h]; exact hv
      · exact h2 d h)]
    simp [h3]
  refine ⟨conv, h1, hdec, ?_⟩
  unfold encode
  simp only [h1, hdec]
  have : ¬ witver ≥ 32 := by omega
  simp [this]

/-- the same with the regrouped program written as in the Python source -/
theorem decode_encode' (hrp : List Nat) (witver : Nat) (witprog : List Nat) (hh : HrpOk hrp)
    (hv : witver < 32) (hp : ∀ b ∈ witprog, b < 256) :
    decode hrp (bech32Encode hrp ([witver] ++ (convertBits witprog 8 5 true).getD []))
      = some (witver, some witprog) ∧
    encode hrp witver witprog
      = some (bech32Encode hrp ([witver] ++ (convertBits witprog 8 5 true).getD [])) := by
  obtain ⟨conv, h1, h2, h3⟩ := decode_encode hrp witver witprog hh hv hp
  rw [h1]; exact ⟨h2, h3⟩

theorem encode_decode (hrp : List Nat) (witver : Nat) (witprog addr : List Nat) (hh : HrpOk hrp)
    (hv : witver < 32) (hp : ∀ b ∈ witprog, b < 256) (he : encode hrp witver witprog = some addr) :
    decode hrp addr = some (witver, some witprog) := by
  obtain ⟨conv, _, h2, h3⟩ := decode_encode hrp witver witprog hh hv hp
  rw [h3] at he
  cases he; exact h2

/-! ### non-vacuity

  The kernel is slow on `String.toList` of a long literal and on the `Char.toNat (Char.ofNat _)` it leaves behind, so
  the test vectors are first turned into lists of code points (`ofString_ofList`, the literal being `String.ofList _`
  by `rfl`) and evaluated on those. -/

theorem ofString_ofList (l : List Char) : ofString (String.ofList l) = l.map Char.toNat := by
  rw [ofString, String.toList_ofList]

theorem toString'_ofString (s : String) : toString' (ofString s) = s := by
  simp [toString', ofString, List.map_map, Function.comp_def]

example : verifyChecksum (ofString "lq") ([0, 1, 2] ++ createChecksum (ofString "lq") [0, 1, 2]) = true := by
  decide +kernel

example : HrpOk (ofString "el") := by decide
example : HrpOk (ofString "tlq") := by decide

example : (toString' <$> encode (ofString "el") 0 (List.range 53)) =
    some "el1qqqqsyqcyq5rqwzqfpg9scrgwpugpzysnzs23v9ccrydpk8qarc0jqgfzyvjz2f389q5j52ev95hz7vp3xgengh4sl4qghhy3v" := by
  have h := (decode_encode' (ofString "el") 0 (List.range 53) (by decide) (by decide) (by decide)).2
  have e : bech32Encode (ofString "el") ([0] ++ (convertBits (List.range 53) 8 5 true).getD []) = ofString
      "el1qqqqsyqcyq5rqwzqfpg9scrgwpugpzysnzs23v9ccrydpk8qarc0jqgfzyvjz2f389q5j52ev95hz7vp3xgengh4sl4qghhy3v" := by
    rw [ofString_ofList, ofString_ofList]
    simp only [List.map_cons, List.map_nil, Char.reduceToNat]
    decide +kernel
  rw [h, e]; exact congrArg some (toString'_ofString _)

example : decode (ofString "el") (ofString
    "el1qqqqsyqcyq5rqwzqfpg9scrgwpugpzysnzs23v9ccrydpk8qarc0jqgfzyvjz2f389q5j52ev95hz7vp3xgengh4sl4qghhy3v")
    = some (0, some (List.range 53)) := by
  rw [ofString_ofList, ofString_ofList]
  simp only [List.map_cons, List.map_nil, Char.reduceToNat]
  decide +kernel

/-- a bad checksum is rejected -/
example : decode (ofString "el") (ofString
    "el1qqqqsyqcyq5rqwzqfpg9scrgwpugpzysnzs23v9ccrydpk8qarc0jqgfzyvjz2f389q5j52ev95hz7vp3xgengh4sl4qghhy3q")
    = none := by
  rw [ofString_ofList, ofString_ofList]
  simp only [List.map_cons, List.map_nil, Char.reduceToNat]
  decide +kernel

/-- the `HrpOk` hypothesis matters: with an upper-case `hrp` the decode-back check inside `encode` fails
    (`bech32_decode` lower-cases the string, so `hrpgot != hrp`) and `encode` answers `None`. -/
example : encode (ofString "EL") 0 [0, 1, 2, 3, 4] = none := by decide +kernel

end Embit.Blech32
