import EmbitModel.Proofs.DerInt
/-
  The model DER parser accepts exactly the BIP66 encodings: soundness and completeness of `parseRS` with respect to
  `Spec.Der.IsDerInt`, hence round trip and uniqueness for the model serialiser.
-/
namespace Embit
open Embit.Model.Der Embit.Spec.Der

theorem and_two_pow_eq_zero (a i : Nat) : a &&& 2 ^ i = 0 ↔ a.testBit i = false := by
  refine ⟨fun h => ?_, fun h => Nat.eq_of_testBit_eq fun j => ?_⟩
  · have := Nat.testBit_and a (2 ^ i) i
    rw [h, Nat.zero_testBit, Nat.testBit_two_pow_self, Bool.and_true] at this
    exact this.symm
  · rw [Nat.testBit_and, Nat.testBit_two_pow, Nat.zero_testBit]
    by_cases hj : i = j
    · rw [← hj, h]; rfl
    · simp [hj]

theorem and80 (y : UInt8) : (y &&& 0x80 = 0) ↔ y.toNat < 128 := by
  have hy := y.toNat_lt
  rw [← UInt8.toNat_inj, UInt8.toNat_and]
  show y.toNat &&& 2 ^ 7 = 0 ↔ _
  rw [and_two_pow_eq_zero, Nat.testBit_eq_decide_div_mod_eq, decide_eq_false_iff_not]
  omega
theorem ge80 (y : UInt8) : (y ≥ 0x80) ↔ y.toNat ≥ 128 := by
  simp [UInt8.le_iff_toNat_le]

theorem excessPad_eq (b : Bytes) (len i : Nat) (x0 x1 : UInt8) (h0 : b[i]? = some x0)
    (h1 : len > 1 → b[i+1]? = some x1) :
    excessPad b len i = some (decide (len > 1 ∧ x0 = 0 ∧ x1.toNat < 128)) := by
  unfold excessPad
  by_cases hl : len > 1
  · simp only [hl, if_true, at', h0, h1 hl]
    by_cases hx : x0 = 0
    · simp [hx, and80]
    · simp [hx]
  · simp [hl]

@[simp] theorem req_eq_some (c : Prop) [Decidable c] (u : Unit) : req c = some u ↔ c := by
  unfold req; split <;> simp [*]

theorem drop_cons_of_getElem? (l : Bytes) (i : Nat) (a : UInt8) (h : l[i]? = some a) :
    l.drop i = a :: l.drop (i + 1) := by
  obtain ⟨hlt, rfl⟩ := List.getElem?_eq_some_iff.mp h
  exact List.drop_eq_getElem_cons hlt

theorem int_field (b : Bytes) (i len : Nat) (x0 : UInt8) (h0 : b[i]? = some x0) (hlen : 1 ≤ len)
    (hb : i + len ≤ b.length) (hpos : ¬ x0 ≥ 0x80) (hpad : excessPad b len i = some false) :
    IsDerInt ((b.drop i).take len) (ofBe ((b.drop i).take len)) ∧ ((b.drop i).take len).length = len := by
  have hl : ((b.drop i).take len).length = len := by simp; omega
  refine ⟨⟨rfl, ?_, ?_, ?_⟩, hl⟩
  · intro h; rw [h] at hl; simp at hl; omega
  · intro a ha
    rw [List.getElem?_take] at ha
    simp only [show 0 < len by omega, if_true, List.getElem?_drop, Nat.add_zero] at ha
    rw [h0] at ha; cases ha
    rw [ge80] at hpos; omega
  · intro a c ha hc ha0
    rw [List.getElem?_take] at ha hc
    simp only [show 0 < len by omega, if_true, List.getElem?_drop, Nat.add_zero] at ha
    rw [h0] at ha; cases ha
    split at hc
    · rename_i h1
      simp only [List.getElem?_drop] at hc
      rw [excessPad_eq b len i x0 c h0 (fun _ => hc)] at hpad
      simp at hpad
      have := hpad h1 ha0
      omega
    · cases hc

theorem parseRS_sound (b : Bytes) (r s : Nat) (h : parseRS b = some (r, s)) :
    ∃ x y, IsDerInt x r ∧ IsDerInt y s ∧ x.length ≤ 33 ∧ y.length ≤ 33 ∧
      b = 0x30 :: UInt8.ofNat (4 + x.length + y.length) :: 0x02 :: UInt8.ofNat x.length ::
            (x ++ 0x02 :: UInt8.ofNat y.length :: y) := by
  unfold parseRS at h
  simp only [bind, Option.bind_eq_some_iff, req_eq_some, pure, Option.some.injEq, exists_const, Prod.mk.injEq] at h
  obtain ⟨l1, hl1, hL, hlen4, t0, ht0, rfl, t2, ht2, rfl, rl, hrl, hlen6, hrlen, r0, hr0, hr0p, padr, hpadr, rfl,
    t4, ht4, rfl, sl, hsl, hslen, hlen, s0, hs0, hs0p, pads, hpads, rfl, hr, hs⟩ := h
  simp only [at'] at *
  obtain ⟨hx, hxl⟩ := int_field b 4 rl.toNat r0 hr0 (by omega) (by omega) hr0p hpadr
  obtain ⟨hy, hyl⟩ := int_field b (rl.toNat + 6) sl.toNat s0 hs0 (by omega) (by omega) hs0p hpads
  rw [hr] at hx; rw [hs] at hy
  refine ⟨_, _, hx, hy, by omega, by omega, ?_⟩
  rw [hxl, hyl]
  have e0 := drop_cons_of_getElem? b 0 _ ht0
  have e1 := drop_cons_of_getElem? b 1 _ hl1
  have e2 := drop_cons_of_getElem? b 2 _ ht2
  have e3 := drop_cons_of_getElem? b 3 _ hrl
  have e4 := drop_cons_of_getElem? b _ _ ht4
  have e5 := drop_cons_of_getElem? b _ _ hsl
  have hy2 : List.take sl.toNat (List.drop (rl.toNat + 6) b) = List.drop (rl.toNat + 6) b := by
    apply List.take_of_length_le; simp; omega
  have hsplit : List.drop 4 b = List.take rl.toNat (List.drop 4 b) ++ List.drop (rl.toNat + 4) b := by
    have := (List.take_append_drop rl.toNat (List.drop 4 b)).symm
    rw [List.drop_drop, Nat.add_comm 4] at this
    exact this
  have hl1' : l1 = UInt8.ofNat (4 + rl.toNat + sl.toNat) := by
    apply UInt8.toNat_inj.mp; simp; omega
  simp only [List.drop_zero] at e0
  have hb : b = 48 :: l1 :: 2 :: rl :: (List.take rl.toNat (List.drop 4 b) ++
      2 :: sl :: List.drop (rl.toNat + 6) b) := by
    calc b = 48 :: List.drop 1 b := e0
      _ = 48 :: l1 :: List.drop 2 b := by rw [e1]
      _ = 48 :: l1 :: 2 :: List.drop 3 b := by rw [e2]
      _ = 48 :: l1 :: 2 :: rl :: List.drop 4 b := by rw [e3]
      _ = 48 :: l1 :: 2 :: rl :: (List.take rl.toNat (List.drop 4 b) ++ List.drop (rl.toNat + 4) b) := by
          rw [← hsplit]
      _ = _ := by rw [e4, e5]
  rw [hy2, ← hl1']
  simp only [UInt8.ofNat_toNat]
  exact hb

theorem excessPad_isDer (b x : Bytes) (v i : Nat) (hx : IsDerInt x v)
    (h0 : b[i]? = x[0]?) (h1 : b[i+1]? = x[1]? ∨ x.length ≤ 1) : excessPad b x.length i = some false := by
  obtain ⟨_, hne, hpos, hmin⟩ := hx
  match x, hne with
  | [a], _ =>
    simp [excessPad]
  | a :: c :: rest, _ =>
    have h1' : b[i+1]? = some c := by
      rcases h1 with h | h
      · simpa using h
      · simp at h
    rw [excessPad_eq b _ i a c (by simpa using h0) (fun _ => h1')]
    have := hmin a c (by simp) (by simp)
    simp
    intro ha
    exact this ha

theorem idx_app (x tl : Bytes) (k : Nat) : (x ++ tl)[x.length + k]? = tl[k]? := by
  simp [List.getElem?_append_right]

theorem idx_app0 (x tl : Bytes) : (x ++ tl)[x.length]? = tl[0]? := by
  simpa using idx_app x tl 0

theorem parseRS_complete (x y : Bytes) (r s : Nat) (hx : IsDerInt x r) (hy : IsDerInt y s)
    (hxl : x.length ≤ 33) (hyl : y.length ≤ 33) :
    parseRS (0x30 :: UInt8.ofNat (4 + x.length + y.length) :: 0x02 :: UInt8.ofNat x.length ::
            (x ++ 0x02 :: UInt8.ofNat y.length :: y)) = some (r, s) := by
  have hxne : 1 ≤ x.length := by
    have := hx.nonempty; cases x with | nil => exact absurd rfl this | cons _ _ => simp
  have hyne : 1 ≤ y.length := by
    have := hy.nonempty; cases y with | nil => exact absurd rfl this | cons _ _ => simp
  have hL : (UInt8.ofNat (4 + x.length + y.length)).toNat = 4 + x.length + y.length := by
    rw [UInt8.toNat_ofNat']; omega
  have hLx : (UInt8.ofNat x.length).toNat = x.length := by rw [UInt8.toNat_ofNat']; omega
  have hLy : (UInt8.ofNat y.length).toNat = y.length := by rw [UInt8.toNat_ofNat']; omega
  obtain ⟨x0, hx0⟩ : ∃ x0, x[0]? = some x0 := ⟨x[0], by simp⟩
  obtain ⟨y0, hy0⟩ : ∃ y0, y[0]? = some y0 := ⟨y[0], by simp⟩
  have hx0p := hx.positive x0 hx0
  have hy0p := hy.positive y0 hy0
  unfold parseRS
  simp only [bind, Option.bind_eq_some_iff, req_eq_some, pure, Option.some.injEq, exists_const, Prod.mk.injEq, at']
  refine ⟨_, rfl, ?_, ?_, _, rfl, rfl, _, rfl, rfl, _, rfl, ?_, ?_, x0, ?_, ?_, false, ?_, rfl, 2, ?_, rfl,
    UInt8.ofNat y.length, ?_, ?_, ?_, y0, ?_, ?_, false, ?_, rfl, ?_, ?_⟩
  · simp; omega
  · simp
  · simp [hLx]
  · rw [hLx]; omega
  · simp only [List.getElem?_cons_succ]
    rw [List.getElem?_append_left hxne, hx0]
  · rw [ge80]; omega
  · rw [hLx]
    apply excessPad_isDer _ x r 4 hx
    · simp only [List.getElem?_cons_succ]
      rw [List.getElem?_append_left hxne]
    · by_cases h : x.length ≤ 1
      · exact Or.inr h
      · left
        simp only [List.getElem?_cons_succ]
        rw [List.getElem?_append_left (show 1 < x.length by omega)]
  · rw [hLx]; simp only [List.getElem?_cons_succ]; rw [idx_app0]; rfl
  · rw [hLx]; simp only [List.getElem?_cons_succ]; rw [idx_app]; rfl
  · rw [hLy]; omega
  · rw [hLx, hLy]; simp; omega
  · rw [hLx]; simp only [List.getElem?_cons_succ]; rw [idx_app]; simpa using hy0
  · rw [ge80]; omega
  · rw [hLx, hLy]
    apply excessPad_isDer _ y s _ hy
    · simp only [List.getElem?_cons_succ]; rw [idx_app]; simp
    · by_cases h : y.length ≤ 1
      · exact Or.inr h
      · left
        simp only [List.getElem?_cons_succ]; rw [idx_app]; simp
  · rw [hLx]; simp [hx.value]
  · rw [hLx, hLy]; simp [hy.value]

theorem derInt_length_le_33 (v : Nat) (h : v < 2 ^ 256) : (derInt v).length ≤ 33 := by
  rw [derInt_length_le_iff v 33 (by norm_num)]
  exact lt_of_lt_of_le h (Nat.pow_le_pow_right (by norm_num) (by omega))

theorem parseRS_serRS (r s : Nat) (hr : r < 2 ^ 256) (hs : s < 2 ^ 256) : parseRS (serRS r s) = some (r, s) := by
  unfold serRS
  exact parseRS_complete _ _ r s (derInt_isDer r) (derInt_isDer s) (derInt_length_le_33 r hr) (derInt_length_le_33 s hs)

theorem parseRS_strict (b : Bytes) (r s : Nat) (h : parseRS b = some (r, s)) : b = serRS r s := by
  obtain ⟨x, y, hx, hy, _, _, rfl⟩ := parseRS_sound b r s h
  rw [isDer_unique x r hx, isDer_unique y s hy]
  rfl

theorem parseRS_lt (b : Bytes) (r s : Nat) (h : parseRS b = some (r, s)) : r < 2 ^ 264 ∧ s < 2 ^ 264 := by
  obtain ⟨x, y, hx, hy, hxl, hyl, _⟩ := parseRS_sound b r s h
  have h1 := ofBe_lt x
  have h2 := ofBe_lt y
  rw [hx.value] at h1; rw [hy.value] at h2
  have e : (2:Nat) ^ 264 = 256 ^ 33 := by rw [pow256]
  rw [e]
  exact ⟨lt_of_lt_of_le h1 (Nat.pow_le_pow_right (by norm_num) hxl),
         lt_of_lt_of_le h2 (Nat.pow_le_pow_right (by norm_num) hyl)⟩

end Embit
