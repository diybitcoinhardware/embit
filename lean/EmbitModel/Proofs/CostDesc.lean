import EmbitModel.Proofs.DescOps
/-
  C17 (text parsers): the descriptor / miniscript / taptree parser of `Model/Descriptor.lean`
    * never moves the stream forward by less than it claims: every reader leaves at most as much text as it found
      (`…_mono`), the recursive ones strictly less;
    * costs (companions of `Model/Cost.lean`): steps ≤ 8·|rest| + 8, depth ≤ |rest| + 1, by one induction per reader
      (`…_cost`).
  That the fuel `|text| + 1` is therefore never used up is in `Proofs/Desc3.lean`.
  The loop over the keys of `multi(…)` only ends because a key reader that is handed the empty text fails
  (`PrivateKey.from_wif("")` raises): hypothesis `NoEmptyKey`; `Props/C17X.lean` has the witness that it is needed.
-/
set_option linter.unusedSimpArgs false
set_option linter.unusedVariables false
namespace Embit.Model.Cost
open Embit Embit.Miniscript Embit.Model.Descriptor

variable {K : Type}

def R (s : Stream) : Nat := s.rest.length

/-- what has been consumed; `R s + B s` is the length of the text the stream runs over, which no stream method
    changes -/
def B (s : Stream) : Nat := s.back.length

/-- the key decoders refuse the empty text (`ec.PrivateKey.from_wif("")` raises: Base58Check of nothing) -/
def NoEmptyKey (ops : KeyOps K) : Prop := ops.parseWif [] = none

theorem read1_none {s s' : Stream} (h : s.read1 = (none, s')) : s' = s ∧ s.rest = [] := by
  obtain ⟨b, r⟩ := s
  cases r with
  | nil => simp [Stream.read1] at h; exact ⟨h.symm, rfl⟩
  | cons c r => simp [Stream.read1] at h

theorem read1_some {s s' : Stream} {c : Char} (h : s.read1 = (some c, s')) :
    s.rest = c :: s'.rest ∧ s'.back = c :: s.back := by
  obtain ⟨b, r⟩ := s
  cases r with
  | nil => simp [Stream.read1] at h
  | cons x r => simp [Stream.read1] at h; obtain ⟨rfl, rfl⟩ := h; exact ⟨rfl, rfl⟩

theorem read1_R {s s' : Stream} {c : Char} (h : s.read1 = (some c, s')) : R s' + 1 = R s := by
  have := (read1_some h).1
  simp [R, this]

theorem unread_R {s s' : Stream} (h : s.unread = some s') : R s' = R s + 1 := by
  obtain ⟨b, r⟩ := s
  cases b with
  | nil => simp [Stream.unread] at h
  | cons c b => simp [Stream.unread] at h; subst h; simp [R]

theorem unread_read1 {s s' : Stream} {c : Char} (h : s.read1 = (some c, s')) : s'.unread = some s := by
  obtain ⟨b, r⟩ := s
  cases r with
  | nil => simp [Stream.read1] at h
  | cons x r => simp [Stream.read1] at h; obtain ⟨rfl, rfl⟩ := h; rfl

theorem expectChar_R {c : Char} {s s' : Stream} (h : expectChar c s = some s') : R s' + 1 = R s := by
  unfold expectChar at h
  split at h
  · rename_i x s1 h1
    split at h
    · simp at h; subst h; exact read1_R h1
    · simp at h
  · simp at h

theorem readUntilAux_spec (stops : List Char) : ∀ (r b : Str) (res : Str) (ch : Option Char) (s' : Stream),
    readUntilAux stops b r = (res, ch, s') →
    (ch = none → s'.rest = [] ∧ res.length = r.length) ∧
    (∀ c, ch = some c → s'.rest.length + res.length + 1 = r.length ∧ ∃ b', s'.back = c :: b') := by
  intro r
  induction r with
  | nil =>
    intro b res ch s' h
    simp [readUntilAux] at h
    obtain ⟨rfl, rfl, rfl⟩ := h
    simp
  | cons x r ih =>
    intro b res ch s' h
    simp only [readUntilAux] at h
    split at h
    · simp at h
      obtain ⟨rfl, rfl, rfl⟩ := h
      simp
    · generalize hq : readUntilAux stops (x :: b) r = q at h
      obtain ⟨res1, ch1, s1⟩ := q
      simp at h
      obtain ⟨rfl, rfl, rfl⟩ := h
      obtain ⟨h1, h2⟩ := ih _ _ _ _ hq
      constructor
      · intro hc
        obtain ⟨a1, a2⟩ := h1 hc
        exact ⟨a1, by simp [a2]⟩
      · intro c hc
        obtain ⟨a1, a2⟩ := h2 c hc
        exact ⟨by simp; omega, a2⟩

theorem readUntil_none {stops : List Char} {s s' : Stream} {res : Str} (h : readUntil stops s = (res, none, s')) :
    R s' = 0 ∧ res.length = R s := by
  obtain ⟨h1, _⟩ := readUntilAux_spec stops _ _ _ _ _ h
  obtain ⟨a, b⟩ := h1 rfl
  exact ⟨by simp [R, a], b⟩

theorem readUntil_some {stops : List Char} {s s' : Stream} {res : Str} {c : Char}
    (h : readUntil stops s = (res, some c, s')) :
    R s' + res.length + 1 = R s ∧ ∃ s0, s'.unread = some s0 ∧ R s0 = R s' + 1 := by
  obtain ⟨_, h2⟩ := readUntilAux_spec stops _ _ _ _ _ h
  obtain ⟨a, b', hb⟩ := h2 c rfl
  refine ⟨a, ?_⟩
  obtain ⟨bk, rs⟩ := s'
  simp at hb
  subst hb
  exact ⟨⟨b', c :: rs⟩, rfl, by simp [R]⟩

theorem readUntil_R {stops : List Char} {s s' : Stream} {res : Str} {ch : Option Char}
    (h : readUntil stops s = (res, ch, s')) : R s' + res.length + seekIf ch = R s := by
  cases ch with
  | none => obtain ⟨a, b⟩ := readUntil_none h; simp [seekIf]; omega
  | some c => obtain ⟨a, _⟩ := readUntil_some h; simp [seekIf]; omega

/-- the tail `match ch with | none => some (k, der, s) | some _ => s.unread.map …` of `readKeyBody` -/
theorem tail_R {k der : Str} {ch : Option Char} {s : Stream} {k' der' : Str} {s' : Stream}
    (h : (match ch with
          | none => some (k, der, s)
          | some _ => s.unread.map fun s => (k, der, s)) = some (k', der', s')) :
    k' = k ∧ R s' = R s + seekIf ch := by
  cases ch with
  | none => simp at h; obtain ⟨rfl, rfl, rfl⟩ := h; simp [seekIf]
  | some c =>
    simp at h
    obtain ⟨s0, h0, rfl, rfl, rfl⟩ := h
    simp [seekIf, unread_R h0]

theorem seekIf_le (ch : Option Char) : seekIf ch ≤ 1 := by cases ch <;> simp [seekIf]

theorem readKeyBody_cost (s : Stream) :
    readKeyBodyOps s ≤ R s + 2 ∧
    ∀ k der s', readKeyBody s = some (k, der, s') →
      k = (readUntil [',', ')', '/'] s).1 ∧ R s' + k.length ≤ R s ∧ readKeyBodyOps s + R s' ≤ R s + 2 := by
  unfold readKeyBodyOps readKeyBody
  generalize h1 : readUntil [',', ')', '/'] s = q1
  obtain ⟨k, ch1, s1⟩ := q1
  have e1 := readUntil_R h1
  by_cases c1 : ch1 = some '/'
  · simp only [c1, if_true]
    simp only [c1, seekIf] at e1
    generalize h2 : readUntil ['<', '{', ',', ')'] s1 = q2
    obtain ⟨der, ch2, s2⟩ := q2
    have e2 := readUntil_R h2
    -- the `{…}` and `<…>` branches differ in the two characters only
    have c2 : ch2 = some '{' ∨ ch2 = some '<' ∨ (ch2 ≠ some '{' ∧ ch2 ≠ some '<') := by
      by_cases a : ch2 = some '{'
      · exact Or.inl a
      · by_cases b : ch2 = some '<'
        · exact Or.inr (Or.inl b)
        · exact Or.inr (Or.inr ⟨a, b⟩)
    have hne : (some '<' : Option Char) ≠ some '{' := by decide
    rcases c2 with c2 | c2 | ⟨c2, c2'⟩
    iterate 2
      · simp only [c2, hne, if_true, if_false]
        simp only [c2, seekIf] at e2
        generalize h3 : readUntil _ s2 = q3
        obtain ⟨br, ch3, s3⟩ := q3
        have e3 := readUntil_R h3
        by_cases c3 : ch3 = none
        · simp only [c3, if_true]
          simp only [c3, seekIf] at e3
          simp only [untilOps]
          refine ⟨by simp at *; omega, ?_⟩
          intro k' der' s' h; simp at h
        · simp only [c3, if_false]
          simp only [c3, seekIf, if_false] at e3
          generalize h4 : readUntil [',', ')'] s3 = q4
          obtain ⟨rest, ch4, s4⟩ := q4
          have e4 := readUntil_R h4
          simp only [untilOps]
          refine ⟨by cases ch4 <;> simp [seekIf] at * <;> omega, ?_⟩
          intro k' der' s' h
          obtain ⟨rfl, e5⟩ := tail_R h
          refine ⟨rfl, ?_⟩
          have := seekIf_le ch4
          simp at *
          omega
    · simp only [c2, c2', if_false]
      simp only [untilOps]
      refine ⟨by cases ch2 <;> simp [seekIf] at * <;> omega, ?_⟩
      intro k' der' s' h
      obtain ⟨rfl, e5⟩ := tail_R h
      refine ⟨rfl, ?_⟩
      have := seekIf_le ch2
      simp at *
      omega
  · simp only [c1, if_false]
    simp only [untilOps]
    refine ⟨by cases ch1 <;> simp [seekIf] at * <;> omega, ?_⟩
    intro k' der' s' h
    obtain ⟨rfl, e5⟩ := tail_R h
    refine ⟨rfl, ?_⟩
    have := seekIf_le ch1
    omega

theorem parse_empty (ops : KeyOps K) (hW : NoEmptyKey ops) (tap hash : Bool) :
    (if hash then parseKeyHashText ops tap [] else parseKeyText ops tap []) = none := by
  have h1 : parseKeyText ops tap [] = none := by
    simp [parseKeyText]
    exact hW
  cases hash with
  | false => simpa using h1
  | true => simp [parseKeyHashText, h1]

theorem readKey_tail (ops : KeyOps K) (hW : NoEmptyKey ops) (tap hash : Bool) (origin : Option Origin) (s2 : Stream)
    (ke : KeyExpr K) (s' : Stream)
    (h : (match readKeyBody s2 with
      | none => none
      | some (k, der, s3) =>
        match (if hash then parseKeyHashText ops tap k else parseKeyText ops tap k) with
        | none => none
        | some (key, xonly) =>
          match parseAllowed (key.allowHardened ops) der with
          | none => none
          | some derivation =>
            if !key.hasDerive ops && derivation.isSome then none
            else some (⟨origin, key, derivation, xonly && tap⟩, s3)) = some (ke, s')) :
    R s' + 1 ≤ R s2 ∧ readKeyBodyOps s2 + R s' ≤ R s2 + 2 := by
  split at h
  · simp at h
  · rename_i k der s3 hb
    obtain ⟨_, hc⟩ := readKeyBody_cost s2
    obtain ⟨_, a1, a2⟩ := hc _ _ _ hb
    split at h
    · simp at h
    · rename_i key xonly hp
      have hk : k ≠ [] := by
        intro e; subst e
        rw [parse_empty ops hW tap hash] at hp
        simp at hp
      have : k.length ≥ 1 := by
        cases k with
        | nil => exact absurd rfl hk
        | cons _ _ => simp
      split at h
      · simp at h
      · split at h
        · simp at h
        · simp at h
          obtain ⟨_, rfl⟩ := h
          exact ⟨by omega, a2⟩

theorem readKey_cost (ops : KeyOps K) (hW : NoEmptyKey ops) (tap hash : Bool) (s : Stream) :
    readKeyOps s ≤ R s + 5 ∧
    ∀ k s', readKey ops tap hash s = some (k, s') → R s' ≤ R s ∧ readKeyOps s + R s' ≤ R s + 5 := by
  unfold readKeyOps readKey
  generalize hr : s.read1 = q
  obtain ⟨first, s1⟩ := q
  by_cases c1 : first = some '['
  · subst c1
    simp only [if_true]
    have e1 := read1_R hr
    generalize h2 : readUntil [']'] s1 = q2
    obtain ⟨pre, ch, s2⟩ := q2
    have e2 := readUntil_R h2
    simp only [untilOps]
    by_cases c2 : ch = some ']'
    · subst c2
      simp only [ne_eq, not_true_eq_false, if_false]
      simp only [seekIf] at e2
      cases ho : parseOrigin pre with
      | none =>
        simp
        omega
      | some o =>
        simp only [Option.map_some]
        have hb := (readKeyBody_cost s2).1
        refine ⟨by simp at *; omega, ?_⟩
        intro k s' h
        obtain ⟨a1, a2⟩ := readKey_tail ops hW tap hash (some o) s2 k s' h
        simp at *
        omega
    · simp only [ne_eq, c2, not_false_eq_true, if_true]
      refine ⟨by omega, ?_⟩
      intro k s' h; simp at h
  · simp only [c1, if_false]
    cases hu : s1.unread with
    | none =>
      simp only [Option.map_none]
      cases first <;> simp
    | some s2 =>
      simp only [Option.map_some]
      have e2 := unread_R hu
      have hb := (readKeyBody_cost s2).1
      cases first with
      | none =>
        obtain ⟨rfl, _⟩ := read1_none hr
        refine ⟨by omega, ?_⟩
        intro k s' h
        obtain ⟨a1, a2⟩ := readKey_tail ops hW tap hash none s2 k s' h
        omega
      | some c =>
        have e1 := read1_R hr
        refine ⟨by omega, ?_⟩
        intro k s' h
        obtain ⟨a1, a2⟩ := readKey_tail ops hW tap hash none s2 k s' h
        omega

theorem readNumberAux_cost : ∀ (r : Str) (acc : Nat) (b : Str),
    numberOps r ≤ r.length + 2 ∧
    ∀ n s', readNumberAux acc b r = some (n, s') → R s' ≤ r.length ∧ numberOps r + R s' ≤ r.length + 2 := by
  intro r
  induction r with
  | nil => intro acc b; simp [numberOps, readNumberAux]
  | cons c r ih =>
    intro acc b
    simp only [numberOps, readNumberAux]
    cases hd : digitVal c with
    | none =>
      refine ⟨by simp, ?_⟩
      intro n s' h
      simp at h
      obtain ⟨_, rfl⟩ := h
      simp [R]
      omega
    | some d =>
      obtain ⟨a1, a2⟩ := ih (10 * acc + d) (c :: b)
      refine ⟨by simp; omega, ?_⟩
      intro n s' h
      obtain ⟨b1, b2⟩ := a2 _ _ h
      simp
      omega

theorem readNumber_cost (s : Stream) :
    readNumberOps s ≤ R s + 2 ∧
    ∀ n s', readNumber s = some (n, s') → R s' ≤ R s ∧ readNumberOps s + R s' ≤ R s + 2 :=
  readNumberAux_cost s.rest 0 s.back

theorem readN_pos : ∀ (n : Nat) (s : Stream),
    R (s.readN n).2 + (s.readN n).1.length = R s ∧ B (s.readN n).2 = B s + (s.readN n).1.length := by
  intro n
  induction n with
  | zero => intro s; simp [Stream.readN]
  | succ n ih =>
    intro s
    obtain ⟨b, r⟩ := s
    cases r with
    | nil => simp [Stream.readN]
    | cons c r =>
      simp only [Stream.readN]
      have := ih ⟨c :: b, r⟩
      generalize Stream.readN n ⟨c :: b, r⟩ = q at *
      obtain ⟨x, s'⟩ := q
      simp [R, B] at *
      omega

theorem readRaw_R {len : Nat} {s s' : Stream} {b : Bytes} (h : readRaw len s = some (b, s')) : R s' ≤ R s := by
  unfold readRaw at h
  have := (readN_pos (2 * len) s).1
  generalize Stream.readN (2 * len) s = q at *
  obtain ⟨t, s1⟩ := q
  simp only [] at h this
  split at h
  · simp at h
  · cases hu : unhexlify t with
    | none => simp [hu] at h
    | some x => simp [hu] at h; obtain ⟨_, rfl⟩ := h; omega

theorem close_R {α : Type} {a x : α} {s s' : Stream}
    (h : ((expectChar ')' s).map fun t => (a, t)) = some (x, s')) : R s' + 1 = R s := by
  cases hc : expectChar ')' s with
  | none => simp [hc] at h
  | some s3 =>
    simp [hc] at h
    obtain ⟨_, rfl⟩ := h
    exact expectChar_R hc

theorem closeOps_le (s : Stream) : closeOps s ≤ 2 := by
  unfold closeOps; split <;> omega

theorem closeOps_ok {s s' : Stream} (h : expectChar ')' s = some s') : closeOps s = 1 := by
  simp [closeOps, h]

@[simp] theorem steps_seq (a b : Nat) : stepsAlg.seq a b = a + b := rfl
@[simp] theorem steps_nest (a : Nat) : stepsAlg.nest a = a + 1 := rfl
@[simp] theorem steps_ops (n : Nat) : stepsAlg.ops n = n := rfl
@[simp] theorem depth_seq (a b : Nat) : depthAlg.seq a b = max a b := rfl
@[simp] theorem depth_nest (a : Nat) : depthAlg.nest a = a + 1 := rfl
@[simp] theorem depth_ops (n : Nat) : depthAlg.ops n = 0 := rfl

/-- the reader `p` with its steps `pc` and depth `pd`, on every text of at most `n` characters: at most
    `8·|rest| + Kf` steps whatever happens and depth at most `n + 1`; an accepted run leaves `δ` characters less and
    has paid all but `Kok` of its steps with the characters consumed (8 each) -/
def Costs {α : Type} (n : Nat) (p : Stream → Option (α × Stream)) (pc pd : Stream → Nat) (Kf Kok δ : Nat) : Prop :=
  ∀ s, R s ≤ n → pc s ≤ 8 * R s + Kf ∧ pd s ≤ n + 1 ∧
    ∀ x s', p s = some (x, s') → R s' + δ ≤ R s ∧ pc s + 8 * R s' ≤ 8 * R s + Kok

namespace Costs
variable {α β : Type} {n : Nat} {p : Stream → Option (α × Stream)} {pc pd qc qd : Stream → Nat}
  {Kf Kok δ Kf' Kok' δ' : Nat}

theorem weaken (h : Costs n p pc pd Kf Kok δ) (h1 : Kf ≤ Kf' := by decide) (h2 : Kok ≤ Kok' := by decide)
    (h3 : δ' ≤ δ := by decide) : Costs n p pc pd Kf' Kok' δ' := fun s hs => by
  obtain ⟨a, d, k⟩ := h s hs
  exact ⟨by omega, d, fun x s' e => by have := k x s' e; omega⟩

/-- sequencing: the failure constant is the larger of the two ways to fail, everything else adds up -/
theorem thn {q : α → Stream → Option (β × Stream)} (hp : Costs n p pc pd Kf Kok δ)
    (hq : ∀ x, Costs n (q x) qc qd Kf' Kok' δ') :
    Costs n (optRM.thn p q) (stepsAlg.thn pc p qc) (depthAlg.thn pd p qd) (max Kf (Kok + Kf')) (Kok + Kok') (δ + δ') :=
  fun s hs => by
  obtain ⟨a, d, k⟩ := hp s hs
  simp only [RM.thn, optRM, Alg.thn, steps_seq, depth_seq]
  cases h : p s with
  | none => simp only [obind]; exact ⟨by omega, by omega, nofun⟩
  | some r =>
    obtain ⟨l, c⟩ := k r.1 r.2 h
    obtain ⟨a', d', k'⟩ := hq r.1 r.2 (by omega)
    simp only [obind]
    exact ⟨by omega, by omega, fun y s' e => by have := k' y s' e; omega⟩

/-- the separator: one stream call, one character -/
theorem comma {q : Stream → Option (β × Stream)} (hq : Costs n q qc qd Kf Kok δ) :
    Costs n (optRM.comma q) (stepsAlg.comma qc) (depthAlg.comma qd) (1 + Kf) (1 + Kok) (1 + δ) := fun s hs => by
  simp only [RM.comma, optRM, Alg.comma, steps_seq, depth_seq, steps_ops, depth_ops]
  cases h : expectChar ',' s with
  | none => simp only [obindS]; exact ⟨by omega, by omega, nofun⟩
  | some t =>
    have l := expectChar_R h
    obtain ⟨a, d, k⟩ := hq t (by omega)
    simp only [obindS]
    exact ⟨by omega, by omega, fun y s' e => by have := k y s' e; omega⟩

/-- the closing bracket -/
theorem close (a : α) : Costs n (optRM.close a) stepsAlg.close depthAlg.close 2 1 1 := fun s _ => by
  simp only [Alg.close, steps_ops, depth_ops]
  refine ⟨by have := closeOps_le s; omega, Nat.zero_le _, fun x s' e => ?_⟩
  have l := close_R e
  cases h : expectChar ')' s with
  | none => simp [RM.close, optRM, h] at e
  | some t => have := closeOps_ok h; omega

/-- a continuation that only computes (no stream call, position kept) costs nothing -/
theorem post {q : α → Stream → Option (β × Stream)} (h : Costs n p pc pd Kf Kok δ)
    (hq : ∀ x s y s', q x s = some (y, s') → s' = s) : Costs n (optRM.thn p q) pc pd Kf Kok δ := fun s hs => by
  obtain ⟨a, d, k⟩ := h s hs
  refine ⟨a, d, fun y s' e => ?_⟩
  simp only [RM.thn, optRM] at e
  cases hr : p s with
  | none => rw [hr] at e; cases e
  | some r => rw [hr] at e; obtain rfl := hq r.1 r.2 y s' e; exact k r.1 _ hr

/-- a reader that makes stream calls only -/
theorem ofOps {ops : Stream → Nat}
    (h : ∀ s, ops s ≤ R s + Kok ∧ ∀ x s', p s = some (x, s') → R s' ≤ R s ∧ ops s + R s' ≤ R s + Kok) :
    Costs n p (fun s => stepsAlg.ops (ops s)) (fun s => depthAlg.ops (ops s)) Kok Kok 0 := fun s _ =>
  ⟨by have := (h s).1; simp; omega, by simp, fun x s' e => by have := (h s).2 x s' e; simp; omega⟩
end Costs

/-- the loop over `,item … )`: every round takes the comma off the text, so the items are paid for by what they
    consume (`Kp ≤ 7`: what one item may cost beyond that); the loop is as deep as its deepest item -/
theorem readMore_cost {α : Type} {p : Stream → Option (α × Stream)} {pc pd : Stream → Nat} {Kp Kf n δ : Nat}
    (hKp : Kp ≤ 7) (hKf : 2 ≤ Kf) (hp : Costs n p pc pd Kf Kp δ) : ∀ fuel,
    Costs n (readMore p fuel) (readMoreCost stepsAlg p pc fuel) (readMoreCost depthAlg p pd fuel) Kf 0 1 := by
  intro fuel
  induction fuel with
  | zero => intro s _; simp [readMoreCost, readMore]
  | succ m ih =>
    intro s hs
    simp only [readMoreCost, readMore]
    generalize hr : s.read1 = q
    obtain ⟨first, s1⟩ := q
    cases first with
    | none => simp; omega
    | some c =>
      have e1 := read1_R hr
      by_cases h1 : c = ','
      · subst h1
        simp only []
        obtain ⟨p1, d1, p2⟩ := hp s1 (by omega)
        cases hps : p s1 with
        | none => simp; omega
        | some xs2 =>
          obtain ⟨x, s2⟩ := xs2
          obtain ⟨q1, q2⟩ := p2 _ _ hps
          obtain ⟨i1, i2, i3⟩ := ih s2 (by omega)
          simp only [steps_seq, steps_ops, depth_seq, depth_ops]
          refine ⟨by omega, by omega, ?_⟩
          intro xs s' h
          cases hm : readMore p m s2 with
          | none => simp [hm] at h
          | some r =>
            obtain ⟨xs3, s3⟩ := r
            simp [hm] at h
            obtain ⟨_, rfl⟩ := h
            obtain ⟨j1, j2⟩ := i3 _ _ hm
            omega
      · by_cases h2 : c = ')'
        · subst h2
          simp only [steps_ops, depth_ops]
          refine ⟨by omega, by omega, ?_⟩
          intro xs s' h
          simp at h
          obtain ⟨_, rfl⟩ := h
          omega
        · simp [h1, h2]
          omega

/-- what the induction over the nesting knows about `Miniscript.read_from` one level down -/
def SubCost {α : Type} (sub : Stream → Option (α × Stream)) (subc subd : Stream → Nat) : Prop :=
  ∀ t, subc t ≤ 8 * R t + 8 ∧ subd t ≤ R t + 1 ∧
    ∀ x t', sub t = some (x, t') → R t' + 1 ≤ R t ∧ subc t + 8 * R t' ≤ 8 * R t

theorem SubCost.costs {α : Type} {sub : Stream → Option (α × Stream)} {subc subd : Stream → Nat}
    (h : SubCost sub subc subd) (n : Nat) : Costs n sub subc subd 8 0 1 := fun t ht =>
  ⟨(h t).1, by have := (h t).2.1; omega, (h t).2.2⟩

theorem readMsBody_cost (ops : KeyOps K) (hW : NoEmptyKey ops) (tap : Bool) (sub : Stream → Option (DMs K × Stream))
    (subc subd : Stream → Nat) (hsub : SubCost sub subc subd) (fuel : Nat) (op : Str) (s : Stream) :
    readMsBodyCost stepsAlg ops tap sub subc fuel op s ≤ 8 * R s + 14 ∧
    readMsBodyCost depthAlg ops tap sub subd fuel op s ≤ R s + 1 ∧
    ∀ e s', readMsBody ops tap sub fuel op s = some (e, s') →
      R s' + 1 ≤ R s ∧ readMsBodyCost stepsAlg ops tap sub subc fuel op s + 8 * R s' ≤ 8 * R s + 6 := by
  -- every operator's argument list, on every text of at most `n` characters
  have tbl : ∀ (n : Nat) (o : Op), Costs n (o.reader optRM ops tap sub fuel)
      (o.cost stepsAlg ops tap sub subc fuel) (o.cost depthAlg ops tap sub subd fuel) 14 6 1 := by
    intro n o
    have S := hsub.costs n
    have N : Costs n readNumber _ _ 2 2 0 := .ofOps readNumber_cost
    have Ky : ∀ hash, Costs n (readKey ops tap hash) _ _ 5 5 0 := fun hash => .ofOps (readKey_cost ops hW tap hash)
    cases o with
    | key f => exact ((Ky _).thn fun k => .close _).weaken
    | time f => exact (N.thn fun k => .close _).weaken
    | hash f =>
      exact ((Costs.ofOps (Kok := 1) fun s => ⟨by omega, fun x s' e => by have := readRaw_R e; omega⟩).thn
        fun k => .close _).weaken
    | andor => exact (S.thn fun x => (S.thn fun y => (S.thn fun z => .close _).comma).comma).weaken
    | bin f => exact (S.thn fun x => (S.thn fun y => .close _).comma).weaken
    | thresh =>
      exact (N.thn fun k => (readMore_cost (by decide) (by decide) S fuel).post fun _ _ _ _ e => by cases e; rfl).weaken
    | multi f =>
      exact (N.thn fun k => (readMore_cost (by decide) (by decide) (Ky false) fuel).post
        fun _ _ _ _ e => by unfold RM.guard at e; split at e <;> cases e; rfl).weaken
  rw [readMsBody_eq, readMsBodyCost_eq, readMsBodyCost_eq, opCases_eq, opCases_eq, opCases_eq]
  cases opOf op with
  | none => exact ⟨by simp, by simp, nofun⟩
  | some o => exact tbl (R s) o s (Nat.le_refl _)

theorem readMs_cost (ops : KeyOps K) (hW : NoEmptyKey ops) (tap : Bool) :
    ∀ fuel, SubCost (readMs ops tap fuel) (readMsCost stepsAlg ops tap fuel) (readMsCost depthAlg ops tap fuel) := by
  intro fuel
  induction fuel with
  | zero => intro t; simp [readMs, readMsCost]
  | succ fuel ih =>
    intro s
    simp only [readMs, readMsCost]
    generalize h1 : readUntil ['('] s = q1
    obtain ⟨opw, ch, s1⟩ := q1
    have e1 := readUntil_R h1
    simp only [steps_seq, steps_nest, steps_ops, depth_seq, depth_nest, depth_ops, untilOps]
    generalize hsp : (if opw.contains ':' = true then
        match splitOn ':' opw with
        | [w, o] => some (w, o)
        | _ => none
      else some ([], opw)) = split
    cases split with
    | none => simp; omega
    | some wo =>
      obtain ⟨w, o⟩ := wo
      by_cases hc : ch = some '('
      · subst hc
        simp only [ne_eq, not_true_eq_false, if_false]
        simp [seekIf] at e1
        obtain ⟨b1, bd, b2⟩ := readMsBody_cost ops hW tap _ _ _ ih fuel o s1
        refine ⟨by omega, by omega, ?_⟩
        intro e s' h
        cases hb : readMsBody ops tap (readMs ops tap fuel) fuel o s1 with
        | none => simp [hb] at h
        | some r =>
          obtain ⟨e0, s2⟩ := r
          obtain ⟨c1, c2⟩ := b2 _ _ hb
          simp [hb] at h
          obtain ⟨_, _, _, rfl⟩ := h
          omega
      · simp only [ne_eq, hc, not_false_eq_true, if_true]
        refine ⟨by omega, by omega, ?_⟩
        intro e s' h; simp at h

/-- depth `|rest| + 2`: a leaf is `TapTree` → `Miniscript` at the same place -/
theorem readTapTree_cost (ops : KeyOps K) (hW : NoEmptyKey ops) :
    ∀ (fuel : Nat) (s : Stream), readTapTreeCost stepsAlg ops fuel s ≤ 8 * R s + 12 ∧
      readTapTreeCost depthAlg ops fuel s ≤ R s + 2 ∧
      ∀ t s', readTapTree ops fuel s = some (t, s') →
        R s' ≤ R s ∧ readTapTreeCost stepsAlg ops fuel s + 8 * R s' ≤ 8 * R s + 3 := by
  intro fuel
  induction fuel with
  | zero => intro s; simp [readTapTree, readTapTreeCost]
  | succ fuel ih =>
    intro s
    simp only [readTapTree, readTapTreeCost]
    generalize hr : s.read1 = q
    obtain ⟨first, s1⟩ := q
    cases first with
    | none =>
      obtain ⟨rfl, _⟩ := read1_none hr
      simp
      omega
    | some c =>
      have e1 := read1_R hr
      simp only [steps_seq, steps_nest, steps_ops, depth_seq, depth_nest, depth_ops]
      by_cases hc : c = '{'
      · subst hc
        simp only [if_true]
        obtain ⟨l1, ld, l2⟩ := ih s1
        cases hl : readTapTree ops fuel s1 with
        | none => simp; omega
        | some r =>
          obtain ⟨left, s2⟩ := r
          obtain ⟨a1, a2⟩ := l2 _ _ hl
          simp only []
          generalize hr2 : s2.read1 = q2
          obtain ⟨c2, s3⟩ := q2
          cases c2 with
          | none => simp; omega
          | some c2 =>
            have e2 := read1_R hr2
            split
            · rename_i s3' heq
              simp at heq
              obtain ⟨rfl, rfl⟩ := heq
              refine ⟨by omega, by omega, ?_⟩
              intro t s' h
              simp at h
              obtain ⟨_, rfl⟩ := h
              omega
            · rename_i s3' heq
              simp at heq
              obtain ⟨rfl, rfl⟩ := heq
              simp only []
              obtain ⟨r1, rd, r2⟩ := ih s3
              cases hrt : readTapTree ops fuel s3 with
              | none => simp; omega
              | some rr =>
                obtain ⟨right, s4⟩ := rr
                obtain ⟨b1, b2⟩ := r2 _ _ hrt
                simp only []
                refine ⟨by omega, by omega, ?_⟩
                intro t s' h
                cases hx : expectChar '}' s4 with
                | none => simp [hx] at h
                | some s5 =>
                  simp [hx] at h
                  obtain ⟨_, rfl⟩ := h
                  have := expectChar_R hx
                  omega
            · rename_i hn1 hn2
              refine ⟨by omega, by omega, ?_⟩
              intro t s' h
              split at h
              · rename_i s3' heq; exact absurd heq (hn1 _)
              · rename_i s3' heq; exact absurd heq (hn2 _)
              · simp at h
      · simp only [hc, if_false]
        have hu := unread_read1 hr
        simp only [hu]
        obtain ⟨m1, md, m2⟩ := readMs_cost ops hW true (fuel + 1) s
        refine ⟨by omega, by omega, ?_⟩
        intro t s' h
        cases hm : readMs ops true (fuel + 1) s with
        | none => simp [hm] at h
        | some r =>
          obtain ⟨ms, s3⟩ := r
          obtain ⟨c1, c2⟩ := m2 _ _ hm
          simp only [hm] at h
          split at h
          · simp at h
            obtain ⟨_, rfl⟩ := h
            omega
          · simp at h

theorem unread_total {s s' : Stream} (h : s.unread = some s') : R s' + B s' = R s + B s := by
  obtain ⟨b, r⟩ := s
  cases b with
  | nil => simp [Stream.unread] at h
  | cons c b => simp [Stream.unread] at h; subst h; simp [R, B]; omega

theorem seekBack_total : ∀ (k : Nat) (s s' : Stream), Stream.seekBack k s = some s' → R s' + B s' = R s + B s := by
  intro k
  induction k with
  | zero => intro s s' h; simp [Stream.seekBack] at h; subst h; rfl
  | succ k ih =>
    intro s s' h
    simp only [Stream.seekBack] at h
    cases hu : s.unread with
    | none => simp [hu] at h
    | some s1 =>
      simp [hu] at h
      have := ih _ _ h
      have := unread_total hu
      omega

theorem expectChar_total {c : Char} {s s' : Stream} (h : expectChar c s = some s') : R s' + B s' = R s + B s := by
  unfold expectChar at h
  split at h
  · rename_i x s1 h1
    split at h
    · simp at h; subst h
      obtain ⟨a, b⟩ := read1_some h1
      simp [R, B, a, b]; omega
    · simp at h
  · simp at h

theorem of_ite {α : Sort _} {P : α → Prop} {c : Prop} [Decidable c] {a b : α} (ha : P a) (hb : P b) :
    P (if c then a else b) := by
  split <;> assumption

/-- the head dispatch only moves the position: `read(7)`, then a `seek` back or one more `read(1)` -/
theorem readHead_total {s s' : Stream} {hd : Head} (h : readHead s = some (hd, s')) : R s' + B s' = R s + B s := by
  unfold readHead at h
  have hs := readN_pos 7 s
  generalize Stream.readN 7 s = q at h hs
  obtain ⟨start, s1⟩ := q
  simp only [] at h hs
  suffices R s' + B s' = R s1 + B s1 by omega
  have seek : ∀ (k : Nat) (hd0 : Head), ((Stream.seekBack k s1).map fun s => (hd0, s)) = some (hd, s') →
      R s' + B s' = R s1 + B s1 := by
    intro k hd0 h
    cases hb : Stream.seekBack k s1 with
    | none => rw [hb] at h; cases h
    | some s2 => rw [hb] at h; cases h; exact seekBack_total _ _ _ hb
  have expect : ((expectChar '(' s1).map fun s => (Head.shwpkh, s)) = some (hd, s') → R s' + B s' = R s1 + B s1 := by
    intro h
    cases hb : expectChar '(' s1 with
    | none => rw [hb] at h; cases h
    | some s2 => rw [hb] at h; cases h; exact expectChar_total hb
  have step : ∀ {c : Prop} [Decidable c] {a b : Option (Head × Stream)},
      (a = some (hd, s') → R s' + B s' = R s1 + B s1) → (b = some (hd, s') → R s' + B s' = R s1 + B s1) →
      (if c then a else b) = some (hd, s') → R s' + B s' = R s1 + B s1 :=
    of_ite (P := fun o => o = some (hd, s') → R s' + B s' = R s1 + B s1)
  exact step (seek 4 .tr) (step (fun h => by cases h; rfl) (step (seek 3 .wsh) (step expect (step (seek 2 .wpkh)
    (step (seek 3 .pkh) (step (seek 4 .sh) (fun h => by cases h))))))) h

theorem readHead_R0 {s s' : Stream} {hd : Head} (h : readHead s = some (hd, s')) (hb : s.back = []) : R s' ≤ R s := by
  have := readHead_total h
  have : B s = 0 := by simp [B, hb]
  omega

theorem readHeadOps_le (s : Stream) : readHeadOps s ≤ 2 := by
  unfold readHeadOps
  generalize Stream.readN 7 s = q
  obtain ⟨start, s1⟩ := q
  have step : ∀ {c : Prop} [Decidable c] {a b : Nat}, a ≤ 2 → b ≤ 2 → (if c then a else b) ≤ 2 := of_ite (P := (· ≤ 2))
  exact step (by decide) (step (by decide) (step (by decide) (step (by decide) (step (by decide) (step (by decide)
    (step (by decide) (by decide)))))))

theorem readFrom_cost (ops : KeyOps K) (hW : NoEmptyKey ops) (fuel : Nat) (s : Stream) (hb : s.back = []) :
    readFromCost stepsAlg ops fuel s ≤ 8 * R s + 21 ∧ readFromCost depthAlg ops fuel s ≤ R s + 1 := by
  unfold readFromCost
  have h0 := readHeadOps_le s
  simp only [steps_seq, steps_ops, depth_seq, depth_ops]
  cases hh : readHead s with
  | none => simp; omega
  | some r =>
    obtain ⟨hd, s1⟩ := r
    have e0 := readHead_R0 hh hb
    cases hd with
    | tr =>
      simp only []
      obtain ⟨k1, k2⟩ := readKey_cost ops hW true false s1
      cases hk : readKey ops true false s1 with
      | none => simp; omega
      | some rk =>
        obtain ⟨key, s2⟩ := rk
        obtain ⟨a1, a2⟩ := k2 _ _ hk
        simp only []
        generalize hr : s2.read1 = q
        obtain ⟨c, s3⟩ := q
        by_cases hc : c = some ','
        · subst hc
          have e1 := read1_R hr
          simp only [if_true]
          obtain ⟨t1, td, t2⟩ := readTapTree_cost ops hW fuel s3
          cases ht : readTapTree ops fuel s3 <;> simp <;> omega
        · simp only [hc, if_false]
          cases hu : s3.unread <;> simp <;> omega
    | shwsh | wsh | sh =>
      simp only []
      obtain ⟨m1, md, m2⟩ := readMs_cost ops hW false fuel s1
      cases hm : readMs ops false fuel s1 <;> simp <;> omega
    | shwpkh | wpkh | pkh =>
      simp only []
      obtain ⟨m1, m2⟩ := readKey_cost ops hW false false s1
      cases hm : readKey ops false false s1 <;> simp <;> omega

theorem parse_cost (ops : KeyOps K) (hW : NoEmptyKey ops) (text : Str) :
    parseCost stepsAlg ops text ≤ 8 * text.length + 22 ∧ parseCost depthAlg ops text ≤ text.length + 1 := by
  unfold parseCost
  have := readFrom_cost ops hW (text.length + 1) (Stream.ofStr text) rfl
  have hR : R (Stream.ofStr text) = text.length := rfl
  simp only [steps_seq, steps_ops, depth_seq, depth_ops]
  cases hm : Desc.readFrom ops (text.length + 1) (Stream.ofStr text) <;> simp <;> omega

theorem readMs_mono (ops : KeyOps K) (hW : NoEmptyKey ops) (tap : Bool) (fuel : Nat) (t : Stream) (x : DMs K)
    (t' : Stream) (h : readMs ops tap fuel t = some (x, t')) : R t' + 1 ≤ R t :=
  ((readMs_cost ops hW tap fuel t).2.2 x t' h).1

theorem readKey_mono (ops : KeyOps K) (hW : NoEmptyKey ops) (tap hash : Bool) (t : Stream) (x : KeyExpr K)
    (t' : Stream) (h : readKey ops tap hash t = some (x, t')) : R t' ≤ R t :=
  ((readKey_cost ops hW tap hash t).2 x t' h).1

theorem readTapTree_mono (ops : KeyOps K) (hW : NoEmptyKey ops) (fuel : Nat) (t : Stream) (x : TapTree K)
    (t' : Stream) (h : readTapTree ops fuel t = some (x, t')) : R t' ≤ R t :=
  ((readTapTree_cost ops hW fuel t).2.2 x t' h).1

end Embit.Model.Cost
