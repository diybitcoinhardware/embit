import Batteries.Data.List.Perm
import EmbitModel.Proofs.PsetTop
/-
  C18 (deepening): what `write_to` emits for a scope that `read_from` built is a PERMUTATION of the pairs that were
  read (outputs: with every key in the spelling of the PSET's version) — nothing invented, nothing lost, hence no key
  written twice: every accepted pair is appended to the segment of the output its key is routed to (`Step.pushed`),
  so the scope is a `SlotView`, and the seed writes nothing (`SlotView.written`). Then the whole-PSET statement.
-/
set_option linter.unusedSimpArgs false
set_option linter.unusedVariables false
namespace Embit
open Model Spec.LWire

/-- input scope read from a seed that writes nothing (`{}` for PSETv2, the transaction fields for version 0): the
    pairs `write_to` emits are a permutation of the pairs read -/
theorem LInScope.pairs_perm (ko : KeyOps) (ver : Option Nat) (kvs : List KV) (s0 s : LInScope)
    (hv : ver = some 2 ∨ InSeeded s0.base) (h0 : s0.pairs ver = []) (hne : ∀ kv ∈ kvs, kv.1 ≠ [])
    (h : LInScope.addPairs ko s0 kvs = some s) : kvs.Perm (s.pairs ver) := by
  rw [LInScope.addPairs_eq_foldlM] at h
  rw [LInScope.pairs_eq_flatten] at h0 ⊢
  simpa [LInScope.view] using ((LInScope.view ko ver).written hne hv h0 h).1

theorem LInScope.pairs_keys_nodup (ko : KeyOps) (ver : Option Nat) (kvs : List KV) (s0 s : LInScope)
    (hv : ver = some 2 ∨ InSeeded s0.base) (h0 : s0.pairs ver = []) (hne : ∀ kv ∈ kvs, kv.1 ≠ [])
    (h : LInScope.addPairs ko s0 kvs = some s) : ((s.pairs ver).map Prod.fst).Nodup := by
  rw [LInScope.addPairs_eq_foldlM] at h
  rw [LInScope.pairs_eq_flatten] at h0 ⊢
  exact ((LInScope.view ko ver).written hne hv h0 h).2

theorem LOutScope.pairsL_perm (ko : KeyOps) (ver : Option Nat) (kvs : List KV) (s0 s : LOutScope)
    (hv : ver = some 2 ∨ LOutSeededG s0) (h0 : s0.pairsL ver = []) (hne : ∀ kv ∈ kvs, kv.1 ≠ [])
    (h : LOutScope.addPairs ko s0 kvs = some s) :
    (kvs.map (fun kv => (LOutField.canonKey ver kv.1, kv.2))).Perm (s.pairsL ver) := by
  rw [LOutScope.addPairs_eq_foldlM] at h
  rw [LOutScope.pairsL_eq_flatten] at h0 ⊢
  exact ((LOutScope.view ko ver).written hne hv h0 h).1

theorem LOutScope.pairsL_keys_nodup (ko : KeyOps) (ver : Option Nat) (kvs : List KV) (s0 s : LOutScope)
    (hv : ver = some 2 ∨ LOutSeededG s0) (h0 : s0.pairsL ver = []) (hne : ∀ kv ∈ kvs, kv.1 ≠ [])
    (h : LOutScope.addPairs ko s0 kvs = some s) : ((s.pairsL ver).map Prod.fst).Nodup := by
  rw [LOutScope.addPairs_eq_foldlM] at h
  rw [LOutScope.pairsL_eq_flatten] at h0 ⊢
  exact ((LOutScope.view ko ver).written hne hv h0 h).2

/-- `LPset.parse_lossless` with the version-0 clause freed of `D53Free`: the global transaction is unsigned, carries no
    witness, and — when no input scope holds `pset 00/01` — is the transaction rebuilt from the scopes, whatever
    issuance / peg-in flag / nonce it carries; every global pair is written back -/
theorem LPset.parse_lossless_kept (ko : KeyOps) (b : Bytes) (p : LPset) (h : LPset.parse ko b = some p) :
    ∃ (g : List KV) (ins outs : List (List KV)),
      b = psetMagic ++ writeKVs g ++ ins.flatMap writeKVs ++ outs.flatMap writeKVs
      ∧ (∀ kv ∈ g, KVWF kv) ∧ (∀ kvs ∈ ins, ∀ kv ∈ kvs, KVWF kv) ∧ (∀ kvs ∈ outs, ∀ kv ∈ kvs, KVWF kv)
      ∧ ins.length = p.inputs.length ∧ outs.length = p.outputs.length
      ∧ (∀ (j : Nat) (kvs : List KV) (s : LInScope), ins[j]? = some kvs → p.inputs[j]? = some s →
            (∀ kv ∈ kvs, kv ∈ s.pairs p.version) ∧ kvs.Perm (s.pairs p.version)
            ∧ ((s.pairs p.version).map Prod.fst).Nodup)
      ∧ (∀ (j : Nat) (kvs : List KV) (s : LOutScope), outs[j]? = some kvs → p.outputs[j]? = some s →
            s.pairs p.version = some (s.pairsL p.version)
            ∧ (∀ kv ∈ kvs, (LOutField.canonKey p.version kv.1, kv.2) ∈ s.pairsL p.version)
            ∧ (kvs.map (fun kv => (LOutField.canonKey p.version kv.1, kv.2))).Perm (s.pairsL p.version)
            ∧ ((s.pairsL p.version).map Prod.fst).Nodup)
      ∧ (p.version = some 2 → (∀ kv ∈ g, kv.1 ≠ [0x00]) ∧ ∃ gp, p.globalPairs = some gp ∧ ∀ kv ∈ g, kv ∈ gp)
      ∧ (p.version ≠ some 2 → ∃ t, ([0x00], LTx.ser t) ∈ g ∧ WF t ∧ LUnsigned t ∧ LTx.hasWitness t = false
            ∧ p.inputs.length = t.vin.length ∧ p.outputs.length = t.vout.length
            ∧ (∀ gp, p.globalPairs = some gp → ∀ kv ∈ g, kv.1 ≠ [0x00] → kv ∈ gp)
            ∧ (NoOwnIssuance ins = true → p.tx = some t ∧ LTx.serOpt t = some (LTx.ser t)
                 ∧ ∃ gp, p.globalPairs = some gp ∧ ∀ kv ∈ g, kv ∈ gp)) := by
  obtain ⟨g, kin, kout, tx, unk, gs, eb, wg, ws, hgf, hpu, hver, q1, q2, q3, q4, l1, l2, l3, l4, fi, fo⟩ :=
    LPset.parse_decomp ko b p h
  obtain ⟨_, _, _, f5, f4⟩ := lglobalFold_spec g none none [] tx p.version unk hgf
  have hnd := lglobalFold_nodup g none none [] tx p.version unk hgf (by simp)
  obtain ⟨u1, u2, u3, u4, u5, u6, u7, u8⟩ := parseUnknowns_spec ko (p.version == some 2) unk _ gs hnd hpu
  have wi : ∀ kvs ∈ kin, ∀ kv ∈ kvs, KVWF kv := fun kvs hk => ws kvs (by simp [hk])
  have wo : ∀ kvs ∈ kout, ∀ kv ∈ kvs, KVWF kv := fun kvs hk => ws kvs (by simp [hk])
  -- version 0: the global transaction, with one scope per input / output and its version and locktime
  have hv0 : p.version ≠ some 2 → ∃ t, tx = some t ∧ p.inputs.length = t.vin.length
      ∧ p.outputs.length = t.vout.length ∧ p.txVersion = some t.version ∧ p.locktime = some t.locktime := by
    intro hv
    obtain ⟨t, rfl⟩ : ∃ t, tx = some t := hver.elim (fun h => absurd h.1 hv) (·.2)
    obtain ⟨c1, c2, c3, c4⟩ := u7 (by simp [hv])
    rw [c3] at l3; rw [c4] at l4
    exact ⟨t, rfl, by simpa [lgstate0] using l3, by simpa [lgstate0] using l4, by rw [q1, c1]; rfl, by rw [q2, c2]; rfl⟩
  have htxv : tx = none ∨ p.version ≠ some 2 := hver.elim (fun h => .inl h.2) (fun h => .inr h.1)
  -- the non-transaction part of the global scope, whatever the version
  have hglob : ∀ txp : List KV, ∀ kv ∈ g, kv.1 ≠ [0x00] → kv ∈
      txp ++ p.xpubs.map (fun (x, d) => (0x01 :: x, Deriv.ser d))
      ++ (if (p.version == some 2) = true then
            optKV [0x02] (p.txVersion.map (leN 4)) ++ optKV [0x03] (p.locktime.map (leN 4))
            ++ [([0x04], Compact.enc p.inputs.length), ([0x05], Compact.enc p.outputs.length)]
          else [])
      ++ optKV [0xfb] (p.version.map (leN 4)) ++ p.unknown := by
    intro txp kv hkv hk0
    rcases f4 kv hkv with ⟨e, _⟩ | ⟨e, n, hn, hl⟩ | ⟨hu, _, _⟩
    · exact absurd e hk0
    · obtain ⟨k, v⟩ := kv; simp at e hl; subst e; subst hl
      simp [optKV, hn]
    · obtain ⟨k, v⟩ := kv
      rcases u8 (k, v) hu with ⟨x, d, e1, e2, e3⟩ | ⟨c, e1, n, e2, e3⟩ | ⟨c, e1, n, e2, e3⟩
          | ⟨c, e1, n, e2, e3⟩ | ⟨c, e1, n, e2, e3⟩ | e1
      · simp at e1 e3; subst e1; subst e3
        refine List.mem_append_left _ (List.mem_append_left _ (List.mem_append_left _ (List.mem_append_right _ ?_)))
        rw [q3]; exact List.mem_map.mpr ⟨(x, d), e2, rfl⟩
      · simp at e1 e3; subst e1; subst e3; simp [optKV, q1, e2, c]
      · simp at e1 e3; subst e1; subst e3; simp [optKV, q2, e2, c]
      · simp at e1 e3; subst e1; subst e3
        rw [e2] at l3; simp at l3
        simp [c, l3]
      · simp at e1 e3; subst e1; subst e3
        rw [e2] at l4; simp at l4
        simp [c, l4]
      · simp [q4, e1]
  refine ⟨g, kin, kout, by simp [eb, List.append_assoc], wg, wi, wo, l1, l2, ?_, ?_, ?_, ?_⟩
  · -- inputs
    intro j kvs s hk hs
    have hj : j < p.inputs.length := (List.getElem?_eq_some_iff.mp hs).1
    obtain ⟨kvs', s', a1, a2, a3⟩ := fi j hj
    obtain rfl := Option.some.inj (hk.symm.trans a1)
    obtain rfl := Option.some.inj (hs.symm.trans a2)
    have hne : ∀ kv ∈ kvs, kv.1 ≠ [] := fun kv hkv => (wi kvs (List.mem_of_getElem? hk) kv hkv).1
    have hseed : p.version = some 2 ∨ InSeeded (lseedIn tx j).base := by
      refine (Decidable.em (p.version = some 2)).imp_right fun hv => ?_
      obtain ⟨t, rfl, li, _⟩ := hv0 hv
      exact lseedIn_seeded t j (li ▸ hj)
    have h0 := lseedIn_pairs tx j p.version htxv
    exact ⟨(LInScope.addPairs_lossless ko p.version kvs _ s hseed hne a3).1,
      LInScope.pairs_perm ko p.version kvs _ s hseed h0 hne a3,
      LInScope.pairs_keys_nodup ko p.version kvs _ s hseed h0 hne a3⟩
  · -- outputs
    intro j kvs s hk hs
    have hj : j < p.outputs.length := (List.getElem?_eq_some_iff.mp hs).1
    obtain ⟨kvs', s', a1, a2, a3⟩ := fo j hj
    obtain rfl := Option.some.inj (hk.symm.trans a1)
    obtain rfl := Option.some.inj (hs.symm.trans a2)
    have hne : ∀ kv ∈ kvs, kv.1 ≠ [] := fun kv hkv => (wo kvs (List.mem_of_getElem? hk) kv hkv).1
    have hseed : p.version = some 2 ∨ LOutSeededG (lseedOut tx j) := by
      refine (Decidable.em (p.version = some 2)).imp_right fun hv => ?_
      obtain ⟨t, rfl, _, lo, _⟩ := hv0 hv
      exact lseedOut_seeded t j (lo ▸ hj)
    have h0 := lseedOut_pairsL tx j p.version htxv
    obtain ⟨m1, _, m3, _⟩ := LOutScope.addPairs_losslessG ko p.version kvs _ s hseed hne a3
    refine ⟨?_, m1, LOutScope.pairsL_perm ko p.version kvs _ s hseed h0 hne a3,
      LOutScope.pairsL_keys_nodup ko p.version kvs _ s hseed h0 hne a3⟩
    rw [LOutScope.pairs_eq]
    rcases hver with ⟨hv, rfl⟩ | ⟨hv, _⟩
    · have : s.valueConf = none := by rw [m3]; rfl
      simp [this]
    · simp [hv]
  · -- version 2
    intro hv2
    obtain rfl : tx = none := htxv.resolve_right (fun h => h hv2)
    have hno0 : ∀ kv ∈ g, kv.1 ≠ [0x00] := by
      intro kv hkv e
      rcases f4 kv hkv with ⟨_, t, ht, _⟩ | ⟨e', _⟩ | ⟨_, e', _⟩
      · cases ht
      · rw [e] at e'; simp at e'
      · exact e' e
    refine ⟨hno0, ?_⟩
    have hb : (p.version == some 2) = true := by simp [hv2]
    refine ⟨_, by simp only [LPset.globalPairs, hb]; rfl, ?_⟩
    intro kv hkv
    have := hglob [] kv hkv (hno0 kv hkv)
    simpa [hb] using this
  · -- version 0
    intro hv
    obtain ⟨t, rfl, li, lo, qv, ql⟩ := hv0 hv
    have hb : (p.version == some 2) = false := by simp [hv]
    obtain ⟨hmem, hu, hwf, hnw⟩ := (f5 t rfl).resolve_left nofun
    have hnontx : ∀ gp, p.globalPairs = some gp → ∀ kv ∈ g, kv.1 ≠ [0x00] → kv ∈ gp := by
      intro gp hgp kv hkv hk0
      simp only [LPset.globalPairs, hb] at hgp
      cases htxp : (p.tx.bind fun t => (LTx.serOpt t).map fun b => [(([0x00] : Bytes), b)]) with
      | none => simp [htxp] at hgp
      | some txp =>
        simp [htxp] at hgp
        subst hgp
        have := hglob txp kv hkv hk0
        simpa [hb, List.append_assoc] using this
    refine ⟨t, hmem, hwf, hu, hnw, li, lo, hnontx, fun hfree => ?_⟩
    have htx : p.tx = some t :=
      LPset.tx_of_v0_obj ko p t kin kout hwf hu hnw wo qv ql li lo fi fo
        (LPset.noOwnIssuance_of_keys ko p t kin li fi hfree)
    have hfits : LTx.serOpt t = some (LTx.ser t) := by simp [LTx.serOpt, LTx.fits_of_wf t hwf]
    obtain ⟨gp, hgp, hmem0⟩ : ∃ gp, p.globalPairs = some gp ∧ ([0x00], LTx.ser t) ∈ gp := by
      simp [LPset.globalPairs, hb, htx, hfits]
    refine ⟨htx, hfits, gp, hgp, fun kv hkv => ?_⟩
    by_cases hk0 : kv.1 = [0x00]
    · -- the only pair under key 00 is the transaction's
      rcases f4 kv hkv with ⟨_, t', ht', hs⟩ | ⟨e', _⟩ | ⟨_, e', _⟩
      · cases ht'
        obtain ⟨k, v⟩ := kv
        simp only at hk0 hs; subst hk0; subst hs
        exact hmem0
      · rw [hk0] at e'; simp at e'
      · exact absurd hk0 e'
    · exact hnontx gp hgp kv hkv hk0

/-- `PSET.parse` is lossless: the byte string is the canonical framing of a global scope `g`, input scopes `ins`
    and output scopes `outs`; scope counts are kept; what `write_to` emits for a scope is a permutation of the pairs
    read for it, identical bytes (outputs: under the spelling of the PSET's version), no key twice; the global pairs are in
    the global scope that is written — for version 2 always, for version 0 every pair except the transaction
    always and the transaction itself outside the D53 region. -/
theorem LPset.parse_lossless (ko : KeyOps) (b : Bytes) (p : LPset) (h : LPset.parse ko b = some p) :
    ∃ (g : List KV) (ins outs : List (List KV)),
      b = psetMagic ++ writeKVs g ++ ins.flatMap writeKVs ++ outs.flatMap writeKVs
      ∧ (∀ kv ∈ g, KVWF kv) ∧ (∀ kvs ∈ ins, ∀ kv ∈ kvs, KVWF kv) ∧ (∀ kvs ∈ outs, ∀ kv ∈ kvs, KVWF kv)
      ∧ ins.length = p.inputs.length ∧ outs.length = p.outputs.length
      ∧ (∀ (j : Nat) (kvs : List KV) (s : LInScope), ins[j]? = some kvs → p.inputs[j]? = some s →
            (∀ kv ∈ kvs, kv ∈ s.pairs p.version) ∧ kvs.Perm (s.pairs p.version)
            ∧ ((s.pairs p.version).map Prod.fst).Nodup)
      ∧ (∀ (j : Nat) (kvs : List KV) (s : LOutScope), outs[j]? = some kvs → p.outputs[j]? = some s →
            s.pairs p.version = some (s.pairsL p.version)
            ∧ (∀ kv ∈ kvs, (LOutField.canonKey p.version kv.1, kv.2) ∈ s.pairsL p.version)
            ∧ (kvs.map (fun kv => (LOutField.canonKey p.version kv.1, kv.2))).Perm (s.pairsL p.version)
            ∧ ((s.pairsL p.version).map Prod.fst).Nodup)
      ∧ (p.version = some 2 → (∀ kv ∈ g, kv.1 ≠ [0x00]) ∧ ∃ gp, p.globalPairs = some gp ∧ ∀ kv ∈ g, kv ∈ gp)
      ∧ (p.version ≠ some 2 → ∃ t, ([0x00], LTx.ser t) ∈ g ∧ WF t
            ∧ p.inputs.length = t.vin.length ∧ p.outputs.length = t.vout.length
            ∧ (∀ gp, p.globalPairs = some gp → ∀ kv ∈ g, kv.1 ≠ [0x00] → kv ∈ gp)
            ∧ (D53Free t ins = true → p.tx = some t ∧ LTx.serOpt t = some (LTx.ser t)
                 ∧ ∃ gp, p.globalPairs = some gp ∧ ∀ kv ∈ g, kv ∈ gp)) := by
  obtain ⟨g, ins, outs, eb, wg, wi, wo, l1, l2, fi, fo, h2, h0⟩ := LPset.parse_lossless_kept ko b p h
  refine ⟨g, ins, outs, eb, wg, wi, wo, l1, l2, fi, fo, h2, fun hv => ?_⟩
  obtain ⟨t, hm, hwf, _, _, l3, l4, hnontx, hfree⟩ := h0 hv
  refine ⟨t, hm, hwf, l3, l4, hnontx, fun hd => hfree ?_⟩
  simp only [D53Free, Bool.and_eq_true] at hd
  exact hd.2


end Embit
