import EmbitModel.Proofs.Gf2Pack
/-
  Error detection for checksums whose state is updated by `step s x = M s ^^^ x` with `M` ("append a zero symbol")
  linear and injective on 30-bit states: bech32 (5-bit symbols) and RS1024 (10-bit symbols).
  The syndrome of an error word is its `synG` against `shiftTable`; a rank condition on that table for words whose
  last symbol is not zero (`headP`), together with the injectivity of `M`, covers every position of the window.
-/
namespace Embit.Gf2

def unit (w : Nat) : List Nat := (List.range w).map (2 ^ ·)

structure ShiftStep (w : Nat) (step : Nat → Nat → Nat) : Prop where
  width : 0 < w ∧ w ≤ 30
  xor : ∀ a b, step (a ^^^ b) 0 = step a 0 ^^^ step b 0
  zero : step 0 0 = 0
  eq : ∀ s x, step s x = step s 0 ^^^ x
  lt : ∀ s v, v < 2 ^ 30 → step s v < 2 ^ 30
  inj : ∀ s, s < 2 ^ 30 → step s 0 = 0 → s = 0
  comb_unit : ∀ x, x < 2 ^ w → comb (bitsN w x) (unit w) = x

/-- for each of the last `n` positions (offset from the end), the effect on the final state of each bit of the
    symbol there -/
def shiftTable (step : Nat → Nat → Nat) (w : Nat) : Nat → List (List Nat)
  | 0 => []
  | n + 1 => unit w :: (shiftTable step w n).map (List.map (step · 0))

/-- syndrome of an error word given in offset order (offset 0 = last symbol) -/
def syndrome (step : Nat → Nat → Nat) (r : List Nat) : Nat := r.reverse.foldl step 0

variable {w : Nat} {step : Nat → Nat → Nat}

theorem syndrome_cons (h : ShiftStep w step) (x : Nat) (r : List Nat) :
    syndrome step (x :: r) = step (syndrome step r) 0 ^^^ x := by
  simp [syndrome, List.foldl_append, ← h.eq]

theorem synG_shiftTable (h : ShiftStep w step) (n : Nat) (r : List Nat) (hl : r.length ≤ n)
    (hlt : ∀ x ∈ r, x < 2 ^ w) : synG w r (shiftTable step w n) = syndrome step r := by
  induction r generalizing n with
  | nil => cases n <;> simp [synG, syndrome]
  | cons x r ih =>
    cases n with
    | zero => simp at hl
    | succ n =>
      rw [shiftTable, synG, synG_mapLin (step · 0) h.xor h.zero, ih n (by simpa using hl) (fun y hy => hlt y (by simp [hy])),
        h.comb_unit x (hlt x (by simp)), syndrome_cons h, Nat.xor_comm]

theorem shiftTable_length (n : Nat) : (shiftTable step w n).length = n := by
  induction n with
  | zero => rfl
  | succ n ih => simp [shiftTable, ih]

theorem shiftTable_Table (h : ShiftStep w step) (n : Nat) : Table w (shiftTable step w n) := by
  induction n with
  | zero => exact ⟨by simp [shiftTable], by simp [shiftTable, Small]⟩
  | succ n ih =>
    have := ih.map (E := (step · 0)) fun u _ => h.lt u 0 (Nat.two_pow_pos 30)
    refine ⟨fun g hg => ?_, fun x hx => ?_⟩
    · rcases List.mem_cons.mp hg with rfl | hg
      · simp [unit]
      · exact this.length g hg
    · rw [shiftTable, List.flatten_cons, List.mem_append] at hx
      rcases hx with hx | hx
      · obtain ⟨i, hi, rfl⟩ := List.mem_map.mp hx
        exact Nat.pow_lt_pow_right (by decide) (by have := List.mem_range.mp hi; have := h.width.2; omega)
      · exact this.small x hx

theorem syndrome_lt (h : ShiftStep w step) (r : List Nat) (hlt : ∀ x ∈ r, x < 2 ^ w) : syndrome step r < 2 ^ 30 := by
  cases r with
  | nil => exact Nat.two_pow_pos 30
  | cons x r =>
    rw [syndrome_cons h, ← h.eq]
    exact h.lt _ x (Nat.lt_of_lt_of_le (hlt x (by simp)) (Nat.pow_le_pow_right (by decide) h.width.2))

/-- the rank condition for a window of `W` symbols implies: a word of weight ≤ `n + 1`, at most `W` long, with
    syndrome zero is zero (last symbol by the rank condition, then the rest by shifting the window) -/
theorem detect_list (h : ShiftStep w step) {W n : Nat} (hchk : headP w n (shiftTable step w W) = true) (r : List Nat)
    (hl : r.length ≤ W) (hlt : ∀ x ∈ r, x < 2 ^ w) (hw : weight r ≤ n + 1) (hs : syndrome step r = 0) : ∀ x ∈ r, x = 0 := by
  induction r with
  | nil => simp
  | cons x r ih =>
    have hrlt : ∀ y ∈ r, y < 2 ^ w := fun y hy => hlt y (by simp [hy])
    obtain ⟨W, rfl⟩ : ∃ W', W = W' + 1 := ⟨W - 1, by simp at hl; omega⟩
    obtain rfl : x = 0 := by
      have hs' := hs
      rw [← synG_shiftTable h (W + 1) (x :: r) hl hlt] at hs'
      exact headP_sound h.width.1 (shiftTable_Table h (W + 1)) hchk (hlt x (by simp))
        (by simpa [shiftTable_length] using hl) hrlt hw hs'
    rw [syndrome_cons h, Nat.xor_zero] at hs
    have := ih (by simp at hl; omega) hrlt (by simpa [weight] using hw) (h.inj _ (syndrome_lt h r hrlt) hs)
    simpa using this

/-- the same for a word in natural order -/
theorem detect_fold (h : ShiftStep w step) {W n : Nat} (hchk : headP w n (shiftTable step w W) = true) (e : List Nat)
    (hl : e.length ≤ W) (hlt : ∀ x ∈ e, x < 2 ^ w) (hw : weight e ≤ n + 1) (hs : e.foldl step 0 = 0) : ∀ x ∈ e, x = 0 := by
  have := detect_list h hchk e.reverse (by simpa using hl) (by simpa using hlt) (by rwa [weight_reverse])
    (by simpa [syndrome] using hs)
  simpa using this

end Embit.Gf2
