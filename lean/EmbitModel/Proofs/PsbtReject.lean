import EmbitModel.Proofs.PsbtParseWF
/-
  C04 (deepening): helper lemmas for the rejection rules of `PSBT.parse` — uniqueness of the key-value framing,
  the decomposition of an accepted PSBT relative to a GIVEN framing, and what the global fold demands of the
  global scope.
-/
set_option linter.unusedSimpArgs false
set_option linter.unusedVariables false
namespace Embit
open Model Spec.Wire

theorem writeKVs_inj (g g' : List KV) (r r' : Bytes) (hg : ∀ kv ∈ g, KVWF kv) (hg' : ∀ kv ∈ g', KVWF kv)
    (h : writeKVs g ++ r = writeKVs g' ++ r') : g = g' ∧ r = r' := by
  have a := readKVs_write g r hg
  have b := readKVs_write g' r' hg'
  rw [h, b] at a
  simp at a
  exact ⟨a.1.symm, a.2.symm⟩

theorem writeKVs_ne_nil (g : List KV) (r : Bytes) : writeKVs g ++ r ≠ [] := by
  have := writeKVs_length g
  intro e
  have h2 := congrArg List.length e
  rw [List.length_append, List.length_nil] at h2; omega

theorem scopes_inj : ∀ (s s' : List (List KV)), (∀ kvs ∈ s, ∀ kv ∈ kvs, KVWF kv) → (∀ kvs ∈ s', ∀ kv ∈ kvs, KVWF kv) →
    s.flatMap writeKVs = s'.flatMap writeKVs → s = s' := by
  intro s
  induction s with
  | nil =>
    intro s' _ _ h
    cases s' with
    | nil => rfl
    | cons x xs => simp only [List.flatMap_nil, List.flatMap_cons] at h; exact absurd h.symm (writeKVs_ne_nil _ _)
  | cons x xs ih =>
    intro s' hs hs' h
    cases s' with
    | nil => simp only [List.flatMap_nil, List.flatMap_cons] at h; exact absurd h (writeKVs_ne_nil _ _)
    | cons y ys =>
      simp only [List.flatMap_cons] at h
      obtain ⟨e1, e2⟩ := writeKVs_inj x y _ _ (hs x (by simp)) (hs' y (by simp)) h
      rw [e1, ih ys (fun k hk => hs k (by simp [hk])) (fun k hk => hs' k (by simp [hk])) e2]

/-- the bytes of a PSBT with global pairs `g` and scope pairs `scopes` (inputs first, then outputs) -/
def framePsbt (g : List KV) (scopes : List (List KV)) : Bytes :=
  psbtMagic ++ (writeKVs g ++ scopes.flatMap writeKVs)

theorem parse_framed_decomp (ko : KeyOps) (sha : Bytes → Bytes) (g : List KV) (scopes : List (List KV)) (p : Psbt)
    (hg : ∀ kv ∈ g, KVWF kv) (hs : ∀ kvs ∈ scopes, ∀ kv ∈ kvs, KVWF kv)
    (h : Psbt.parse ko sha 0 (framePsbt g scopes) = some p) :
    ∃ (tx : Option Tx) (unk : List KV) (gs : GState),
      globalFold none none [] g = some (tx, p.version, unk)
      ∧ parseUnknowns ko (p.version == some 2) (gstate0 tx) unk = some gs
      ∧ ((p.version = some 2 ∧ tx = none) ∨ (p.version ≠ some 2 ∧ ∃ t, tx = some t))
      ∧ p.txVersion = gs.txVersion ∧ p.locktime = gs.locktime ∧ p.xpubs = gs.xpubs ∧ p.unknown = gs.unknown
      ∧ scopes.length = p.inputs.length + p.outputs.length
      ∧ p.inputs.length = gs.nin.getD 0 ∧ p.outputs.length = gs.nout.getD 0
      ∧ (∀ j, j < p.inputs.length → ∃ kvs s, scopes[j]? = some kvs ∧ p.inputs[j]? = some s
            ∧ InScope.addPairs ko sha 0 (seedIn tx j) kvs = some s)
      ∧ (∀ j, j < p.outputs.length → ∃ kvs s, scopes[p.inputs.length + j]? = some kvs ∧ p.outputs[j]? = some s
            ∧ OutScope.addPairs ko (seedOut tx j) kvs = some s)
      ∧ (∀ t, tx = some t → p.tx = some t ∧ p.inputs.length = t.vin.length ∧ p.outputs.length = t.vout.length) := by
  obtain ⟨g', kin, kout, tx, unk, gs, eb, wg, ws, hgf, hpu, hver, q1, q2, q3, q4, l1, l2, l3, l4, fi, fo, ft⟩ :=
    parse_decomp ko sha _ p h
  unfold framePsbt at eb
  have e1 := List.append_cancel_left eb
  obtain ⟨e2, e3⟩ := writeKVs_inj g g' _ _ hg wg e1
  have e4 := scopes_inj scopes (kin ++ kout) hs ws e3
  subst e2
  refine ⟨tx, unk, gs, hgf, hpu, hver, q1, q2, q3, q4, by rw [e4]; simp [l1, l2], l3, l4, ?_, ?_, ft⟩
  · intro j hj
    obtain ⟨kvs, s, a1, a2, a3⟩ := fi j hj
    refine ⟨kvs, s, ?_, a2, a3⟩
    rw [e4, List.getElem?_append_left (by omega)]; exact a1
  · intro j hj
    obtain ⟨kvs, s, a1, a2, a3⟩ := fo j hj
    refine ⟨kvs, s, ?_, a2, a3⟩
    rw [e4, List.getElem?_append_right (by omega)]
    rw [show p.inputs.length + j - kin.length = j by omega]; exact a1

theorem parse_global_none (ko : KeyOps) (sha : Bytes → Bytes) (c : Nat) (g : List KV) (rest : Bytes)
    (hg : ∀ kv ∈ g, KVWF kv)
    (h : ∀ tx ver unk, globalFold none none [] g = some (tx, ver, unk) →
      (tx.isSome && ver == some 2) = true ∨ (tx.isNone && !(ver == some 2)) = true) :
    Psbt.parse ko sha c (psbtMagic ++ (writeKVs g ++ rest)) = none := by
  have h1 : takeN 5 (psbtMagic ++ (writeKVs g ++ rest)) = some (psbtMagic, writeKVs g ++ rest) :=
    takeN_append psbtMagic _
  have h2 := readKVs_write g rest hg
  unfold Psbt.parse
  simp only [h1, h2]
  cases hgf : globalFold none none [] g with
  | none => simp
  | some r =>
    obtain ⟨tx, ver, unk⟩ := r
    rcases h tx ver unk hgf with hh | hh
    · simp [hh]
    · cases hc : (tx.isSome && ver == some 2) <;> simp [hh]

theorem globalFold_tx_absent : ∀ (g : List KV) (tx : Option Tx) (ver : Option Nat) (unk : List KV)
    (tx' : Option Tx) (ver' : Option Nat) (unk' : List KV),
    globalFold tx ver unk g = some (tx', ver', unk') → (∀ kv ∈ g, kv.1 ≠ [0x00]) → tx' = tx := by
  intro g tx ver unk tx' ver' unk' h
  exact globalFold_induction (motive := fun tx _ _ g res => (∀ kv ∈ g, kv.1 ≠ [0x00]) → res.1 = tx)
    (fun _ _ _ _ => rfl) (fun _ _ _ _ hno => absurd rfl (hno _ List.mem_cons_self))
    (fun _ _ ih hno => ih fun x hx => hno x (List.mem_cons_of_mem _ hx))
    (fun _ _ _ _ ih hno => ih fun x hx => hno x (List.mem_cons_of_mem _ hx)) h

theorem globalFold_keys_nodup : ∀ (g : List KV) (tx : Option Tx) (ver : Option Nat) (unk : List KV)
    (tx' : Option Tx) (ver' : Option Nat) (unk' : List KV),
    globalFold tx ver unk g = some (tx', ver', unk') → (∀ u ∈ unk, notTxVer u = true) →
      (g.map Prod.fst).Nodup ∧ (tx.isSome = true → ∀ kv ∈ g, kv.1 ≠ [0x00])
      ∧ (ver.isSome = true → ∀ kv ∈ g, kv.1 ≠ [0xfb]) ∧ (∀ u ∈ unk, ∀ kv ∈ g, kv.1 ≠ u.1) := by
  intro g tx ver unk tx' ver' unk' h
  -- the key in front differs from every later key, given that the later keys avoid it (`hlater`)
  have cons_nodup {k : Bytes} {v : Bytes} {r : List KV} (hlater : ∀ kv ∈ r, kv.1 ≠ k) (hr : (r.map Prod.fst).Nodup) :
      (((k, v) :: r).map Prod.fst).Nodup :=
    List.nodup_cons.mpr ⟨fun hm => by obtain ⟨x, hx, e⟩ := List.mem_map.mp hm; exact hlater x hx e, hr⟩
  refine globalFold_induction (motive := fun tx ver unk g _ => (∀ u ∈ unk, notTxVer u = true) →
      (g.map Prod.fst).Nodup ∧ (tx.isSome = true → ∀ kv ∈ g, kv.1 ≠ [0x00])
      ∧ (ver.isSome = true → ∀ kv ∈ g, kv.1 ≠ [0xfb]) ∧ (∀ u ∈ unk, ∀ kv ∈ g, kv.1 ≠ u.1)) ?_ ?_ ?_ ?_ h
  · exact fun _ _ _ _ => ⟨.nil, fun _ _ hx => (nomatch hx), fun _ _ hx => (nomatch hx), fun _ _ _ hx => (nomatch hx)⟩
  · intro ver unk v t r res _ _ _ ih hu
    obtain ⟨a1, a2, a3, a4⟩ := ih hu
    refine ⟨cons_nodup (a2 rfl) a1, fun ht => (nomatch ht), fun hv => ?_, fun u huu => ?_⟩
    · exact List.forall_mem_cons.mpr ⟨by simp, a3 hv⟩
    · exact List.forall_mem_cons.mpr ⟨fun e => by have := hu u huu; simp [notTxVer, ← e] at this, a4 u huu⟩
  · intro tx unk v r res _ _ ih hu
    obtain ⟨a1, a2, a3, a4⟩ := ih hu
    refine ⟨cons_nodup (a3 rfl) a1, fun ht => ?_, fun hv => (nomatch hv), fun u huu => ?_⟩
    · exact List.forall_mem_cons.mpr ⟨by simp, a2 ht⟩
    · exact List.forall_mem_cons.mpr ⟨fun e => by have := hu u huu; simp [notTxVer, ← e] at this, a4 u huu⟩
  · intro tx ver unk k v r res hk0 hkfb hl _ ih hu
    have hu' : ∀ u ∈ unk ++ [(k, v)], notTxVer u = true := by
      intro u huu
      rcases List.mem_append.mp huu with huu | huu
      · exact hu u huu
      · simp at huu; subst huu; simp [notTxVer, hk0, hkfb]
    obtain ⟨a1, a2, a3, a4⟩ := ih hu'
    have hlk := (lookup_none_iff k unk).mp hl
    exact ⟨cons_nodup (a4 (k, v) (by simp)) a1, fun ht => List.forall_mem_cons.mpr ⟨hk0, a2 ht⟩,
      fun hv => List.forall_mem_cons.mpr ⟨hkfb, a3 hv⟩,
      fun u huu => List.forall_mem_cons.mpr ⟨fun e => hlk u huu e.symm, a4 u (List.mem_append_left _ huu)⟩⟩

theorem InScope.addPairs_seeded_keys (ko : KeyOps) (sha : Bytes → Bytes) (c : Nat) :
    ∀ (kvs : List KV) (s s' : InScope), InSeeded s → InScope.addPairs ko sha c s kvs = some s' →
      ∀ kv ∈ kvs, txFieldKey kv.1 = false := by
  intro kvs s s' hs h
  refine InScope.addPairs_induction (motive := fun s kvs _ => InSeeded s → ∀ kv ∈ kvs, txFieldKey kv.1 = false)
    (fun _ _ _ hkv => nomatch hkv) (fun {s k v s1 _ _} h1 _ ih hs => ?_) h hs
  obtain ⟨e0, e1, e2, e3⟩ := InScope.addPair_seeded ko sha c s s1 k v hs h1
  exact List.forall_mem_cons.mpr ⟨e0, ih ⟨e1 ▸ hs.1, e2 ▸ hs.2.1, e3 ▸ hs.2.2⟩⟩

theorem OutScope.addPairs_seeded_keys (ko : KeyOps) :
    ∀ (kvs : List KV) (s s' : OutScope), OutSeeded s → OutScope.addPairs ko s kvs = some s' →
      ∀ kv ∈ kvs, txFieldKeyOut kv.1 = false := by
  intro kvs s s' hs h
  refine OutScope.addPairs_induction (motive := fun s kvs _ => OutSeeded s → ∀ kv ∈ kvs, txFieldKeyOut kv.1 = false)
    (fun _ _ _ hkv => nomatch hkv) (fun {s k v s1 _ _} h1 _ ih hs => ?_) h hs
  obtain ⟨e0, e1, e2⟩ := OutScope.addPair_seeded ko s s1 k v hs h1
  exact List.forall_mem_cons.mpr ⟨e0, ih ⟨e1 ▸ hs.1, e2 ▸ hs.2⟩⟩

theorem lastFold_unique {α : Type} (key : Bytes) (f : Bytes → Option α) (unk : List KV) (w : Bytes)
    (hnd : (unk.map Prod.fst).Nodup) (hm : (key, w) ∈ unk) : lastFold key f none unk = f w := by
  apply lastFold_char
  · intro kv hkv hk
    have : (key, kv.2) ∈ unk := by rw [← hk]; exact hkv
    rw [nodup_keys_unique unk key kv.2 w hnd this hm]
  · intro hno; exact absurd rfl (hno _ hm)

theorem globalFold_tx_of_mem (g : List KV) (tx : Option Tx) (ver : Option Nat) (unk : List KV) (v : Bytes)
    (h : globalFold none none [] g = some (tx, ver, unk)) (hm : ([0x00], v) ∈ g) :
    ∃ t, tx = some t ∧ Tx.parse v = some t := by
  obtain ⟨t, ht⟩ : ∃ t, tx = some t := by
    rcases (globalFold_spec g _ _ _ _ _ _ h).2.2.2.2 _ hm with ⟨_, t, ht, _⟩ | ⟨e, _⟩ | ⟨_, e, _⟩
    · exact ⟨t, ht⟩
    · simp at e
    · simp at e
  subst ht
  obtain ⟨g1, w, g2, eg, n1, n2, hparse, _⟩ := globalFold_split g _ _ _ _ _ h
  refine ⟨t, rfl, ?_⟩
  rw [eg] at hm
  simp only [List.mem_append, List.mem_cons] at hm
  rcases hm with hm | hm | hm
  · exact absurd rfl (n1 _ hm)
  · simp at hm; rw [hm]; exact hparse
  · exact absurd rfl (n2 _ hm)

theorem parse_v2_counts (ko : KeyOps) (g unk : List KV) (ver : Option Nat) (gs : GState)
    (hgf : globalFold none none [] g = some (none, ver, unk))
    (hpu : parseUnknowns ko true (gstate0 none) unk = some gs) :
    (∀ w, ([0x04], w) ∈ g → gs.nin = parseAll Compact.read w)
    ∧ (∀ w, ([0x05], w) ∈ g → gs.nout = parseAll Compact.read w) := by
  have hunk : unk = g.filter notTxVer := by simpa using globalFold_unk g none none [] none ver unk hgf
  have hnd := globalFold_nodup g none none [] none ver unk hgf (by simp)
  obtain ⟨_, _, f3, f4, _⟩ := parseUnknowns_fold ko unk _ gs hpu
  refine ⟨?_, ?_⟩
  · intro w hw
    rw [f3]
    exact lastFold_unique _ _ unk w hnd (by rw [hunk]; exact List.mem_filter.mpr ⟨hw, rfl⟩)
  · intro w hw
    rw [f4]
    exact lastFold_unique _ _ unk w hnd (by rw [hunk]; exact List.mem_filter.mpr ⟨hw, rfl⟩)

end Embit
