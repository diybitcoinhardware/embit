import EmbitModel.Proofs.Slip39Lagrange
/-
  Any k (or more) of the n shares produced by `split_secret` recover the secret: all shares lie on one
  polynomial of degree < k per byte position; the interpolant through any ≥ k of them is that polynomial
  (uniqueness, Mathlib `Lagrange.eq_interpolate_of_eval_eq`), so its values at 255 and 254 are the secret and
  the digest share, and the digest check passes.
-/
namespace Embit.Model.Slip39
open Polynomial

theorem sharePoly_node {data L} (g : Good data L) (t : Nat × Bytes) (ht : t ∈ data) (b : Nat) :
    eval (GF256.ofNat t.1) (sharePoly data b) = toG (t.2.getD b 0) := by
  have hmem : (GF256.ofNat t.1, toG (t.2.getD b 0)) ∈ col data b :=
    List.mem_map.mpr ⟨t, ht, rfl⟩
  have hi : GF256.ofNat t.1 ∈ ((col data b).map (·.1)).toFinset := by
    rw [List.mem_toFinset]; exact List.mem_map.mpr ⟨_, hmem, rfl⟩
  have := Lagrange.eval_interpolate_at_node (v := id) (lookup (col data b)) (Set.injOn_id _) hi
  rw [id] at this
  rw [sharePoly, this, lookup_mem _ (g.col_nodup b) _ hmem]

theorem sharePoly_degree {data L} (g : Good data L) (b : Nat) : (sharePoly data b).degree < data.length := by
  have := Lagrange.degree_interpolate_lt (s := ((col data b).map (·.1)).toFinset) (v := id)
    (lookup (col data b)) (Set.injOn_id _)
  rw [List.toFinset_card_of_nodup (g.col_nodup b)] at this
  have e : ((col data b).map (·.1)).length = data.length := by simp [col]
  rw [e] at this
  exact this

theorem sharePoly_unique {B T : List (Nat × Bytes)} {L : Nat} (gB : Good B L) (gT : Good T L) (hlen : B.length ≤ T.length)
    (b : Nat) (hon : ∀ t ∈ T, toG (t.2.getD b 0) = eval (GF256.ofNat t.1) (sharePoly B b)) :
    sharePoly B b = sharePoly T b := by
  unfold sharePoly
  apply Lagrange.eq_interpolate_of_eval_eq (lookup (col T b)) (Set.injOn_id _)
  · rw [List.toFinset_card_of_nodup (gT.col_nodup b)]
    have h1 := sharePoly_degree gB b
    have h2 : (B.length : WithBot ℕ) ≤ ((col T b).map (·.1)).length := by
      simp only [col, List.length_map]; exact_mod_cast hlen
    exact lt_of_lt_of_le h1 h2
  · intro i hi
    rw [List.mem_toFinset] at hi
    obtain ⟨p, hp, rfl⟩ := List.mem_map.mp hi
    obtain ⟨t, ht, rfl⟩ := List.mem_map.mp hp
    rw [lookup_mem _ (gT.col_nodup b) _ hp]
    exact (hon t ht).symm

theorem ext_getD (l1 l2 : Bytes) (hl : l1.length = l2.length) (h : ∀ b < l1.length, l1.getD b 0 = l2.getD b 0) :
    l1 = l2 := by
  apply List.ext_getElem hl
  intro i h1 h2
  have := h i h1
  simpa [List.getD, List.getElem?_eq_getElem h1, List.getElem?_eq_getElem h2] using this

theorem interpolate_recovers {B T : List (Nat × Bytes)} {L : Nat} (gB : Good B L) (gT : Good T L) (hlen : B.length ≤ T.length)
    (hon : ∀ b < L, ∀ t ∈ T, toG (t.2.getD b 0) = eval (GF256.ofNat t.1) (sharePoly B b))
    (p : Nat × Bytes) (hp : p ∈ B) (hnot : p.1 ∉ T.map (·.1)) :
    interpolate p.1 T = p.2 := by
  apply ext_getD
  · rw [interpolate_length' gT, gB.len p hp]
  · intro b hb
    rw [interpolate_length' gT] at hb
    apply toG_inj
    rw [interpolate_eq_eval' gT p.1 (gB.lt p hp) hnot b hb, ← sharePoly_unique gB gT hlen b (hon b hb),
      sharePoly_node gB p hp b]

theorem drawBytes_length (n : Nat) (tape : List Nat) (bs : Bytes) (rest : List Nat)
    (h : drawBytes n tape = some (bs, rest)) : bs.length = n := by
  induction n generalizing tape bs rest with
  | zero => simp [drawBytes] at h; rw [h.1]; rfl
  | succ n ih =>
    cases tape with
    | nil => simp [drawBytes] at h
    | cons t tape =>
      simp only [drawBytes] at h
      split at h
      · split at h
        · rename_i bs' rest' hd
          simp at h
          rw [← h.1, List.length_cons, ih _ _ _ hd]
        · simp at h
      · simp at h

theorem drawShares_spec (nb c i : Nat) (tape : List Nat) (l : List (Nat × Bytes)) (rest : List Nat)
    (h : drawShares nb c i tape = some (l, rest)) :
    l.map (·.1) = List.range' i c ∧ ∀ s ∈ l, s.2.length = nb := by
  induction c generalizing i tape l rest with
  | zero => simp [drawShares] at h; rw [h.1]; simp
  | succ c ih =>
    simp only [drawShares] at h
    split at h
    · simp at h
    · rename_i bs rest1 hb
      split at h
      · simp at h
      · rename_i l' rest' hd
        simp at h
        have := ih _ _ _ _ hd
        rw [← h.1]
        refine ⟨by simp [this.1, List.range'_succ], ?_⟩
        intro s hs
        rcases List.mem_cons.mp hs with e | e
        · rw [e]; exact drawBytes_length _ _ _ _ hb
        · exact this.2 s e

theorem splitSecret_def (P : Prims) (secret : Bytes) (k n : Nat) (tape : List Nat) :
    splitSecret P secret k n tape =
      if 1 ≤ k ∧ k ≤ n ∧ n ≤ 16 ∧ (secret.length = 16 ∨ secret.length = 32) then
        if k = 1 then some ((List.range n).map fun i => (i, secret)) else
          (drawBytes (secret.length - 4) tape).bind fun rt =>
            (drawShares secret.length (k - 2) 0 rt.2).map fun bt =>
              bt.1 ++ (List.range' (k - 2) (n - (k - 2))).map fun i =>
                (i, interpolate i (bt.1 ++ [(254, digest P rt.1 secret ++ rt.1), (255, secret)]))
      else none := by
  unfold splitSecret
  simp only
  by_cases hv : 1 ≤ k ∧ k ≤ n ∧ n ≤ 16 ∧ (secret.length = 16 ∨ secret.length = 32)
  · rw [if_pos hv, if_neg (by omega), if_neg (by omega), if_neg (by omega), if_neg (by omega), if_neg (by omega)]
    split
    · rfl
    · cases drawBytes (secret.length - 4) tape with
      | none => rfl
      | some rt =>
        obtain ⟨r, tape1⟩ := rt
        cases hb : drawShares secret.length (k - 2) 0 tape1 with
        | none => simp only [hb, Option.bind_some, Option.map_none]
        | some bt => simp only [hb, Option.bind_some, Option.map_some]
  · rw [if_neg hv]
    split_ifs <;> first | rfl | (exfalso; omega)
theorem splitSecret_structure (P : Prims) (secret : Bytes) (k n : Nat) (tape : List Nat) (shares : List (Nat × Bytes))
    (hs : splitSecret P secret k n tape = some shares) (hk : 2 ≤ k) :
    k ≤ n ∧ n ≤ 16 ∧ (secret.length = 16 ∨ secret.length = 32) ∧
    ∃ (r : Bytes) (base : List (Nat × Bytes)),
      r.length = secret.length - 4 ∧
      base.map (·.1) = List.range' 0 (k - 2) ∧ (∀ s ∈ base, s.2.length = secret.length) ∧
      shares = base ++ (List.range' (k - 2) (n - (k - 2))).map
        (fun i => (i, interpolate i (base ++ [(254, digest P r secret ++ r), (255, secret)]))) := by
  rw [splitSecret_def] at hs
  split at hs
  · rename_i hv
    rw [if_neg (by omega)] at hs
    obtain ⟨⟨r, tape1⟩, hr, hs⟩ := Option.bind_eq_some_iff.mp hs
    obtain ⟨⟨base, rest⟩, hb, hs⟩ := Option.map_eq_some_iff.mp hs
    exact ⟨hv.2.1, hv.2.2.1, hv.2.2.2, r, base, drawBytes_length _ _ _ _ hr, (drawShares_spec _ _ _ _ _ _ hb).1,
      (drawShares_spec _ _ _ _ _ _ hb).2, hs.symm⟩
  · simp at hs

theorem good_base (base : List (Nat × Bytes)) (D S : Bytes) (c : Nat) (hc : c ≤ 14)
    (hbx : base.map (·.1) = List.range' 0 c) (hbl : ∀ s ∈ base, s.2.length = S.length) (hD : D.length = S.length) :
    (base ++ [(254, D), (255, S)]).map (fun x : Nat × Bytes => x.1) = List.range' 0 c ++ [254, 255] ∧
    Good (base ++ [(254, D), (255, S)]) S.length := by
  have hBx : (base ++ [(254, D), (255, S)]).map (fun x : Nat × Bytes => x.1) = List.range' 0 c ++ [254, 255] := by
    simp [hbx]
  refine ⟨hBx, ?_, ?_, ?_, by simp⟩
  · intro s hs'
    have : s.1 ∈ (base ++ [(254, D), (255, S)]).map (fun x : Nat × Bytes => x.1) := List.mem_map_of_mem hs'
    rw [hBx] at this
    simp [List.mem_range'_1] at this
    omega
  · rw [hBx, List.nodup_append]
    refine ⟨List.nodup_range', by decide, ?_⟩
    intro a ha b hb
    simp [List.mem_range'_1] at ha
    simp at hb
    omega
  · intro s hs'
    simp only [List.mem_append, List.mem_cons, List.not_mem_nil, or_false] at hs'
    rcases hs' with h | h | h
    · exact hbl s h
    · rw [h]; exact hD
    · rw [h]

theorem splitSecret_onpoly (P : Prims) (hH : ∀ key msg, 4 ≤ (P.hmac key msg).length)
    (secret : Bytes) (k n : Nat) (tape : List Nat) (shares : List (Nat × Bytes))
    (hs : splitSecret P secret k n tape = some shares) (hk : 2 ≤ k) :
    ∃ (r : Bytes) (B : List (Nat × Bytes)),
      (digest P r secret).length = 4 ∧ Good B secret.length ∧ B.length = k ∧
      (254, digest P r secret ++ r) ∈ B ∧ (255, secret) ∈ B ∧
      shares.map (·.1) = List.range n ∧ k ≤ n ∧ n ≤ 16 ∧ (secret.length = 16 ∨ secret.length = 32) ∧
      ∀ t ∈ shares, t.2.length = secret.length ∧
        ∀ b < secret.length, toG (t.2.getD b 0) = eval (GF256.ofNat t.1) (sharePoly B b) := by
  obtain ⟨hkn, hn, hsz, r, base, hr, hbx, hbl, rfl⟩ := splitSecret_structure P secret k n tape shares hs hk
  have hL : 16 ≤ secret.length := by omega
  have hdg : (digest P r secret).length = 4 := by
    simp [digest]; exact hH r secret
  have hD : (digest P r secret ++ r).length = secret.length := by simp [hdg, hr]; omega
  obtain ⟨hBx, gB⟩ := good_base base (digest P r secret ++ r) secret (k - 2) (by omega) hbx hbl hD
  have hBlen : (base ++ [(254, digest P r secret ++ r), (255, secret)]).length = k := by
    have : ((base ++ [(254, digest P r secret ++ r), (255, secret)]).map (fun x : Nat × Bytes => x.1)).length = k := by rw [hBx]; simp; omega
    simpa using this
  refine ⟨r, _, hdg, gB, hBlen, by simp, by simp, ?_, hkn, hn, hsz, ?_⟩
  · rw [List.map_append, hbx, List.map_map]
    have : ((fun x : Nat × Bytes => x.1) ∘ fun i => (i, interpolate i (base ++ [(254, digest P r secret ++ r), (255, secret)])))
        = id := rfl
    rw [this, List.map_id, List.range_eq_range',
      show List.range' (k - 2) (n - (k - 2)) = List.range' (0 + (k - 2)) (n - (k - 2)) by simp,
      List.range'_append_1]
    congr 1; omega
  · intro t ht
    rcases List.mem_append.mp ht with h | h
    · refine ⟨hbl t h, ?_⟩
      intro b _
      exact (sharePoly_node gB t (by simp [h]) b).symm
    · obtain ⟨i, hi, rfl⟩ := List.mem_map.mp h
      simp [List.mem_range'_1] at hi
      have hnot : i ∉ (base ++ [(254, digest P r secret ++ r), (255, secret)]).map (fun x : Nat × Bytes => x.1) := by
        rw [hBx]; simp [List.mem_range'_1]; omega
      refine ⟨interpolate_length' gB i, ?_⟩
      intro b hb
      exact interpolate_eq_eval' gB i (by omega) hnot b hb

/-- member indices are below 16, so the secret (255) and the digest (254) are not among the x-coordinates -/
theorem not_mem_of_lt16 {xs : List Nat} (h : ∀ x ∈ xs, x < 16) (x : Nat) (hx : 16 ≤ x) : x ∉ xs :=
  fun hm => Nat.not_lt.mpr hx (h x hm)

/-- **any k or more shares recover the secret** (raw share data, for every tape, both secret sizes,
    every HMAC function with at least 4 output bytes) -/
theorem recoverSecret_of_split (P : Prims) (hH : ∀ key msg, 4 ≤ (P.hmac key msg).length)
    (secret : Bytes) (k n : Nat) (tape : List Nat) (shares : List (Nat × Bytes))
    (hs : splitSecret P secret k n tape = some shares) (hk : 2 ≤ k)
    (T : List (Nat × Bytes)) (hT : ∀ t ∈ T, t ∈ shares) (hnd : (T.map (·.1)).Nodup) (hkT : k ≤ T.length) :
    recoverSecret P T = some secret := by
  obtain ⟨r, B, hdg, gB, hBlen, hD, hS, hx, hkn, hn, hsz, hshare⟩ := splitSecret_onpoly P hH secret k n tape shares hs hk
  have hlt : ∀ x ∈ T.map (·.1), x < 16 := by
    intro x hxT
    obtain ⟨t, ht, rfl⟩ := List.mem_map.mp hxT
    have : t.1 ∈ shares.map (·.1) := List.mem_map_of_mem (hT t ht)
    rw [hx, List.mem_range] at this
    omega
  have hTne : T ≠ [] := by
    intro e; rw [e] at hkT; simp at hkT; omega
  have gT : Good T secret.length :=
    ⟨fun s hs' => by have := hlt s.1 (List.mem_map_of_mem hs'); omega, hnd, fun s hs' => (hshare s (hT s hs')).1, hTne⟩
  have hon : ∀ b < secret.length, ∀ t ∈ T, toG (t.2.getD b 0) = eval (GF256.ofNat t.1) (sharePoly B b) :=
    fun b hb t ht => (hshare t (hT t ht)).2 b hb
  have h255 : interpolate 255 T = secret :=
    interpolate_recovers gB gT (by omega) hon (255, secret) hS (not_mem_of_lt16 hlt 255 (by decide))
  have h254 : interpolate 254 T = digest P r secret ++ r :=
    interpolate_recovers gB gT (by omega) hon (254, digest P r secret ++ r) hD (not_mem_of_lt16 hlt 254 (by decide))
  unfold recoverSecret
  simp only [h255, h254]
  have e1 : (digest P r secret ++ r).take 4 = digest P r secret := by
    rw [← hdg]; simp
  have e2 : (digest P r secret ++ r).drop 4 = r := by
    rw [← hdg]; simp
  rw [e1, e2]
  simp

end Embit.Model.Slip39
