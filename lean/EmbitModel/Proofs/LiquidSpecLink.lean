import EmbitModel.Model.Liquid
import EmbitModel.Spec.Slip77
import EmbitModel.Proofs.Tx
/-
  C18 helper lemmas: string literals as byte lists (the kernel cannot evaluate
  `ByteArray.toList`, a well-founded loop), SLIP-77 model = spec, and unique decodability of the data `PSET.txseed` hashes.
-/
namespace Embit
open Model

namespace SpecLink

theorem toList_loop_eq (data : Array UInt8) : ∀ (n i : Nat) (r : List UInt8), data.size - i = n →
    ByteArray.toList.loop ⟨data⟩ i r = r.reverse ++ data.toList.drop i := by
  intro n
  induction n with
  | zero =>
    intro i r h
    rw [ByteArray.toList.loop]
    have hs : (ByteArray.mk data).size = data.size := rfl
    have : ¬ i < data.size := by omega
    have hd : data.toList.drop i = [] := by
      apply List.drop_of_length_le
      rw [Array.length_toList]; omega
    rw [hs, if_neg this, hd, List.append_nil]
  | succ n ih =>
    intro i r h
    rw [ByteArray.toList.loop]
    have hs : (ByteArray.mk data).size = data.size := rfl
    have hlt : i < data.size := by omega
    rw [hs, if_pos hlt, ih (i+1) _ (by omega)]
    have hl : i < data.toList.length := by rw [Array.length_toList]; exact hlt
    rw [List.drop_eq_getElem_cons hl, List.reverse_cons, List.append_assoc]
    have hg : (ByteArray.mk data).get! i = data.toList[i] := by
      show data[i]! = _
      rw [getElem!_pos data i hlt]
      simp
    rw [hg]
    rfl

/-- `ByteArray.toList` is the list of the underlying array (lets the kernel evaluate string literals) -/
theorem byteArray_toList_eq (bs : ByteArray) : bs.toList = bs.data.toList := by
  cases bs with
  | mk data =>
    rw [ByteArray.toList, toList_loop_eq data _ 0 [] rfl]
    rfl

theorem domain_bytes : "Symmetric key seed".toUTF8.toList = Spec.Slip77.domain := by
  rw [byteArray_toList_eq]; decide

theorem label_bytes : "SLIP-0077".toUTF8.toList = Spec.Slip77.label := by
  rw [byteArray_toList_eq]; decide

/-- model = spec for the SLIP-77 master blinding key, for every HMAC with 64-byte output: embit's `node[32:]` is the
    SLIP-0021 key `N[32:64]`, the inlined derivation is the node `m/"SLIP-0077"`, the literals are the ASCII labels -/
theorem slip77Master_eq_spec (hmac512 : Bytes → Bytes → Bytes) (hlen : ∀ k m, (hmac512 k m).length = 64)
    (seed : Bytes) : slip77Master hmac512 seed = Spec.Slip77.masterBlindingKey hmac512 seed := by
  unfold slip77Master Spec.Slip77.masterBlindingKey Spec.Slip77.slip21Node Spec.Slip77.slip21Key
    Spec.Slip77.slip21Master Spec.Slip77.slip21Child
  simp only [List.foldl_cons, List.foldl_nil, domain_bytes, label_bytes]
  symm
  apply List.take_of_length_le
  rw [List.length_drop, hlen]
  decide

theorem ofLe_leN_mod : ∀ (k v : Nat), ofLe (leN k v) = v % 256 ^ k
  | 0, v => by simp [leN, ofLe, Nat.mod_one]
  | k+1, v => by
    have h1 : v % 256 < 256 := Nat.mod_lt _ (by decide)
    simp only [leN, ofLe, UInt8.toNat_ofNat', ofLe_leN_mod k (v / 256)]
    rw [show 256 ^ (k+1) = 256 * 256 ^ k from Nat.pow_succ', Nat.mod_mul]
    omega

/-- the 36 bytes `PSET.txseed` hashes for an input -/
def outpointSer (i : BlindIn) : Bytes := i.txid.reverse ++ leN 4 i.vout

theorem outpointSer_length (i : BlindIn) (h : i.txid.length = 32) : (outpointSer i).length = 36 := by
  simp [outpointSer, h]

theorem outpoints_inj : ∀ (ins ins' : List BlindIn) (r r' : Bytes), ins.length = ins'.length →
    (∀ i ∈ ins, i.txid.length = 32) → (∀ i ∈ ins', i.txid.length = 32) →
    ins.flatMap outpointSer ++ r = ins'.flatMap outpointSer ++ r' →
    ins.map (fun i => (i.txid, i.vout % 2^32)) = ins'.map (fun i => (i.txid, i.vout % 2^32)) ∧ r = r'
  | [], [], r, r', _, _, _, h => by simpa using h
  | [], _ :: _, _, _, hl, _, _, _ => by simp at hl
  | _ :: _, [], _, _, hl, _, _, _ => by simp at hl
  | i :: t, i' :: t', r, r', hl, h1, h2, h => by
    simp only [List.flatMap_cons, List.append_assoc] at h
    have hi : i.txid.length = 32 := h1 i (by simp)
    have hi' : i'.txid.length = 32 := h2 i' (by simp)
    obtain ⟨ha, hb⟩ := List.append_inj h (by rw [outpointSer_length i hi, outpointSer_length i' hi'])
    obtain ⟨e1, e2⟩ := outpoints_inj t t' r r' (by simpa using hl) (fun x hx => h1 x (by simp [hx]))
      (fun x hx => h2 x (by simp [hx])) hb
    unfold outpointSer at ha
    obtain ⟨hx, hy⟩ := List.append_inj ha (by simp [hi, hi'])
    have htx : i.txid = i'.txid := List.reverse_inj.mp hx
    have hv : i.vout % 2^32 = i'.vout % 2^32 := by
      have := congrArg ofLe hy
      rw [ofLe_leN_mod, ofLe_leN_mod] at this
      simpa using this
    refine ⟨?_, e2⟩
    simp only [List.map_cons, htx, hv, e1]

theorem scriptRead_nil : scriptRead [] = none := by decide

theorem scripts_inj : ∀ (outs outs' : List BlindOut), (∀ o ∈ outs, o.spk.length < 2^64) →
    (∀ o ∈ outs', o.spk.length < 2^64) →
    outs.flatMap (fun o => scriptSer o.spk) = outs'.flatMap (fun o => scriptSer o.spk) →
    outs.map (·.spk) = outs'.map (·.spk)
  | [], [], _, _, _ => rfl
  | [], o' :: t', _, h2, h => by
    exfalso
    have := scriptRead_ser o'.spk (t'.flatMap (fun o => scriptSer o.spk)) (h2 o' (by simp))
    simp only [List.flatMap_cons, List.flatMap_nil] at h
    rw [← h, scriptRead_nil] at this
    simp at this
  | o :: t, [], h1, _, h => by
    exfalso
    have := scriptRead_ser o.spk (t.flatMap (fun o => scriptSer o.spk)) (h1 o (by simp))
    simp only [List.flatMap_cons, List.flatMap_nil] at h
    rw [h, scriptRead_nil] at this
    simp at this
  | o :: t, o' :: t', h1, h2, h => by
    have r1 := scriptRead_ser o.spk (t.flatMap (fun o => scriptSer o.spk)) (h1 o (by simp))
    have r2 := scriptRead_ser o'.spk (t'.flatMap (fun o => scriptSer o.spk)) (h2 o' (by simp))
    simp only [List.flatMap_cons] at h
    rw [h, r2] at r1
    simp only [Option.some.injEq, Prod.mk.injEq] at r1
    have ih := scripts_inj t t' (fun x hx => h1 x (by simp [hx])) (fun x hx => h2 x (by simp [hx])) r1.2.symm
    simp only [List.map_cons, r1.1, ih]

/-- for a collision-free hash, equal transaction seeds mean equal seed, outpoints and scripts — PROVIDED the two
    PSETs have the same number of inputs (the hashed data carries no counts, see `Props/C18Y.txseed_counts_not_bound`) -/
theorem txseed_inj (sha : Bytes → Bytes) (hinj : ∀ x y, sha x = sha y → x = y) (seed seed' : Bytes)
    (ins ins' : List BlindIn) (outs outs' : List BlindOut) (hs : seed.length = seed'.length)
    (hn : ins.length = ins'.length) (h1 : ∀ i ∈ ins, i.txid.length = 32) (h2 : ∀ i ∈ ins', i.txid.length = 32)
    (h3 : ∀ o ∈ outs, o.spk.length < 2^64) (h4 : ∀ o ∈ outs', o.spk.length < 2^64)
    (h : txseed sha seed ins outs = txseed sha seed' ins' outs') :
    seed = seed' ∧ ins.map (fun i => (i.txid, i.vout % 2^32)) = ins'.map (fun i => (i.txid, i.vout % 2^32))
      ∧ outs.map (·.spk) = outs'.map (·.spk) := by
  unfold txseed taggedHash at h
  have hd := List.append_cancel_left (hinj _ _ h)
  simp only [List.append_assoc] at hd
  obtain ⟨e1, e2⟩ := List.append_inj hd hs
  obtain ⟨e3, e4⟩ := outpoints_inj ins ins' _ _ hn h1 h2 e2
  exact ⟨e1, e3, scripts_inj outs outs' h3 h4 e4⟩

end SpecLink
end Embit
