import EmbitModel.Proofs.KeysReject
/-
  Soundness of the key decoders of C10 ("accepted ⇒ re-encodes to exactly the input"): WIF, extended keys (bytes,
  stream, text); private keys are in `Proofs/KeysReject.lean`, SEC keys, stream reads and x-only keys in
  `Proofs/SecSpec.lean`. Last, which extended keys `HDKey.parse` returns (`XValid`) and the parser as an exact
  codec on them (`xkey_exact`), from which the round trip follows.
-/
namespace Embit.Keys
open Embit

variable {E : EcOps}

theorem wifNetLoop_sound (pre : Bytes) : ∀ (ns : List Generated.KeyNet) (i : Nat) (acc : Option Nat) (j : Nat),
    wifNetLoop pre ns i acc = some j →
      acc = some j ∨ (i ≤ j ∧ ∃ m, ns[j - i]? = some m ∧ m.wif = pre) := by
  intro ns
  induction ns with
  | nil => intro i acc j h; exact Or.inl h
  | cons n ns ih =>
    intro i acc j h
    simp only [wifNetLoop] at h
    rcases ih _ _ _ h with hacc | ⟨hle, m, hm, hw⟩
    · by_cases hn : n.wif = pre
      · rw [if_pos hn] at hacc
        have : i = j := Option.some.inj hacc
        subst this
        exact Or.inr ⟨Nat.le_refl _, n, by simp, hn⟩
      · rw [if_neg hn] at hacc
        exact Or.inl hacc
    · right
      refine ⟨by omega, m, ?_, hw⟩
      have : j - i = (j - (i + 1)) + 1 := by omega
      rw [this, List.getElem?_cons_succ]
      exact hm

theorem wifNetwork_sound (pre : Bytes) (j : Nat) (h : wifNetwork pre = some j) : netWif j = some pre := by
  unfold wifNetwork at h
  rcases wifNetLoop_sound pre _ _ _ _ h with hacc | ⟨_, m, hm, hw⟩
  · cases hacc
  · simp only [Nat.sub_zero] at hm
    simp [netWif, hm, hw]

/-- the codec law in the decoding direction: whatever `decode_check` accepts is the `encode_check` of its result
    (true of Base58Check: a Base58 string has one spelling) -/
def DecodeCanonical (env : Env) : Prop := ∀ t b, env.b58dec t = some b → env.b58enc b = t

theorem take1_take32 (b : Bytes) (h : b.length = 33) : b.take 1 ++ (b.drop 1).take 32 = b := by
  have h1 : (b.drop 1).take 32 = b.drop 1 := List.take_of_length_le (by simp [h])
  rw [h1, List.take_append_drop]

theorem take1_take32_last (b : Bytes) (h : b.length = 34) (hl : b.getLast? = some 0x01) :
    b.take 1 ++ (b.drop 1).take 32 ++ [0x01] = b := by
  obtain ⟨ini, rfl⟩ : ∃ ini, b = ini ++ [0x01] := by
    rcases List.eq_nil_or_concat b with rfl | ⟨ini, x, rfl⟩
    · simp at h
    · simp only [List.concat_eq_append, List.getLast?_append, List.getLast?_singleton, Option.some_or,
        Option.some.injEq] at hl
      exact ⟨ini, by rw [hl]; simp⟩
  have hi : ini.length = 33 := by simpa using h
  have h1 : (ini ++ [0x01]).take 1 = ini.take 1 := by
    rw [List.take_append_of_le_length (by omega)]
  have h2 : ((ini ++ [0x01]).drop 1).take 32 = (ini.drop 1).take 32 := by
    rw [List.drop_append_of_le_length (by omega), List.take_append_of_le_length (by simp [hi])]
  rw [h1, h2, take1_take32 ini hi]

/-- an accepted WIF text re-encodes to itself, and what it holds is a valid key of a listed network -/
theorem fromWif_sound (env : Env) (hcanon : DecodeCanonical env) (t : Text) (k : PrivateKey)
    (h : PrivateKey.fromWif E env t = some k) :
    k.wif env = some t ∧ seckeyValid E k.secret = true ∧ (netWif k.network).isSome = true := by
  unfold PrivateKey.fromWif at h
  cases hd : env.b58dec t with
  | none => simp [hd] at h
  | some b =>
    simp only [hd] at h
    cases hn : wifNetwork (b.take 1) with
    | none => simp [hn] at h
    | some net =>
      simp only [hn] at h
      have hpre := wifNetwork_sound _ _ hn
      have henc := hcanon t b hd
      by_cases h33 : b.length = 33
      · rw [if_pos h33] at h
        obtain ⟨hs, _, hc, hnet, hv⟩ := privInit_sound _ _ _ _ h
        refine ⟨?_, hv, by rw [hnet, hpre]; rfl⟩
        simp only [PrivateKey.serialize] at hs
        simp only [PrivateKey.wif, Option.getD_none, hnet, hpre, hs, hc, Bool.false_eq_true, if_false,
          List.append_nil, take1_take32 b h33, henc]
      · rw [if_neg h33] at h
        by_cases h34 : b.length = 34
        · rw [if_pos h34] at h
          by_cases hl : b.getLast? = some 0x01
          · rw [if_pos hl] at h
            obtain ⟨hs, _, hc, hnet, hv⟩ := privInit_sound _ _ _ _ h
            refine ⟨?_, hv, by rw [hnet, hpre]; rfl⟩
            simp only [PrivateKey.serialize] at hs
            simp only [PrivateKey.wif, Option.getD_none, hnet, hpre, hs, hc, if_true,
              take1_take32_last b h34 hl, henc]
          · rw [if_neg hl] at h; cases h
        · rw [if_neg h34] at h; cases h

theorem readKeyField_sound (L : EcLaws E) (k0 : UInt8) (kr : Bytes) (key : KeyObj E)
    (h : readKeyField E k0 kr = some key) : keyField key = k0 :: kr := by
  unfold readKeyField at h
  split at h
  · rename_i h0
    obtain ⟨pk, hp, rfl⟩ := Option.map_eq_some_iff.mp h
    simp [keyField, KeyObj.isPrivate, KeyObj.serialize, (privParse_sound kr pk hp).1, h0]
  · obtain ⟨pk, hp, rfl⟩ := Option.map_eq_some_iff.mp h
    simp [keyField, KeyObj.isPrivate, KeyObj.serialize, (parse_sec_sound L _ pk hp).1]

theorem keyField_length_ge (key : KeyObj E) : 33 ≤ (keyField key).length := by
  cases key with
  | priv k => simp [keyField, KeyObj.isPrivate, KeyObj.serialize, PrivateKey.serialize]
  | pub k =>
    simp only [keyField, KeyObj.isPrivate, KeyObj.serialize, PublicKey.sec]
    have := pubkeySerialize_length k.point k.compressed
    cases hc : k.compressed <;> simp [hc] at this <;> simp [this]

/-- a stream splits into the six fields `read_from` slices out of it -/
theorem stream_split (s s2 : Bytes) (d : UInt8) (hs : s.drop 4 = d :: s2) :
    s = s.take 4 ++ (d :: (s2.take 4 ++ ((s2.drop 4).take 4 ++ ((s2.drop 8).take 32
          ++ ((s2.drop 40).take 33 ++ (s2.drop 40).drop 33))))) := by
  have h1 : (s2.drop 4).drop 4 = s2.drop 8 := by simp
  have h2 : (s2.drop 8).drop 32 = s2.drop 40 := by simp
  have e3 : (s2.drop 40).take 33 ++ (s2.drop 40).drop 33 = s2.drop 40 := List.take_append_drop _ _
  have e2 : (s2.drop 8).take 32 ++ s2.drop 40 = s2.drop 8 := by rw [← h2]; exact List.take_append_drop _ _
  have e1 : (s2.drop 4).take 4 ++ s2.drop 8 = s2.drop 4 := by rw [← h1]; exact List.take_append_drop _ _
  rw [e3, e2, e1, List.take_append_drop, ← hs, List.take_append_drop]

/-- whatever `HDKey.read_from` accepts: the key's 78-byte serialization followed by the rest IS the stream, and
    the text of those 78 bytes says the key's kind -/
theorem readFrom_hd_sound (L : EcLaws E) (env : Env) (s : Bytes) (k : HDKey E) (rest : Bytes)
    (h : HDKey.readFrom E env s = some (k, rest)) :
    ∃ b, k.serialize = some b ∧ b ++ rest = s ∧ b.length = 78 ∧
      sub14 (env.b58enc b) = kindText k.key.isPrivate := by
  obtain ⟨d, s2, k0, kr, key, hs, hk, hkey, hl1, hl2, hl3, hinit, _, _, hrest⟩ := readFrom_some env s k rest h
  obtain ⟨_, _, hkeq, b, hser, htext⟩ := (init_iff env _ _ _ _ _ _ k).mp hinit
  have hkf := readKeyField_sound L k0 kr key hkey
  have hdcn : d.toNat < 256 ∧ ofBe ((s2.drop 4).take 4) < 2 ^ 32 := serialize_some_range hser
  have hlay := serialize_layout (E := E)
    ⟨key, (s2.drop 8).take 32, s.take 4, d.toNat, s2.take 4, ofBe ((s2.drop 4).take 4)⟩ hdcn.1 hdcn.2
  rw [hser] at hlay
  have hb := Option.some.inj hlay
  simp only at hb
  have hd8 : UInt8.ofNat d.toNat = d := by
    apply UInt8.toNat_inj.mp
    simp
  have hl4 : ((s2.drop 4).take 4).length = 4 := by
    have := congrArg List.length (rfl : (s2.drop 8).take 32 = (s2.drop 8).take 32)
    simp only [List.length_take, List.length_drop] at hl3 ⊢
    omega
  have hcn : beN 4 (ofBe ((s2.drop 4).take 4)) = (s2.drop 4).take 4 := by
    have := beN_ofBe ((s2.drop 4).take 4)
    rwa [hl4] at this
  rw [hd8, hcn, hkf, ← hk, List.append_nil] at hb
  have hsplit := stream_split s s2 d hs
  have hbl : b.length = 78 := by
    have hk33 : ((s2.drop 40).take 33).length = 33 := by
      have hkl := congrArg List.length hkf
      have hge := keyField_length_ge key
      rw [← hk] at hkl
      have hle := List.length_take_le 33 (s2.drop 40)
      omega
    rw [hb]
    simp only [List.length_append, List.length_cons, hl1, hl2, hl4, hl3, hk33]
  refine ⟨b, by rw [hkeq]; exact hser, ?_, hbl, by rw [hkeq]; exact htext⟩
  rw [hrest, hb]
  conv => rhs; rw [hsplit]
  simp only [List.append_assoc, List.cons_append]

/-- whatever `HDKey.parse` accepts re-encodes to exactly the input bytes -/
theorem parse_hd_sound (L : EcLaws E) (env : Env) (b : Bytes) (k : HDKey E) (h : HDKey.parse E env b = some k) :
    k.serialize = some b ∧ b.length = 78 ∧ sub14 (env.b58enc b) = kindText k.key.isPrivate := by
  obtain ⟨b', hser, hcat, hlen, htext⟩ := readFrom_hd_sound L env b k [] (HDKey.parse_eq_some.mp h)
  rw [List.append_nil] at hcat
  subst hcat
  exact ⟨hser, hlen, htext⟩

/-- … and so does its text form -/
theorem parse_hd_toBase58 (L : EcLaws E) (env : Env) (b : Bytes) (k : HDKey E) (h : HDKey.parse E env b = some k) :
    k.toBase58 env = some (env.b58enc b) := by
  obtain ⟨hser, _, htext⟩ := parse_hd_sound L env b k h
  exact toBase58_of_kind env k b hser htext

theorem fromBase58_sound (L : EcLaws E) (env : Env) (hcanon : DecodeCanonical env) (t : Text) (k : HDKey E)
    (h : HDKey.fromBase58 E env t = some k) : k.toBase58 env = some t := by
  unfold HDKey.fromBase58 at h
  cases hd : env.b58dec t with
  | none => simp [hd] at h
  | some b =>
    simp only [hd] at h
    rw [parse_hd_toBase58 L env b k h, hcanon t b hd]

/-! ### the extended-key parser, exactly -/

/-- the extended keys that `HDKey.parse` returns: those the constructor accepts, holding a valid key with the
    default network, with fields of the serialised widths and the master-key convention -/
structure XValid (E : EcOps) (env : Env) (k : HDKey E) : Prop where
  init : HDKey.init env k.key k.chainCode (some k.version) k.depth k.fingerprint k.childNumber = some k
  key : k.key.Valid E
  norm : k.normNet = k
  version : k.version.length = 4
  chainCode : k.chainCode.length = 32
  fingerprint : k.fingerprint.length = 4
  master : k.depth = 0 → k.childNumber = 0 ∧ k.fingerprint = [0, 0, 0, 0]

/-- the hypotheses of the round trip make the key with the default network one of them -/
theorem XValid.normNet (env : Env) (k : HDKey E)
    (hinit : HDKey.init env k.key k.chainCode (some k.version) k.depth k.fingerprint k.childNumber = some k)
    (hkey : k.key.Valid E) (hver : k.version.length = 4) (hcc : k.chainCode.length = 32)
    (hfp : k.fingerprint.length = 4)
    (h0 : k.depth = 0 → k.childNumber = 0 ∧ k.fingerprint = [0, 0, 0, 0]) : XValid E env k.normNet where
  init := by
    obtain ⟨hlen, hunc, hkeq, b, hb, htext⟩ := (init_iff env _ _ _ _ _ _ k).mp hinit
    rw [← hkeq, ← HDKey.normNet_serialize] at hb
    change HDKey.init env k.key.normNet _ _ _ _ _ = _
    exact (init_iff ..).mpr ⟨by rw [Keys.normNet_serialize]; exact hlen, by rw [normNet_privUncompressed]; exact hunc,
      rfl, b, hb, by rw [normNet_isPrivate]; exact htext⟩
  key := by obtain ⟨key, _⟩ := k; cases key <;> exact hkey
  norm := by obtain ⟨key, _⟩ := k; cases key <;> rfl
  version := hver
  chainCode := hcc
  fingerprint := hfp
  master := h0

theorem readKeyField_valid (L : EcLaws E) (k0 : UInt8) (kr : Bytes) (key : KeyObj E) (hl : kr.length ≤ 32)
    (h : readKeyField E k0 kr = some key) : key.Valid E ∧ key.normNet = key := by
  have hc := (readKeyField_canon k0 kr key hl h).1
  unfold readKeyField at h
  split at h
  · obtain ⟨pk, hpk, rfl⟩ := Option.map_eq_some_iff.mp h
    obtain ⟨_, _, hcp, hn, hv⟩ := privParse_sound kr pk hpk
    exact ⟨⟨hv, hcp⟩, by cases pk; simp only [KeyObj.normNet] at *; rw [hn]⟩
  · obtain ⟨pk, hp, rfl⟩ := Option.map_eq_some_iff.mp h
    exact ⟨⟨(parse_sec_sound L _ pk hp).2, hc⟩, rfl⟩

theorem readFrom_hd_valid (L : EcLaws E) (env : Env) (s : Bytes) (k : HDKey E) (rest : Bytes)
    (h : HDKey.readFrom E env s = some (k, rest)) : XValid E env k := by
  obtain ⟨d, s2, k0, kr, key, _, hk, hkey, hl1, hl2, hl3, hinit, h00, h01, _⟩ := readFrom_some env s k rest h
  have hkrl : kr.length ≤ 32 := by
    have := congrArg List.length hk
    simp only [List.length_take, List.length_cons] at this
    omega
  obtain ⟨hv, hn⟩ := readKeyField_valid L k0 kr key hkrl hkey
  have := init_fields env _ _ _ _ _ _ _ hinit
  subst this
  exact ⟨hinit, hv, by rw [HDKey.normNet, hn], hl1, hl3, hl2, fun h0 => ⟨Decidable.of_not_not fun hc => h00 ⟨h0, hc⟩,
    Decidable.of_not_not fun hc => h01 ⟨h0, hc⟩⟩⟩

/-- `HDKey.parse E env b = some k ↔ XValid E env k ∧ k.serialize = some b`; `serialize` is partial, so the decoder is
    stated on `Option Bytes` -/
theorem xkey_exact (L : EcLaws E) (env : Env) :
    ExactCodec (fun ob => ob.bind (HDKey.parse E env)) HDKey.serialize (XValid E env) := by
  refine .mk' (fun k hv => ?_) fun ob k h => ?_
  · obtain ⟨_, _, hkeq, b, hb, htext⟩ := (init_iff env _ _ _ _ _ _ k).mp hv.init
    rw [← hkeq] at hb
    have hdcn := serialize_some_range hb
    have hb' := Option.some.inj ((serialize_layout k hdcn.1 hdcn.2).symm.trans hb)
    have hkl := keyField_length k.key hv.key
    obtain ⟨k0, kr, hkf, hread⟩ := readKeyField_keyField L k.key hv.key
    obtain ⟨l1, l2, l3, l4, l5, l6, l7⟩ := layout k.version k.fingerprint (beN 4 k.childNumber) k.chainCode
      (keyField k.key) [] (UInt8.ofNat k.depth) hv.version hv.fingerprint (by simp) hv.chainCode hkl
    have hdep : (UInt8.ofNat k.depth).toNat = k.depth := by
      simp [UInt8.toNat_ofNat']; omega
    have hcnv : ofBe (beN 4 k.childNumber) = k.childNumber := ofBe_beN 4 _ hdcn.2
    rw [show k.key.normNet = k.key from congrArg HDKey.key hv.norm] at hread
    have h00 : ¬ (k.depth = 0 ∧ k.childNumber ≠ 0) := fun h => h.2 (hv.master h.1).1
    have h01 : ¬ (k.depth = 0 ∧ k.fingerprint ≠ [0, 0, 0, 0]) := fun h => h.2 (hv.master h.1).2
    have hkt : sub14 (env.b58enc b) = tPrv ∨ sub14 (env.b58enc b) = tPub := by
      rw [htext, kindText]; split <;> simp
    rw [hb, Option.bind_some]
    unfold HDKey.parse HDKey.readFrom
    rw [← hb', l2]
    simp only [l1, l3, l4, l5, l6, l7]
    simp only [hkf, hread, hdep, hcnv, hv.version, hv.fingerprint, hv.chainCode]
    rw [if_neg (by omega), hv.init]
    simp only [toBase58_of_kind env _ b hb htext]
    rw [if_neg (by rcases hkt with h | h <;> simp [h]), if_neg h00, if_neg h01]
  · obtain ⟨b, rfl, hp⟩ := Option.bind_eq_some_iff.mp h
    exact ⟨readFrom_hd_valid L env b k [] (HDKey.parse_eq_some.mp hp), (parse_hd_sound L env b k hp).1⟩

end Embit.Keys
