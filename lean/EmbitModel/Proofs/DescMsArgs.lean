import EmbitModel.Proofs.DescParseNormal
import EmbitModel.Proofs.MiniscriptX
/-
  C13: `Ms.parserArgs` proved of what the parser produces.
  The character-level parser `readMs` (Model/Descriptor.lean) returns a `DMs K`; the script-level expression is
  `e.toMs (fragPayload ops h tap)` (the translation `compileMs` uses). Route: `readMs_normal` (Proofs/DescParseNormal)
  gives `MsNormal`; here `MsNormal e → e.toMs … = some m → m.argShape ctx`, by induction over `DMs`, and
  `argShape ∧ threshSmall ⇔ parserArgs`.
-/
namespace Embit.Model.Descriptor
open Embit Embit.Miniscript

variable {K : Type}

/-- what is assumed of the key objects and of HASH160 (laws, explicit hypotheses — never axioms): `.sec()` of every
    key object is a SEC encoding (33 bytes 02/03…, or 65 bytes 04…), HASH160 returns 20 bytes -/
structure SecLaws (ops : KeyOps K) (h : Hashes) : Prop where
  sec : ∀ k, secKey (ops.sec k) = true
  h160 : ∀ b, (h.hash160 b).length = 20

def msCtx (tap : Bool) : Ctx := if tap then .tap else .wsh

mutual
/-- `Ms.parserArgs` without the numeric bound on the threshold of `thresh` -/
def argShape (ctx : Ctx) : Ms → Bool
  | .key f a =>
    (match f with
      | .pk_k => keyShape ctx a
      | .pk => keyShape ctx a
      | .pk_h => a.length == 20
      | .pkh => a.length == 20)
  | .time _ _ => true
  | .hash f h =>
    (match f with
      | .sha256 => h.length == 32
      | .hash256 => h.length == 32
      | .ripemd160 => h.length == 20
      | .hash160 => h.length == 20)
  | .andor x y z => argShape ctx x && argShape ctx y && argShape ctx z
  | .bin _ x y => argShape ctx x && argShape ctx y
  | .thresh _ xs => argShapeL ctx xs
  | .multi _ _ keys => keys.all (keyShape ctx)
  | .wrap _ x => argShape ctx x
def argShapeL (ctx : Ctx) : List Ms → Bool
  | [] => true
  | x :: xs => argShape ctx x && argShapeL ctx xs
end

mutual
/-- every threshold of a `thresh` is below 2^256 (what `Ms.parserArgs` asks beyond the shapes; implied by
    `verify`, which wants `k ≤ number of sub-expressions`, for every expression of fewer than 2^256 nodes) -/
def threshSmall : Ms → Bool
  | .key _ _ => true
  | .time _ _ => true
  | .hash _ _ => true
  | .andor x y z => threshSmall x && threshSmall y && threshSmall z
  | .bin _ x y => threshSmall x && threshSmall y
  | .thresh k xs => decide (k < 2 ^ 256) && threshSmallL xs
  | .multi _ _ _ => true
  | .wrap _ x => threshSmall x
def threshSmallL : List Ms → Bool
  | [] => true
  | x :: xs => threshSmall x && threshSmallL xs
end

theorem parserArgs_iff (ctx : Ctx) : ∀ e : Ms, e.parserArgs ctx = (argShape ctx e && threshSmall e) := by
  intro e
  induction e using Ms.ind₂
    (Q := fun xs => Ms.parserArgsL ctx xs = (argShapeL ctx xs && threshSmallL xs)) with
  | key f a => cases f <;> simp [Ms.parserArgs, argShape, threshSmall]
  | time f n => simp [Ms.parserArgs, argShape, threshSmall]
  | hash f h => cases f <;> simp [Ms.parserArgs, argShape, threshSmall]
  | andor x y z ihx ihy ihz => simp only [Ms.parserArgs, argShape, threshSmall, ihx, ihy, ihz]; ac_rfl
  | bin f x y ihx ihy => simp only [Ms.parserArgs, argShape, threshSmall, ihx, ihy]; ac_rfl
  | thresh k xs ih => simp only [Ms.parserArgs, argShape, threshSmall, ih]; ac_rfl
  | multi f k keys => simp [Ms.parserArgs, argShape, threshSmall]
  | wrap w x ih => simp only [Ms.parserArgs, argShape, threshSmall, ih]
  | nil => rfl
  | cons a r iha ihr => simp only [Ms.parserArgsL, argShapeL, threshSmallL, iha, ihr]; ac_rfl

theorem parseKeyText_obj (ops : KeyOps K) (tap : Bool) (kt : Str) (kv : KeyVal K) (xo : Bool)
    (h : parseKeyText ops tap kt = some (kv, xo)) : ∃ key, kv = .obj key := by
  -- every successful branch ends in `(parse …).map fun key => (.obj key, _)`
  have leaf : ∀ {o : Option K} {b : Bool}, o.map (fun key => (KeyVal.obj key, b)) = some (kv, xo) →
      ∃ key, kv = .obj key := by
    intro o b h
    simp only [Option.map_eq_some_iff, Prod.mk.injEq] at h
    obtain ⟨key, _, rfl, _⟩ := h
    exact ⟨key, rfl⟩
  unfold parseKeyText at h
  simp only [] at h
  split at h
  · split at h
    · cases h
    · exact leaf h
  · split at h
    · split at h
      · cases h
      · exact leaf h
    · split at h <;> exact leaf h

theorem secKey_length {a : Bytes} (h : secKey a = true) : a.length = 33 ∨ a.length = 65 := by
  simp only [secKey, Bool.or_eq_true, Bool.and_eq_true, beq_iff_eq] at h
  rcases h with h | h
  · exact Or.inl h.1
  · exact Or.inr h.1

theorem keyBytes_shape (ops : KeyOps K) (h : Hashes) (hl : SecLaws ops h) (tap : Bool) (kv : KeyVal K) (b : Bytes)
    (hb : keyBytes ops tap kv = some b) : keyShape (msCtx tap) b = true := by
  cases kv with
  | raw s => simp [keyBytes] at hb
  | obj k =>
    simp only [keyBytes, Option.some.injEq] at hb
    subst hb
    cases tap with
    | false => simpa [msCtx, keyShape] using hl.sec k
    | true =>
      have := secKey_length (hl.sec k)
      simp only [msCtx, keyShape, if_true, beq_iff_eq, List.length_take, List.length_drop]
      omega

theorem keyHashBytes_length (ops : KeyOps K) (h : Hashes) (hl : SecLaws ops h) (tap : Bool) (k : KeyExpr K)
    (hn : KeyNormal ops tap true k) (b : Bytes) (hb : keyHashBytes ops h tap k.key = some b) : b.length = 20 := by
  obtain ⟨kt, hkt, _, _, _, hp⟩ := hn.text
  cases hk : k.key with
  | obj key =>
    simp only [hk, keyHashBytes, Option.some.injEq] at hb
    subst hb; exact hl.h160 _
  | raw s =>
    simp only [hk, keyHashBytes] at hb
    simp only [keyText, hk, Option.some.injEq] at hkt
    subst hkt
    simp only [if_true, hk] at hp
    unfold parseKeyHashText at hp
    split at hp
    · rename_i h40
      have := ofHexChars_length s.length s b (Nat.le_refl _) hb
      omega
    · obtain ⟨key, hkey⟩ := parseKeyText_obj ops tap s _ _ hp
      cases hkey

theorem argShape_of_normal (ops : KeyOps K) (h : Hashes) (hl : SecLaws ops h) (tap : Bool) :
    ∀ (e : DMs K), MsNormal ops tap e → ∀ m, e.toMs (fragPayload ops h tap) = some m →
      argShape (msCtx tap) m = true := by
  intro e
  induction e using DMs.ind₂ (Q := fun xs => MsNormalL ops tap xs → ∀ l,
    DMs.toMsL (fragPayload ops h tap) xs = some l → argShapeL (msCtx tap) l = true) with
  | key f k =>
    intro hn m hm
    simp only [DMs.toMs, Option.map_eq_some_iff] at hm
    obtain ⟨b, hb, rfl⟩ := hm
    simp only [MsNormal] at hn
    cases f with
    | pk_k => exact keyBytes_shape ops h hl tap _ b hb
    | pk => exact keyBytes_shape ops h hl tap _ b hb
    | pk_h =>
      simp only [argShape, beq_iff_eq]
      exact keyHashBytes_length ops h hl tap k (by simpa using hn) b hb
    | pkh =>
      simp only [argShape, beq_iff_eq]
      exact keyHashBytes_length ops h hl tap k (by simpa using hn) b hb
  | time f n => intro _ m hm; cases hm; rfl
  | hash f hh =>
    intro hn m hm
    cases hm
    simp only [MsNormal] at hn
    cases f <;> simpa [argShape, hashFragLen] using hn
  | andor x y z ihx ihy ihz =>
    intro hn m hm
    simp only [MsNormal] at hn
    simp only [DMs.toMs] at hm
    split at hm
    next a b c ha hb hc =>
      cases hm
      simp only [argShape, Bool.and_eq_true]
      exact ⟨⟨ihx hn.1 a ha, ihy hn.2.1 b hb⟩, ihz hn.2.2 c hc⟩
    next => cases hm
  | bin f x y ihx ihy =>
    intro hn m hm
    simp only [MsNormal] at hn
    simp only [DMs.toMs] at hm
    split at hm
    next a b ha hb =>
      cases hm
      simp only [argShape, Bool.and_eq_true]
      exact ⟨ihx hn.1 a ha, ihy hn.2 b hb⟩
    next => cases hm
  | thresh k xs ih =>
    intro hn m hm
    simp only [MsNormal] at hn
    simp only [DMs.toMs, Option.map_eq_some_iff] at hm
    obtain ⟨l, hl', rfl⟩ := hm
    exact ih hn l hl'
  | multi f k keys =>
    intro hn m hm
    simp only [DMs.toMs, Option.map_eq_some_iff] at hm
    obtain ⟨l, hl', rfl⟩ := hm
    refine List.all_eq_true.2 fun b hb => ?_
    obtain ⟨a, _, hab⟩ := mapOpt_sound _ keys l hl' b hb
    exact keyBytes_shape ops h hl tap _ b hab
  | wrap w x ih =>
    intro hn m hm
    simp only [MsNormal] at hn
    simp only [DMs.toMs, Option.map_eq_some_iff] at hm
    obtain ⟨a, ha, rfl⟩ := hm
    exact ih hn a ha
  | nil => rename_i l hl'; cases hl'; rfl
  | cons a r iha ihr =>
    rename_i hn l hl'
    simp only [DMs.toMsL] at hl'
    simp only [MsNormalL] at hn
    split at hl'
    next a' r' ha hr =>
      cases hl'
      simp only [argShapeL, Bool.and_eq_true]
      exact ⟨iha hn.1 a' ha, ihr hn.2 r' hr⟩
    next => cases hl'

mutual
def nodeCount : Ms → Nat
  | .key _ _ => 1
  | .time _ _ => 1
  | .hash _ _ => 1
  | .andor x y z => 1 + nodeCount x + nodeCount y + nodeCount z
  | .bin _ x y => 1 + nodeCount x + nodeCount y
  | .thresh _ xs => 1 + nodeCountL xs
  | .multi _ _ keys => 1 + keys.length
  | .wrap _ x => 1 + nodeCount x
def nodeCountL : List Ms → Nat
  | [] => 0
  | x :: xs => nodeCount x + nodeCountL xs
end

theorem nodeCount_pos (e : Ms) : 1 ≤ nodeCount e := by
  cases e <;> simp only [nodeCount] <;> omega

theorem length_le_nodeCountL : ∀ xs : List Ms, xs.length ≤ nodeCountL xs := by
  intro xs
  induction xs with
  | nil => simp [nodeCountL]
  | cons a r ih => have := nodeCount_pos a; simp only [nodeCountL, List.length_cons]; omega

/-- `verify()` wants `1 ≤ k ≤ n` of a `thresh`, so the thresholds of a verified expression are below its size -/
theorem threshSmall_of_verify (ctx : Ctx) : ∀ e : Ms, Model.Miniscript.verify ctx e = true → nodeCount e < 2 ^ 256 →
    threshSmall e = true := by
  intro e
  induction e using Ms.ind₂ (Q := fun xs => Model.Miniscript.verifyL ctx xs = true → nodeCountL xs < 2 ^ 256 →
    threshSmallL xs = true) with
  | key f a => intro _ _; rfl
  | time f n => intro _ _; rfl
  | hash f h => intro _ _; rfl
  | andor x y z ihx ihy ihz =>
    intro hv hn
    simp only [Model.Miniscript.verify, Bool.and_eq_true] at hv
    simp only [nodeCount] at hn
    simp only [threshSmall, Bool.and_eq_true]
    exact ⟨⟨ihx hv.1.1.1 (by omega), ihy hv.1.1.2 (by omega)⟩, ihz hv.1.2 (by omega)⟩
  | bin f x y ihx ihy =>
    intro hv hn
    simp only [Model.Miniscript.verify, Bool.and_eq_true] at hv
    simp only [nodeCount] at hn
    simp only [threshSmall, Bool.and_eq_true]
    exact ⟨ihx hv.1.1 (by omega), ihy hv.1.2 (by omega)⟩
  | thresh k xs ih =>
    intro hv hn
    simp only [Model.Miniscript.verify, Bool.and_eq_true] at hv
    simp only [nodeCount] at hn
    obtain ⟨hvl, htv⟩ := hv
    simp only [threshSmall, Bool.and_eq_true, decide_eq_true_eq]
    refine ⟨?_, ih hvl (by omega)⟩
    have hk : k < (Model.Miniscript.tpL ctx xs).length + 1 := by
      unfold Model.Miniscript.threshVerify at htv
      simp only [Bool.and_eq_true, Bool.not_eq_true', Bool.or_eq_false_iff, decide_eq_false_iff_not] at htv
      omega
    rw [Embit.Miniscript.tpL_length] at hk
    have := length_le_nodeCountL xs
    omega
  | multi f k keys => intro _ _; rfl
  | wrap w x ih =>
    intro hv hn
    simp only [Model.Miniscript.verify, Bool.and_eq_true] at hv
    simp only [nodeCount] at hn
    exact ih hv.1 (by omega)
  | nil => rfl
  | cons a r iha ihr =>
    rename_i hvl hb
    simp only [Model.Miniscript.verifyL, Bool.and_eq_true] at hvl
    simp only [nodeCountL] at hb
    simp only [threshSmallL, Bool.and_eq_true]
    exact ⟨iha hvl.1 (by omega), ihr hvl.2 (by omega)⟩

end Embit.Model.Descriptor
