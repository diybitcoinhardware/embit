import EmbitModel.Proofs.MiniscriptScript
/-
  C13 helper lemmas, part 3: `len(miniscript)` (the per-class `__len__` formulas) = length of `compile()`.
-/
namespace Embit.Miniscript
open Embit.Model.Miniscript

theorem pushCompact_length (a : Bytes) (h : a.length < 253) : (pushCompact a).length = a.length + 1 := by
  rw [pushCompact_eq_cons a h]; simp

def sumLen1 : List Bytes → Nat
  | [] => 0
  | c :: cs => (c.length + 1) + sumLen1 cs

def sumLen : List Bytes → Nat
  | [] => 0
  | c :: cs => c.length + sumLen cs

theorem flatten_length (l : List Bytes) : l.flatten.length = sumLen l := by
  induction l with
  | nil => rfl
  | cons c cs ih => simp [sumLen, ih]

theorem sumLen1_eq (l : List Bytes) : sumLen1 l = sumLen l + l.length := by
  induction l with
  | nil => rfl
  | cons c cs ih => simp only [sumLen1, sumLen, List.length_cons, ih]; omega

theorem sumLen_insertSorted (x : Bytes) (l : List Bytes) : sumLen (insertSorted x l) = x.length + sumLen l := by
  induction l with
  | nil => rfl
  | cons y ys ih =>
    unfold insertSorted
    split
    · simp [sumLen]
    · simp only [sumLen, ih]; omega

theorem sumLen_sortBytes (l : List Bytes) : sumLen (sortBytes l) = sumLen l := by
  induction l with
  | nil => rfl
  | cons x xs ih => simp [sortBytes, sumLen_insertSorted, sumLen, ih]

theorem keysLen_eq (keys : List Bytes) : keysLen keys = sumLen (keys.map pushCompact) := by
  induction keys with
  | nil => rfl
  | cons k ks ih => simp [keysLen, sumLen, ih]

theorem flatMap_snoc_length (l : List Bytes) (b : UInt8) :
    (l.flatMap (fun c => c ++ [b])).length = sumLen1 l := by
  induction l with
  | nil => rfl
  | cons c cs ih => simp only [List.flatMap_cons, List.length_append, List.length_cons, List.length_nil, sumLen1, ih]

theorem numCompile_0_len : (numCompile 0).length = 1 := by decide
theorem numCompile_1_len : (numCompile 1).length = 1 := by decide
set_option maxRecDepth 10000 in
theorem numCompile_32_len : (numCompile 32).length = 2 := by decide

/-- `c1 ++ [x] ++ rest.flatMap (· ++ [y]) ++ tail` has Σ(|c|+1) + |tail| bytes -/
theorem chain_length (c1 : Bytes) (rest : List Bytes) (x y : UInt8) (tail : Bytes) :
    (c1 ++ [x] ++ rest.flatMap (fun c => c ++ [y]) ++ tail).length = sumLen1 (c1 :: rest) + tail.length := by
  simp only [List.length_append, List.length_cons, List.length_nil, flatMap_snoc_length, sumLen1]

theorem sigAddBytes_length (k : Nat) (cs : List Bytes) (hne : cs ≠ []) :
    (sigAddBytes k cs).length = (numCompile k).length + sumLen cs + (cs.length + 1) := by
  cases cs with
  | nil => exact absurd rfl hne
  | cons c1 rest =>
    have := chain_length c1 rest 0xac 0xba (numCompile k ++ [0x9c])
    simp only [sigAddBytes, List.append_assoc] at this ⊢
    rw [this, sumLen1_eq]
    simp only [List.length_append, List.length_cons, List.length_nil]; omega

theorem compileL_length (xs : List Ms) : (compileL xs).length = xs.length := by
  induction xs with
  | nil => rfl
  | cons x xs ih => simp [compileL, ih]

theorem len_eq_compile : ∀ e : Ms, e.lensOk = true → len e = (compile e).length := by
  intro e
  induction e using Ms.ind₂ (Q := fun xs => Ms.lensOkL xs = true → lenL xs = sumLen (compileL xs)) with
  | key f a =>
    intro h
    cases f <;> simp only [Ms.lensOk, beq_iff_eq, decide_eq_true_eq] at h <;>
      simp [len, keyArgLen, keyExtra, compile, keyCompile, pushCompact_length a (by omega)] <;> omega
  | time f n => intro _; simp [len, compile]
  | hash f h =>
    intro hl
    cases f <;> simp only [Ms.lensOk, beq_iff_eq] at hl <;>
      simp only [len, hashArgLen, compile, List.length_append, List.length_cons, List.length_nil,
        pushCompact_length h (by omega), hl, numCompile_32_len]
  | andor x y z ihx ihy ihz =>
    intro h
    simp only [Ms.lensOk, Bool.and_eq_true] at h
    simp [len, compile, ihx h.1.1, ihy h.1.2, ihz h.2]; omega
  | bin f x y ihx ihy =>
    intro h
    simp only [Ms.lensOk, Bool.and_eq_true] at h
    cases f <;> simp only [len, binExtra, compile, binCompile, ihx h.1, ihy h.2, numCompile_0_len,
      List.length_append, List.length_cons, List.length_nil] <;> omega
  | thresh k xs ih =>
    intro h
    simp only [Ms.lensOk, Bool.and_eq_true, Bool.not_eq_true', List.isEmpty_eq_false_iff] at h
    have hl := ih h.2
    have hn := compileL_length xs
    simp only [len, compile, hl]
    cases hc : compileL xs with
    | nil =>
      rw [hc] at hn
      exact absurd (List.length_eq_zero_iff.mp hn.symm) h.1
    | cons c1 rest =>
      rw [hc] at hn
      simp only [threshCompile]
      have := chain_length c1 rest 0 0x93 (numCompile k ++ [0x87])
      simp only [List.length_append, List.length_cons, List.length_nil, flatMap_snoc_length] at this ⊢
      simp only [sumLen1_eq, sumLen] at this ⊢
      simp only [List.length_cons] at hn
      omega
  | multi f k keys =>
    intro h
    simp only [Ms.lensOk, Bool.and_eq_true, List.all_eq_true, decide_eq_true_eq] at h
    cases f
    · simp only [len, compile, multiCompile, keysLen_eq, flatten_length, List.length_append, List.length_cons,
        List.length_nil]
    · simp only [len, compile, multiCompile, keysLen_eq, flatten_length, sumLen_sortBytes, List.length_append,
        List.length_cons, List.length_nil]
    · simp only [len, compile, multiCompile_multi_a, keysLen_eq]
      rw [sigAddBytes_length k _ (by simpa using h.2)]
      simp only [List.length_map]
    · simp only [len, compile, multiCompile_sortedmulti_a, keysLen_eq]
      rw [sigAddBytes_length k _ (fun c => by
        have := congrArg List.length c
        simp only [sortBytes_length, List.length_map, List.length_nil] at this
        exact absurd (List.length_eq_zero_iff.mp this) (by simpa using h.2))]
      simp only [sumLen_sortBytes, sortBytes_length, List.length_map]
  | wrap w x ih =>
    intro h
    simp only [Ms.lensOk] at h
    have hx := ih h
    cases w <;> simp only [len, compile, wrapCompile, hx, numCompile_0_len, numCompile_1_len,
      List.length_append, List.length_cons, List.length_nil] <;> omega
  | nil => rfl
  | cons x xs ihx ihxs =>
    rename_i h
    simp only [Ms.lensOkL, Bool.and_eq_true] at h
    simp only [lenL, compileL, sumLen, ihx h.1, ihxs h.2]

end Embit.Miniscript
