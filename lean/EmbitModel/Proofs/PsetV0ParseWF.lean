import EmbitModel.Proofs.PsetSerParseV0
import EmbitModel.Proofs.PsetParseWF
import EmbitModel.Proofs.PsetEmit
/-
  C18 (deepening): every version-0 PSET that `PSET.parse` returns, and whose input scopes report no issuance of their own
  (`LPset.noOwnIssuance`), is well-formed in the sense `LPsetWF0K` — so serialise-then-parse applies to parsed objects.
-/
set_option linter.unusedSimpArgs false
set_option linter.unusedVariables false
namespace Embit
open Model Spec.LWire

def Model.LOutScope.noConf (s : LOutScope) : LOutScope := { s with valueConf := none }

theorem LOutScope.addPair_noConf (ko : KeyOps) (s s' : LOutScope) (k v : Bytes)
    (h : LOutScope.addPair ko s k v = some s') : LOutScope.addPair ko s.noConf k v = some s'.noConf := by
  apply LOutScope.Step.addPair
  cases LOutScope.addPair_step h with
  | base hl _ hb => exact .base hl (fun _ => rfl) hb
  | field f sp hn hl => exact .field f sp hn hl
  | unknown hl hf hn => exact .unknown hl hf hn

theorem LOutScope.addPairs_noConf (ko : KeyOps) (kvs : List KV) (s s' : LOutScope)
    (h : LOutScope.addPairs ko s kvs = some s') : LOutScope.addPairs ko s.noConf kvs = some s'.noConf := by
  simp only [LOutScope.addPairs_eq_foldlM] at h ⊢
  refine foldlM_some_induction
    (motive := fun s kvs s' => kvs.foldlM (fun s kv => LOutScope.addPair ko s kv.1 kv.2) s.noConf = some s'.noConf)
    (fun _ => rfl) (fun h1 _ ih => ?_) h
  rw [List.foldlM_cons, LOutScope.addPair_noConf ko _ _ _ _ h1]
  exact ih

theorem lseedIn_wf (ko : KeyOps) (t : LTx) (hwf : WF t) (j : Nat) (hj : j < t.vin.length) :
    LInWF ko (lseedIn (some t) j).clr := by
  have hwi := hwf.ins _ (List.getElem_mem hj)
  have hvout : t.vin[j].vout < 2 ^ 32 := by
    rcases hwi.index with ⟨h1, _⟩ | ⟨h1, _⟩ <;> omega
  simp only [lseedIn, List.getElem?_eq_getElem hj, LInScope.clr, LInScope.withParts]
  refine ⟨rfl, rfl, ?_, ?_, by simp, by simp, trivial, trivial, by simp, ⟨rfl, rfl⟩, by simp⟩
  · exact { InWF_empty ko with txid := hwi.txid, vout := hvout, sequence := hwi.sequence }
  · intro kv hkv
    simp [InScope.typed, InScope.pairs, optKV] at hkv
    rcases hkv with rfl | rfl | rfl <;> rfl

theorem lseedOut_wf (ko : KeyOps) (t : LTx) (hwf : WF t) (j : Nat) (hj : j < t.vout.length) :
    LOutWF ko (lseedOut (some t) j).clr.noConf := by
  have hwo := hwf.outs _ (List.getElem_mem hj)
  have hfa : Fits t.vout[j].asset := by
    show t.vout[j].asset.length < 2 ^ 64
    rcases hwo.asset with h | ⟨h, _⟩ <;> omega
  cases hv : t.vout[j].value with
  | explicit v =>
    have hvv : v < 2 ^ 64 := by have := hwo.value; rw [hv] at this; exact this
    simp only [lseedOut, List.getElem?_eq_getElem hj, hv, LOutScope.clr, LOutScope.withNonce, LOutScope.noConf]
    refine ⟨rfl, ?_, ?_, by simp, by simp, ?_, rfl⟩
    · exact { OutWF_empty ko with value := hvv, spk := hwo.script }
    · intro kv hkv
      simp [OutScope.typed, OutScope.pairs, optKV] at hkv
      rcases hkv with rfl | rfl <;> rfl
    · intro e he
      simp at he; subst he
      exact ⟨rfl, hfa⟩
  | conf c =>
    simp only [lseedOut, List.getElem?_eq_getElem hj, hv, LOutScope.clr, LOutScope.withNonce, LOutScope.noConf]
    refine ⟨rfl, ?_, ?_, by simp, by simp, ?_, rfl⟩
    · exact { OutWF_empty ko with spk := hwo.script }
    · intro kv hkv
      simp [OutScope.typed, OutScope.pairs, optKV] at hkv
      subst hkv; rfl
    · intro e he
      simp at he; subst he
      exact ⟨rfl, hfa⟩

theorem lglobalFold_verLt : ∀ (g : List KV) (tx : Option LTx) (ver : Option Nat) (unk : List KV)
    (tx' : Option LTx) (ver' : Option Nat) (unk' : List KV),
    lglobalFold tx ver unk g = some (tx', ver', unk') → OptP (· < 2^32) ver → OptP (· < 2^32) ver' := by
  intro g
  induction g with
  | nil => intro tx ver unk tx' ver' unk' h hv; cases h; exact hv
  | cons kv g ih =>
    intro tx ver unk tx' ver' unk' h hv
    obtain ⟨k, v⟩ := kv
    rcases lglobalFold_cons h with ⟨_, _, t, _, _, _, h⟩ | ⟨_, _, _, hlen, h⟩ | ⟨_, _, _, h⟩
    · exact ih _ _ _ _ _ _ h hv
    · exact ih _ _ _ _ _ _ h (ofLe_lt32 hlen)
    · exact ih _ _ _ _ _ _ h hv

theorem LPset.parse_wf_v0 (ko : KeyOps) (b : Bytes) (p : LPset) (h : LPset.parse ko b = some p)
    (hv : p.version ≠ some 2) (hfree : p.noOwnIssuance = true) : LPsetWF0K ko p := by
  obtain ⟨g, kin, kout, tx, unk, gs, eb, wg, ws, hgf, hpu, hver, e1, e2, e3, e4, l1, l2, l3, l4, fi, fo⟩ :=
    LPset.parse_decomp ko b p h
  obtain ⟨t, ht⟩ : ∃ t, tx = some t := by
    rcases hver with ⟨hv2, _⟩ | ⟨_, ht⟩
    · exact absurd hv2 hv
    · exact ht
  subst ht
  have hb : (p.version == some 2) = false := by simp [hv]
  obtain ⟨_, _, _, f5, _⟩ := lglobalFold_spec g none none [] (some t) p.version unk hgf
  obtain ⟨hmem, hu, hwf, hnw⟩ := (f5 t rfl).resolve_left nofun
  have hunk : unk = g.filter notTxVer := by simpa using lglobalFold_unk g none none [] (some t) p.version unk hgf
  have hnd := lglobalFold_nodup g none none [] (some t) p.version unk hgf (by simp)
  have hunkwf : ∀ kv ∈ unk, KVWF kv ∧ notTxVer kv = true := by
    intro kv hkv
    rw [hunk] at hkv
    obtain ⟨a, b⟩ := List.mem_filter.mp hkv
    exact ⟨wg kv a, b⟩
  have hg0 : GInv ko (p.version == some 2) (lgstate0 (some t)) unk :=
    ⟨hwf.version, hwf.locktime, hwf.ninLt, hwf.noutLt, by simp [lgstate0], by simp [lgstate0], by simp [lgstate0],
     by simp [lgstate0], by simp [lgstate0], by simp [lgstate0]⟩
  have hgs := parseUnknowns_inv ko _ unk _ gs hunkwf hnd hg0 hpu
  obtain ⟨u1, u2, u3, u4, u5, u6, u7, u8⟩ := parseUnknowns_spec ko (p.version == some 2) unk _ gs hnd hpu
  obtain ⟨c1, c2, c3, c4⟩ := u7 hb
  rw [c3] at l3; simp [lgstate0] at l3
  rw [c4] at l4; simp [lgstate0] at l4
  have kinwf : ∀ kvs ∈ kin, ∀ kv ∈ kvs, KVWF kv := fun kvs hk => ws kvs (by simp [hk])
  have koutwf : ∀ kvs ∈ kout, ∀ kv ∈ kvs, KVWF kv := fun kvs hk => ws kvs (by simp [hk])
  have htx : p.tx = some t := by
    refine LPset.tx_of_v0_obj ko p t kin kout hwf hu hnw koutwf ?_ ?_ l3 l4 fi fo hfree
    · rw [e1, c1]; rfl
    · rw [e2, c2]; rfl
  refine ⟨hv, lglobalFold_verLt g none none [] _ _ _ hgf trivial, by rw [e3]; exact hgs.xpubs,
    by rw [e3]; exact hgs.xpubsNodup, ?_, by rw [e4]; exact hgs.unknownNodup, ?_, ?_, ?_⟩
  · have := hgs.unknown
    rw [hb] at this
    rw [e4]; exact this
  · -- input scopes
    intro s hs
    obtain ⟨j, hj⟩ := List.mem_iff_getElem?.mp hs
    have hjl : j < p.inputs.length := (List.getElem?_eq_some_iff.mp hj).1
    obtain ⟨kvs, s', a1, a2, a3⟩ := fi j hjl
    rw [hj] at a2; simp at a2; subst a2
    have hjt : j < t.vin.length := by omega
    have a4 : LInScope.addPairs ko (lseedIn (some t) j).clr kvs = some s.clr := by
      rw [LInScope.clr, LInScope.addPairs_withParts, a3]; rfl
    exact LInScope.addPairs_wf ko kvs _ s.clr (kinwf kvs (List.mem_of_getElem? a1)) (lseedIn_wf ko t hwf j hjt) a4
  · -- output scopes
    intro s hs
    obtain ⟨j, hj⟩ := List.mem_iff_getElem?.mp hs
    have hjl : j < p.outputs.length := (List.getElem?_eq_some_iff.mp hj).1
    obtain ⟨kvs, s', a1, a2, a3⟩ := fo j hjl
    rw [hj] at a2; simp at a2; subst a2
    have hjt : j < t.vout.length := by omega
    have a4 : LOutScope.addPairs ko (lseedOut (some t) j).clr kvs = some s.clr := by
      rw [LOutScope.clr, LOutScope.addPairs_withNonce, a3]; rfl
    have a5 := LOutScope.addPairs_noConf ko kvs _ _ a4
    have w := LOutScope.addPairs_wf ko kvs _ _ (koutwf kvs (List.mem_of_getElem? a1)) (lseedOut_wf ko t hwf j hjt) a5
    have hseed := lseedOut_seeded t j hjt
    obtain ⟨_, _, _, n4⟩ := LOutScope.addPairs_losslessG ko none kvs _ s (Or.inr hseed)
      (fun kv hkv => (koutwf kvs (List.mem_of_getElem? a1) kv hkv).1) a3
    have hasset : (lget s.lf LOutField.asset).isSome = true := by
      rw [(n4 hseed).2.2]; exact hseed.2.2
    exact ⟨w.typed, w.typedNL, w.unknown, w.unknownNodup, w.lf, hasset, w.txNonce⟩
  · -- the transaction and the seeds
    refine ⟨t, htx, hwf, (wg _ hmem).2.2, by rw [e1, c1]; rfl, by rw [e2, c2]; rfl, ?_, ?_⟩
    · intro j s hj
      have hjl : j < p.inputs.length := (List.getElem?_eq_some_iff.mp hj).1
      obtain ⟨kvs, s', a1, a2, a3⟩ := fi j hjl
      rw [hj] at a2; simp at a2; subst a2
      have hjt : j < t.vin.length := by omega
      obtain ⟨⟨q1, q2, q3⟩, _⟩ := LInScope.addPairs_facts ko kvs _ s (lseedIn_seeded t j hjt) a3
      obtain ⟨p1, p2⟩ := LInScope.addPairs_txparts ko kvs _ s a3
      simp [lseedIn, List.getElem?_eq_getElem hjt] at q1 q2 q3 p1 p2
      simp [lseedIn, List.getElem?_eq_getElem hjt, LInScope.seedOfK, LInScope.seedOf, hv, LInScope.withParts,
        q1, q2, q3, p1, p2]
    · intro j s hj
      have hjl : j < p.outputs.length := (List.getElem?_eq_some_iff.mp hj).1
      obtain ⟨kvs, s', a1, a2, a3⟩ := fo j hjl
      rw [hj] at a2; simp at a2; subst a2
      have hjt : j < t.vout.length := by omega
      have hseed := lseedOut_seeded t j hjt
      obtain ⟨_, _, n3, n4⟩ := LOutScope.addPairs_losslessG ko none kvs _ s (Or.inr hseed)
        (fun kv hkv => (koutwf kvs (List.mem_of_getElem? a1) kv hkv).1) a3
      obtain ⟨m1, m2, m3⟩ := n4 hseed
      have q := LOutScope.addPairs_txparts ko kvs _ s a3
      cases hval : t.vout[j].value <;>
        (simp [lseedOut, List.getElem?_eq_getElem hjt, hval, lget] at n3 m1 m2 m3 q
         simp [lseedOut, List.getElem?_eq_getElem hjt, hval, LOutScope.seedOf0K, LOutScope.seedOf0,
           LOutScope.withNonce, n3, m1, m2, m3, q])

/-- parse ∘ serialise ∘ parse = norm ∘ parse (version 0, no issuance built from scope fields) -/
theorem LPset.parse_ser_parse_v0 (ko : KeyOps) (b : Bytes) (p : LPset) (h : LPset.parse ko b = some p)
    (hv : p.version ≠ some 2) (hfree : p.noOwnIssuance = true) :
    ∃ b', LPset.ser p = some b' ∧ LPset.parse ko b' = some p.norm :=
  LPset.parse_ser_v0K ko p (LPset.parse_wf_v0 ko b p h hv hfree)

end Embit
