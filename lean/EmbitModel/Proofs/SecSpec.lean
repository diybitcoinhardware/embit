import EmbitModel.Proofs.KeysBasic
import EmbitModel.Spec.KeyEncodings
import EmbitModel.Proofs.Codec
/-
  SEC public keys. `PublicKey.parse` is exactly the strict SEC decoder of `Spec/KeyEncodings.lean`, on every byte
  string (`parse_eq_secDecode`), and `read_from` is `parse` on the slice the prefix byte announces
  (`readFrom_eq_parse`). The round trip, soundness ("accepted ⇒ re-encodes to exactly the input") and the rejection
  classes are then read off the decoder.
-/
namespace Embit.Keys
open Embit Embit.Spec.KeyEnc

variable {E : EcOps}

theorem pubkeySerialize_eq_spec (P : E.Pt) (c : Bool) : pubkeySerialize E P c = sec E P c := by
  unfold pubkeySerialize sec
  cases c
  · rfl
  · cases h : E.yOdd P
    · simp [(yOdd_false P).mp h]
    · simp [(yOdd_eq P).mp h]

/-- the number of bytes `read_from` takes after the prefix byte -/
def secBody (f : UInt8) : Nat := if f = 0x04 then 64 else 32

theorem secBody_def (f : UInt8) : (if f = 0x04 then 64 else 32) = secBody f := rfl

theorem pubkeyParse_some_shape {f : UInt8} {r : Bytes} {P : E.Pt} (h : pubkeyParse E (f :: r) = some P) :
    (f = 0x02 ∨ f = 0x03 ∨ f = 0x04) ∧ r.length = secBody f := by
  simp only [pubkeyParse] at h
  split at h
  · rename_i h32
    split at h
    · rename_i h2; subst h2; exact ⟨.inl rfl, h32⟩
    · split at h
      · rename_i h3; subst h3; exact ⟨.inr (.inl rfl), h32⟩
      · cases h
  · split at h
    · rename_i h64
      split at h
      · rename_i h4; subst h4; exact ⟨.inr (.inr rfl), h64⟩
      · cases h
    · cases h

theorem pubkeyParse_length (b : Bytes) (h : b.length ≠ 33 ∧ b.length ≠ 65) : pubkeyParse E b = none := by
  cases b with
  | nil => rfl
  | cons f r =>
    simp only [List.length_cons] at h
    simp only [pubkeyParse]
    rw [if_neg (by omega), if_neg (by omega)]

theorem PublicKey.parse_eq_parseAll (b : Bytes) :
    PublicKey.parse E b = Model.parseAll (PublicKey.readFrom E) b := by
  unfold PublicKey.parse Model.parseAll
  rcases PublicKey.readFrom E b with _ | ⟨k, _ | _⟩ <;> rfl

theorem PublicKey.readFrom_cons (f : UInt8) (r : Bytes) :
    PublicKey.readFrom E (f :: r) =
      if f = 0x02 ∨ f = 0x03 ∨ f = 0x04 then
        (pubkeyParse E (f :: r.take (secBody f))).map (fun P => (⟨P, f != 0x04⟩, r.drop (secBody f)))
      else none := by
  simp only [PublicKey.readFrom, secBody_def]
  split
  · cases pubkeyParse E (f :: r.take (secBody f)) <;> rfl
  · rfl

theorem parse_some_shape {f : UInt8} {r : Bytes} {k : PublicKey E} (h : PublicKey.parse E (f :: r) = some k) :
    (f = 0x02 ∨ f = 0x03 ∨ f = 0x04) ∧ r.length = secBody f ∧ k.compressed = (f != 0x04) := by
  rw [PublicKey.parse_eq_parseAll, parseAll_eq_some, PublicKey.readFrom_cons] at h
  split at h
  · rename_i hf
    cases hp : pubkeyParse E (f :: r.take (secBody f)) with
    | none => rw [hp] at h; cases h
    | some P =>
      simp only [hp, Option.map_some, Option.some.injEq, Prod.mk.injEq] at h
      have hlen := (pubkeyParse_some_shape hp).2
      have hd := congrArg List.length h.2
      rw [List.length_take] at hlen
      rw [List.length_drop, List.length_nil] at hd
      exact ⟨hf, by omega, by rw [← h.1]⟩
  · cases h

/-- a body of the wrong length is refused: too short for the binding, or bytes are left over -/
theorem parse_wrong_body (f : UInt8) (r : Bytes) (hl : r.length ≠ secBody f) : PublicKey.parse E (f :: r) = none :=
  Option.eq_none_iff_forall_ne_some.mpr fun _ h => hl (parse_some_shape h).2.1

theorem parse_eq_secDecode (b : Bytes) :
    PublicKey.parse E b = (secDecode E b).map (fun pc => ⟨pc.1, pc.2⟩) := by
  cases b with
  | nil => rfl
  | cons f r =>
    by_cases hl : r.length = secBody f
    · have ht : r.take (secBody f) = r := List.take_of_length_le (Nat.le_of_eq hl)
      have hd : r.drop (secBody f) = [] := List.drop_eq_nil_of_le (by omega)
      simp only [PublicKey.parse, PublicKey.readFrom, secBody_def, ht, hd, secDecode, pubkeyParse]
      unfold secBody at hl
      by_cases h4 : f = 0x04
      · subst h4
        simp only [if_true] at hl
        simp [hl]
        cases E.ofXY (ofBe (r.take 32)) (ofBe (r.drop 32)) <;> rfl
      · simp only [h4, if_false] at hl
        by_cases h2 : f = 0x02
        · subst h2; simp [hl]; cases E.liftX (ofBe r) <;> rfl
        · by_cases h3 : f = 0x03
          · subst h3; simp [hl]; cases E.liftX (ofBe r) <;> rfl
          · simp [h2, h3, h4]
    · rw [parse_wrong_body f r hl]
      unfold secBody at hl
      simp only [secDecode]
      by_cases h4 : f = 0x04
      · subst h4; simp only [if_true] at hl; simp [hl]
      · simp only [h4, if_false] at hl; simp [hl, h4]

theorem readFrom_eq_parse (f : UInt8) (r : Bytes) :
    PublicKey.readFrom E (f :: r)
      = (PublicKey.parse E (f :: r.take (secBody f))).map (fun k => (k, r.drop (secBody f))) := by
  have ht : (r.take (secBody f)).take (secBody f) = r.take (secBody f) := by rw [List.take_take, Nat.min_self]
  have hd : (r.take (secBody f)).drop (secBody f) = [] := List.drop_eq_nil_of_le (by rw [List.length_take]; omega)
  simp only [PublicKey.parse, PublicKey.readFrom, secBody_def, ht, hd]
  split
  · cases pubkeyParse E (f :: r.take (secBody f)) <;> rfl
  · rfl

theorem PublicKey.readFrom_some {s : Bytes} {k : PublicKey E} {rest : Bytes} (h : PublicKey.readFrom E s = some (k, rest)) :
    ∃ f r, s = f :: r ∧ secBody f ≤ r.length ∧ rest = r.drop (secBody f) ∧
      PublicKey.parse E (f :: r.take (secBody f)) = some k := by
  cases s with
  | nil => cases h
  | cons f r =>
    rw [readFrom_eq_parse] at h
    cases hp : PublicKey.parse E (f :: r.take (secBody f)) with
    | none => rw [hp] at h; cases h
    | some k' =>
      rw [hp] at h
      simp only [Option.map_some, Option.some.injEq, Prod.mk.injEq] at h
      have hl := (parse_some_shape hp).2.1
      rw [List.length_take] at hl
      exact ⟨f, r, rfl, by omega, h.2.symm, by rw [← h.1, hp]⟩

theorem parse_sec (L : EcLaws E) (k : PublicKey E) (hP : E.isInf k.point = false) :
    PublicKey.parse E k.sec = some k := by
  obtain ⟨P, c⟩ := k
  have hx := (L.coord_lt P hP).1
  have hy := (L.coord_lt P hP).2
  rw [parse_eq_secDecode]
  cases c
  · simp [PublicKey.sec, pubkeySerialize, secDecode, ofBe_beN32 _ hx, ofBe_beN32 _ hy, L.ofXY_of P hP]
  · cases hodd : E.yOdd P <;>
      simp [PublicKey.sec, pubkeySerialize, secDecode, hodd, ofBe_beN32 _ hx, L.liftX_of P hP, L.neg_neg]

theorem readFrom_sec (L : EcLaws E) (k : PublicKey E) (hP : E.isInf k.point = false) (rest : Bytes) :
    PublicKey.readFrom E (k.sec ++ rest) = some (k, rest) := by
  have hp := parse_sec L k hP
  cases hs : k.sec with
  | nil => rw [hs] at hp; cases hp
  | cons f x =>
    rw [hs] at hp
    have hl := (parse_some_shape hp).2.1
    rw [List.cons_append, readFrom_eq_parse, List.take_left' hl, List.drop_left' hl, hp]
    rfl

/-- whatever the SEC parser accepts re-encodes to exactly the same bytes (no second encoding of a key is accepted) -/
theorem parse_sec_sound (L : EcLaws E) (b : Bytes) (k : PublicKey E) (h : PublicKey.parse E b = some k) :
    k.sec = b ∧ E.isInf k.point = false := by
  rw [parse_eq_secDecode] at h
  cases b with
  | nil => cases h
  | cons f r =>
    simp only [secDecode] at h
    split at h
    · rename_i h2
      obtain ⟨P, hl, rfl⟩ := Option.map_eq_some_iff.mp (Option.map_map .. ▸ h)
      obtain ⟨hi, hx, hy⟩ := L.liftX_sound _ P hl
      exact ⟨by simp [PublicKey.sec, pubkeySerialize, hy, hx, h2.1, beN32_ofBe r h2.2], hi⟩
    · split at h
      · rename_i h3
        obtain ⟨P, hl, rfl⟩ := Option.map_eq_some_iff.mp (Option.map_map .. ▸ h)
        obtain ⟨hi, hx, hy⟩ := L.liftX_sound _ P hl
        exact ⟨by simp [PublicKey.sec, pubkeySerialize, L.yOdd_neg P hi, hy, L.x_neg P hi, hx, h3.1,
          beN32_ofBe r h3.2], by simp [L.neg_inf, hi]⟩
      · split at h
        · rename_i h4
          obtain ⟨P, hl, rfl⟩ := Option.map_eq_some_iff.mp (Option.map_map .. ▸ h)
          obtain ⟨hi, hx, hy⟩ := L.ofXY_sound _ _ P hl
          have e1 : beN 32 (ofBe (r.take 32)) = r.take 32 := beN32_ofBe _ (by simp [h4.2])
          have e2 : beN 32 (ofBe (r.drop 32)) = r.drop 32 := beN32_ofBe _ (by simp [h4.2])
          exact ⟨by simp [PublicKey.sec, pubkeySerialize, hx, hy, h4.1, e1, e2], hi⟩
        · cases h

theorem sec_exact (L : EcLaws E) :
    ExactCodec (PublicKey.parse E) PublicKey.sec (fun k => E.isInf k.point = false) :=
  .mk' (parse_sec L) fun b k h => (parse_sec_sound L b k h).symm

theorem readFrom_sec_sound (L : EcLaws E) (s : Bytes) (k : PublicKey E) (rest : Bytes)
    (h : PublicKey.readFrom E s = some (k, rest)) : k.sec ++ rest = s ∧ E.isInf k.point = false := by
  obtain ⟨f, r, rfl, _, rfl, hp⟩ := PublicKey.readFrom_some h
  obtain ⟨hsec, hinf⟩ := parse_sec_sound L _ k hp
  exact ⟨by rw [hsec, List.cons_append, List.take_append_drop], hinf⟩

theorem parse_02 (v : Nat) (hv : v < 2 ^ 256) :
    PublicKey.parse E (0x02 :: beN 32 v) = (E.liftX v).map (fun P => ⟨P, true⟩) := by
  rw [parse_eq_secDecode]
  simp only [secDecode, beN_length, and_self, if_true, ofBe_beN32 v hv, Option.map_map]
  rfl

theorem fromXonly_beN (v : Nat) (hv : v < 2 ^ 256) :
    PublicKey.fromXonly E (beN 32 v) = (E.liftX v).map (fun P => ⟨P, true⟩) := by
  simp [PublicKey.fromXonly, parse_02 v hv]

/-- whatever `from_xonly` accepts is the even-Y key with exactly this x-only encoding -/
theorem fromXonly_sound (L : EcLaws E) (data : Bytes) (k : PublicKey E)
    (h : PublicKey.fromXonly E data = some k) :
    k.xonly = data ∧ k.compressed = true ∧ E.yOdd k.point = false ∧ E.isInf k.point = false := by
  unfold PublicKey.fromXonly at h
  split at h
  · rename_i hl
    have hv : ofBe data < 2 ^ 256 := by have := ofBe_lt data; rwa [hl, pow_256_32] at this
    rw [← beN32_ofBe data hl, parse_02 _ hv] at h
    cases hlx : E.liftX (ofBe data) with
    | none => simp [hlx] at h
    | some P =>
      simp only [hlx, Option.map_some, Option.some.injEq] at h
      obtain ⟨hi, hx, hy⟩ := L.liftX_sound _ P hlx
      subst h
      exact ⟨by rw [PublicKey.xonly, PublicKey.sec, xslice_serialize, hx, beN32_ofBe data hl], rfl, hy, hi⟩
  · cases h

theorem sec_wrong_length (b : Bytes) (h : b.length ≠ 33 ∧ b.length ≠ 65) : PublicKey.parse E b = none := by
  cases b with
  | nil => rfl
  | cons f r =>
    apply parse_wrong_body
    simp only [List.length_cons] at h
    unfold secBody
    split <;> omega

/-- wrong prefix byte: anything but 02, 03, 04 (in particular the hybrid forms 06, 07) -/
theorem sec_bad_prefix (f : UInt8) (r : Bytes) (h : f ≠ 0x02 ∧ f ≠ 0x03 ∧ f ≠ 0x04) :
    PublicKey.parse E (f :: r) = none := by
  simp [parse_eq_secDecode, secDecode, h.1, h.2.1, h.2.2]

theorem sec_prefix_length_mismatch (f : UInt8) (r : Bytes)
    (h : (f = 0x04 ∧ r.length ≠ 64) ∨ ((f = 0x02 ∨ f = 0x03) ∧ r.length ≠ 32)) :
    PublicKey.parse E (f :: r) = none := by
  apply parse_wrong_body
  unfold secBody
  rcases h with ⟨rfl, h⟩ | ⟨rfl | rfl, h⟩ <;> simpa using h

/-- compressed form whose X is not the abscissa of a curve point (`lift_x` fails; includes X ≥ p) -/
theorem sec_off_curve_x (f : UInt8) (r : Bytes) (hf : f = 0x02 ∨ f = 0x03) (hl : E.liftX (ofBe r) = none) :
    PublicKey.parse E (f :: r) = none := by
  rw [parse_eq_secDecode]
  rcases hf with rfl | rfl <;> simp [secDecode, hl]

/-- uncompressed form whose (X, Y) is not a curve point (off-curve, substituted Y, coordinates ≥ p) -/
theorem sec_off_curve_xy (r : Bytes) (hl : E.ofXY (ofBe (r.take 32)) (ofBe (r.drop 32)) = none) :
    PublicKey.parse E (0x04 :: r) = none := by
  simp [parse_eq_secDecode, secDecode, hl]

theorem liftX_none_of_no_point (L : EcLaws E) (v : Nat) (h : ∀ P, E.isInf P = false → E.x P ≠ v) : E.liftX v = none := by
  cases hl : E.liftX v with
  | none => rfl
  | some P => obtain ⟨h1, h2, _⟩ := L.liftX_sound v P hl; exact absurd h2 (h P h1)

theorem ofXY_none_of_no_point (L : EcLaws E) (a b : Nat)
    (h : ∀ P, E.isInf P = false → ¬ (E.x P = a ∧ E.y P = b)) : E.ofXY a b = none := by
  cases hl : E.ofXY a b with
  | none => rfl
  | some P => obtain ⟨h1, h2, h3⟩ := L.ofXY_sound a b P hl; exact absurd ⟨h2, h3⟩ (h P h1)

end Embit.Keys
