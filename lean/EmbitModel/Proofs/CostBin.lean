import EmbitModel.Model.CostBin
import EmbitModel.Proofs.PsbtKV
/-
  Erasure and step bounds of the instrumented byte parsers of `Model/CostBin.lean` (C17).
-/
set_option linter.unusedSimpArgs false
set_option linter.unusedVariables false
namespace Embit.Model.CostBin
open Embit Embit.Model

theorem readManyC_fst {α : Type} (p : CP α) (n : Nat) (b : Bytes) :
    (readManyC p n b).1 = readMany (erase p) n b := by
  induction n generalizing b with
  | zero => rfl
  | succ n ih =>
    simp only [readManyC, readMany, erase]
    cases h : (p b).1 with
    | none => rfl
    | some xr =>
      obtain ⟨x, r⟩ := xr
      simp only [ih r, erase]
      cases readMany (erase p) n r with
      | none => rfl
      | some q => rfl

theorem scriptReadC_fst (b : Bytes) : (scriptReadC b).1 = scriptRead b := by
  unfold scriptReadC scriptRead
  cases Compact.read b with
  | none => rfl
  | some q => rfl

theorem erase_script : erase scriptReadC = scriptRead := funext scriptReadC_fst

theorem witnessReadC_fst (b : Bytes) : (witnessReadC b).1 = witnessRead b := by
  unfold witnessReadC witnessRead
  cases Compact.read b with
  | none => rfl
  | some q => simp only [readManyC_fst, erase_script]

theorem erase_witness : erase witnessReadC = witnessRead := funext witnessReadC_fst

theorem txInReadC_fst (b : Bytes) : (txInReadC b).1 = TxIn.read b := by
  unfold txInReadC TxIn.read
  simp only [scriptReadC_fst]
  repeat' (split <;> (try simp only [*]))
  all_goals first | rfl | simp_all

theorem erase_txIn : erase txInReadC = TxIn.read := funext txInReadC_fst

theorem txOutReadC_fst (b : Bytes) : (txOutReadC b).1 = TxOut.read b := by
  unfold txOutReadC TxOut.read
  simp only [scriptReadC_fst]
  repeat' (split <;> (try simp only [*]))
  all_goals first | rfl | simp_all

theorem erase_txOut : erase txOutReadC = TxOut.read := funext txOutReadC_fst

theorem txReadC_fst (b : Bytes) : (txReadC b).1 = Tx.read b := by
  unfold txReadC Tx.read
  simp only [readManyC_fst, erase_txIn, erase_txOut, erase_witness]
  repeat' (split <;> (try simp only [*]))
  all_goals first | rfl | simp_all

theorem txParseC_fst (b : Bytes) : (txParseC b).1 = Tx.parse b := by
  simp only [txParseC, Tx.parse, parseAll, txReadC_fst]
  cases Tx.read b with
  | none => rfl
  | some q => obtain ⟨x, r⟩ := q; cases r <;> rfl

theorem takeN_len {n : Nat} {b x r : Bytes} (h : takeN n b = some (x, r)) : r.length + n = b.length := by
  obtain ⟨e, l⟩ := takeN_sound h
  rw [e]; simp; omega

theorem readLe_len {k v : Nat} {b r : Bytes} (h : readLe k b = some (v, r)) : r.length + k = b.length := by
  obtain ⟨e, _⟩ := readLe_sound h
  rw [e]; simp; omega

theorem compact_len {n : Nat} {b r : Bytes} (h : Compact.read b = some (n, r)) : r.length + 1 ≤ b.length := by
  obtain ⟨e, _⟩ := Compact.read_sound h
  have := Compact.enc_length_pos n
  rw [e]; simp; omega

/-- an element reader whose successful runs cost (with the loop iteration) at most 5 steps per byte consumed, and
    whose runs cost at most 5·|input| + D whatever the outcome -/
structure Amort {α : Type} (D : Nat) (p : CP α) : Prop where
  ok : ∀ b x r, (p b).1 = some (x, r) → (p b).2 + 1 + 5 * r.length ≤ 5 * b.length
  any : ∀ b, (p b).2 + 1 ≤ 5 * b.length + D

theorem readManyC_bound {α : Type} (D : Nat) (p : CP α) (hp : Amort D p) : ∀ (n : Nat) (b : Bytes),
    (∀ xs r, (readManyC p n b).1 = some (xs, r) →
      (readManyC p n b).2 + 5 * r.length ≤ 5 * b.length ∧ xs.length + r.length ≤ b.length) ∧
    (readManyC p n b).2 ≤ 5 * b.length + D := by
  intro n
  induction n with
  | zero => intro b; simp [readManyC]
  | succ n ih =>
    intro b
    simp only [readManyC]
    have hany := hp.any b
    cases h : (p b).1 with
    | none => simp only []; refine ⟨by simp, by omega⟩
    | some xr =>
      obtain ⟨x, r1⟩ := xr
      have hok := hp.ok b x r1 h
      obtain ⟨i1, i2⟩ := ih r1
      simp only []
      cases h2 : (readManyC p n r1).1 with
      | none => simp only []; refine ⟨by simp, by omega⟩
      | some q =>
        obtain ⟨xs, r2⟩ := q
        obtain ⟨j1, j2⟩ := i1 xs r2 h2
        simp only []
        refine ⟨?_, by omega⟩
        intro xs' r' e
        simp at e
        obtain ⟨rfl, rfl⟩ := e
        simp only [List.length_cons]
        omega

/-- a leaf of a case analysis where the parser has failed: the bound by arithmetic, no value -/
macro "fail_leaf" : tactic => `(tactic| ((try simp only []); exact ⟨by omega, by simp⟩))

theorem Amort.of_run {α : Type} {D : Nat} {p : CP α}
    (h : ∀ b, (p b).2 + 1 ≤ 5 * b.length + D ∧
      ∀ x r, (p b).1 = some (x, r) → (p b).2 + 1 + 5 * r.length ≤ 5 * b.length) : Amort D p :=
  ⟨fun b x r hx => (h b).2 x r hx, fun b => (h b).1⟩

theorem scriptReadC_amort : Amort 8 scriptReadC := by
  refine Amort.of_run fun b => ?_
  unfold scriptReadC
  cases hc : Compact.read b with
  | none => fail_leaf
  | some q =>
    obtain ⟨l, r0⟩ := q
    have := compact_len hc
    simp only [takeSteps]
    refine ⟨by omega, fun x r h => ?_⟩
    have := takeN_len h
    omega

theorem witnessReadC_amort : Amort 8 witnessReadC := by
  refine Amort.of_run fun b => ?_
  unfold witnessReadC
  cases hc : Compact.read b with
  | none => fail_leaf
  | some q =>
    obtain ⟨n, r0⟩ := q
    have := compact_len hc
    obtain ⟨ok, any⟩ := readManyC_bound 8 _ scriptReadC_amort n r0
    simp only []
    refine ⟨by omega, fun x r h => ?_⟩
    have := (ok x r h).1
    omega

theorem txInReadC_amort : Amort 8 txInReadC := by
  refine Amort.of_run fun b => ?_
  unfold txInReadC
  cases h1 : takeN 32 b with
  | none => fail_leaf
  | some q1 =>
    obtain ⟨t, r1⟩ := q1
    have := takeN_len h1
    simp only []
    cases h2 : readLe 4 r1 with
    | none => fail_leaf
    | some q2 =>
      obtain ⟨vo, r2⟩ := q2
      have := readLe_len h2
      have := scriptReadC_amort.any r2
      simp only []
      cases h3 : (scriptReadC r2).1 with
      | none => fail_leaf
      | some q3 =>
        obtain ⟨ss, r3⟩ := q3
        have := scriptReadC_amort.ok r2 ss r3 h3
        simp only []
        cases h4 : readLe 4 r3 with
        | none => fail_leaf
        | some q4 =>
          obtain ⟨sq, r4⟩ := q4
          have := readLe_len h4
          simp only []
          refine ⟨by omega, fun x r e => ?_⟩
          obtain ⟨_, rfl⟩ : _ ∧ r4 = r := by simpa using e
          omega

theorem txOutReadC_amort : Amort 8 txOutReadC := by
  refine Amort.of_run fun b => ?_
  unfold txOutReadC
  cases h1 : readLe 8 b with
  | none => fail_leaf
  | some q1 =>
    obtain ⟨v, r1⟩ := q1
    have := readLe_len h1
    have := scriptReadC_amort.any r1
    simp only []
    cases h3 : (scriptReadC r1).1 with
    | none => fail_leaf
    | some q3 =>
      obtain ⟨ss, r3⟩ := q3
      have := scriptReadC_amort.ok r1 ss r3 h3
      simp only []
      refine ⟨by omega, fun x r e => ?_⟩
      obtain ⟨_, rfl⟩ : _ ∧ r3 = r := by simpa using e
      omega

theorem txReadC_bound (b : Bytes) :
    (txReadC b).2 ≤ 5 * b.length + 12 ∧
    ∀ t r, (txReadC b).1 = some (t, r) → (txReadC b).2 + 5 * r.length ≤ 5 * b.length := by
  unfold txReadC
  cases h1 : readLe 4 b with
  | none => fail_leaf
  | some q1 =>
    obtain ⟨ver, r1⟩ := q1
    have := readLe_len h1
    simp only []
    cases h2 : Compact.read r1 with
    | none => fail_leaf
    | some q2 =>
      obtain ⟨n0, r2⟩ := q2
      have := compact_len h2
      simp only []
      by_cases hn : n0 = 0
      · simp only [hn, if_true]
        cases h3 : takeN 1 r2 with
        | none => fail_leaf
        | some q3 =>
          obtain ⟨flag, r3⟩ := q3
          have := takeN_len h3
          simp only []
          by_cases hf : flag = [1]
          · simp only [hf, ne_eq, not_true_eq_false, if_false]
            cases h4 : Compact.read r3 with
            | none => fail_leaf
            | some q4 =>
              obtain ⟨n, r4⟩ := q4
              have := compact_len h4
              simp only []
              have bi := readManyC_bound 8 _ txInReadC_amort n r4
              cases h5 : (readManyC txInReadC n r4).1 with
              | none => have := bi.2; fail_leaf
              | some q5 =>
                obtain ⟨vin, r5⟩ := q5
                have := (bi.1 vin r5 h5).1
                simp only []
                cases h6 : Compact.read r5 with
                | none => fail_leaf
                | some q6 =>
                  obtain ⟨m, r6⟩ := q6
                  have := compact_len h6
                  simp only []
                  have bo := readManyC_bound 8 _ txOutReadC_amort m r6
                  cases h7 : (readManyC txOutReadC m r6).1 with
                  | none => have := bo.2; fail_leaf
                  | some q7 =>
                    obtain ⟨vout, r7⟩ := q7
                    have := (bo.1 vout r7 h7).1
                    simp only []
                    have bw := readManyC_bound 8 _ witnessReadC_amort vin.length r7
                    cases h8 : (readManyC witnessReadC vin.length r7).1 with
                    | none => have := bw.2; fail_leaf
                    | some q8 =>
                      obtain ⟨wits, r8⟩ := q8
                      have := (bw.1 wits r8 h8).1
                      simp only []
                      split
                      · fail_leaf
                      · cases h9 : readLe 4 r8 with
                        | none => fail_leaf
                        | some q9 =>
                          obtain ⟨lt, r9⟩ := q9
                          have := readLe_len h9
                          simp only []
                          refine ⟨by omega, ?_⟩
                          intro t r e
                          simp at e
                          obtain ⟨_, rfl⟩ := e
                          omega
          · simp only [ne_eq, hf, not_false_eq_true, if_true]
            fail_leaf
      · simp only [hn, if_false]
        have bi := readManyC_bound 8 _ txInReadC_amort n0 r2
        cases h5 : (readManyC txInReadC n0 r2).1 with
        | none => have := bi.2; fail_leaf
        | some q5 =>
          obtain ⟨vin, r5⟩ := q5
          have := (bi.1 vin r5 h5).1
          simp only []
          cases h6 : Compact.read r5 with
          | none => fail_leaf
          | some q6 =>
            obtain ⟨m, r6⟩ := q6
            have := compact_len h6
            simp only []
            have bo := readManyC_bound 8 _ txOutReadC_amort m r6
            cases h7 : (readManyC txOutReadC m r6).1 with
            | none => have := bo.2; fail_leaf
            | some q7 =>
              obtain ⟨vout, r7⟩ := q7
              have := (bo.1 vout r7 h7).1
              simp only []
              cases h9 : readLe 4 r7 with
              | none => fail_leaf
              | some q9 =>
                obtain ⟨lt, r9⟩ := q9
                have := readLe_len h9
                simp only []
                refine ⟨by omega, ?_⟩
                intro t r e
                simp at e
                obtain ⟨_, rfl⟩ := e
                omega

theorem readKVsFuelC_fst : ∀ (fuel : Nat) (b : Bytes), (readKVsFuelC fuel b).1.toOption = readKVsFuel fuel b := by
  intro fuel
  induction fuel with
  | zero => intro b; rfl
  | succ f ih =>
    intro b
    simp only [readKVsFuelC, readKVsFuel, readString, scriptReadC_fst]
    cases h1 : scriptRead b with
    | none => rfl
    | some q1 =>
      obtain ⟨k, r1⟩ := q1
      simp only []
      by_cases hk : k.isEmpty = true
      · simp only [hk, if_true]; rfl
      · simp only [hk, if_false]
        cases h2 : scriptRead r1 with
        | none => rfl
        | some q2 =>
          obtain ⟨v, r2⟩ := q2
          simp only []
          rw [← ih r2]
          cases (readKVsFuelC f r2).1 with
          | ok x => rfl
          | reject => rfl
          | outOfFuel => rfl

theorem readKVsFuelC_bound : ∀ (fuel : Nat) (b : Bytes),
    (readKVsFuelC fuel b).2 ≤ 5 * b.length + 8 ∧
    (∀ kvs r, (readKVsFuelC fuel b).1 = .ok (kvs, r) →
      (readKVsFuelC fuel b).2 + 5 * r.length ≤ 5 * b.length ∧ kvs.length + r.length < b.length) ∧
    (b.length < fuel → (readKVsFuelC fuel b).1.isOutOfFuel = false) := by
  intro fuel
  induction fuel with
  | zero => intro b; simp [readKVsFuelC]
  | succ f ih =>
    intro b
    simp only [readKVsFuelC]
    have ak := scriptReadC_amort.any b
    cases h1 : (scriptReadC b).1 with
    | none => simp only []; exact ⟨by omega, by simp, by simp [Res.isOutOfFuel]⟩
    | some q1 =>
      obtain ⟨k, r1⟩ := q1
      have ok1 := scriptReadC_amort.ok b k r1 h1
      simp only []
      by_cases hk : k.isEmpty = true
      · simp only [hk, if_true]
        refine ⟨by omega, ?_, by simp [Res.isOutOfFuel]⟩
        intro kvs r e
        simp at e
        obtain ⟨rfl, rfl⟩ := e
        simp only [List.length_nil]
        omega
      · simp only [hk, Bool.false_eq_true, if_false]
        have av := scriptReadC_amort.any r1
        cases h2 : (scriptReadC r1).1 with
        | none => simp only []; exact ⟨by omega, by simp, by simp [Res.isOutOfFuel]⟩
        | some q2 =>
          obtain ⟨v, r2⟩ := q2
          have ok2 := scriptReadC_amort.ok r1 v r2 h2
          obtain ⟨i1, i2, i3⟩ := ih r2
          simp only []
          cases h3 : (readKVsFuelC f r2).1 with
          | ok x =>
            obtain ⟨kvs, r3⟩ := x
            obtain ⟨j1, j2⟩ := i2 kvs r3 h3
            simp only []
            refine ⟨by omega, ?_, by simp [Res.isOutOfFuel]⟩
            intro kvs' r e
            simp at e
            obtain ⟨rfl, rfl⟩ := e
            simp only [List.length_cons]
            omega
          | reject => simp only []; exact ⟨by omega, by simp, by simp [Res.isOutOfFuel]⟩
          | outOfFuel =>
            simp only []
            refine ⟨by omega, by simp, ?_⟩
            intro hf
            have := i3 (by omega)
            simp [h3, Res.isOutOfFuel] at this

theorem readKVsC_fst (b : Bytes) : (readKVsC b).1.toOption = readKVs b := readKVsFuelC_fst _ b

theorem readInsC_fst (ko : KeyOps) (sha : Bytes → Bytes) (compress : Nat) (tx : Option Tx) :
    ∀ (n i : Nat) (b : Bytes), (readInsC ko sha compress tx n i b).1 = readIns ko sha compress tx n i b := by
  intro n
  induction n with
  | zero => intro i b; rfl
  | succ n ih =>
    intro i b
    simp only [readInsC, readIns, readKVsC_fst, ih]
    repeat' (split <;> (try simp only [*]))
    all_goals first | rfl | simp_all

theorem readOutsC_fst (ko : KeyOps) (tx : Option Tx) :
    ∀ (n i : Nat) (b : Bytes), (readOutsC ko tx n i b).1 = readOuts ko tx n i b := by
  intro n
  induction n with
  | zero => intro i b; rfl
  | succ n ih =>
    intro i b
    simp only [readOutsC, readOuts, readKVsC_fst, ih]
    repeat' (split <;> (try simp only [*]))
    all_goals first | rfl | simp_all

theorem psbtParseC_fst (ko : KeyOps) (sha : Bytes → Bytes) (compress : Nat) (b : Bytes) :
    (psbtParseC ko sha compress b).1 = Psbt.parse ko sha compress b := by
  unfold psbtParseC Psbt.parse
  simp only [readKVsC_fst, readInsC_fst, readOutsC_fst]
  repeat' (split <;> (try simp only [*]))
  all_goals first | rfl | simp_all

theorem toOption_some {α : Type} {x : Res α} {a : α} (h : x.toOption = some a) : x = .ok a := by
  cases x <;> simp [Res.toOption] at h ⊢
  exact h

/-- one scope: steps ≤ 5·|b| + 8 whatever happens; accepted ⇒ ≤ 5 steps per byte consumed and fewer pairs than bytes
    consumed; with the model's fuel `|b| + 1` the answer is never "out of fuel" -/
theorem readKVsC_bound (b : Bytes) :
    (readKVsC b).2 ≤ 5 * b.length + 8 ∧
    (∀ kvs r, (readKVsC b).1 = .ok (kvs, r) →
      (readKVsC b).2 + 5 * r.length ≤ 5 * b.length ∧ kvs.length + r.length < b.length) := by
  obtain ⟨h1, h2, _⟩ := readKVsFuelC_bound (b.length + 1) b
  exact ⟨h1, h2⟩

theorem readKVsC_fuel (b : Bytes) : (readKVsC b).1.isOutOfFuel = false :=
  (readKVsFuelC_bound (b.length + 1) b).2.2 (by omega)

/-- What the two scope loops of `PSBT.read_from` have in common, one equation per way a round can end: the scope is
    not read, its pairs are refused by `add`, the rest of the loop fails, or everything succeeds. -/
structure ScopeLoop {σ : Type} (add : Nat → List KV → Option σ) (F : Nat → Nat → CP (List σ)) : Prop where
  zero : ∀ i b, F 0 i b = (some ([], b), 0)
  noScope : ∀ n i b, (readKVsC b).1.toOption = none → F (n + 1) i b = (none, 1 + (readKVsC b).2)
  refused : ∀ n i b kvs r, (readKVsC b).1.toOption = some (kvs, r) → add i kvs = none →
    F (n + 1) i b = (none, 1 + (readKVsC b).2 + kvs.length)
  restFails : ∀ n i b kvs r s, (readKVsC b).1.toOption = some (kvs, r) → add i kvs = some s →
    (F n (i + 1) r).1 = none → F (n + 1) i b = (none, 1 + (readKVsC b).2 + kvs.length + (F n (i + 1) r).2)
  ok : ∀ n i b kvs r s ss r', (readKVsC b).1.toOption = some (kvs, r) → add i kvs = some s →
    (F n (i + 1) r).1 = some (ss, r') →
    F (n + 1) i b = (some (s :: ss, r'), 1 + (readKVsC b).2 + kvs.length + (F n (i + 1) r).2)

/-- A scope costs at most 6 steps per byte: 5 to read it (`readKVsC_bound`), 1 per pair handed to `add`, and it has
    fewer pairs than bytes. -/
theorem ScopeLoop.bound {σ : Type} {add : Nat → List KV → Option σ} {F : Nat → Nat → CP (List σ)}
    (hF : ScopeLoop add F) : ∀ (n i : Nat) (b : Bytes), (F n i b).2 ≤ 6 * b.length + 9 ∧
      ∀ ss r, (F n i b).1 = some (ss, r) → (F n i b).2 + 6 * r.length ≤ 6 * b.length ∧ ss.length + r.length ≤ b.length := by
  intro n
  induction n with
  | zero => intro i b; simp [hF.zero]
  | succ n ih =>
    intro i b
    obtain ⟨k1, k2⟩ := readKVsC_bound b
    cases h1 : (readKVsC b).1.toOption with
    | none => rw [hF.noScope n i b h1]; exact ⟨by omega, by simp⟩
    | some q1 =>
      obtain ⟨kvs, r⟩ := q1
      obtain ⟨j1, j2⟩ := k2 kvs r (toOption_some h1)
      cases h2 : add i kvs with
      | none => rw [hF.refused n i b kvs r h1 h2]; exact ⟨by omega, by simp⟩
      | some s =>
        obtain ⟨i1, i2⟩ := ih (i + 1) r
        cases h3 : (F n (i + 1) r).1 with
        | none => rw [hF.restFails n i b kvs r s h1 h2 h3]; exact ⟨by omega, by simp⟩
        | some q3 =>
          obtain ⟨ss, r'⟩ := q3
          obtain ⟨l1, l2⟩ := i2 ss r' h3
          rw [hF.ok n i b kvs r s ss r' h1 h2 h3]
          refine ⟨by omega, ?_⟩
          intro ss' r'' e
          obtain ⟨rfl, rfl⟩ : s :: ss = ss' ∧ r' = r'' := by simpa using e
          simp only [List.length_cons]
          omega

theorem readInsC_loop (ko : KeyOps) (sha : Bytes → Bytes) (compress : Nat) (tx : Option Tx) :
    ScopeLoop (fun i => InScope.addPairs ko sha compress (seedIn tx i)) (readInsC ko sha compress tx) where
  zero _ _ := rfl
  noScope n i b h := by simp only [readInsC, h]
  refused n i b kvs r h h2 := by simp only [readInsC, h, h2]
  restFails n i b kvs r s h h2 h3 := by simp only [readInsC, h, h2, h3]
  ok n i b kvs r s ss r' h h2 h3 := by simp only [readInsC, h, h2, h3]

theorem readOutsC_loop (ko : KeyOps) (tx : Option Tx) :
    ScopeLoop (fun i => OutScope.addPairs ko (seedOut tx i)) (readOutsC ko tx) where
  zero _ _ := rfl
  noScope n i b h := by simp only [readOutsC, h]
  refused n i b kvs r h h2 := by simp only [readOutsC, h, h2]
  restFails n i b kvs r s h h2 h3 := by simp only [readOutsC, h, h2, h3]
  ok n i b kvs r s ss r' h h2 h3 := by simp only [readOutsC, h, h2, h3]

theorem psbtParseC_bound (ko : KeyOps) (sha : Bytes → Bytes) (compress : Nat) (b : Bytes) :
    (psbtParseC ko sha compress b).2 ≤ 7 * b.length + 12 := by
  unfold psbtParseC
  cases h0 : takeN 5 b with
  | none => simp only []; omega
  | some q0 =>
    obtain ⟨m, r0⟩ := q0
    have := takeN_len h0
    simp only []
    split
    · simp only []; omega
    · obtain ⟨k1, k2⟩ := readKVsC_bound r0
      cases h1 : (readKVsC r0).1.toOption with
      | none => simp only []; omega
      | some q1 =>
        obtain ⟨gkvs, r1⟩ := q1
        obtain ⟨j1, j2⟩ := k2 gkvs r1 (toOption_some h1)
        simp only []
        cases h2 : globalFold none none [] gkvs with
        | none => simp only []; omega
        | some q2 =>
          obtain ⟨tx, ver, unk⟩ := q2
          simp only []
          split
          · simp only []; omega
          · split
            · simp only []; omega
            · split
              · simp only []; omega
              · rename_i g hg
                obtain ⟨a1, a2⟩ := (readInsC_loop ko sha compress tx).bound (g.nin.getD 0) 0 r1
                cases h3 : (readInsC ko sha compress tx (g.nin.getD 0) 0 r1).1 with
                | none => simp only []; omega
                | some q3 =>
                  obtain ⟨ins, r2⟩ := q3
                  obtain ⟨a3, a4⟩ := a2 ins r2 h3
                  obtain ⟨b1, b2⟩ := (readOutsC_loop ko tx).bound (g.nout.getD 0) 0 r2
                  simp only []
                  cases h4 : (readOutsC ko tx (g.nout.getD 0) 0 r2).1 with
                  | none => simp only []; omega
                  | some q4 =>
                    obtain ⟨outs, r3⟩ := q4
                    obtain ⟨b3, b4⟩ := b2 outs r3 h4
                    simp only []
                    split <;> (simp only []; omega)

theorem readVoutC_fst (sha : Bytes → Bytes) (idx : Nat) (b : Bytes) :
    (readVoutC sha idx b).1 = Tx.readVout sha idx b := by
  unfold readVoutC Tx.readVout
  simp only [readManyC_fst, erase_txIn, erase_txOut, erase_witness]
  cases takeN 4 b with
  | none => rfl
  | some q1 =>
    obtain ⟨ver, r1⟩ := q1
    simp only []
    cases Compact.read r1 with
    | none => rfl
    | some q2 =>
      obtain ⟨n0, r2⟩ := q2
      simp only []
      generalize (if n0 = 0 then
          match takeN 1 r2 with
          | none => none
          | some (flag, r3) =>
            if flag ≠ [1] then none else
            match Compact.read r3 with
            | none => none
            | some (n, r4) => some (true, n, r4)
        else some (false, n0, r2) : Option (Bool × Nat × Bytes)) = am
      cases am with
      | none => rfl
      | some q3 =>
        obtain ⟨isSegwit, n, r4⟩ := q3
        simp only []
        cases readMany TxIn.read n r4 with
        | none => rfl
        | some q5 =>
          obtain ⟨vin, r5⟩ := q5
          simp only []
          cases Compact.read r5 with
          | none => rfl
          | some q6 =>
            obtain ⟨m, r6⟩ := q6
            simp only []
            split
            · rfl
            · cases readMany TxOut.read m r6 with
              | none => rfl
              | some q7 =>
                obtain ⟨vout, r7⟩ := q7
                simp only []
                generalize (if isSegwit = true then
                    match readMany witnessRead n r7 with
                    | none => none
                    | some (wits, r8) => if wits.all (fun w => w.isEmpty) = true then none else some r8
                  else some r7 : Option Bytes) = wp
                cases wp with
                | none => rfl
                | some r8 =>
                  simp only []
                  cases takeN 4 r8 with
                  | none => rfl
                  | some q9 =>
                    obtain ⟨lt, r9⟩ := q9
                    simp only []
                    cases vout[idx]? with
                    | none => rfl
                    | some o => rfl

theorem readVoutC_bound (sha : Bytes → Bytes) (idx : Nat) (b : Bytes) :
    (readVoutC sha idx b).2 ≤ 5 * b.length + 12 := by
  unfold readVoutC
  cases h1 : takeN 4 b with
  | none => simp only []; omega
  | some q1 =>
    obtain ⟨ver, r1⟩ := q1
    have := takeN_len h1
    simp only []
    cases h2 : Compact.read r1 with
    | none => simp only []; omega
    | some q2 =>
      obtain ⟨n0, r2⟩ := q2
      have := compact_len h2
      simp only []
      generalize ham : (if n0 = 0 then
          match takeN 1 r2 with
          | none => none
          | some (flag, r3) =>
            if flag ≠ [1] then none else
            match Compact.read r3 with
            | none => none
            | some (n, r4) => some (true, n, r4)
        else some (false, n0, r2) : Option (Bool × Nat × Bytes)) = am
      cases am with
      | none => simp only []; omega
      | some q3 =>
        obtain ⟨isSegwit, n, r4⟩ := q3
        have hr4 : r4.length ≤ r2.length := by
          split at ham
          · split at ham
            · simp at ham
            · rename_i flag r3 h3
              have := takeN_len h3
              split at ham
              · simp at ham
              · split at ham
                · simp at ham
                · rename_i n' r4' h4
                  have := compact_len h4
                  simp at ham
                  obtain ⟨_, _, rfl⟩ := ham
                  omega
          · simp at ham
            obtain ⟨_, _, rfl⟩ := ham
            omega
        simp only []
        have bi := readManyC_bound 8 _ txInReadC_amort n r4
        cases h5 : (readManyC txInReadC n r4).1 with
        | none => have := bi.2; simp only []; omega
        | some q5 =>
          obtain ⟨vin, r5⟩ := q5
          have := (bi.1 vin r5 h5).1
          simp only []
          cases h6 : Compact.read r5 with
          | none => simp only []; omega
          | some q6 =>
            obtain ⟨m, r6⟩ := q6
            have := compact_len h6
            simp only []
            split
            · simp only []; omega
            · have bo := readManyC_bound 8 _ txOutReadC_amort m r6
              cases h7 : (readManyC txOutReadC m r6).1 with
              | none => have := bo.2; simp only []; omega
              | some q7 =>
                obtain ⟨vout, r7⟩ := q7
                have := (bo.1 vout r7 h7).1
                have bw := (readManyC_bound 8 _ witnessReadC_amort n r7).2
                have hcw : (if isSegwit = true then (readManyC witnessReadC n r7).2 else 0) ≤ 5 * r7.length + 8 := by
                  split <;> omega
                simp only []
                repeat' split
                all_goals (simp only []; omega)

end Embit.Model.CostBin
