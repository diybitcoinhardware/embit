import EmbitModel.Proofs.SecpCardBound
import EmbitModel.Proofs.SecpPrimes
/-
  The numerical facts about secp256k1 that the counting argument of `SecpCardBound` needs, each evaluated by the
  kernel on the 256-bit literals:

    3 ∣ p − 1,   p ∤ 7,   (−7)^((p−1)/3) mod p ≠ 1   (the model's `powMod`),   2p + 1 < 3n.

  Consequence: `−7` is not a cube modulo `p`, so `x³ + 7` has no root in `𝔽_p`, so the curve has no point with
  `y = 0`, i.e. no point of order two.
-/
namespace Embit.Model.PyCurve

local instance secp_p_fact : Fact secp256k1.p.Prime := ⟨Primes.secp256k1P_prime⟩

theorem secp256k1_p_mod3 : 3 ∣ secp256k1.p - 1 := by decide +kernel

theorem secp256k1_neg7_mod : (-7 : ℤ) % (secp256k1.p : ℤ) ≠ 0 := by decide +kernel

/-- `(−7)^((p−1)/3) mod p ≠ 1`: one 256-bit modular power, run by the kernel through the model's `powMod` -/
theorem secp256k1_neg7_pow : powMod (-7) ((secp256k1.p - 1) / 3) (secp256k1.p : ℤ) ≠ 1 := by decide +kernel

theorem secp256k1_3n : 2 * secp256k1.p + 1 < 3 * secp256k1N := by decide +kernel

theorem secp256k1_neg7_ne_zero : (((-7 : ℤ)) : ZMod secp256k1.p) ≠ 0 := by
  intro h
  rw [ZMod.intCast_zmod_eq_zero_iff_dvd] at h
  exact secp256k1_neg7_mod (Int.emod_eq_zero_of_dvd h)

theorem secp256k1_neg7_not_cube (x : ZMod secp256k1.p) : x ^ 3 ≠ (((-7 : ℤ)) : ZMod secp256k1.p) :=
  not_cube secp256k1.p (-7) secp256k1_p_mod3 secp256k1_neg7_ne_zero secp256k1_neg7_pow x

/-- `x³ + a x + b = x³ + 7` has no root in `𝔽_p` -/
theorem secp256k1_no_root (x : ZMod secp256k1.p) :
    x ^ 3 + (secp256k1.a : ZMod secp256k1.p) * x + (secp256k1.b : ZMod secp256k1.p) ≠ 0 := by
  intro h
  apply secp256k1_neg7_not_cube x
  have ha : (secp256k1.a : ZMod secp256k1.p) = 0 := Int.cast_zero
  have hb : (secp256k1.b : ZMod secp256k1.p) = 7 := Int.cast_ofNat 7
  rw [ha, hb] at h
  push_cast
  linear_combination h

end Embit.Model.PyCurve
