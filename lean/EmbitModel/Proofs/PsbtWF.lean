import EmbitModel.Proofs.PsbtTop
/-
  C04 (deepening): the well-formedness predicates of the serialise-then-parse theorems — explicit, decidable
  (for a given `KeyOps`), and satisfied by everything `Psbt.parse` (KEEP_ALL) returns — plus the field codecs in
  the serialise-then-parse direction (`Deriv`, taproot derivations).
-/
set_option linter.unusedSimpArgs false
set_option linter.unusedVariables false
namespace Embit
open Model Spec.Wire

def OptP {α : Type} (P : α → Prop) : Option α → Prop
  | none => True
  | some x => P x

@[simp] theorem OptP_none {α : Type} (P : α → Prop) : OptP P none = True := rfl
@[simp] theorem OptP_some {α : Type} (P : α → Prop) (x : α) : OptP P (some x) = P x := rfl

instance {α : Type} (P : α → Prop) [DecidablePred P] : DecidablePred (OptP P) := fun o => by
  cases o <;> simp only [OptP_none, OptP_some] <;> infer_instance

theorem OptP.of_eq {α : Type} {P : α → Prop} {o : Option α} (h : OptP P o) {x : α} (e : o = some x) : P x := by
  subst e; exact h

instance (i : TxIn) : Decidable (WFIn i) :=
  decidable_of_iff (i.txid.length = 32 ∧ i.vout < 2^32 ∧ i.scriptSig.length < 2^64 ∧ i.sequence < 2^32
      ∧ i.witness.length < 2^64 ∧ ∀ d ∈ i.witness, d.length < 2^64)
    ⟨fun ⟨a, b, c, d, e, f⟩ => ⟨a, b, c, d, e, f⟩, fun ⟨a, b, c, d, e, f⟩ => ⟨a, b, c, d, e, f⟩⟩

instance (o : TxOut) : Decidable (WFOut o) :=
  decidable_of_iff (o.value < 2^64 ∧ o.spk.length < 2^64) ⟨fun ⟨a, b⟩ => ⟨a, b⟩, fun ⟨a, b⟩ => ⟨a, b⟩⟩

instance (t : Tx) : Decidable (WF t) :=
  decidable_of_iff (t.version < 2^32 ∧ t.locktime < 2^32 ∧ 1 ≤ t.vin.length ∧ t.vin.length < 2^64
      ∧ t.vout.length < 2^64 ∧ (∀ i ∈ t.vin, WFIn i) ∧ ∀ o ∈ t.vout, WFOut o)
    ⟨fun ⟨a, b, c, d, e, f, g⟩ => ⟨a, b, c, d, e, f, g⟩, fun ⟨a, b, c, d, e, f, g⟩ => ⟨a, b, c, d, e, f, g⟩⟩

instance (kv : KV) : Decidable (KVWF kv) := by unfold KVWF; infer_instance

/-- a byte string that fits a CompactSize length prefix -/
abbrev Fits (v : Bytes) : Prop := v.length < 2^64

/-- what `DerivationPath.parse` returns: a 4-byte fingerprint (or a shorter one and then no path), 32-bit indices -/
def DerivWF (d : Deriv) : Prop :=
  (d.fingerprint.length = 4 ∨ (d.fingerprint.length < 4 ∧ d.path = [])) ∧ (∀ n ∈ d.path, n < 2^32)
  ∧ Fits (Deriv.ser d)

instance (d : Deriv) : Decidable (DerivWF d) := by unfold DerivWF; infer_instance

/-- taproot derivation: leaf hashes of 32 bytes, then a derivation -/
def TapDerivWF (x : List Bytes × Deriv) : Prop :=
  x.1.length < 2^64 ∧ (∀ h ∈ x.1, h.length = 32) ∧ DerivWF x.2 ∧ Fits (tapDerivSer x)

instance (x : List Bytes × Deriv) : Decidable (TapDerivWF x) := by unfold TapDerivWF; infer_instance

theorem chunks4_flatMap (p : List Nat) (hp : ∀ n ∈ p, n < 2^32) :
    ∀ fuel, p.length + 1 ≤ fuel → chunks4 fuel (p.flatMap (leN 4)) = some p := by
  induction p with
  | nil => intro fuel hf; cases fuel with
    | zero => omega
    | succ f => simp [chunks4]
  | cons n p ih =>
    intro fuel hf
    cases fuel with
    | zero => omega
    | succ f =>
      have hl : (leN 4 n).length = 4 := by simp [leN]
      have h1 : ((n :: p).flatMap (leN 4)) = leN 4 n ++ p.flatMap (leN 4) := by simp
      have hne : (leN 4 n ++ p.flatMap (leN 4)).isEmpty = false := by
        cases h : leN 4 n with
        | nil => simp [h] at hl
        | cons _ _ => rfl
      have hlen : ¬ (leN 4 n ++ p.flatMap (leN 4)).length < 4 := by simp [hl]
      have ht : (leN 4 n ++ p.flatMap (leN 4)).take 4 = leN 4 n := by
        rw [List.take_append_of_le_length (by omega)]; rw [List.take_of_length_le (by omega)]
      have hd : (leN 4 n ++ p.flatMap (leN 4)).drop 4 = p.flatMap (leN 4) := by
        rw [List.drop_append_of_le_length (by omega)]; rw [List.drop_of_length_le (by omega)]; simp
      have ih' := ih (fun m hm => hp m (by simp [hm])) f (by simp at hf; omega)
      have hv : ofLe (leN 4 n) = n := ofLe_leN 4 n (by have := hp n (by simp); omega)
      rw [h1]
      simp only [chunks4, hne, hlen, ht, hd, ih', hv]
      simp

theorem flatMap_leN4_length (p : List Nat) : (p.flatMap (leN 4)).length = 4 * p.length := by
  induction p with
  | nil => rfl
  | cons n p ih =>
    have : (leN 4 n).length = 4 := by simp [leN]
    rw [List.flatMap_cons, List.length_append, ih, this, List.length_cons]; omega

theorem Deriv.parse_ser (d : Deriv) (h : DerivWF d) : Deriv.parse (Deriv.ser d) = some d := by
  obtain ⟨hf, hp, _⟩ := h
  unfold Deriv.parse Deriv.ser
  rcases hf with hf | ⟨hf, hnil⟩
  · have ht : (d.fingerprint ++ d.path.flatMap (leN 4)).take 4 = d.fingerprint := by
      rw [List.take_append_of_le_length (by omega)]; rw [List.take_of_length_le (by omega)]
    have hd : (d.fingerprint ++ d.path.flatMap (leN 4)).drop 4 = d.path.flatMap (leN 4) := by
      rw [List.drop_append_of_le_length (by omega)]; rw [List.drop_of_length_le (by omega)]; simp
    have hc := chunks4_flatMap d.path hp ((d.fingerprint ++ d.path.flatMap (leN 4)).length + 1)
      (by rw [List.length_append, flatMap_leN4_length]; omega)
    rw [hd, hc, ht]
  · have ht : (d.fingerprint ++ d.path.flatMap (leN 4)).take 4 = d.fingerprint := by
      rw [hnil]; simp only [List.flatMap_nil, List.append_nil]; exact List.take_of_length_le (by omega)
    have hd : (d.fingerprint ++ d.path.flatMap (leN 4)).drop 4 = [] := by
      rw [hnil]; simp only [List.flatMap_nil, List.append_nil]; exact List.drop_of_length_le (by omega)
    rw [hd, ht]
    cases d with
    | mk fp path => simp at hnil; subst hnil; simp [chunks4]

theorem chunks4_lt (fuel : Nat) : ∀ (b : Bytes) (p : List Nat), chunks4 fuel b = some p → ∀ n ∈ p, n < 2^32 := by
  induction fuel with
  | zero => intro b p h; simp [chunks4] at h
  | succ f ih =>
    intro b p h
    simp only [chunks4] at h
    split at h
    · simp at h; subst h; simp
    · split at h
      · simp at h
      · rename_i hl
        split at h
        · simp at h
        · rename_i rest hr
          simp at h; subst h
          intro n hn
          simp at hn
          rcases hn with rfl | hn
          · have := ofLe_lt (b.take 4)
            have ht : (b.take 4).length = 4 := by simp; omega
            rw [ht] at this; omega
          · exact ih _ _ hr n hn

theorem chunks4_nil_of_empty (fuel : Nat) (p : List Nat) (h : chunks4 fuel [] = some p) : p = [] := by
  cases fuel with
  | zero => simp [chunks4] at h
  | succ f => simp [chunks4] at h; exact h

/-- what the derivation parser returns is well-formed (the length bound is that of the value it was read from) -/
theorem Deriv.parse_wf {v : Bytes} {d : Deriv} (h : Deriv.parse v = some d) (hv : Fits v) : DerivWF d := by
  have hs := Deriv.ser_parse h
  unfold Deriv.parse at h
  split at h
  · simp at h
  · rename_i p hp
    simp at h; subst h
    refine ⟨?_, chunks4_lt _ _ _ hp, by rw [hs]; exact hv⟩
    by_cases hl : 4 ≤ v.length
    · left; simp; omega
    · right
      refine ⟨by simp; omega, ?_⟩
      have : v.drop 4 = [] := by simp; omega
      rw [this] at hp
      exact chunks4_nil_of_empty _ _ hp

theorem readMany_takeN32 (hs : List Bytes) (r : Bytes) (h : ∀ x ∈ hs, x.length = 32) :
    readMany (takeN 32) hs.length (hs.flatten ++ r) = some (hs, r) := by
  have := readMany_enc (takeN 32) id hs r (fun x hx r => by
    have := takeN_append x r; rw [h x hx] at this; exact this)
  simpa [List.flatMap_def] using this

theorem tapDerivParse_ser (x : List Bytes × Deriv) (h : TapDerivWF x) : tapDerivParse (tapDerivSer x) = some x := by
  obtain ⟨h1, h2, h3, _⟩ := h
  unfold tapDerivParse tapDerivSer
  simp only [List.append_assoc, Compact.read_enc _ _ h1, readMany_takeN32 _ _ h2, Deriv.parse_ser _ h3]

theorem takeN32_len (n : Nat) (b : Bytes) (hs : List Bytes) (r : Bytes)
    (h : readMany (takeN 32) n b = some (hs, r)) : ∀ x ∈ hs, x.length = 32 :=
  (readMany_sound (takeN 32) id (fun x => x.length = 32)
    (fun b x r hx => ⟨(takeN_sound hx).1, (takeN_sound hx).2⟩) n b hs r h).2.2

theorem tapDerivParse_wf {v : Bytes} {x : List Bytes × Deriv} (h : tapDerivParse v = some x) (hv : Fits v) :
    TapDerivWF x := by
  have hs := tapDeriv_ser_parse h
  unfold tapDerivParse at h
  split at h
  · simp at h
  · rename_i n r hn
    obtain ⟨e1, l1⟩ := Compact.read_sound hn
    split at h
    · simp at h
    · rename_i hashes r2 hh
      obtain ⟨e2, l2⟩ := takeN32_flatten _ _ _ _ hh
      split at h
      · simp at h
      · rename_i d hd
        simp at h; subst h
        have hr2 : Fits r2 := by
          have : v.length = (Compact.enc n).length + (hashes.flatten.length + r2.length) := by
            rw [e1, e2]; simp
          unfold Fits at hv ⊢; omega
        exact ⟨by simp [l2]; exact l1, takeN32_len _ _ _ _ hh, Deriv.parse_wf hd hr2, by rw [hs]; exact hv⟩

/-- an input-scope key no typed field is written under (it is kept in `unknown`) -/
def unkKeyIn : Bytes → Bool
  | [] => false
  | k0 :: kr => !typedIn k0 && !txFieldKey (k0 :: kr)

def unkKeyOut : Bytes → Bool
  | [] => false
  | k0 :: kr => !typedOut k0 && !txFieldKeyOut (k0 :: kr)

/-- a global key `parse_unknowns` leaves in `unknown` (`isV2`: the PSBT is version 2) -/
def unkKeyGlobal (isV2 : Bool) : Bytes → Bool
  | [] => false
  | k0 :: kr => !(k0 == 0x01) && !(k0 :: kr == [0x00]) && !(k0 :: kr == [0xfb])
      && !(isV2 && (k0 :: kr == [0x02] || k0 :: kr == [0x03] || k0 :: kr == [0x04] || k0 :: kr == [0x05]))

/-- well-formed input scope: what `InputScope.read_from` (KEEP_ALL) can return. Every clause is a size bound of the
    wire format, a validity check `read_value` performs, or the absence of duplicate keys. -/
structure InWF (ko : KeyOps) (s : InScope) : Prop where
  utxoS : s.utxoS = none
  txhash : s.txhash = none
  verified : s.verified = false
  txid : OptP (fun t => t.length = 32) s.txid
  vout : OptP (· < 2^32) s.vout
  sequence : OptP (· < 2^32) s.sequence
  nwu : OptP (fun t => WF t ∧ Fits (Tx.ser t)) s.nonWitnessUtxo
  wu : OptP (fun o => WFOut o ∧ Fits (TxOut.ser o)) s.witnessUtxo
  psigs : ∀ e ∈ s.partialSigs, ko.validSec e.1 = true ∧ Fits (0x02 :: e.1) ∧ Fits e.2
  psigsNodup : (s.partialSigs.map Prod.fst).Nodup
  sighash : OptP (· < 2^32) s.sighashType
  redeem : OptP Fits s.redeemScript
  wscript : OptP Fits s.witnessScript
  bip32 : ∀ e ∈ s.bip32, ko.validSec e.1 = true ∧ Fits (0x06 :: e.1) ∧ DerivWF e.2
  bip32Nodup : (s.bip32.map Prod.fst).Nodup
  fsig : OptP Fits s.finalScriptSig
  fwit : OptP (fun w => w.length < 2^64 ∧ (∀ d ∈ w, Fits d) ∧ Fits (witnessSer w)) s.finalWitness
  tapSigs : ∀ e ∈ s.tapSigs, e.1.length = 64 ∧ ko.validX (e.1.take 32) = true ∧ Fits e.2
  tapSigsNodup : (s.tapSigs.map Prod.fst).Nodup
  tapScripts : ∀ e ∈ s.tapScripts, Fits (0x15 :: e.1) ∧ Fits e.2
  tapScriptsNodup : (s.tapScripts.map Prod.fst).Nodup
  tapBip32 : ∀ e ∈ s.tapBip32, e.1.length = 32 ∧ ko.validX e.1 = true ∧ TapDerivWF e.2
  tapBip32Nodup : (s.tapBip32.map Prod.fst).Nodup
  tapIK : OptP (fun v => v.length = 32 ∧ ko.validX v = true) s.tapInternalKey
  tapMR : OptP Fits s.tapMerkleRoot
  unknown : ∀ kv ∈ s.unknown, KVWF kv ∧ unkKeyIn kv.1 = true
  unknownNodup : (s.unknown.map Prod.fst).Nodup

instance (ko : KeyOps) (s : InScope) : Decidable (InWF ko s) :=
  decidable_of_iff (s.utxoS = none ∧ s.txhash = none ∧ s.verified = false
      ∧ OptP (fun t => t.length = 32) s.txid ∧ OptP (· < 2^32) s.vout ∧ OptP (· < 2^32) s.sequence
      ∧ OptP (fun t => WF t ∧ Fits (Tx.ser t)) s.nonWitnessUtxo
      ∧ OptP (fun o => WFOut o ∧ Fits (TxOut.ser o)) s.witnessUtxo
      ∧ (∀ e ∈ s.partialSigs, ko.validSec e.1 = true ∧ Fits (0x02 :: e.1) ∧ Fits e.2)
      ∧ (s.partialSigs.map Prod.fst).Nodup
      ∧ OptP (· < 2^32) s.sighashType ∧ OptP Fits s.redeemScript ∧ OptP Fits s.witnessScript
      ∧ (∀ e ∈ s.bip32, ko.validSec e.1 = true ∧ Fits (0x06 :: e.1) ∧ DerivWF e.2)
      ∧ (s.bip32.map Prod.fst).Nodup
      ∧ OptP Fits s.finalScriptSig
      ∧ OptP (fun w => w.length < 2^64 ∧ (∀ d ∈ w, Fits d) ∧ Fits (witnessSer w)) s.finalWitness
      ∧ (∀ e ∈ s.tapSigs, e.1.length = 64 ∧ ko.validX (e.1.take 32) = true ∧ Fits e.2)
      ∧ (s.tapSigs.map Prod.fst).Nodup
      ∧ (∀ e ∈ s.tapScripts, Fits (0x15 :: e.1) ∧ Fits e.2)
      ∧ (s.tapScripts.map Prod.fst).Nodup
      ∧ (∀ e ∈ s.tapBip32, e.1.length = 32 ∧ ko.validX e.1 = true ∧ TapDerivWF e.2)
      ∧ (s.tapBip32.map Prod.fst).Nodup
      ∧ OptP (fun v => v.length = 32 ∧ ko.validX v = true) s.tapInternalKey
      ∧ OptP Fits s.tapMerkleRoot
      ∧ (∀ kv ∈ s.unknown, KVWF kv ∧ unkKeyIn kv.1 = true)
      ∧ (s.unknown.map Prod.fst).Nodup)
    ⟨fun ⟨a1, a2, a3, a4, a5, a6, a7, a8, a9, a10, a11, a12, a13, a14, a15, a16, a17, a18, a19, a20, a21, a22, a23,
          a24, a25, a26, a27⟩ =>
        ⟨a1, a2, a3, a4, a5, a6, a7, a8, a9, a10, a11, a12, a13, a14, a15, a16, a17, a18, a19, a20, a21, a22, a23,
          a24, a25, a26, a27⟩,
     fun ⟨a1, a2, a3, a4, a5, a6, a7, a8, a9, a10, a11, a12, a13, a14, a15, a16, a17, a18, a19, a20, a21, a22, a23,
          a24, a25, a26, a27⟩ =>
        ⟨a1, a2, a3, a4, a5, a6, a7, a8, a9, a10, a11, a12, a13, a14, a15, a16, a17, a18, a19, a20, a21, a22, a23,
          a24, a25, a26, a27⟩⟩

structure OutWF (ko : KeyOps) (s : OutScope) : Prop where
  value : OptP (· < 2^64) s.value
  spk : OptP Fits s.spk
  redeem : OptP Fits s.redeemScript
  wscript : OptP Fits s.witnessScript
  bip32 : ∀ e ∈ s.bip32, ko.validSec e.1 = true ∧ Fits (0x02 :: e.1) ∧ DerivWF e.2
  bip32Nodup : (s.bip32.map Prod.fst).Nodup
  tapBip32 : ∀ e ∈ s.tapBip32, e.1.length = 32 ∧ ko.validX e.1 = true ∧ TapDerivWF e.2
  tapBip32Nodup : (s.tapBip32.map Prod.fst).Nodup
  tapIK : OptP (fun v => v.length = 32 ∧ ko.validX v = true) s.tapInternalKey
  unknown : ∀ kv ∈ s.unknown, KVWF kv ∧ unkKeyOut kv.1 = true
  unknownNodup : (s.unknown.map Prod.fst).Nodup

instance (ko : KeyOps) (s : OutScope) : Decidable (OutWF ko s) :=
  decidable_of_iff (OptP (· < 2^64) s.value ∧ OptP Fits s.spk ∧ OptP Fits s.redeemScript ∧ OptP Fits s.witnessScript
      ∧ (∀ e ∈ s.bip32, ko.validSec e.1 = true ∧ Fits (0x02 :: e.1) ∧ DerivWF e.2)
      ∧ (s.bip32.map Prod.fst).Nodup
      ∧ (∀ e ∈ s.tapBip32, e.1.length = 32 ∧ ko.validX e.1 = true ∧ TapDerivWF e.2)
      ∧ (s.tapBip32.map Prod.fst).Nodup
      ∧ OptP (fun v => v.length = 32 ∧ ko.validX v = true) s.tapInternalKey
      ∧ (∀ kv ∈ s.unknown, KVWF kv ∧ unkKeyOut kv.1 = true)
      ∧ (s.unknown.map Prod.fst).Nodup)
    ⟨fun ⟨a1, a2, a3, a4, a5, a6, a7, a8, a9, a10, a11⟩ => ⟨a1, a2, a3, a4, a5, a6, a7, a8, a9, a10, a11⟩,
     fun ⟨a1, a2, a3, a4, a5, a6, a7, a8, a9, a10, a11⟩ => ⟨a1, a2, a3, a4, a5, a6, a7, a8, a9, a10, a11⟩⟩

/-- what distinguishes a version-0 object: every scope carries its transaction fields (they come from the global
    unsigned transaction), there is at least one input (embit cannot serialise a transaction without inputs),
    the transaction version and locktime are set, and the transaction fits a length prefix -/
structure V0WF (p : Psbt) : Prop where
  txVersion : p.txVersion.isSome = true
  locktime : p.locktime.isSome = true
  nin : 1 ≤ p.inputs.length
  ins : ∀ s ∈ p.inputs, InSeeded s
  outs : ∀ s ∈ p.outputs, OutSeeded s
  txFits : OptP (fun t => Fits (Tx.ser t)) p.tx

instance (s : InScope) : Decidable (InSeeded s) := by unfold InSeeded; infer_instance
instance (s : OutScope) : Decidable (OutSeeded s) := by unfold OutSeeded; infer_instance

instance (p : Psbt) : Decidable (V0WF p) :=
  decidable_of_iff (p.txVersion.isSome = true ∧ p.locktime.isSome = true ∧ 1 ≤ p.inputs.length
      ∧ (∀ s ∈ p.inputs, InSeeded s) ∧ (∀ s ∈ p.outputs, OutSeeded s) ∧ OptP (fun t => Fits (Tx.ser t)) p.tx)
    ⟨fun ⟨a1, a2, a3, a4, a5, a6⟩ => ⟨a1, a2, a3, a4, a5, a6⟩, fun ⟨a1, a2, a3, a4, a5, a6⟩ => ⟨a1, a2, a3, a4, a5, a6⟩⟩

/-- well-formed PSBT object: what `PSBT.parse` (KEEP_ALL) can return -/
structure PsbtWF (ko : KeyOps) (p : Psbt) : Prop where
  version : OptP (· < 2^32) p.version
  txVersion : OptP (· < 2^32) p.txVersion
  locktime : OptP (· < 2^32) p.locktime
  xpubs : ∀ e ∈ p.xpubs, ko.validXpub e.1 = true ∧ Fits (0x01 :: e.1) ∧ DerivWF e.2
  xpubsNodup : (p.xpubs.map Prod.fst).Nodup
  unknown : ∀ kv ∈ p.unknown, KVWF kv ∧ unkKeyGlobal (p.version == some 2) kv.1 = true
  unknownNodup : (p.unknown.map Prod.fst).Nodup
  nin : p.inputs.length < 2^64
  nout : p.outputs.length < 2^64
  ins : ∀ s ∈ p.inputs, InWF ko s
  outs : ∀ s ∈ p.outputs, OutWF ko s
  v0 : p.version ≠ some 2 → V0WF p

instance (ko : KeyOps) (p : Psbt) : Decidable (PsbtWF ko p) :=
  decidable_of_iff (OptP (· < 2^32) p.version ∧ OptP (· < 2^32) p.txVersion ∧ OptP (· < 2^32) p.locktime
      ∧ (∀ e ∈ p.xpubs, ko.validXpub e.1 = true ∧ Fits (0x01 :: e.1) ∧ DerivWF e.2)
      ∧ (p.xpubs.map Prod.fst).Nodup
      ∧ (∀ kv ∈ p.unknown, KVWF kv ∧ unkKeyGlobal (p.version == some 2) kv.1 = true)
      ∧ (p.unknown.map Prod.fst).Nodup
      ∧ p.inputs.length < 2^64 ∧ p.outputs.length < 2^64
      ∧ (∀ s ∈ p.inputs, InWF ko s) ∧ (∀ s ∈ p.outputs, OutWF ko s) ∧ (p.version ≠ some 2 → V0WF p))
    ⟨fun ⟨a1, a2, a3, a4, a5, a6, a7, a8, a9, a10, a11, a12⟩ => ⟨a1, a2, a3, a4, a5, a6, a7, a8, a9, a10, a11, a12⟩,
     fun ⟨a1, a2, a3, a4, a5, a6, a7, a8, a9, a10, a11, a12⟩ => ⟨a1, a2, a3, a4, a5, a6, a7, a8, a9, a10, a11, a12⟩⟩

end Embit
