import EmbitModel.Model.DescKeys
import EmbitModel.Proofs.Base58
/-
  C12: the Base58Check codec of the DESCRIPTOR key layer (`Model/DescKeys.lean`, the record the
  driver evaluates) is the C11 model `Model/Base58.lean` — bridge lemmas, function by function — so the canonicity
  theorem of C11 (`Base58.encode_decode`: an accepted text is the encoding of what it decodes to) applies to it.
  Nothing about round trips is re-proved here.
-/
namespace Embit.Model.Descriptor.Concrete
open Embit Embit.Model Embit.Digits

theorem B58_eq : B58 = Base58.digits := by decide +kernel

theorem findIdx_eq (l : Str) (c : Char) : findIdx l c = l.idxOf? c := by
  induction l with
  | nil => simp [findIdx]
  | cons x xs ih =>
    simp only [findIdx, List.idxOf?_cons]
    by_cases h : x = c
    · simp [h]
    · simp [h, ih]

theorem findIdx_B58 (c : Char) : findIdx B58 c = Base58.digitVal c := by
  rw [findIdx_eq, B58_eq]
  unfold Base58.digitVal
  cases Base58.digits.idxOf? c <;> rfl

theorem getD_B58 (r : Nat) : B58.getD r '1' = Base58.digitChar r := by
  rw [B58_eq]; rfl

theorem b58value_eq : ∀ (s : Str) (n : Nat), b58value s n = Base58.accumulate n s := by
  intro s
  induction s with
  | nil => intro n; rfl
  | cons c r ih =>
    intro n
    simp only [b58value, Base58.accumulate, findIdx_B58]
    cases Base58.digitVal c with
    | none => rfl
    | some d => simp only []; rw [ih, Nat.mul_comm]

theorem leadingOnes_eq : ∀ s : Str, leadingOnes s = Base58.leadingOnes s := by
  intro s
  induction s with
  | nil => rfl
  | cons c r ih =>
    by_cases h : c = '1'
    · subst h; simp [leadingOnes, Base58.leadingOnes, ih]
    · simp only [Base58.leadingOnes, h, if_false]
      unfold leadingOnes
      split
      · rename_i heq; simp at heq; exact absurd heq.1 h
      · rfl

theorem leN_eq_minBytes : ∀ (k n : Nat), n ≠ 0 → 256 ^ (k - 1) ≤ n → n < 256 ^ k → leN k n = Base58.minBytesLE n := by
  intro k
  induction k with
  | zero => intro n h0 _ h; simp at h; exact absurd h h0
  | succ k ih =>
    intro n h0 hlo hhi
    rw [Base58.minBytesLE]
    simp only [h0, dite_false, leN]
    congr 1
    by_cases hk : k = 0
    · subst hk
      have : n / 256 = 0 := by simp at hhi; omega
      rw [this, Base58.minBytesLE]; simp [leN]
    · have hk1 : k = (k - 1) + 1 := by omega
      simp only [Nat.add_sub_cancel] at hlo
      have e : 256 ^ (k - 1) * 256 = 256 ^ k := by rw [← Nat.pow_succ]; congr 1; omega
      have hlo' : 256 ^ (k - 1) * 256 ≤ n := by rw [e]; exact hlo
      have hd : 256 ^ (k - 1) ≤ n / 256 := by
        rw [Nat.le_div_iff_mul_le (by decide)]; exact hlo'
      have hpos : 0 < 256 ^ (k - 1) := Nat.pow_pos (by decide)
      apply ih
      · omega
      · exact hd
      · rw [Nat.div_lt_iff_lt_mul (by decide)]; rw [Nat.pow_succ] at hhi; exact hhi

theorem minimalBe_eq (n : Nat) : minimalBe n = Base58.hexBytes n := by
  unfold minimalBe Base58.hexBytes
  by_cases h0 : n = 0
  · simp [h0]
  · simp only [h0, if_false, beN]
    congr 1
    have h1 : 2 ^ n.log2 ≤ n := Nat.log2_self_le h0
    have h2 : n < 2 ^ (n.log2 + 1) := Nat.lt_log2_self
    have e256 : ∀ j, (256 : Nat) ^ j = 2 ^ (8 * j) := by
      intro j; rw [Nat.pow_mul]
    apply leN_eq_minBytes _ _ h0
    · simp only [Nat.add_sub_cancel]
      rw [e256]
      exact Nat.le_trans (Nat.pow_le_pow_right (by decide) (by omega)) h1
    · rw [e256]
      exact Nat.lt_of_lt_of_le h2 (Nat.pow_le_pow_right (by decide) (by omega))

theorem b58decode_eq (s : Str) : b58decode s = Base58.decode s := by
  unfold b58decode Base58.decode
  simp only [b58value_eq, leadingOnes_eq, minimalBe_eq]
  split
  · rfl
  · cases Base58.accumulate 0 s <;> rfl

theorem leadingZeros_eq : ∀ b : Bytes, leadingZeros b = Base58.leadingZeros b := by
  intro b
  induction b with
  | nil => rfl
  | cons c r ih =>
    by_cases h : c = 0
    · subst h; simp [leadingZeros, Base58.leadingZeros, ih]
    · simp only [Base58.leadingZeros, h, if_false]
      unfold leadingZeros
      split
      · rename_i heq; simp at heq; exact absurd heq.1 h
      · rfl

theorem b58Digits_eq : ∀ (fuel n : Nat) (acc : Str), n < 58 ^ fuel →
    b58Digits fuel n acc = (Base58.loopChars n).reverse ++ acc := by
  intro fuel
  induction fuel with
  | zero =>
    intro n acc h
    have : n = 0 := by simp at h; exact h
    subst this
    rw [Base58.loopChars]; simp [b58Digits]
  | succ f ih =>
    intro n acc h
    rw [Base58.loopChars]
    by_cases h0 : n = 0
    · simp [b58Digits, h0]
    · simp only [b58Digits, h0, if_false, dite_false, getD_B58]
      rw [ih]
      · simp
      · rw [Nat.div_lt_iff_lt_mul (by decide)]; rw [Nat.pow_succ] at h; exact h

theorem pow256_le_pow58 (k : Nat) : 256 ^ k ≤ 58 ^ (2 * k + 2) := by
  have h1 : (256 : Nat) ^ k ≤ (58 ^ 2) ^ k := Nat.pow_le_pow_left (by decide) k
  rw [← Nat.pow_mul] at h1
  exact Nat.le_trans h1 (Nat.pow_le_pow_right (by decide) (by omega))

theorem b58encode_eq (b : Bytes) : b58encode b = Base58.encode b := by
  unfold b58encode Base58.encode
  simp only [leadingZeros_eq]
  rw [b58Digits_eq _ _ _ (Nat.lt_of_lt_of_le (ofBe_lt b) (pow256_le_pow58 _))]
  simp

theorem b58decodeCheck_sound (s : Str) (body : Bytes) (h : b58decodeCheck s = some body) :
    b58encodeCheck body = s ∧ ∃ b, Base58.decode s = some b ∧ b.length = body.length + 4 := by
  unfold b58decodeCheck at h
  rw [b58decode_eq] at h
  cases hd : Base58.decode s with
  | none => simp [hd] at h
  | some b =>
    simp only [hd] at h
    split at h
    · simp at h
    · rename_i hlen
      split at h
      · rename_i hck
        simp only [Option.some.injEq] at h
        have hb : b = body ++ (dsha256 body).take 4 := by
          rw [← h, ← hck]; exact (List.take_append_drop _ _).symm
        refine ⟨?_, b, rfl, ?_⟩
        · unfold b58encodeCheck
          rw [b58encode_eq, ← hb]
          exact Base58.encode_decode s b hd
        · rw [← h]; simp; omega
      · simp at h

theorem b58decodeCheck_chars (s : Str) (body : Bytes) (h : b58decodeCheck s = some body) :
    ∀ c ∈ s, c ∈ Base58.digits := by
  obtain ⟨_, b, hb, _⟩ := b58decodeCheck_sound s body h
  exact (Base58.decode_isSome_iff s).mp (by simp [hb])

theorem minBytesLE_length : ∀ (k n : Nat), n < 256 ^ k → (Base58.minBytesLE n).length ≤ k := by
  intro k
  induction k with
  | zero => intro n h; have : n = 0 := by simp at h; exact h
            subst this; rw [Base58.minBytesLE]; simp
  | succ k ih =>
    intro n h
    rw [Base58.minBytesLE]
    by_cases h0 : n = 0
    · simp [h0]
    · simp only [h0, dite_false, List.length_cons]
      have := ih (n / 256) (by rw [Nat.div_lt_iff_lt_mul (by decide)]; rw [Nat.pow_succ] at h; exact h)
      omega

theorem accumulate_lt : ∀ (s : Str) (a n : Nat), Base58.accumulate a s = some n → n < (a + 1) * 58 ^ s.length := by
  intro s
  induction s with
  | nil => intro a n h; simp [Base58.accumulate] at h; subst h; simp
  | cons c r ih =>
    intro a n h
    simp only [Base58.accumulate] at h
    cases hv : Base58.digitVal c with
    | none => simp [hv] at h
    | some d =>
      simp only [hv] at h
      have hd := (Base58.digitVal_some hv).1
      have := ih _ _ h
      simp only [List.length_cons, Nat.pow_succ]
      calc n < (a * 58 + d + 1) * 58 ^ r.length := this
        _ ≤ ((a + 1) * 58) * 58 ^ r.length := Nat.mul_le_mul_right _ (by omega)
        _ = (a + 1) * (58 ^ r.length * 58) := by rw [Nat.mul_assoc, Nat.mul_comm 58]

theorem leadingOnes_le : ∀ s : Str, Base58.leadingOnes s ≤ s.length := by
  intro s
  induction s with
  | nil => simp [Base58.leadingOnes]
  | cons c r ih => simp only [Base58.leadingOnes]; split <;> simp <;> omega

theorem decode_short (s : Str) (b : Bytes) (hs : s.length ≤ 3) (h : Base58.decode s = some b) : b.length ≤ 5 := by
  unfold Base58.decode at h
  split at h
  · simp at h; subst h; simp
  · cases ha : Base58.accumulate 0 s with
    | none => simp [ha] at h
    | some n =>
      simp only [ha, Option.some.injEq] at h
      subst h
      have hn := accumulate_lt s 0 n ha
      have hn3 : n < 256 ^ 3 := by
        have : 58 ^ s.length ≤ 58 ^ 3 := Nat.pow_le_pow_right (by decide) hs
        have e : (58 : Nat) ^ 3 = 195112 := by decide
        have e2 : (256 : Nat) ^ 3 = 16777216 := by decide
        omega
      have hl := minBytesLE_length 3 n hn3
      have hp := leadingOnes_le s.dropLast
      have hdl : s.dropLast.length ≤ 2 := by simp; omega
      simp only [List.length_append, List.length_replicate, Base58.hexBytes]
      split
      · simp; omega
      · simp; omega

theorem b58decodeCheck_textShape (s : Str) (body : Bytes) (h : b58decodeCheck s = some body) (hl : 2 ≤ body.length) :
    4 ≤ s.length ∧ s.head? ≠ some '[' := by
  obtain ⟨_, b, hb, hbl⟩ := b58decodeCheck_sound s body h
  constructor
  · by_cases hc : 4 ≤ s.length
    · exact hc
    · have := decode_short s b (by omega) hb
      omega
  · intro hh
    cases s with
    | nil => simp at hh
    | cons c r =>
      simp at hh
      subst hh
      have := b58decodeCheck_chars _ body h '[' (by simp)
      rw [← B58_eq] at this
      revert this
      decide

end Embit.Model.Descriptor.Concrete
