import EmbitModel.Proofs.KeysCodec
/-
  Rejection classes of the private-key, WIF and extended-key decoders: for every input in the class the decoder
  returns `none` (the SEC classes are in `Proofs/SecSpec.lean`); with them what an accepted private key or
  extended-key stream looks like (`privInit_sound`, `privParse_sound`, `readFrom_some`).
-/
namespace Embit.Keys
open Embit

variable {E : EcOps}

theorem priv_wrong_length (secret : Bytes) (c : Bool) (net : Nat) (h : secret.length ≠ 32) :
    PrivateKey.init E secret c net = none := by
  simp [PrivateKey.init, h]

theorem priv_bad_scalar (secret : Bytes) (c : Bool) (net : Nat) (h : ofBe secret = 0 ∨ ofBe secret ≥ E.n) :
    PrivateKey.init E secret c net = none := by
  unfold PrivateKey.init
  split
  · rfl
  · have : seckeyValid E (ofBe secret) = false := by
      simp only [seckeyValid, Bool.and_eq_false_iff, decide_eq_false_iff_not]; omega
    simp [this]

theorem wif_bad_checksum (env : Env) (s : Text) (h : env.b58dec s = none) : PrivateKey.fromWif E env s = none := by
  simp [PrivateKey.fromWif, h]

theorem wif_unknown_version (env : Env) (s : Text) (b : Bytes) (h : env.b58dec s = some b)
    (hv : wifNetwork (b.take 1) = none) : PrivateKey.fromWif E env s = none := by
  simp [PrivateKey.fromWif, h, hv]

theorem wif_wrong_length (env : Env) (s : Text) (b : Bytes) (h : env.b58dec s = some b)
    (hl : b.length ≠ 33 ∧ b.length ≠ 34) : PrivateKey.fromWif E env s = none := by
  unfold PrivateKey.fromWif
  rw [h]
  simp only
  split
  · rfl
  · rw [if_neg hl.1, if_neg hl.2]

theorem wif_bad_flag (env : Env) (s : Text) (b : Bytes) (h : env.b58dec s = some b) (hl : b.length = 34)
    (hf : b.getLast? ≠ some 0x01) : PrivateKey.fromWif E env s = none := by
  unfold PrivateKey.fromWif
  rw [h]
  simp only
  split
  · rfl
  · rw [if_neg (by omega), if_pos hl, if_neg hf]

theorem wif_bad_scalar (env : Env) (s : Text) (b : Bytes) (h : env.b58dec s = some b)
    (hs : ofBe ((b.drop 1).take 32) = 0 ∨ ofBe ((b.drop 1).take 32) ≥ E.n) : PrivateKey.fromWif E env s = none := by
  unfold PrivateKey.fromWif
  rw [h]
  simp only
  split
  · rfl
  · split
    · exact priv_bad_scalar _ _ _ hs
    · split
      · split
        · exact priv_bad_scalar _ _ _ hs
        · rfl
      · rfl

theorem readFrom_some (env : Env) (s : Bytes) (hd : HDKey E) (rest : Bytes)
    (h : HDKey.readFrom E env s = some (hd, rest)) :
    ∃ d s2 k0 kr key,
      s.drop 4 = d :: s2 ∧ (s2.drop 40).take 33 = k0 :: kr ∧ readKeyField E k0 kr = some key ∧
      (s.take 4).length = 4 ∧ (s2.take 4).length = 4 ∧ ((s2.drop 8).take 32).length = 32 ∧
      HDKey.init env key ((s2.drop 8).take 32) (some (s.take 4)) d.toNat (s2.take 4) (ofBe ((s2.drop 4).take 4)) = some hd ∧
      ¬ (d.toNat = 0 ∧ ofBe ((s2.drop 4).take 4) ≠ 0) ∧ ¬ (d.toNat = 0 ∧ s2.take 4 ≠ [0, 0, 0, 0]) ∧
      rest = (s2.drop 40).drop 33 := by
  unfold HDKey.readFrom at h
  split at h
  · cases h
  · rename_i d s2 hs
    split at h
    · cases h
    · rename_i k0 kr hk
      split at h
      · cases h
      · rename_i key hkey
        split at h
        · cases h
        · rename_i hlen
          split at h
          · cases h
          · rename_i hd' hinit
            split at h
            · cases h
            · split at h
              · cases h
              · split at h
                · cases h
                · rename_i h00
                  split at h
                  · cases h
                  · rename_i h01
                    simp only [Option.some.injEq, Prod.mk.injEq] at h
                    refine ⟨d, s2, k0, kr, key, hs, hk, hkey, ?_, ?_, ?_, ?_, h00, h01, h.2.symm⟩
                    · have := List.length_take_le 4 s; omega
                    · have := List.length_take_le 4 s2; omega
                    · have := List.length_take_le 32 (s2.drop 8); omega
                    · rw [← h.1]; exact hinit

theorem HDKey.parse_eq_parseAll (env : Env) (b : Bytes) :
    HDKey.parse E env b = Model.parseAll (HDKey.readFrom E env) b := by
  unfold HDKey.parse Model.parseAll
  rcases HDKey.readFrom E env b with _ | ⟨k, _ | _⟩ <;> rfl

/-- `parse` accepts what `read_from` reads to the end -/
theorem HDKey.parse_eq_some {env : Env} {b : Bytes} {k : HDKey E} :
    HDKey.parse E env b = some k ↔ HDKey.readFrom E env b = some (k, []) := by
  rw [HDKey.parse_eq_parseAll]; exact parseAll_eq_some

theorem xkey_too_short (env : Env) (b : Bytes) (h : b.length < 78) : HDKey.parse E env b = none :=
  Option.eq_none_iff_forall_ne_some.mpr fun k hp => by
    obtain ⟨d, s2, k0, kr, key, hs, hk, hkey, _⟩ := readFrom_some env b k [] (HDKey.parse_eq_some.mp hp)
    have h1 := congrArg List.length hs
    have h2 := congrArg List.length hk
    simp only [List.length_drop, List.length_cons, List.length_take] at h1 h2
    have hkr : kr.length < 32 := by omega
    unfold readKeyField at hkey
    split at hkey
    · simp only [PrivateKey.parse, PrivateKey.init, List.length_take] at hkey
      rw [if_pos (by omega)] at hkey
      cases hkey
    · rw [sec_wrong_length (E := E) (k0 :: kr) (by simp only [List.length_cons]; omega)] at hkey
      cases hkey

theorem xkey_too_long (env : Env) (b : Bytes) (h : 78 < b.length) : HDKey.parse E env b = none :=
  Option.eq_none_iff_forall_ne_some.mpr fun k hp => by
    obtain ⟨d, s2, k0, kr, key, hs, _, _, _, _, _, _, _, _, hrest⟩ :=
      readFrom_some env b k [] (HDKey.parse_eq_some.mp hp)
    have h1 := congrArg List.length hs
    have h3 := congrArg List.length hrest
    simp only [List.length_drop, List.length_cons, List.length_nil] at h1 h3
    omega

theorem xkey_depth0_index (env : Env) (b : Bytes) (d : UInt8) (s2 : Bytes) (hs : b.drop 4 = d :: s2)
    (hd : d = 0) (hi : ofBe ((s2.drop 4).take 4) ≠ 0) : HDKey.parse E env b = none :=
  Option.eq_none_iff_forall_ne_some.mpr fun k hp => by
    obtain ⟨d', s2', _, _, _, hs', _, _, _, _, _, _, h00, _, _⟩ :=
      readFrom_some env b k [] (HDKey.parse_eq_some.mp hp)
    obtain ⟨rfl, rfl⟩ := List.cons.inj (hs.symm.trans hs')
    subst hd
    exact h00 ⟨rfl, hi⟩

theorem xkey_depth0_parent (env : Env) (b : Bytes) (d : UInt8) (s2 : Bytes) (hs : b.drop 4 = d :: s2)
    (hd : d = 0) (hf : s2.take 4 ≠ [0, 0, 0, 0]) : HDKey.parse E env b = none :=
  Option.eq_none_iff_forall_ne_some.mpr fun k hp => by
    obtain ⟨d', s2', _, _, _, hs', _, _, _, _, _, _, _, h01, _⟩ :=
      readFrom_some env b k [] (HDKey.parse_eq_some.mp hp)
    obtain ⟨rfl, rfl⟩ := List.cons.inj (hs.symm.trans hs')
    subst hd
    exact h01 ⟨rfl, hf⟩

theorem privInit_fields (sec : Bytes) (c : Bool) (net : Nat) (k : PrivateKey)
    (h : PrivateKey.init E sec c net = some k) : k = ⟨ofBe sec, c, net⟩ ∧ seckeyValid E (ofBe sec) = true := by
  unfold PrivateKey.init at h
  split at h
  · cases h
  · split at h
    · rename_i hv
      exact ⟨(Option.some.inj h).symm, hv⟩
    · cases h

theorem privInit_sound (sec : Bytes) (c : Bool) (net : Nat) (k : PrivateKey)
    (h : PrivateKey.init E sec c net = some k) :
    k.serialize = sec ∧ sec.length = 32 ∧ k.compressed = c ∧ k.network = net ∧ seckeyValid E k.secret = true := by
  obtain ⟨hk, hv⟩ := privInit_fields sec c net k h
  have hl : sec.length = 32 := by
    unfold PrivateKey.init at h
    split at h
    · cases h
    · rename_i hne; simpa using hne
  subst hk
  exact ⟨by simp [PrivateKey.serialize, beN32_ofBe sec hl], hl, rfl, rfl, hv⟩

theorem privParse_sound (b : Bytes) (k : PrivateKey) (h : PrivateKey.parse E b = some k) :
    k.serialize = b ∧ b.length = 32 ∧ k.compressed = true ∧ k.network = Generated.privDefaultNet
      ∧ seckeyValid E k.secret = true := by
  unfold PrivateKey.parse at h
  cases hi : PrivateKey.init E (b.take 32) with
  | none => simp [hi] at h
  | some k' =>
    simp only [hi] at h
    split at h
    · rename_i hd
      have := Option.some.inj h
      subst this
      obtain ⟨hs, hl, hc, hn, hv⟩ := privInit_sound _ _ _ _ hi
      have hb : b.take 32 = b := by
        have := List.take_append_drop 32 b
        rw [hd, List.append_nil] at this
        exact this
      rw [hb] at hs hl
      exact ⟨hs, hl, hc, hn, hv⟩
    · cases h

theorem readKeyField_canon (k0 : UInt8) (kr : Bytes) (key : KeyObj E) (hl : kr.length ≤ 32)
    (h : readKeyField E k0 kr = some key) : key.Canon ∧ (key.isPrivate = true ↔ k0 = 0) := by
  unfold readKeyField at h
  split at h
  · rename_i h0
    obtain ⟨pk, hpk, rfl⟩ := Option.map_eq_some_iff.mp h
    exact ⟨(privParse_sound kr pk hpk).2.2.1, by simp [KeyObj.isPrivate, h0]⟩
  · rename_i h0
    obtain ⟨pk, hp, rfl⟩ := Option.map_eq_some_iff.mp h
    refine ⟨?_, by simp [KeyObj.isPrivate, h0]⟩
    obtain ⟨_, hlen, hc⟩ := parse_some_shape hp
    rw [KeyObj.Canon, hc]
    unfold secBody at hlen
    split at hlen
    · omega
    · rename_i h4; simp [h4]

/-- version bytes of the wrong kind: a version that always renders `?pub…` on a private key field (first key
    byte 00), or one that always renders `?prv…` on a public key field -/
theorem xkey_wrong_kind (env : Env) (b : Bytes) (d k0 : UInt8) (s2 kr : Bytes) (hs : b.drop 4 = d :: s2)
    (hk : (s2.drop 40).take 33 = k0 :: kr) (t : Text) (hv : VersionSays env (b.take 4) t)
    (hwrong : (k0 = 0 ∧ t = tPub) ∨ (k0 ≠ 0 ∧ t = tPrv)) : HDKey.parse E env b = none :=
  Option.eq_none_iff_forall_ne_some.mpr fun k' hp => by
    obtain ⟨d', s2', k0', kr', key, hs', hk', hkey, hl1, hl2, hl3, hinit, _, _, _⟩ :=
      readFrom_some env b k' [] (HDKey.parse_eq_some.mp hp)
    obtain ⟨rfl, rfl⟩ := List.cons.inj (hs.symm.trans hs')
    obtain ⟨rfl, rfl⟩ := List.cons.inj (hk.symm.trans hk')
    have hkrl : kr.length ≤ 32 := by
      have := congrArg List.length hk
      simp only [List.length_take, List.length_cons] at this
      omega
    obtain ⟨hcanon, hpriv⟩ := readKeyField_canon k0 kr key hkrl hkey
    obtain ⟨_, _, hkeq, b', hser, htext⟩ := (init_iff env _ _ _ _ _ _ k').mp hinit
    have hdcn : d.toNat < 256 ∧ ofBe ((s2.drop 4).take 4) < 2 ^ 32 := serialize_some_range hser
    obtain ⟨rest, hrl, hsplit⟩ := serialize_split (E := E)
      ⟨key, (s2.drop 8).take 32, b.take 4, d.toNat, s2.take 4, ofBe ((s2.drop 4).take 4)⟩ hcanon hl3 hl2 hdcn.1 hdcn.2
    rw [hser] at hsplit
    have := Option.some.inj hsplit
    rw [this, hv rest hrl] at htext
    rcases hwrong with ⟨h0, ht⟩ | ⟨h0, ht⟩
    · have : key.isPrivate = true := hpriv.mpr h0
      rw [this, ht] at htext
      exact tPrv_ne_tPub htext.symm
    · have : key.isPrivate = false := by
        cases hq : key.isPrivate
        · rfl
        · exact absurd (hpriv.mp hq) h0
      rw [this, ht] at htext
      exact tPrv_ne_tPub htext

/-- an invalid key field (scalar 0 or ≥ n, padding byte other than 00 followed by an invalid point, off-curve X) -/
theorem xkey_bad_key (env : Env) (b : Bytes) (d k0 : UInt8) (s2 kr : Bytes) (hs : b.drop 4 = d :: s2)
    (hk : (s2.drop 40).take 33 = k0 :: kr) (hbad : readKeyField E k0 kr = none) : HDKey.parse E env b = none :=
  Option.eq_none_iff_forall_ne_some.mpr fun k' hp => by
    obtain ⟨d', s2', k0', kr', key, hs', hk', hkey, _⟩ := readFrom_some env b k' [] (HDKey.parse_eq_some.mp hp)
    obtain ⟨rfl, rfl⟩ := List.cons.inj (hs.symm.trans hs')
    obtain ⟨rfl, rfl⟩ := List.cons.inj (hk.symm.trans hk')
    rw [hbad] at hkey
    cases hkey

theorem readKeyField_bad_scalar (kr : Bytes) (h : ofBe (kr.take 32) = 0 ∨ ofBe (kr.take 32) ≥ E.n) :
    readKeyField E 0x00 kr = none := by
  simp only [readKeyField, if_true, PrivateKey.parse]
  rw [priv_bad_scalar (E := E) (kr.take 32) true Generated.privDefaultNet h]
  rfl

theorem xkey_bad_checksum (env : Env) (s : Text) (h : env.b58dec s = none) : HDKey.fromBase58 E env s = none := by
  simp [HDKey.fromBase58, h]

end Embit.Keys
