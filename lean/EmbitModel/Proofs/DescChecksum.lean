import EmbitModel.Spec.DescriptorSpec
import EmbitModel.Proofs.PolymodLinear
/-
  Helper lemmas for the checksum theorems of C12: the streaming loop of `checksum.py` against the list form of
  BIP380, the create/verify identity (8 trailing symbols never reach the feedback taps, so they enter linearly),
  idempotence of `add_checksum`.
-/
namespace Embit.Model.Descriptor
open Embit Embit.Spec.Descriptor Embit.Polymod

theorem and_two_pow_ne_zero_iff (t i : Nat) : (t &&& 2 ^ i ≠ 0) ↔ ((t >>> i) &&& 1 = 1) := by
  rw [Nat.and_one_is_mod, Nat.shiftRight_eq_div_pow]
  have hb : t.testBit i = decide (t / 2 ^ i % 2 = 1) := Nat.testBit_eq_decide_div_mod_eq
  constructor
  · intro h
    by_cases ht : t.testBit i = true
    · rw [hb] at ht; simpa using ht
    · exfalso
      apply h
      apply Nat.eq_of_testBit_eq
      intro j
      rw [Nat.testBit_and, Nat.testBit_two_pow]
      by_cases hij : i = j
      · subst hij; simp [ht]
      · simp [hij]
  · intro h hz
    have ht : t.testBit i = true := by rw [hb]; simpa using h
    have := congrArg (fun x => x.testBit i) hz
    simp [Nat.testBit_and, ht] at this

/-- `polymod(c, val)` of checksum.py is one round of BIP380's `descsum_polymod` -/
theorem polymod_eq_round (c v : Nat) : polymod c v = polymodRound c v := by
  unfold polymod polymodRound
  simp only [GENERATOR, applyGen]
  have h1 := and_two_pow_ne_zero_iff (c >>> 35) 0
  have h2 := and_two_pow_ne_zero_iff (c >>> 35) 1
  have h3 := and_two_pow_ne_zero_iff (c >>> 35) 2
  have h4 := and_two_pow_ne_zero_iff (c >>> 35) 3
  have h5 := and_two_pow_ne_zero_iff (c >>> 35) 4
  simp only [Nat.pow_zero, Nat.pow_one, Nat.reducePow] at h1 h2 h3 h4 h5
  simp only [h1, h2, h3, h4, h5, Nat.zero_add, Nat.reduceAdd]

theorem charset_eq : Model.Descriptor.INPUT_CHARSET = Spec.Descriptor.INPUT_CHARSET := rfl
theorem cscharset_eq : Model.Descriptor.CHECKSUM_CHARSET = Spec.Descriptor.CHECKSUM_CHARSET := rfl

theorem findIdx_eq_charsetFind (l : List Char) (c : Char) : findIdx l c = charsetFind l c := by
  induction l with
  | nil => rfl
  | cons x xs ih => simp [findIdx, charsetFind, ih]

def groupsVal : List Nat → Nat
  | [] => 0
  | [a] => a
  | [a, b] => a * 3 + b
  | _ => 0

/-- what `checksum()` does after the loop with the left-over group -/
def finish (st : Nat × Nat × Nat) : Nat := if st.2.2 > 0 then polymod st.1 st.2.1 else st.1

theorem loop_eq_expand :
    ∀ (s : Str) (c : Nat) (g : List Nat), g.length ≤ 2 →
      (checksumLoop s c (groupsVal g) g.length).map finish =
        (expandAux s g).map fun syms => syms.foldl polymodRound c := by
  intro s
  induction s with
  | nil =>
    intro c g hg
    rcases g with _ | ⟨a, _ | ⟨b, _ | ⟨d, t⟩⟩⟩
    · simp only [checksumLoop, expandAux, groupsVal, List.length_nil, Option.map_some, finish, List.foldl_nil]
      rfl
    · simp only [checksumLoop, expandAux, groupsVal, List.length_cons, List.length_nil, Option.map_some, finish,
        List.foldl_cons, List.foldl_nil, polymod_eq_round]
      rfl
    · simp only [checksumLoop, expandAux, groupsVal, List.length_cons, List.length_nil, Option.map_some, finish,
        List.foldl_cons, List.foldl_nil, polymod_eq_round]
      rfl
    · exact absurd hg (by simp only [List.length_cons]; omega)
  | cons ch r ih =>
    intro c g hg
    simp only [checksumLoop, expandAux, charset_eq, findIdx_eq_charsetFind]
    cases hf : charsetFind Spec.Descriptor.INPUT_CHARSET ch with
    | none => simp
    | some pos =>
      rcases g with _ | ⟨a, _ | ⟨b, _ | ⟨d, t⟩⟩⟩
      · have := ih (polymod c (pos &&& 31)) [pos >>> 5] (by simp)
        simp only [groupsVal, List.length_cons, List.length_nil] at this
        simp only [groupsVal, List.length_nil, List.nil_append, Nat.zero_mul, Nat.zero_add]
        rw [if_neg (by decide)]
        rw [this]
        cases expandAux r [pos >>> 5] <;> simp [polymod_eq_round]
      · have := ih (polymod c (pos &&& 31)) [a, pos >>> 5] (by simp)
        simp only [groupsVal, List.length_cons, List.length_nil] at this
        simp only [groupsVal, List.length_cons, List.length_nil, List.cons_append, List.nil_append]
        rw [if_neg (by decide)]
        rw [this]
        cases expandAux r [a, pos >>> 5] <;> simp [polymod_eq_round]
      · have := ih (polymod (polymod c (pos &&& 31)) ((a * 3 + b) * 3 + (pos >>> 5))) [] (by simp)
        simp only [groupsVal, List.length_nil] at this
        simp only [groupsVal, List.length_cons, List.length_nil, List.cons_append, List.nil_append]
        rw [if_pos (by decide)]
        rw [this]
        have harith : (a * 3 + b) * 3 + (pos >>> 5) = a * 9 + b * 3 + (pos >>> 5) := by omega
        cases expandAux r [] <;> simp [polymod_eq_round, harith]
      · exact absurd hg (by simp only [List.length_cons]; omega)

theorem polymodZeros_eq (n c : Nat) : polymodZeros n c = (List.replicate n 0).foldl polymodRound c := by
  induction n generalizing c with
  | zero => rfl
  | succ n ih => simp [polymodZeros, List.replicate, ih, polymod_eq_round]

theorem checksumChars_eq (c : Nat) :
    checksumChars c = (checksumSymbols c).map fun v => Spec.Descriptor.CHECKSUM_CHARSET.getD v 'q' := by
  simp [checksumChars, checksumSymbols, List.map_map, cscharset_eq]

theorem checksum_eq_spec (s : Str) : checksum s = descsumChecksum s := by
  unfold checksum descsumChecksum descsumExpand descsumPolymod
  have h := loop_eq_expand s 1 [] (by simp)
  simp only [groupsVal, List.length_nil] at h
  cases hl : checksumLoop s 1 0 0 with
  | none =>
    rw [hl] at h
    cases he : expandAux s [] with
    | none => rfl
    | some _ => rw [he] at h; cases h
  | some st =>
    rw [hl] at h
    cases he : expandAux s [] with
    | none => rw [he] at h; cases h
    | some syms =>
      rw [he] at h
      obtain ⟨c, cls, cnt⟩ := st
      simp only [Option.map_some, Option.some.injEq, finish] at h
      simp only [Option.map_some, List.foldl_append]
      rw [← h, checksumChars_eq, polymodZeros_eq]
      rfl

theorem beforeHash_no_hash (s : Str) : (beforeHash s).contains '#' = false := by
  induction s with
  | nil => rfl
  | cons c r ih =>
    simp only [beforeHash]
    split
    · rfl
    · rename_i hne
      simp only [List.contains_cons, ih, Bool.or_false]
      simpa using fun h => hne h.symm

theorem beforeHash_append (d x : Str) (h : d.contains '#' = false) : beforeHash (d ++ '#' :: x) = d := by
  induction d with
  | nil => simp [beforeHash]
  | cons c r ih =>
    simp only [List.contains_cons, Bool.or_eq_false_iff] at h
    have hne : c ≠ '#' := by
      intro he; subst he; simp at h
    simp [beforeHash, hne, ih h.2]

/-- the body `add_checksum` keeps has no `#` -/
def bodyOf (desc : Str) : Str := if desc.contains '#' then beforeHash desc else desc

theorem bodyOf_no_hash (s : Str) : (bodyOf s).contains '#' = false := by
  unfold bodyOf
  split
  · exact beforeHash_no_hash s
  · rename_i h; simpa using h

theorem addChecksum_idem (s t : Str) (h : addChecksum s = some t) : addChecksum t = some t := by
  unfold addChecksum at h
  change (match checksum (bodyOf s) with | some cs => some (bodyOf s ++ '#' :: cs) | none => none) = some t at h
  cases hc : checksum (bodyOf s) with
  | none => rw [hc] at h; cases h
  | some cs =>
    rw [hc] at h
    cases h
    unfold addChecksum
    change (match checksum (bodyOf (bodyOf s ++ '#' :: cs)) with
      | some cs' => some (bodyOf (bodyOf s ++ '#' :: cs) ++ '#' :: cs') | none => none) = _
    have hb : bodyOf (bodyOf s ++ '#' :: cs) = bodyOf s := by
      unfold bodyOf
      rw [if_pos (by simp)]
      exact beforeHash_append _ _ (bodyOf_no_hash s)
    rw [hb, hc]

theorem applyGen_xor (top : Nat) : ∀ (gs : List Nat) (i x y : Nat),
    applyGen top i gs (x ^^^ y) = applyGen top i gs x ^^^ y := by
  intro gs
  induction gs with
  | nil => intro i x y; rfl
  | cons g gs ih =>
    intro i x y
    simp only [applyGen]
    split
    · rw [← ih, Nat.xor_assoc, Nat.xor_comm y g, ← Nat.xor_assoc]
    · exact ih _ _ _

/-- what the `for i in range(5)` loop XORs in -/
def gsel (top : Nat) : Nat := applyGen top 0 GENERATOR 0

theorem polymodRound_eq_step : polymodRound = step 5 35 gsel := by
  funext chk v
  rw [polymodRound, ← Nat.zero_xor (_ ^^^ v), applyGen_xor, Nat.xor_comm]
  rfl

theorem applyGen_xor_top (s t : Nat) : ∀ (gs : List Nat) (i : Nat),
    applyGen (s ^^^ t) i gs 0 = applyGen s i gs 0 ^^^ applyGen t i gs 0 := by
  intro gs
  induction gs with
  | nil => intro i; simp [applyGen]
  | cons g gs ih =>
    intro i
    have hstep : ∀ u, applyGen u i (g :: gs) 0
        = applyGen u (i + 1) gs 0 ^^^ (if (u >>> i) &&& 1 = 1 then g else 0) := by
      intro u
      rw [← applyGen_xor, Nat.zero_xor, applyGen]
      split <;> simp
    rw [hstep, hstep s, hstep t, ih, ite_bit_xor]
    ac_rfl

theorem applyGen_lt (top : Nat) : ∀ (gs : List Nat) (i x : Nat), (∀ g ∈ gs, g < 2 ^ 40) → x < 2 ^ 40 →
    applyGen top i gs x < 2 ^ 40 := by
  intro gs
  induction gs with
  | nil => intro i x _ hx; exact hx
  | cons g gs ih =>
    intro i x hg hx
    simp only [applyGen]
    apply ih _ _ (fun g' h' => hg g' (List.mem_cons_of_mem _ h'))
    split
    · exact Nat.xor_lt_two_pow hx (hg g List.mem_cons_self)
    · exact hx

theorem gsel_sel : Sel 5 35 gsel where
  xor s t := applyGen_xor_top s t GENERATOR 0
  lt t := applyGen_lt t GENERATOR 0 0 (by decide) (by decide)

theorem round_lt (chk v : Nat) (hv : v < 2 ^ 40) : polymodRound chk v < 2 ^ 40 := by
  rw [polymodRound_eq_step]; exact step_lt gsel_sel chk v hv

/-- a difference `d` confined to the low 35 bits of the state does not reach the feedback taps: it is shifted up
    by one symbol, and a difference in the symbol enters as it is -/
theorem round_delta (chk d v w : Nat) (hd : d < 2 ^ 35) :
    polymodRound (chk ^^^ d) (v ^^^ w) = polymodRound chk v ^^^ ((d <<< 5) ^^^ w) := by
  rw [polymodRound_eq_step, step_xor gsel_sel, step_low gsel_sel d w hd]

def packFrom : Nat → List Nat → Nat
  | d, [] => d
  | d, c :: cs => packFrom ((d <<< 5) ^^^ c) cs

theorem shift_xor_lt (d c k : Nat) (hd : d < 2 ^ (5 * k)) (hc : c < 32) : (d <<< 5) ^^^ c < 2 ^ (5 * (k + 1)) := by
  apply Nat.xor_lt_two_pow
  · rw [Nat.shiftLeft_eq]
    calc d * 2 ^ 5 < 2 ^ (5 * k) * 2 ^ 5 := Nat.mul_lt_mul_of_pos_right hd (by decide)
      _ = 2 ^ (5 * (k + 1)) := by rw [← Nat.pow_add]; congr 1
  · calc c < 2 ^ 5 := hc
      _ ≤ 2 ^ (5 * (k + 1)) := Nat.pow_le_pow_right (by decide) (by omega)

theorem fold_delta : ∀ (cs : List Nat) (A d k : Nat), d < 2 ^ (5 * k) → k + cs.length ≤ 8 →
    (∀ c ∈ cs, c < 32) →
    cs.foldl polymodRound (A ^^^ d) = (List.replicate cs.length 0).foldl polymodRound A ^^^ packFrom d cs := by
  intro cs
  induction cs with
  | nil => intro A d k _ _ _; simp [packFrom]
  | cons c cs ih =>
    intro A d k hd hk hc
    simp only [List.length_cons] at hk
    have hd35 : d < 2 ^ 35 := Nat.lt_of_lt_of_le hd (Nat.pow_le_pow_right (by decide) (by omega))
    have hc32 : c < 32 := hc c List.mem_cons_self
    simp only [List.foldl_cons, List.length_cons, List.replicate_succ, packFrom]
    have := round_delta A d 0 c hd35
    rw [Nat.zero_xor] at this
    rw [this]
    exact ih (polymodRound A 0) ((d <<< 5) ^^^ c) (k + 1) (shift_xor_lt d c k hd hc32) (by omega)
      (fun x hx => hc x (List.mem_cons_of_mem _ hx))

theorem shift_xor_low (y : Nat) : ((y >>> 5) <<< 5) ^^^ (y &&& 31) = y := by
  have m : y &&& 31 = y % 32 := Nat.and_two_pow_sub_one_eq_mod y 5
  rw [m, shl_xor (w := 5) _ _ (Nat.mod_lt _ (by decide)), Nat.shiftRight_eq_div_pow]
  exact Nat.div_add_mod' y 32

theorem packFrom_digits (x : Nat) : ∀ n : Nat,
    packFrom (x >>> (5 * n)) ((List.range n).map fun i => (x >>> (5 * (n - 1 - i))) &&& 31) = x := by
  intro n
  induction n with
  | zero => rfl
  | succ n ih =>
    have hd : (x >>> (5 * (n + 1))) <<< 5 ^^^ (x >>> (5 * (n + 1 - 1 - 0)) &&& 31) = x >>> (5 * n) := by
      rw [Nat.mul_succ, Nat.shiftRight_add]
      exact shift_xor_low (x >>> (5 * n))
    have tl : ((fun i => x >>> (5 * (n + 1 - 1 - i)) &&& 31) ∘ Nat.succ) = fun i => x >>> (5 * (n - 1 - i)) &&& 31 := by
      funext i
      show x >>> (5 * (n + 1 - 1 - (i + 1))) &&& 31 = _
      rw [show n + 1 - 1 - (i + 1) = n - 1 - i by omega]
    rw [List.range_succ_eq_map, List.map_cons, List.map_map, packFrom, hd, tl]
    exact ih

theorem pack_symbols (x : Nat) (hx : x < 2 ^ 40) : packFrom 0 (checksumSymbols x) = x := by
  have h := packFrom_digits x 8
  rwa [Nat.shiftRight_eq_zero x (5 * 8) hx] at h

theorem fold_lt (syms : List Nat) (c : Nat) (hc : c < 2 ^ 40) (hs : ∀ v ∈ syms, v < 2 ^ 40) :
    syms.foldl polymodRound c < 2 ^ 40 := by
  induction syms generalizing c with
  | nil => exact hc
  | cons v r ih =>
    simp only [List.foldl_cons]
    exact ih _ (round_lt c v (hs v List.mem_cons_self)) (fun x hx => hs x (List.mem_cons_of_mem _ hx))

theorem mapFind_symbols : ∀ (l : List Nat), (∀ v ∈ l, v < 32) →
    mapFind (l.map fun v => Spec.Descriptor.CHECKSUM_CHARSET.getD v 'q') = some l := by
  intro l
  induction l with
  | nil => intro _; rfl
  | cons v r ih =>
    intro h
    have hv : v < 32 := h v List.mem_cons_self
    have hfind : charsetFind Spec.Descriptor.CHECKSUM_CHARSET (Spec.Descriptor.CHECKSUM_CHARSET.getD v 'q') = some v := by
      have : ∀ w : Fin 32, charsetFind Spec.Descriptor.CHECKSUM_CHARSET
          (Spec.Descriptor.CHECKSUM_CHARSET.getD w.val 'q') = some w.val := by decide
      exact this ⟨v, hv⟩
    simp only [List.map_cons, mapFind, hfind, ih (fun x hx => h x (List.mem_cons_of_mem _ hx))]

theorem checksumSymbols_lt (x : Nat) : ∀ v ∈ checksumSymbols x, v < 32 := by
  intro v hv
  simp only [checksumSymbols, List.mem_map] at hv
  obtain ⟨i, _, rfl⟩ := hv
  exact Nat.lt_succ_of_le (Nat.and_le_right)

theorem checksumSymbols_length (x : Nat) : (checksumSymbols x).length = 8 := by
  simp [checksumSymbols]

end Embit.Model.Descriptor
