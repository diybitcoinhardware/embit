import EmbitModel.Model.Slip39
/-
  The 4-round Feistel network of `_crypt` is an involution up to reversing the round order, for EVERY round
  function whose output has the requested length (PBKDF2 does), every identifier, exponent and passphrase.
-/
namespace Embit.Model.Slip39

theorem xorBytes_length (a b : Bytes) : (xorBytes a b).length = min a.length b.length := by
  simp [xorBytes]

theorem xorBytes_cancel (a f : Bytes) (h : a.length ≤ f.length) : xorBytes (xorBytes a f) f = a := by
  induction a generalizing f with
  | nil => simp [xorBytes]
  | cons x xs ih =>
    cases f with
    | nil => simp at h
    | cons y ys =>
      simp only [List.length_cons, Nat.add_le_add_iff_right] at h
      have := ih ys h
      simp only [xorBytes] at this ⊢
      simp only [List.zipWith_cons_cons, this, List.cons.injEq, and_true]
      rw [UInt8.xor_assoc, UInt8.xor_self, UInt8.xor_zero]

section
variable (P : Prims) (hF : ∀ pw s it n, (P.pbkdf2 pw s it n).length = n)
variable (salt pass : Bytes) (iters half : Nat)

include hF in
theorem feistelRound_lengths (st : Bytes × Bytes) (i : UInt8) (h : st.1.length = half ∧ st.2.length = half) :
    (feistelRound P salt pass iters half st i).1.length = half ∧
    (feistelRound P salt pass iters half st i).2.length = half := by
  simp [feistelRound, xorBytes_length, hF, h.1, h.2]

include hF in
theorem feistel_fold_lengths (ks : List UInt8) (st : Bytes × Bytes) (h : st.1.length = half ∧ st.2.length = half) :
    (ks.foldl (feistelRound P salt pass iters half) st).1.length = half ∧
    (ks.foldl (feistelRound P salt pass iters half) st).2.length = half := by
  induction ks generalizing st with
  | nil => simpa using h
  | cons k ks ih => exact ih _ (feistelRound_lengths P hF salt pass iters half st k h)

include hF in
theorem feistel_fold_reverse (ks : List UInt8) (st : Bytes × Bytes) (h : st.1.length = half ∧ st.2.length = half) :
    let out := ks.foldl (feistelRound P salt pass iters half) st
    ks.reverse.foldl (feistelRound P salt pass iters half) (out.2, out.1) = (st.2, st.1) := by
  induction ks generalizing st with
  | nil => simp
  | cons k ks ih =>
    have hl := feistelRound_lengths P hF salt pass iters half st k h
    have := ih _ hl
    simp only [List.foldl_cons, List.reverse_cons, List.foldl_append, List.foldl_nil] at this ⊢
    rw [this]
    simp only [feistelRound]
    rw [xorBytes_cancel _ _ (by simp [hF, h.1])]

include hF in
theorem crypt_reverse (x : Bytes) (id e : Nat) (ks : List UInt8) (hx : x.length % 2 = 0) (hne : x ≠ [])
    (hid : id < 65536) :
    ∃ y, crypt P x id e pass ks = some y ∧ y.length = x.length ∧ crypt P y id e pass ks.reverse = some x := by
  have hpos : 0 < x.length := List.length_pos_iff.mpr hne
  have hhalf : x.length / 2 ≠ 0 := by omega
  have hl : ((x.take (x.length / 2), x.drop (x.length / 2)) : Bytes × Bytes).1.length = x.length / 2 ∧
      ((x.take (x.length / 2), x.drop (x.length / 2)) : Bytes × Bytes).2.length = x.length / 2 := by
    simp; omega
  have hlen := feistel_fold_lengths P hF (shamirBytes ++ beN 2 id) pass (2500 <<< e) (x.length / 2) ks _ hl
  have hrev := feistel_fold_reverse P hF (shamirBytes ++ beN 2 id) pass (2500 <<< e) (x.length / 2) ks _ hl
  refine ⟨(ks.foldl (feistelRound P (shamirBytes ++ beN 2 id) pass (2500 <<< e) (x.length / 2))
      (x.take (x.length / 2), x.drop (x.length / 2))).2 ++
    (ks.foldl (feistelRound P (shamirBytes ++ beN 2 id) pass (2500 <<< e) (x.length / 2))
      (x.take (x.length / 2), x.drop (x.length / 2))).1, ?_, ?_, ?_⟩
  · unfold crypt
    rw [if_neg (by omega), if_neg (by omega), if_neg (by simp [hhalf])]
  · simp only [List.length_append, hlen.1, hlen.2]; omega
  · unfold crypt
    have hylen : ∀ (a b : Bytes), a.length = x.length / 2 → b.length = x.length / 2 →
        (a ++ b).length = x.length := by intro a b ha hb; simp [ha, hb]; omega
    rw [hylen _ _ hlen.2 hlen.1]
    rw [if_neg (by omega), if_neg (by omega), if_neg (by simp [hhalf])]
    have ht : ∀ (a b : Bytes), a.length = x.length / 2 → (a ++ b).take (x.length / 2) = a := by
      intro a b ha; rw [← ha]; simp
    have hd : ∀ (a b : Bytes), a.length = x.length / 2 → (a ++ b).drop (x.length / 2) = b := by
      intro a b ha; rw [← ha]; simp
    rw [ht _ _ hlen.2, hd _ _ hlen.2]
    simp only at hrev
    show some (_ ++ _) = some x
    rw [hrev]
    simp
end

end Embit.Model.Slip39
