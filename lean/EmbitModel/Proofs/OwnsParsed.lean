import EmbitModel.Proofs.Owns
import EmbitModel.Proofs.DescDerive
import EmbitModel.Proofs.DescParseNormal
/-
  C14: the hypotheses of `owns_sound` for the descriptors the parser returns.

  * whatever `Key.read_from` returns carries derivation steps that went through `AllowedDerivation.__init__`
    (`mkAllowed`): at most one wildcard, at most one set (`StepsWF`) — for EVERY instance of the key operations,
    no hypothesis on the key codecs;
  * a property every key returned by `Key.read_from` has is a property of every element of `Descriptor.keys` of every
    parsed descriptor (pkh / wpkh / sh(wpkh) / sh / wsh / sh(wsh) over any miniscript incl. multi / sortedmulti /
    thresh, tr with and without a tap tree): `parse_keys_all`;
  * a parsed descriptor has EITHER a miniscript OR a key (+ tap tree) (`Desc.Shaped`) and is one of the seven forms
    (`formOf`);
  * `owns` never answers True when no key carries a derivation (so `hhard` is only needed when one does).
-/
namespace Embit.Model.Descriptor
open Embit Embit.Miniscript Embit.Spec.Descriptor

variable {K : Type}

theorem wildCount_le_wildLike : ∀ (ix : List Step), wildCount ix ≤ (ix.filter Step.isWildLike).length := by
  intro ix
  induction ix with
  | nil => simp
  | cons s r ih =>
    cases s with
    | idx n => simpa [List.filter, Step.isWildLike] using ih
    | wild => simp [List.filter, Step.isWildLike]; omega
    | set l =>
      rw [wildCount_set]
      by_cases hc : l.contains none = true
      · simp only [List.filter, Step.isWildLike, hc, List.length_cons]; omega
      · have hc' : l.contains none = false := by simpa using hc
        simp only [List.filter, Step.isWildLike, hc']; exact ih

/-- what the constructor of `AllowedDerivation` lets through has at most one wildcard and at most one set -/
theorem mkAllowed_wf {ix ix' : List Step} (h : mkAllowed ix = some ix') : StepsWF ix' := by
  unfold mkAllowed at h
  split at h
  · cases h
  · rename_i hw
    split at h
    · cases h
    · rename_i hs
      cases h
      refine ⟨?_, ?_⟩
      · have := wildCount_le_wildLike ix
        omega
      · unfold setCount
        omega

/-- the derivation of a key returned by `Key.read_from` / `KeyHash.read_from` passed `AllowedDerivation.__init__`,
    and the key object is an extended key (`Key.__init__`: only keys with `derive` may carry a derivation) -/
theorem readKey_deriv (ops : KeyOps K) (tap hash : Bool) (s s' : Stream) (k : KeyExpr K)
    (h : readKey ops tap hash s = some (k, s')) (ix : List Step) (hix : k.deriv = some ix) :
    mkAllowed ix = some ix ∧ k.key.hasDerive ops = true := by
  unfold readKey at h
  simp only [] at h
  split at h
  · cases h
  · split at h
    · cases h
    · split at h
      · cases h
      · rename_i kv xo hkey
        split at h
        · cases h
        · rename_i derivation hder
          split at h
          · cases h
          · rename_i hcheck
            simp only [Option.some.injEq, Prod.mk.injEq] at h
            obtain ⟨rfl, _⟩ := h
            simp only at hix
            subst hix
            refine ⟨(parseAllowed_sound _ _ _ hder).2.2, ?_⟩
            cases hd : kv.hasDerive ops with
            | true => rfl
            | false => simp [hd] at hcheck

theorem readKey_stepsWF (ops : KeyOps K) (tap hash : Bool) (s s' : Stream) (k : KeyExpr K)
    (h : readKey ops tap hash s = some (k, s')) : ∀ ix, k.deriv = some ix → StepsWF ix :=
  fun ix hix => mkAllowed_wf (readKey_deriv ops tap hash s s' k h ix hix).1

theorem ParsedShape.shaped {d : Desc K} (h : ParsedShape d) : d.Shaped := by
  cases h
  · exact Or.inl rfl
  · exact Or.inr ⟨rfl, rfl⟩
  · exact Or.inr ⟨rfl, rfl⟩
  · exact Or.inr ⟨rfl, rfl⟩
  · exact Or.inl rfl
  · exact Or.inl rfl
  · exact Or.inl rfl

theorem ParsedShape.formOf_some {d : Desc K} (h : ParsedShape d) : ∃ fm, formOf d = some fm := by
  cases h <;> exact ⟨_, rfl⟩

theorem parse_keys_all (ops : KeyOps K) (P : KeyExpr K → Prop) (hP : ReadKeyInv ops P) (t : Str) (d : Desc K)
    (h : Desc.parse ops t = some d) : ParsedShape d ∧ ∀ k ∈ d.keys, P k :=
  (parse_read ops P hP t d h).2

/-- every key of a parsed descriptor carries well-formed steps, and a key with steps is an extended key -/
theorem parse_keys_deriv (ops : KeyOps K) (t : Str) (d : Desc K) (h : Desc.parse ops t = some d) :
    ∀ k ∈ d.keys, ∀ ix, k.deriv = some ix → StepsWF ix ∧ k.key.hasDerive ops = true :=
  (parse_keys_all ops (fun k => ∀ ix, k.deriv = some ix → StepsWF ix ∧ k.key.hasDerive ops = true)
    (fun tap hash s s' k hk ix hix =>
      have := readKey_deriv ops tap hash s s' k hk ix hix
      ⟨mkAllowed_wf this.1, this.2⟩) t d h).2

/-- the views `Desc.owns` hands to `ownsCore` are well-formed: the premise `hwf` of `owns_sound` -/
theorem parse_views_wf (ops : KeyOps K) (hs : Hashes) (t : Str) (d : Desc K) (h : Desc.parse ops t = some d) :
    ∀ k, k ∈ d.keys.map (KeyExpr.view ops hs) → k.WF := by
  intro v hv
  obtain ⟨k, hk, rfl⟩ := List.mem_map.mp hv
  intro ix ha
  exact (parse_keys_deriv ops t d h k hk ix ha).1

theorem parse_shaped (ops : KeyOps K) (t : Str) (d : Desc K) (h : Desc.parse ops t = some d) : d.Shaped :=
  (parse_keys_all ops (fun _ => True) (fun _ _ _ _ _ _ => trivial) t d h).1.shaped

theorem parse_formOf (ops : KeyOps K) (t : Str) (d : Desc K) (h : Desc.parse ops t = some d) :
    ∃ fm, formOf d = some fm :=
  (parse_keys_all ops (fun _ => True) (fun _ _ _ _ _ _ => trivial) t d h).1.formOf_some

theorem KeyView.check_none_of_no_allowed {k : KeyView} (h : k.allowed = none) (r : DerivRec) : k.check r = none := by
  unfold KeyView.check
  simp [h]

/-- no key with derivation steps: never True (every `check_derivation` answers `None`) -/
theorem ownsCore_no_allowed {keys : List KeyView} {ty : Option SpkType} {ds : Nat → Nat → Option Bytes}
    {sc : Scope} (hno : ∀ k, k ∈ keys → k.allowed = none) : ownsCore keys ty ds sc ≠ some true := by
  intro h
  obtain ⟨_, _, _, r, _, k, hk, _, i, b, hc, _⟩ := ownsCore_true_witness h
  rw [KeyView.check_none_of_no_allowed (hno k hk) r] at hc
  cases hc

end Embit.Model.Descriptor
