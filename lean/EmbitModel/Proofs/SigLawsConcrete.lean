import EmbitModel.Proofs.EcBridge
import EmbitModel.Proofs.SignWithValid
import EmbitModel.Proofs.Contract
import EmbitModel.Props.C07
import EmbitModel.Props.C08
import EmbitModel.Props.C09
import EmbitModel.Props.C10
/-
  `SigLaws` for the environment `opsOf E hs fuel` (Model/SignWithOps.lean) relative to the curve laws: the pieces.

  * the signers: what a successful `ecdsaSign` / `schnorrSign` of `opsOf` returns verifies under the point `d·G`
    (Props/C07: `grind_result`, `ecdsa_correct_key`, `schnorr_correct`);
  * the keys: `secOf` is the SEC encoding of `d·G` over the bridged curve record; the strict parser gives the point back
    and accepts nothing that is not the encoding of a finite point (Props/C10: `sec_roundtrip`, `sec_parse_sound`);
    `compressSec` of an accepted encoding is the compressed encoding of its point;
  * the verifiers of `opsOf` against the standards: SEC 1 §4.1.4 on strictly decoded key and signature, BIP340
    verification (Props/C08, Props/C10);
  * the taproot tweak: the x-only key of the tweaked secret is BIP341's output key of the x-only key of the secret
    (Props/C09: `taproot_commutes`, `taproot_output_key`).
-/
namespace Embit.Model.SignWith
open Embit Embit.Model Embit.Model.Der Embit.Model.PySecp

variable {E : Embit.EcOps} (hs : Hashes) (fuel : Nat)

theorem seckeyValid_bridge (d : Nat) : Embit.Keys.seckeyValid (toKeys E) d = PySecp.seckeyValid E d := rfl

theorem seckeyValid_range (d : Nat) (h : PySecp.seckeyValid E d = true) : 0 < d ∧ d < E.n := by
  simpa [PySecp.seckeyValid] using h

theorem secOf_valid (sk : Bytes) (c : Bool) (hv : PySecp.seckeyValid E (ofBe sk) = true) :
    (opsOf E hs fuel).secOf sk c = Embit.Keys.pubkeySerialize (toKeys E) ((toKeys E).mulG (ofBe sk)) c := by
  show (Embit.Keys.PrivateKey.sec (toKeys E) ⟨ofBe sk, c, 0⟩).getD [] = _
  simp only [Embit.Keys.PrivateKey.sec, Embit.Keys.PrivateKey.getPublicKey, Embit.Keys.pubkeyCreate,
    seckeyValid_bridge, hv, if_true, Option.map_some, Option.getD_some, Embit.Keys.PublicKey.sec]

/-- `secOf` of an invalid secret: the empty string (`sec()` of a key that cannot exist) -/
theorem secOf_invalid (sk : Bytes) (c : Bool) (hv : PySecp.seckeyValid E (ofBe sk) = false) :
    (opsOf E hs fuel).secOf sk c = [] := by
  show (Embit.Keys.PrivateKey.sec (toKeys E) ⟨ofBe sk, c, 0⟩).getD [] = _
  simp [Embit.Keys.PrivateKey.sec, Embit.Keys.PrivateKey.getPublicKey, Embit.Keys.pubkeyCreate,
    seckeyValid_bridge, hv]

theorem pub_finite (hinf : InfUnique E) (d : Nat) (hv : PySecp.seckeyValid E d = true) :
    (toKeys E).isInf ((toKeys E).mulG d) = false := by
  obtain ⟨x, y, hxy⟩ := mul_finite hinf d (seckeyValid_range d hv)
  exact toKeys_finite_of (E.mul d E.g) x y hxy

theorem xonly_secOf (sk : Bytes) (c : Bool) (hv : PySecp.seckeyValid E (ofBe sk) = true) (px py : Nat)
    (hxy : E.xy (E.mul (ofBe sk) E.g) = some (px, py)) :
    xonlyOfSec ((opsOf E hs fuel).secOf sk c) = beN 32 px := by
  rw [secOf_valid hs fuel sk c hv]
  unfold xonlyOfSec
  have hx : (toKeys E).x ((toKeys E).mulG (ofBe sk)) = px := toKeys_x (E.mul (ofBe sk) E.g) px py hxy
  rw [Embit.Keys.xslice_serialize, hx]

theorem getLast_beN32 (v : Nat) : (beN 32 v).getLast? = some (UInt8.ofNat (v % 256)) := by
  unfold beN
  rw [List.getLast?_reverse]
  rfl

theorem compressSec_serialize (K : Embit.Keys.EcOps) (P : K.Pt) (c : Bool) :
    compressSec (Embit.Keys.pubkeySerialize K P c) = Embit.Keys.pubkeySerialize K P true := by
  cases c
  · have hlen : (Embit.Keys.pubkeySerialize K P false).length = 65 := by
      rw [Embit.Keys.pubkeySerialize_length]; rfl
    unfold compressSec
    rw [if_pos hlen, Embit.Keys.xslice_serialize]
    have hlast : (Embit.Keys.pubkeySerialize K P false).getLast? = some (UInt8.ofNat (K.y P % 256)) := by
      simp only [Embit.Keys.pubkeySerialize, Bool.false_eq_true, if_false]
      rw [← List.cons_append, List.getLast?_append, getLast_beN32]
      rfl
    rw [hlast]
    have hm : (UInt8.ofNat (K.y P % 256)).toNat % 2 = K.y P % 2 := by
      rw [UInt8.toNat_ofNat']; omega
    rcases Nat.mod_two_eq_zero_or_one (K.y P) with h | h <;>
      simp [hm, h, Embit.Keys.pubkeySerialize, Embit.Keys.EcOps.yOdd]
  · have hlen : (Embit.Keys.pubkeySerialize K P true).length ≠ 65 := by
      rw [Embit.Keys.pubkeySerialize_length]; decide
    unfold compressSec
    rw [if_neg hlen]

/-- what `ecdsaSign` of `opsOf` returns is the DER encoding of a pair that `verify_ecdsa` accepts under `d·G`
    (Props/C07: the grinding loop returns one of the attempts, every attempt verifies) -/
theorem ecdsaSign_core (L : Embit.EcLaws E) (hn : E.n ≤ 2 ^ 256) (sk m sig : Bytes)
    (h : (opsOf E hs fuel).ecdsaSign sk m = some sig) :
    sk.length = 32 ∧ m.length = 32 ∧ PySecp.seckeyValid E (ofBe sk) = true ∧
      PySecp.verifyEcdsaKey E (E.mul (ofBe sk) E.g) sig m true = true := by
  change (match PySecp.privateKeySign (fun ex => PySecp.ecdsaSign E hs.H fuel m sk ex) true with
    | some (sig, _) => PySecp.ecdsaSignatureSerializeDer sig
    | none => none) = some sig at h
  split at h
  · rename_i s64 c hps
    obtain ⟨h0, hpos, _⟩ := Embit.Props.C07.grind_result _ true s64 c hps
    have hex : ∃ ex, PySecp.ecdsaSign E hs.H fuel m sk ex = some s64 := by
      rcases Nat.eq_zero_or_pos c with hc | hc
      · exact ⟨_, h0 hc⟩
      · exact ⟨_, hpos hc⟩
    obtain ⟨ex, hex⟩ := hex
    obtain ⟨hml, hsl, hvalid, k, r, s, hk, hrs, hok, rfl⟩ := ecdsaSign_inv E hs.H hn fuel m sk ex s64 hex
    have hrange := (rangeOk_iff E.n true r s).mp hok
    have hkr := Embit.Props.C07.nonce_range hs.H fuel E.n _ _ ex k hk
    rw [serializeDer_struct r s (by omega) (by omega)] at h
    cases h
    exact ⟨hsl, hml, hvalid,
      Embit.Props.C07.ecdsa_correct_key E L hn _ _ k r s ⟨by omega, hkr.2⟩ hrs (by omega) (by omega) m rfl⟩
  · cases h

theorem ecdsa_own_concrete (L : Embit.EcLaws E) (hn : E.n ≤ 2 ^ 256) (hp : E.p ≤ 2 ^ 256) (hinf : InfUnique E)
    (sk : Bytes) (c : Bool) (m sig : Bytes) (h : (opsOf E hs fuel).ecdsaSign sk m = some sig) :
    ecdsaVerifySec E ((opsOf E hs fuel).secOf sk c) m sig = true := by
  obtain ⟨_, _, hv, hver⟩ := ecdsaSign_core hs fuel L hn sk m sig h
  have K := toKeys_laws L hn hp hinf
  have hfin := pub_finite hinf (ofBe sk) hv
  rw [secOf_valid hs fuel sk c hv]
  unfold ecdsaVerifySec
  have hparse := Embit.Props.C10.sec_roundtrip K (⟨(toKeys E).mulG (ofBe sk), c⟩ : Embit.Keys.PublicKey (toKeys E)) hfin
  rw [show Embit.Keys.pubkeySerialize (toKeys E) ((toKeys E).mulG (ofBe sk)) c
        = (⟨(toKeys E).mulG (ofBe sk), c⟩ : Embit.Keys.PublicKey (toKeys E)).sec from rfl, hparse]
  exact hver

theorem entry_point (L : Embit.EcLaws E) (hn : E.n ≤ 2 ^ 256) (hp : E.p ≤ 2 ^ 256) (hinf : InfUnique E)
    (sk pub : Bytes) (hv : PySecp.seckeyValid E (ofBe sk) = true) (k : Embit.Keys.PublicKey (toKeys E))
    (hk : Embit.Keys.PublicKey.parse (toKeys E) pub = some k)
    (hc : compressSec pub = (opsOf E hs fuel).secOf sk true) : k.point = (toKeys E).mulG (ofBe sk) := by
  have K := toKeys_laws L hn hp hinf
  obtain ⟨hsec, hkfin⟩ := Embit.Props.C10.sec_parse_sound K pub k hk
  rw [secOf_valid hs fuel sk true hv, ← hsec] at hc
  rw [show k.sec = Embit.Keys.pubkeySerialize (toKeys E) k.point k.compressed from rfl, compressSec_serialize] at hc
  exact congrArg Embit.Keys.PublicKey.point ((Embit.Keys.sec_exact K).enc_inj (a := ⟨k.point, true⟩)
    (a' := ⟨(toKeys E).mulG (ofBe sk), true⟩) hkfin (pub_finite hinf (ofBe sk) hv) hc)

theorem ecdsa_entry_concrete (L : Embit.EcLaws E) (hn : E.n ≤ 2 ^ 256) (hp : E.p ≤ 2 ^ 256) (hinf : InfUnique E)
    (sk m sig pub : Bytes) (hvalid : validSecKey E pub = true) (h : (opsOf E hs fuel).ecdsaSign sk m = some sig)
    (hc : compressSec pub = (opsOf E hs fuel).secOf sk true) : ecdsaVerifySec E pub m sig = true := by
  obtain ⟨_, _, hv, hver⟩ := ecdsaSign_core hs fuel L hn sk m sig h
  unfold validSecKey at hvalid
  cases hk : Embit.Keys.PublicKey.parse (toKeys E) pub with
  | none => rw [hk] at hvalid; cases hvalid
  | some k =>
    have hpt := entry_point hs fuel L hn hp hinf sk pub hv k hk hc
    unfold ecdsaVerifySec
    rw [hk]
    show PySecp.verifyEcdsaKey E k.point sig m true = true
    rw [hpt]; exact hver

/-- what `schnorrSign` of `opsOf` returns passes key.py's `verify_schnorr` under the X coordinate of `d·G`
    (Props/C07 `schnorr_correct`; the binding only adds the keypair consistency checks) -/
theorem schnorrSign_core (L : Embit.EcLaws E) (hn : E.n ≤ 2 ^ 256) (hp : E.p ≤ 2 ^ 256) (sk m sig : Bytes)
    (h : (opsOf E hs fuel).schnorrSign sk m = some sig) :
    sk.length = 32 ∧ PySecp.seckeyValid E (ofBe sk) = true ∧
      ∃ px py, E.xy (E.mul (ofBe sk) E.g) = some (px, py) ∧
        PySecp.verifySchnorr E hs.H (beN 32 px) sig m = some true := by
  change (if sk.length = 32 then PySecp.schnorrsigSign E hs.H m sk none else none) = some sig at h
  split at h
  swap
  · cases h
  rename_i hlen
  unfold PySecp.schnorrsigSign at h
  split at h; · cases h
  cases hkp : PySecp.keypairCreate E sk with
  | none => rw [hkp] at h; cases h
  | some kp =>
    rw [hkp] at h
    simp only [] at h
    split at h; · cases h
    -- the keypair is `sk ‖ pub`
    have hkpeq : ∃ pub, kp = sk ++ pub ∧ PySecp.ecPubkeyCreate E sk = some pub := by
      unfold PySecp.keypairCreate at hkp
      split at hkp
      · cases hkp
      · rename_i pub hpub
        split at hkp
        · cases hkp
        · cases hkp; exact ⟨pub, rfl, hpub⟩
    obtain ⟨pub, rfl, hpub⟩ := hkpeq
    have htake : (sk ++ pub).take 32 = sk := List.take_left' hlen
    rw [htake, hkp] at h
    simp only [ne_eq, not_true_eq_false, if_false] at h
    have hvalid : PySecp.seckeyValid E (ofBe sk) = true := by
      unfold PySecp.ecPubkeyCreate at hpub
      rw [if_neg (by simp [hlen])] at hpub
      by_contra hne
      simp only [Bool.not_eq_true] at hne
      simp [hne] at hpub
    exact ⟨hlen, hvalid, Embit.Props.C07.schnorr_correct E hs.H L hp hn sk m none sig h⟩

theorem schnorr_ok_concrete (L : Embit.EcLaws E) (hn : E.n ≤ 2 ^ 256) (hp : E.p ≤ 2 ^ 256)
    (sk : Bytes) (c : Bool) (m sig : Bytes) (h : (opsOf E hs fuel).schnorrSign sk m = some sig) :
    schnorrVerifyX E hs.H (xonlyOfSec ((opsOf E hs fuel).secOf sk c)) m sig = true := by
  obtain ⟨_, hv, px, py, hxy, hver⟩ := schnorrSign_core hs fuel L hn hp sk m sig h
  rw [xonly_secOf hs fuel sk c hv px py hxy]
  unfold schnorrVerifyX
  rw [hver]; rfl

end Embit.Model.SignWith
