import EmbitModel.Proofs.KeysSound
/-
  C17: the key parsers (SEC public key, 32-byte secret, 78-byte extended key, WIF payload) read a fixed number of
  bytes; nothing in them is driven by a count or length field of the input. Read off the shape lemmas of the
  decoders (`PublicKey.readFrom_some`, `privParse_sound`, `readFrom_some`); no curve laws needed.
-/
namespace Embit.Keys
open Embit

theorem pubkey_read_fixed {E : EcOps} {s r : Bytes} {k : PublicKey E} (h : PublicKey.readFrom E s = some (k, r)) :
    s.length = r.length + 33 ∨ s.length = r.length + 65 := by
  obtain ⟨f, t, rfl, hle, rfl, _⟩ := PublicKey.readFrom_some h
  rw [List.length_cons, List.length_drop]
  have : secBody f = 32 ∨ secBody f = 64 := by unfold secBody; split <;> simp
  omega

theorem privkey_parse_fixed {E : EcOps} {b : Bytes} {k : PrivateKey} (h : PrivateKey.parse E b = some k) :
    b.length = 32 := (privParse_sound b k h).2.1

theorem readKeyField_len {E : EcOps} {k0 : UInt8} {kr : Bytes} {key : KeyObj E} (h : readKeyField E k0 kr = some key)
    (hle : kr.length ≤ 32) : kr.length = 32 := by
  unfold readKeyField at h
  split at h
  · obtain ⟨k, hp, _⟩ := Option.map_eq_some_iff.mp h
    exact privkey_parse_fixed hp
  · obtain ⟨k, hp, _⟩ := Option.map_eq_some_iff.mp h
    have := (parse_some_shape hp).2.1
    unfold secBody at this
    split at this <;> omega

theorem hdkey_read_fixed {E : EcOps} {env : Env} {s r : Bytes} {k : HDKey E} (h : HDKey.readFrom E env s = some (k, r)) :
    s.length = r.length + 78 := by
  obtain ⟨d, s2, k0, kr, key, hs, hk, hkey, _, _, _, _, _, _, rfl⟩ := readFrom_some env s k r h
  have l1 := congrArg List.length hs
  have l2 := congrArg List.length hk
  simp only [List.length_drop, List.length_take, List.length_cons] at l1 l2 ⊢
  have := readKeyField_len hkey (by omega)
  omega

theorem hdkey_parse_fixed {E : EcOps} {env : Env} {b : Bytes} {k : HDKey E} (h : HDKey.parse E env b = some k) :
    b.length = 78 := by
  simpa using hdkey_read_fixed (HDKey.parse_eq_some.mp h)

theorem wif_payload_fixed {E : EcOps} {env : Env} {s : Text} {k : PrivateKey} (h : PrivateKey.fromWif E env s = some k) :
    ∃ b, env.b58dec s = some b ∧ (b.length = 33 ∨ b.length = 34) := by
  cases hb : env.b58dec s with
  | none => rw [wif_bad_checksum env s hb] at h; cases h
  | some b =>
    refine ⟨b, rfl, ?_⟩
    by_cases hl : b.length ≠ 33 ∧ b.length ≠ 34
    · rw [wif_wrong_length env s b hb hl] at h; cases h
    · omega

end Embit.Keys
